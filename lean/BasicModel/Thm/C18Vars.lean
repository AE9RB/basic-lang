import BasicModel.Thm.C03
import BasicModel.Lemmas.VarsInv
/-
  C18 (continued) — the variable pool in every reachable state, and the session after
  OUT OF MEMORY.

  * "setting variables back to 0 or the empty string frees their slots": the test `update_val` makes
    is on the value CONVERTED to the variable's type (`store_frees_iff`, `store_default_shrinks`);
    no stored entry ever holds a default value (`NoDefaults`): an invariant of every operation of the
    store, of every VM instruction, of `execute` / `enter` / `interrupt` / `set_listing`, hence of every
    reachable state (`session_store_wf`, `session_no_defaults`), where "reads as 0 / the empty
    string" and "has no slot" are the same thing (`reachable_default_iff_no_slot`);
  * the pool bound: `store` is OUT OF MEMORY exactly when more than 65 535 entries exist AND the name
    is not in the pool yet (`store_oom_iff`, `full_pool_refuses_new_names`), so no reachable state
    holds more than 65 536 (`session_pool_bounded`); on ANY pool, a full one included, a variable that
    holds a value can be set back to a default value — the slot is freed, the pool shrinks by one
    (`store_default_frees_any_pool`) — or overwritten, the pool keeping its size
    (`store_overwrite_any_pool`);
  * after OUT OF MEMORY the session stays usable: an error that leaves the stack full — every failed
    push does (`push_overflow_is_full`) — makes `execute` clear the stack (`execute_error_full_clears`);
    the next call reports the error, and a direct line entered then starts with an empty stack, the
    variables, the listing and the program as they were (`oom_then_direct_line`).

  FINDING D23 (confirmed on the real interpreter, repaired in /repo by dfafc65 and mirrored in
  `Model/Var.lean`): before the repair `store` tested the pool BEFORE looking at the name, so
  once 65 536 entries existed even `A = 0` for a variable that holds a value was OUT OF MEMORY and no
  assignment could free a slot.  The repaired test refuses only a name that is not in the pool yet.
-/
namespace Basic
namespace Thm.C18
open Basic.Runtime Basic.Lemmas.VarPool
open Thm.C06 (WF wf_new store_ok_conv updateVal_get_self fetch_present)

/-- **the test is made on the converted value**: after a successful `store n x`, with `y` the value
    `x` converted to the type of `n` — `n` has no slot iff `y` is a default (`0`, `±0.0`, `""`); then the
    entries are the old ones without `n`; otherwise `n` holds exactly `y` -/
theorem store_frees_iff {v v' : Var} {n : Str} {x : Val} (h : v.store n x = .ok v') :
    ∃ t y, v.tyOf n = .ok (some t) ∧ convTo t x = .ok y ∧
      (Var.isDefault y = true ↔ AL.get n v'.vars = none) ∧
      (Var.isDefault y = true → v'.vars = AL.erase n v.vars ∧ v'.vars.length ≤ v.vars.length) ∧
      (Var.isDefault y = false → AL.get n v'.vars = some y) := by
  obtain ⟨_, t, y, ht, hc, rfl⟩ := store_ok_conv h
  refine ⟨t, y, ht, hc, ?_, ?_, ?_⟩
  · rw [updateVal_get_self]
    constructor
    · intro hd; rw [if_pos hd]
    · intro hg
      split at hg
      · assumption
      · cases hg
  · intro hd
    have : (v.updateVal n y).vars = AL.erase n v.vars := by unfold Var.updateVal; rw [if_pos hd]
    exact ⟨this, by rw [this]; exact AL.length_erase_le n v.vars⟩
  · intro hd
    rw [updateVal_get_self, if_neg (by rw [hd]; exact Bool.false_ne_true)]

/-- after a successful `store` the variable reads as a default value iff it has no slot -/
theorem store_default_frees {v v' : Var} {n : Str} {x z : Val} (h : v.store n x = .ok v')
    (hf : v'.fetch n = .ok z) : Var.isDefault z = true ↔ AL.get n v'.vars = none := by
  obtain ⟨t, y, _, _, hiff, _, hset⟩ := store_frees_iff h
  constructor
  · intro hz
    cases hy : Var.isDefault y with
    | true => exact hiff.1 hy
    | false =>
      have hg := hset hy
      rw [fetch_present v' n y hg] at hf
      cases hf
      rw [hz] at hy; cases hy
  · intro hg
    exact fetch_absent_isDefault v' n z hg hf

/-- a variable that holds a value, assigned a value whose conversion to its type is a default:
    the pool is one entry smaller -/
theorem store_default_shrinks {v v' : Var} (hd : AL.NoDup v.vars) {n : Str} {x old : Val}
    (hold : AL.get n v.vars = some old) (h : v.store n x = .ok v')
    (hx : ∀ t y, v.tyOf n = .ok (some t) → convTo t x = .ok y → Var.isDefault y = true) :
    v'.vars.length + 1 = v.vars.length ∧ AL.get n v'.vars = none := by
  obtain ⟨t, y, ht, hc, hiff, hfree, _⟩ := store_frees_iff h
  have hy := hx t y ht hc
  obtain ⟨he, _⟩ := hfree hy
  exact ⟨by rw [he]; exact AL.length_erase_of_get hd hold, hiff.1 hy⟩

/-- `NoDefaults` is kept by every operation of the store -/
theorem noDefaults_invariant :
    NoDefaults Var.new ∧ (∀ v : Var, NoDefaults v.clear) ∧
    (∀ (v v' : Var) n x, NoDefaults v → v.store n x = .ok v' → NoDefaults v') ∧
    (∀ (v : Var) n arr x, NoDefaults v → NoDefaults (v.storeArray n arr x).1) ∧
    (∀ (v : Var) n arr, NoDefaults v → NoDefaults (v.fetchArray n arr).1) ∧
    (∀ (v v' : Var) n arr, NoDefaults v → v.dimensionArray n arr = .ok v' → NoDefaults v') ∧
    (∀ (v v' : Var) n, NoDefaults v → v.eraseArray n = .ok v' → NoDefaults v') ∧
    (∀ (v v' : Var) t a b, NoDefaults v → v.defTy t a b = .ok v' → NoDefaults v') :=
  ⟨noDefaults_new, noDefaults_clear,
   fun _ _ _ _ hv h => noDefaults_store hv h,
   fun _ n arr x hv => noDefaults_storeArray hv n arr x,
   fun _ n arr hv => noDefaults_fetchArray hv n arr,
   fun _ _ _ _ hv h => noDefaults_dimensionArray hv h,
   fun _ _ _ hv h => noDefaults_eraseArray hv h,
   fun _ _ _ _ _ hv h => noDefaults_defTy hv h⟩

/-- **the exact condition of OUT OF MEMORY in `store`**: more than 65 535 entries AND a name the pool
    does not hold yet — whatever the value -/
theorem store_oom_iff (v : Var) (n : Str) (x : Val) :
    (∃ e, v.store n x = .error e ∧ e.code = Code.outOfMemory) ↔
      (v.vars.length > 65535 ∧ AL.contains n v.vars = false) :=
  Lemmas.VarPool.store_oom_iff v n x

theorem full_pool_refuses_new_names (v : Var) (h : v.vars.length > 65535) (n : Str) (x : Val)
    (hn : AL.contains n v.vars = false) : v.store n x = err Code.outOfMemory :=
  Thm.C06.store_full v n x h hn

/-- **"setting variables back to 0 or the empty string frees their slots" — on ANY pool**, a full one
    included (D23 repaired): a variable that holds a value, assigned a value whose conversion `y` to the
    variable's type is a default (`0`, `±0.0`, `""`): the store SUCCEEDS, the key is removed, the pool is
    at least one entry smaller — exactly one with distinct keys -/
theorem store_default_frees_any_pool (v : Var) (n : Str) (x y : Val) (t : VarTy)
    (hc : AL.contains n v.vars = true) (ht : v.tyOf n = .ok (some t)) (hy : convTo t x = .ok y)
    (hd : Var.isDefault y = true) :
    ∃ v', v.store n x = .ok v' ∧ v'.vars = AL.erase n v.vars ∧ AL.get n v'.vars = none ∧
      v'.vars.length + 1 ≤ v.vars.length ∧ (AL.NoDup v.vars → v'.vars.length + 1 = v.vars.length) :=
  Lemmas.VarPool.store_default_frees_any_pool v n x y t hc ht hy hd

/-- **overwriting a variable that holds a value works on ANY pool**, a full one included, and keeps
    the size of the pool -/
theorem store_overwrite_any_pool (v : Var) (n : Str) (x y : Val) (t : VarTy)
    (hc : AL.contains n v.vars = true) (ht : v.tyOf n = .ok (some t)) (hy : convTo t x = .ok y)
    (hd : Var.isDefault y = false) :
    ∃ v', v.store n x = .ok v' ∧ v'.vars = AL.set n y v.vars ∧ AL.get n v'.vars = some y ∧
      v'.vars.length ≤ v.vars.length ∧ (AL.NoDup v.vars → v'.vars.length = v.vars.length) :=
  Lemmas.VarPool.store_overwrite_any_pool v n x y t hc ht hy hd

/-- on the pool of 65 536 entries `fullPool` (`A% = 5` and 65 535 others): `A% = 0.4` — converted value
    `0` — succeeds and frees the slot -/
example : ∃ v', fullPool.store "A%".toList (.sng 0x3ECCCCCD) = .ok v' ∧ AL.get "A%".toList v'.vars = none ∧
    v'.vars.length + 1 ≤ fullPool.vars.length := by
  obtain ⟨v', h1, _, h3, h4, _⟩ := store_default_frees_any_pool fullPool "A%".toList (.sng 0x3ECCCCCD) (.int 0)
    .integer fullPool_contains rfl (by decide) rfl
  exact ⟨v', h1, h3, h4⟩

/-- **every instruction keeps the store well-formed** (entries typed and not default values, keys
    distinct, at most 65 536 entries), whether it succeeds, fails or returns an event -/
theorem instruction_keeps_store (env : Env) (hie : Bool) (op : Opcode) (s : Runtime) (h : WF s.vars) :
    WF ((execOp env hie op).run.run s).2.vars :=
  (execOp_varsWF env hie op).run s h

theorem step_keeps_store (env : Env) (hie : Bool) (s : Runtime) (h : WF s.vars) :
    WF ((step env hie).run.run s).2.vars :=
  step_varsWF env hie s h

theorem step_keeps_noDefaults (env : Env) (hie : Bool) (s : Runtime) (h : WF s.vars) :
    NoDefaults ((step env hie).run.run s).2.vars :=
  noDefaults_of_wf (step_varsWF env hie s h)

theorem slice_keeps_store (env : Env) (n : Nat) (s : Runtime) (h : WF s.vars) :
    WF ((executeLoop env n).run.run s).2.vars :=
  executeLoop_varsWF env n s h

theorem api_keeps_store (env : Env) (s : Runtime) (h : WF s.vars) :
    (∀ n, WF (execute env s n).1.vars) ∧ (∀ line, WF (enter env s line).vars) ∧ WF (interrupt s).vars ∧
    (∀ l run, WF (setListing env s l run).vars) :=
  ⟨fun n => (wf_session env).execute s n h, fun line => (wf_session env).enter s line h,
   (wf_session env).interrupt s h, fun l run => (wf_session env).setListing s l run trivial h⟩

/-- **in every reachable state** — after any sequence of `execute`, `enter`, `interrupt`,
    `set_listing` calls on a fresh interpreter, for every lexer and every entropy — the store is
    well-formed -/
theorem session_store_wf (env : Env) (calls : List C03.Call) :
    WF (calls.foldl (C03.Call.apply env) ({} : Runtime)).vars :=
  (wf_session env).reachable calls _ (fun c _ => c.ok_true) wf_new

theorem session_no_defaults (env : Env) (calls : List C03.Call) :
    NoDefaults (calls.foldl (C03.Call.apply env) ({} : Runtime)).vars :=
  noDefaults_of_wf (session_store_wf env calls)

theorem session_pool_bounded (env : Env) (calls : List C03.Call) :
    (calls.foldl (C03.Call.apply env) ({} : Runtime)).vars.vars.length ≤ 65536 :=
  (session_store_wf env calls).pool

/-- in every reachable state a variable reads as `0` / `±0.0` / `""` iff it has no slot -/
theorem reachable_default_iff_no_slot (env : Env) (calls : List C03.Call) (n : Str) (z : Val)
    (hf : (calls.foldl (C03.Call.apply env) ({} : Runtime)).vars.fetch n = .ok z) :
    Var.isDefault z = true ↔ AL.get n (calls.foldl (C03.Call.apply env) ({} : Runtime)).vars.vars = none :=
  fetch_default_iff_absent (session_no_defaults env calls) n z hf

/-- a failed push leaves the stack "full" in the sense of `execute`'s test -/
theorem push_overflow_is_full (v : Val) (s t : Runtime) (e : Error) (h : (push v).run.run s = (.error e, t)) :
    isFull t = true ∧ e = stackOverflow := by
  obtain ⟨_, he, hsz, hge⟩ := C03.push_overflow v s t e h
  refine ⟨?_, he⟩
  unfold isFull
  have : t.stack.size > Gen.stackMaxLen - Gen.stackFullMargin := by
    simp only [Gen.stackMaxLen, Gen.stackFullMargin]; omega
  exact decide_eq_true this

/-- **an error on a full stack clears the stack**: a running machine whose slice fails in a state
    with a full stack (more than 65 503 values: every stack overflow, whatever pushed) ends the call
    with the error recorded, the stack EMPTY and nothing to continue — also inside a program, where
    other errors keep the stack for CONT -/
theorem execute_error_full_clears (env : Env) (s s' : Runtime) (n : Nat) (e : Error)
    (hs : s.state = .running) (hd : s.listing.directErrors = [])
    (hrun : (executeLoop env n).run.run s = (.error e, s')) (hst : s'.state ≠ .inputRunning)
    (hfull : isFull s' = true) :
    execute env s n =
      ({ s' with cont := .stopped, state := .runtimeError (e.inLine (lineNumber s')), contPc := s'.pc,
                 stack := #[] }, .running) := by
  rw [execute_running env s n hs hd, hrun]
  show finishLoop (.error e) s' = _
  rw [finishLoop_error, if_neg hst, hfull, Bool.or_true, if_pos rfl, if_pos rfl]

/-- the state `execute` leaves after an error on a full stack -/
def afterOom (s' : Runtime) (e : Error) : Runtime :=
  { s' with cont := .stopped, state := .runtimeError (e.inLine (lineNumber s')), contPc := s'.pc, stack := #[] }

/-- **the session stays usable**: from that state the next `execute` (at column 0) reports the error
    and stops; a direct line entered then is compiled and started as from any prompt — `running` at
    the direct address, with an EMPTY stack and the variables the failed program left; nothing of the
    overflowed stack survives -/
theorem oom_then_direct_line (env : Env) (s' : Runtime) (e : Error) (n : Nat) (hc : s'.printCol = 0)
    (line : Str) (hlen : ¬ RStd.utf8Len line > Gen.maxLineLen) (hnum : (env.lex line).number = none)
    (htok : (env.lex line).tokens ≠ []) :
    execute env (afterOom s' e) n =
      ({ afterOom s' e with state := .stopped }, .errors [e.inLine (lineNumber s')]) ∧
    enter env { afterOom s' e with state := .stopped } line =
      enterDirect { afterOom s' e with state := .stopped } (env.lex line) ∧
    (enter env { afterOom s' e with state := .stopped } line).stack = #[] ∧
    (enter env { afterOom s' e with state := .stopped } line).state = .running ∧
    (enter env { afterOom s' e with state := .stopped } line).vars = s'.vars ∧
    (enter env { afterOom s' e with state := .stopped } line).cont = .stopped := by
  have h2 : enter env { afterOom s' e with state := .stopped } line =
      enterDirect { afterOom s' e with state := .stopped } (env.lex line) :=
    enter_direct env _ line nofun nofun hlen hnum (by rw [List.isEmpty_eq_false_iff]; exact htok)
  refine ⟨execute_runtimeError_nocol env _ n _ rfl hc, h2, ?_⟩
  rw [h2, enterDirect_eq]
  exact ⟨rfl, rfl, rfl, rfl⟩

example : WF ({} : Runtime).vars := wf_new
example : NoDefaults ({} : Runtime).vars := noDefaults_new
/-- `pop "A%"` with `0.4` on the stack and `A% = 5` stored: the slot is given back -/
example : ((execOp C03.env0 false (.pop "A%".toList)).run.run
    { stack := #[.sng 0x3ECCCCCD], vars := { vars := [("A%".toList, .int 5)] } }).2.vars.vars = [] := by decide
example : ((execOp C03.env0 false (.pop "A%".toList)).run.run
    { stack := #[.int 7], vars := { vars := [("A%".toList, .int 5)] } }).2.vars.vars = [("A%".toList, .int 7)] := by
  decide
example : isFull { stack := Array.replicate 65504 (.int 0) } = true := by
  simp [isFull, Gen.stackMaxLen, Gen.stackFullMargin]

end Thm.C18
end Basic

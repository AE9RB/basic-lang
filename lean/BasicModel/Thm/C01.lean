import BasicModel.Lemmas.StructLink
/-
  C01 — Compiled execution follows the documented control-flow semantics (floor).

  The linker resolves every reference to the table entry of its symbol and pairs WHILE with WEND
  as brackets; the VM's branching instructions do what the manual says: `ifNot` branches on zero,
  ON selects 1-based and falls through on 0 or beyond the list, NEXT compares by the sign of the
  step, GOSUB/RETURN is a balanced call.

  Expressions: for the fragment `Spec.Pure` (literals, scalar variable reads, unary minus, NOT, the
  18 binary operators, one-argument built-in functions) the compiler emits the postfix code `flat e`
  (`compileExpr_shape`) and the VM, run on that code, pushes the value the direct evaluator
  `Spec.eval` assigns to the tree, or stops in the same error (`compileExpr_correct`).

  Structured statements (last two sections): LET, `:`, IF-THEN(-ELSE), WHILE-WEND and FOR-NEXT with
  pure expressions have a big-step semantics on the variable store (`Spec/Struct.lean`); their linked
  code `compile p a` implements it (`structured_correct`, by `exec_implemented`); the
  generator emits the fragments `FragShape` for them and the linker turns those, on a clean link, into
  `compile p a` (`structured_codegen_shape`, `structured_linked`, `one_line_program_correct`).
  Statements outside that fragment (GOTO into or out of a block, NEXT with another or no variable,
  arrays, PRINT, …) and structured statements spread over several lines of a larger program are
  not covered by the compositional theorems.
-/
namespace Basic
namespace Thm.C01
open Link
open Basic.Runtime

/-- every reference to a defined symbol is resolved to that symbol's entry (code address; data
    address for RESTORE), and nothing else is touched -/
theorem linkOne_resolves {l : Link} {a : Nat} {c : Col} {sym : Symbol} {o d : Nat} {op op' : Opcode}
    (hsym : l.symbols.lookup sym = some (o, d)) (hop : l.ops[a]? = some op) (hp : patched op o d = some op') :
    (l.linkOne a c sym).1.ops[a]? = some op' ∧ (l.linkOne a c sym).2 = none ∧
    (∀ j, j ≠ a → (l.linkOne a c sym).1.ops[j]? = l.ops[j]?) ∧
    (l.linkOne a c sym).1.ops.size = l.ops.size :=
  Link.linkOne_resolves_get hsym hop hp

/-- a missing line is reported UNDEFINED LINE (code 8) with column and line of the reference -/
theorem linkOne_undefined {l : Link} {a : Nat} {c : Col} {n : Symbol}
    (hsym : l.symbols.lookup n = none) (h0 : 0 ≤ n) :
    l.linkOne a c n = (l, some (mkErr Code.undefinedLine (l.lineNumberFor a) c)) ∧ Code.undefinedLine = 8 :=
  ⟨Link.linkOne_undefined hsym h0, rfl⟩

/-- the whole pass: every pending reference to a defined symbol is resolved (see also `Thm.C20`) -/
theorem link_resolves (l : Link) (hd : KeysDistinct l.unlinked) (a : Nat) (c : Col) (sym : Symbol)
    (hmem : (a, (c, sym)) ∈ l.linkWhiles.1.unlinked)
    {o d : Nat} {op op' : Opcode} (hsym : l.symbols.lookup sym = some (o, d))
    (hop : l.ops[a]? = some op) (hp : patched op o d = some op') :
    l.link.1.ops[a]? = some op' :=
  Link.link_resolves l hd a c sym hmem hsym hop hp

/-- … and every reference to a missing line is reported -/
theorem link_reports_undefined (l : Link) (a : Nat) (c : Col) (n : Symbol)
    (hmem : (a, (c, n)) ∈ l.linkWhiles.1.unlinked)
    (hsym : l.symbols.lookup n = none) (h0 : 0 ≤ n) :
    mkErr Code.undefinedLine (l.lineNumberFor a) c ∈ l.link.2 :=
  Link.link_reports_undefined l a c n (pend_eq_linkWhiles l ▸ hmem) hsym h0

/-- WHILE/WEND pairing is bracket matching in code order -/
theorem linkWhiles_matches (l : Link) :
    l.linkWhiles =
      ({ l with whiles := [], unlinked := (Spec.bracketMatch l.whiles).1.foldl pairRefs l.unlinked },
       (Spec.bracketMatch l.whiles).2.1.map (fun e => mkErr Code.wendWithoutWhile (l.lineNumberFor e.2.1) e.1) ++
       (Spec.bracketMatch l.whiles).2.2.map (fun w => mkErr Code.whileWithoutWend (l.lineNumberFor w.2.1) w.1)) :=
  Link.linkWhiles_matches l

/-- what a matched pair means: the WHILE's `ifNot` (at the WHILE mark's address) exits to the WEND's
    label — the op after the WEND's jump —, the WEND's `jump` returns to the WHILE's label — the
    start of the condition -/
theorem pairRefs_lookup (u : List (Nat × (Col × Symbol))) (w e : Mark) (hne : w.2.1 ≠ e.2.1) :
    (pairRefs u (w, e)).lookup w.2.1 = some (w.1, e.2.2) ∧
    (pairRefs u (w, e)).lookup e.2.1 = some (e.1, w.2.2) := by
  unfold pairRefs
  simp only [unlInsert_lookup, if_true]
  rw [if_neg hne]
  exact ⟨rfl, trivial⟩

/-- the specification really is "nearest unmatched preceding WHILE": a WHILE…WEND around a balanced
    body is paired, whatever surrounds it -/
theorem bracket_nested {α : Type} (w e : α) (body rest : List (Bool × α)) (st : List α) (p : List (α × α))
    (hbody : Spec.bracketMatch body = (p, [], [])) :
    Spec.bracketAux ((true, w) :: body ++ (false, e) :: rest) st =
      (p ++ (w, e) :: (Spec.bracketAux rest st).1, (Spec.bracketAux rest st).2.1, (Spec.bracketAux rest st).2.2) :=
  Spec.bracketAux_nested w e body rest st p hbody

/-- `ifNot a`: pops a number; control goes to `a` iff it is zero (else to the next op);
    a string is TYPE MISMATCH -/
theorem ifNot_branches (env : Env) (hie : Bool) (s : Runtime) (a : Nat) (σ : Array Val) (v : Val)
    (htr : s.tron = false) (hop : s.program.link.ops[s.pc]? = some (.ifNot a))
    (hst : s.stack = σ.push v) :
    ((step env hie).run).run s =
      match zeroTest v with
      | some z => (.ok .continue, { s with stack := σ, pc := if z then a else s.pc + 1 })
      | none => (.error (Error.mk' Code.typeMismatch), { s with stack := σ, pc := s.pc + 1 }) :=
  run_step_ifNot env hie s a σ v htr hop hst

theorem ifNot_int (env : Env) (hie : Bool) (s : Runtime) (a : Nat) (σ : Array Val) (n : Int16)
    (htr : s.tron = false) (hop : s.program.link.ops[s.pc]? = some (.ifNot a))
    (hst : s.stack = σ.push (.int n)) :
    ((step env hie).run).run s = (.ok .continue, { s with stack := σ, pc := if n = 0 then a else s.pc + 1 }) := by
  rw [run_step_ifNot env hie s a σ _ htr hop hst]
  simp [zeroTest]

theorem ifNot_string (env : Env) (hie : Bool) (s : Runtime) (a : Nat) (σ : Array Val) (x : Str)
    (htr : s.tron = false) (hop : s.program.link.ops[s.pc]? = some (.ifNot a))
    (hst : s.stack = σ.push (.str x)) :
    (((step env hie).run).run s).1 = .error (Error.mk' Code.typeMismatch) := by
  rw [run_step_ifNot env hie s a σ _ htr hop hst]
  rfl

theorem jump_goes (env : Env) (s : Runtime) (a : Nat)
    (htr : s.tron = false) (hop : s.program.link.ops[s.pc]? = some (.jump a)) :
    ((step env false).run).run s = (.ok .continue, { s with pc := a }) :=
  run_step_jump env false s a htr hop (.inl rfl)

/-- ON: with `1 ≤ select ≤ len`, control advances by `select − 1` (onto the select-th jump of the
    table); with `select = 0` or `select > len`, by `len` (past the table); a negative value is
    ILLEGAL FUNCTION CALL.  Both operands are popped in every case. -/
theorem doOn_selects (s : Runtime) (σ : Array Val) (lenV selV : Val) (len sel : Int16)
    (hst : s.stack = (σ.push lenV).push selV) (hsel : selV.toI16 = .ok sel) (hlen : lenV.toI16 = .ok len) :
    (1 ≤ sel.toInt → sel.toInt ≤ len.toInt →
      (doOn.run).run s = (.ok (), { s with stack := σ, pc := s.pc + (sel.toInt.toNat - 1) })) ∧
    (0 ≤ len.toInt → (sel.toInt = 0 ∨ sel.toInt > len.toInt) →
      (doOn.run).run s = (.ok (), { s with stack := σ, pc := s.pc + len.toInt.toNat })) ∧
    ((sel.toInt < 0 ∨ len.toInt < 0) →
      (doOn.run).run s = (.error (Error.mk' Code.illegalFunctionCall), { s with stack := σ })) := by
  have h := run_doOn s σ lenV selV len sel hst hsel hlen
  refine ⟨?_, ?_, ?_⟩
  · intro h1 h2
    rw [h, if_neg (by omega), if_neg (by omega)]
  · intro h0 hf
    rw [h, if_neg (by omega), if_pos hf]
  · intro hn
    rw [h, if_pos hn]

/-- GOSUB pushes its return address, RETURN removes it and resumes there: the pair is stack-neutral -/
theorem gosub_return (env : Env) (hie : Bool) (s s1 : Runtime) (R : Nat)
    (htr : s.tron = false) (hop : s.program.link.ops[s.pc]? = some (.literal (.ret R)))
    (hb : s.stack.size + 1 ≤ 65535)
    (hs1 : s1.stack = s.stack.push (.ret R)) :
    ((step env hie).run).run s = (.ok .continue, { s with pc := s.pc + 1, stack := s.stack.push (.ret R) }) ∧
    (doReturn.run).run s1 = (.ok (), { s1 with stack := s.stack, pc := R }) := by
  constructor
  · exact run_step_literal_room env hie s _ htr hop (by simp only [Gen.stackMaxLen]; omega)
  · have := run_doReturn s1 s.stack R [] (fun _ h => nomatch h) (by simpa using hs1)
    rw [this]; rfl

/-- RETURN without a pending GOSUB: RETURN WITHOUT GOSUB (code 3) -/
theorem return_without_gosub (s : Runtime) (h : s.stack = #[]) :
    ((doReturn.run).run s).1 = .error (Error.mk' Code.returnWithoutGosub) := by
  rw [doReturn_refused s h]

/-- NEXT: the variable is incremented by the step; the termination test is chosen by the sign of the
    step — `variable < limit` for a negative step, `limit < variable` otherwise — and the loop
    continues (control to the body, frame kept) exactly when the test is false -/
theorem doNext_compares_by_sign_of_step (s : Runtime) (σ : Array Val) (toV stepV : Val) (vn name : Str) (addr : Nat)
    (cur0 cur : Val) (vars' : Var) (st : Float) (done : Val)
    (hst : s.stack = σ ++ forFrame toV stepV vn addr)
    (hname : name = [] ∨ vn = name)
    (hfetch : s.vars.fetch vn = .ok cur0) (hsum : Ops.sum cur0 stepV = .ok cur)
    (hstore : s.vars.store vn cur = .ok vars') (hstep : stepV.toF64 = .ok st)
    (hdone : (if st < 0 then Ops.less cur toV else Ops.less toV cur) = .ok done)
    (hb : s.stack.size ≤ 65535) :
    ((doNext name).run).run s =
      if done ≠ .int (-1) then (.ok (), { s with vars := vars', pc := addr })
      else (.ok (), { s with vars := vars', stack := σ }) :=
  run_doNext s σ toV stepV vn name addr cur0 cur vars' st done hst hname hfetch hsum hstore hstep hdone hb

/-- the Integer instance: with Integer counter `c` (after the increment) and limit `t`, the loop
    continues iff `t ≤ c` for a negative step and iff `c ≤ t` otherwise — the last pass is the one
    that reaches the limit -/
theorem doNext_integer_test (s : Runtime) (σ : Array Val) (t c : Int16) (stepV : Val) (vn name : Str) (addr : Nat)
    (cur0 : Val) (vars' : Var) (st : Float)
    (hst : s.stack = σ ++ forFrame (.int t) stepV vn addr)
    (hname : name = [] ∨ vn = name)
    (hfetch : s.vars.fetch vn = .ok cur0) (hsum : Ops.sum cur0 stepV = .ok (.int c))
    (hstore : s.vars.store vn (.int c) = .ok vars') (hstep : stepV.toF64 = .ok st)
    (hb : s.stack.size ≤ 65535) :
    ((doNext name).run).run s =
      if (if st < 0 then t ≤ c else c ≤ t) then (.ok (), { s with vars := vars', pc := addr })
      else (.ok (), { s with vars := vars', stack := σ }) := by
  have hless : ∀ a b : Int16, Ops.less (.int a) (.int b) = .ok (Ops.truth (decide (a < b))) := fun _ _ => rfl
  -- the loop goes on unless the test answers true, the Integer -1
  have htruth : ∀ b : Bool, Ops.truth b ≠ .int (-1) ↔ b = false := by decide
  rw [run_doNext s σ (.int t) stepV vn name addr cur0 (.int c) vars' st
    (if st < 0 then Ops.truth (decide (c < t)) else Ops.truth (decide (t < c))) hst hname hfetch hsum hstore hstep
    (by split <;> rw [hless]) hb]
  by_cases h0 : st < 0 <;> simp only [h0, if_true, if_false, htruth, decide_eq_false_iff_not, Int16.not_lt]

def exOn (sel : Int16) : Runtime := { stack := #[.int 3, .int sel], pc := 10 }

example : ((doOn.run).run (exOn 1)).2.pc = 10 := by decide
example : ((doOn.run).run (exOn 3)).2.pc = 12 := by decide
example : ((doOn.run).run (exOn 0)).2.pc = 13 := by decide
example : ((doOn.run).run (exOn 4)).2.pc = 13 := by decide
example : ((doOn.run).run (exOn (-1))).1 = .error (Error.mk' Code.illegalFunctionCall) := by decide
example : Spec.bracketMatch [(true, 'a'), (true, 'b'), (false, 'c'), (false, 'd')] = ([('b', 'c'), ('a', 'd')], [], []) := by
  decide
example : (({ whiles := [(false, (0, 4), 3, -1)], symbols := [(10, (0, 0))] } : Link).linkWhiles).2 =
    [{ code := Code.wendWithoutWhile, line := some 10, colStart := 0, colEnd := 4 }] := by decide
example : (({ whiles := [(true, (0, 5), 1, -1), (false, (0, 4), 3, -2)] } : Link).linkWhiles).1.unlinked =
    [(3, ((0, 4), -1)), (1, ((0, 5), -2))] := by decide


section expressions
open Basic.Spec Basic.Lemmas.ExprCompile

/-- **Codegen shape.**  For a tree `e` of the fragment `Spec.Pure` whose postfix code `flat e` fits
    the code segment, the visitor pushes exactly one entry on the expression stack, a fragment whose
    code is `flat e` and that has no data, no symbols, no pending references, no WHILE marks and
    symbol counter 0; it reports no error and leaves the variable stack, the statement stack and the
    fragment under construction as they were. -/
theorem compileExpr_shape {e : Expr} (hp : Pure e) (s : Codegen.VState) (hlen : (flat e).length ≤ 65535) :
    ∃ c, Codegen.acceptExpr e s =
      { s with g := { s.g with expr := s.g.expr.push (c, ({ ops := (flat e).toArray } : Link)) } } :=
  acceptExpr_shape hp s hlen

/-- **Compiled expressions compute their tree value.**  Compiling a tree of the fragment adds exactly
    one expression fragment (code `flat e`) and reports nothing.  Wherever that code lies in the code
    segment of a runtime `s` — trace off, room on the stack for `(flat e).length` values, `hie`
    arbitrary —, running it from `s.pc`:
    * if `Spec.eval s.vars e = .ok v`: every step answers `continue`, and the final state is `s` with
      `pc` advanced past the code and `v` pushed on the stack (the rest of the stack, the variables and
      everything else as in `s`); the variables are unchanged after every single step;
    * if `Spec.eval s.vars e = .error err`: after `k` good steps (`k` less than the code's length,
      variables unchanged all along) the next step fails with exactly `err`, variables still
      unchanged, and that is what running the whole code reports. -/
theorem compileExpr_correct (env : Env) (hie : Bool) {e : Expr} (hp : Pure e) (vs : Codegen.VState)
    (hlen : (flat e).length ≤ 65535) :
    ∃ (c : Col) (frag : Link),
      (Codegen.acceptExpr e vs).g.expr = vs.g.expr.push (c, frag) ∧
      (Codegen.acceptExpr e vs).errors = vs.errors ∧
      frag.ops = (flat e).toArray ∧
      ∀ (s : Runtime), CodeAt s.program.link.ops s.pc frag.ops.toList → s.tron = false →
        s.stack.size + frag.ops.size ≤ 65535 →
        (∀ v, eval s.vars e = .ok v →
          runOps env hie frag.ops.toList s =
            (.ok .continue, { s with pc := s.pc + frag.ops.size, stack := s.stack.push v }) ∧
          ∀ j, j ≤ frag.ops.size → ∃ sj, runSteps env hie j s = (.ok .continue, sj) ∧ sj.vars = s.vars) ∧
        (∀ err, eval s.vars e = .error err →
          ∃ (k : Nat) (s' s'' : Runtime), k < frag.ops.size ∧
            runSteps env hie k s = (.ok .continue, s') ∧
            ((step env hie).run).run s' = (.error err, s'') ∧
            s''.vars = s.vars ∧
            (∀ j, j ≤ k → ∃ sj, runSteps env hie j s = (.ok .continue, sj) ∧ sj.vars = s.vars) ∧
            runOps env hie frag.ops.toList s = (.error err, s'')) := by
  obtain ⟨c, h⟩ := acceptExpr_shape hp vs hlen
  -- the code and the size of `plain (flat e).toArray` are `flat e` and its length by `rfl`
  exact ⟨c, plain (flat e).toArray, by rw [h], by rw [h], rfl,
    fun s hcode htr hroom => flat_correct env hie hp s hcode htr hroom⟩

/-- `1 + 2 * A%` -/
def exTree : Expr :=
  .bin .add (0, 9) (.integer (0, 1) 1)
    (.bin .multiply (4, 9) (.integer (4, 5) 2) (.var (.unary (8, 9) (.integer "A%".toList))))

/-- `A% \ 0`: fails in the last instruction -/
def exBad : Expr := .bin .divideInt (0, 6) (.var (.unary (0, 2) (.integer "A%".toList))) (.integer (5, 6) 0)

def exEnv : Env := { lex := fun _ => default, lineRenum := fun _ l => l }

/-- a runtime with the given code at address 2, one value on the stack and `A% = 20` -/
def exRun (ops : List Opcode) : Runtime :=
  { program := { link := { ops := #[.end, .end] ++ ops.toArray ++ #[.end] } },
    pc := 2, stack := #[.int 7], vars := { vars := [("A%".toList, .int 20)] } }

example : Pure exTree := by decide
example : flat exTree = [.literal (.int 1), .literal (.int 2), .push "A%".toList, .mul, .add] := by decide
example : eval (exRun (flat exTree)).vars exTree = .ok (.int 41) := by decide
example : eval (exRun (flat exBad)).vars exBad = .error (Error.mk' Code.divisionByZero) := by decide
/-- the shape theorem at work -/
example : ∃ c, Codegen.acceptExpr exTree {} =
    { g := { expr := #[(c, { ops := #[.literal (.int 1), .literal (.int 2), .push "A%".toList, .mul, .add] })] } } :=
  compileExpr_shape (by decide) {} (by decide)
/-- the hypotheses of the run theorem hold of a concrete machine … -/
example : CodeAt (exRun (flat exTree)).program.link.ops (exRun (flat exTree)).pc (flat exTree) ∧
    (exRun (flat exTree)).tron = false ∧ (exRun (flat exTree)).stack.size + (flat exTree).length ≤ 65535 := by
  decide
/-- … and the machine does what the theorem says (computed independently of the proof) -/
example : (runOps exEnv false (flat exTree) (exRun (flat exTree))).2.stack = #[.int 7, .int 41] := by decide
example : (runOps exEnv false (flat exTree) (exRun (flat exTree))).2.pc = 7 := by decide
/-- the error a run reports, if any -/
def exErr (r : Except Error Step × Runtime) : Option Error :=
  match r.1 with
  | .error e => some e
  | .ok _ => none

example : exErr (runOps exEnv true (flat exBad) (exRun (flat exBad))) = some (Error.mk' Code.divisionByZero) := by
  decide
example : (runOps exEnv true (flat exBad) (exRun (flat exBad))).2.vars.vars = [("A%".toList, .int 20)] := by decide

end expressions

/-! Structured statements: the compiled code follows the big-step semantics.

  `Spec/Struct.lean` gives LET / `:` / IF-THEN(-ELSE) / WHILE-WEND / FOR-NEXT a big-step semantics on
  the variable store (`Spec.exec`, fuel-indexed, written from the manual); `Lemmas/StructCompile.lean`
  gives the linked code of such a statement placed at address `a` (`compile p a`, jump targets
  absolute) and proves, rule by rule, that the code implements the semantics. -/

section structured
open Basic.Spec Basic.Lemmas.ExprCompile Basic.Lemmas.StructCompile

/-- **Compiled structured statements follow the documented control flow.**  Let the code of `p` lie at
    `s.pc` in the code segment of a machine `s` — trace off, `size p` free stack slots (a crude bound),
    and jumps not gated (no compile errors in the stored program, or the code is direct-mode code).
    * If the semantics answers `.ok σ'` (with any fuel), some number of steps — all answering
      `continue` — lead to the state `s` with `pc` past the code and `vars := σ'`: the stack and every
      other component are as in `s`.
    * If it answers `.error e`, after some steps answering `continue` a step fails with exactly `e`.
    (The sign of a FOR step is `Spec.stepNeg`: the step converted to Double, compared with 0.) -/
theorem structured_correct (env : Env) (hie : Bool) (fuel : Nat) (p : SStmt) (hp : p.Pure) (s : Runtime)
    (hcode : CodeAt s.program.link.ops s.pc (compile p s.pc)) (htr : s.tron = false)
    (hroom : s.stack.size + size p ≤ 65535) (hgate : hie = false ∨ s.entryAddress ≤ s.pc) :
    (∀ σ', exec fuel s.vars p = some (.ok σ') →
      ∃ n, runSteps env hie n s = (.ok .continue, { s with pc := s.pc + size p, vars := σ' })) ∧
    (∀ e, exec fuel s.vars p = some (.error e) → ∃ n s', runSteps env hie n s = (.error e, s')) := by
  have hpl : Placed hie (compile p) s := ⟨hcode, htr, by rw [compile_length]; exact hroom, hgate⟩
  have h := exec_implemented env hie fuel p hp s hpl
  rw [compile_length] at h
  exact ⟨fun σ' hσ => h _ hσ, fun e he => h _ he⟩

/-- the block calculus behind it (see `Lemmas/StructCompile.lean` for `Implements`, `Placed`, `Ends`):
    the rules for LET, `:`, IF-THEN, IF-THEN-ELSE, WHILE (one unrolling / `n` tests) and FOR (`n` passes) -/
theorem block_rules (env : Env) (hie : Bool) :
    (∀ (name : Str) {e : Expr}, Spec.Pure e →
      Implements env hie (fun _ => flat e ++ [Opcode.pop name]) (assignT name e)) ∧
    (∀ {c1 c2 : Nat → List Opcode} {f1 f2 : Trans} (l1 : Nat), (∀ a, (c1 a).length = l1) →
      Implements env hie c1 f1 → Implements env hie c2 f2 →
      Implements env hie (fun a => c1 a ++ c2 (a + l1)) (seqT f1 f2)) ∧
    (∀ {c : Expr}, Spec.Pure c → ∀ {c1 : Nat → List Opcode} {f1 : Trans} (l1 : Nat), (∀ a, (c1 a).length = l1) →
      Implements env hie c1 f1 → Implements env hie (ifThenCode c l1 c1) (iteT c f1 skipT)) ∧
    (∀ {c : Expr}, Spec.Pure c → ∀ {c1 c2 : Nat → List Opcode} {f1 f2 : Trans} (l1 l2 : Nat),
      (∀ a, (c1 a).length = l1) → (∀ a, (c2 a).length = l2) →
      Implements env hie c1 f1 → Implements env hie c2 f2 →
      Implements env hie (ifElseCode c l1 l2 c1 c2) (iteT c f1 f2)) ∧
    (∀ {c : Expr}, Spec.Pure c → ∀ {body : Nat → List Opcode} {fb g : Trans} (lb : Nat), (∀ a, (body a).length = lb) →
      Implements env hie body fb → Implements env hie (whileCode c lb body) g →
      Implements env hie (whileCode c lb body) (whileStepT c fb g)) ∧
    (∀ {c : Expr}, Spec.Pure c → ∀ {body : Nat → List Opcode} {fb : Trans} (lb : Nat), (∀ a, (body a).length = lb) →
      Implements env hie body fb → ∀ n, Implements env hie (whileCode c lb body) (whileT c fb n)) ∧
    (∀ {a b st : Expr}, Spec.Pure a → Spec.Pure b → Spec.Pure st → ∀ {body : Nat → List Opcode} {fb : Trans} (lb : Nat),
      (∀ x, (body x).length = lb) → Implements env hie body fb → ∀ (name : Str) (n : Nat),
      Implements env hie (forCode name a b st body) (forT stepNeg name a b st fb n)) :=
  ⟨fun name _ hp => implements_assign env hie name hp,
   fun l1 hl1 h1 h2 => implements_seq l1 hl1 h1 h2,
   fun hp _ _ l1 hl1 h1 => implements_ifThen hp l1 hl1 h1,
   fun hp _ _ _ _ l1 l2 hl1 hl2 h1 h2 => implements_ifThenElse hp l1 l2 hl1 hl2 h1 h2,
   fun hp _ _ _ lb hlb hb hg => implements_whileStep hp lb hlb hb hg,
   fun hp _ _ lb hlb hb n => implements_while hp lb hlb hb n,
   fun hpa hpb hps _ _ lb hlb hb name n => implements_for hpa hpb hps lb hlb hb name n⟩

/-- what `Implements` says, spelled out -/
theorem implements_iff (env : Env) (hie : Bool) (code : Nat → List Opcode) (f : Trans) :
    Implements env hie code f ↔
      ∀ (s : Runtime), CodeAt s.program.link.ops s.pc (code s.pc) → s.tron = false →
        s.stack.size + (code s.pc).length ≤ 65535 → (hie = false ∨ s.entryAddress ≤ s.pc) →
        (∀ σ', f s.vars = some (.ok σ') →
          ∃ n, runSteps env hie n s = (.ok .continue, { s with pc := s.pc + (code s.pc).length, vars := σ' })) ∧
        (∀ e, f s.vars = some (.error e) → ∃ n s', runSteps env hie n s = (.error e, s')) := by
  constructor
  · intro h s hc ht hr hg
    exact ⟨fun σ' hσ => h s ⟨hc, ht, hr, hg⟩ _ hσ, fun e he => h s ⟨hc, ht, hr, hg⟩ _ he⟩
  · intro h s hpl r hr
    obtain ⟨h1, h2⟩ := h s hpl.hcode hpl.htron hpl.hroom hpl.hgate
    cases r with
    | ok σ' => exact h1 σ' hr
    | error e => exact h2 e hr

/-- **FOR, the documented iteration** (Integer reading): with an Integer loop variable (suffix `%`),
    Integer limit `t` and Integer step `k` whose sign the oracle knows, and a body that leaves the loop
    variable as it found it, the passes of the loop are `Spec.intFor`: body; counter + step (16-bit,
    else OVERFLOW); stored; the loop is left when the new value has passed the limit in the direction
    of the step's sign, else the body runs again.  The body runs at least once. -/
theorem for_integer (neg : Val → Option Bool) (f : Trans) (name : Str) (t k : Int16)
    (hneg : neg (.int k) = some (decide (k < 0))) (hty : Var.suffixTy name = some .integer)
    (hkeep : ∀ σ σ', f σ = some (.ok σ') → σ'.fetch name = σ.fetch name)
    (n : Nat) (i : Int16) (σ : Var) (hi : σ.fetch name = .ok (.int i)) :
    forIter neg f name (.int t) (.int k) n σ = intFor f name t k n i σ :=
  forIter_int neg f name t k hneg hty hkeep n i σ hi

/-- answers computed with a sign oracle that knows less are answers of `exec` -/
theorem exec_of_oracle {neg' : Val → Option Bool} (hn : NegLe neg' stepNeg) (fuel : Nat) (p : SStmt) (σ : Var)
    (r : Res Var) (h : execWith neg' fuel σ p = some r) : exec fuel σ p = some r :=
  execWith_mono hn fuel p σ r h

/-! non-vacuity: four small Integer programs on hand-built machines -/

/-- the variable `n` (Integer) -/
def vI (n : String) : Expr := .var (.unary (0, 0) (.integer n.toList))
/-- the Integer literal `k` -/
def cI (k : Int16) : Expr := .integer (0, 0) k

/-- `IF A% > 10 THEN B% = 1 ELSE B% = 2` -/
def exIf : SStmt :=
  .ifThenElse (.bin .greater (0, 0) (vI "A%") (cI 10)) (.assign "B%".toList (cI 1)) (.assign "B%".toList (cI 2))
/-- `WHILE I% < 3 : I% = I% + 1 : WEND` -/
def exWhile : SStmt :=
  .while (.bin .less (0, 0) (vI "I%") (cI 3)) (.assign "I%".toList (.bin .add (0, 0) (vI "I%") (cI 1)))
/-- `S% = 0 : FOR I% = 1 TO 3 STEP 1 : S% = S% + I% : NEXT I%` -/
def exFor : SStmt :=
  .seq (.assign "S%".toList (cI 0))
    (.for "I%".toList (cI 1) (cI 3) (cI 1) (.assign "S%".toList (.bin .add (0, 0) (vI "S%") (vI "I%"))))
/-- `FOR I% = 32767 TO 0 STEP 1 : S% = 1 : NEXT I%`: the start is past the limit, the body runs once all
    the same, and NEXT overflows the Integer loop variable -/
def exOver : SStmt := .for "I%".toList (cI 32767) (cI 0) (cI 1) (.assign "S%".toList (cI 1))

/-- a machine with `p`'s code at address 2, one value on the stack and the given variables -/
def exMach (p : SStmt) (vars : List (Str × Val)) : Runtime :=
  { program := { link := { ops := #[.end, .end] ++ (compile p 2).toArray ++ #[.end] } },
    pc := 2, stack := #[.int 7], vars := { vars := vars } }

theorem exMach_placed (p : SStmt) (vars : List (Str × Val)) (h : size p ≤ 60000) :
    CodeAt (exMach p vars).program.link.ops (exMach p vars).pc (compile p (exMach p vars).pc) ∧
    (exMach p vars).tron = false ∧ (exMach p vars).stack.size + size p ≤ 65535 ∧
    ((false : Bool) = false ∨ (exMach p vars).entryAddress ≤ (exMach p vars).pc) :=
  ⟨CodeAt.of_append #[.end, .end] #[.end] (compile p 2), rfl, by show 1 + size p ≤ 65535; omega, .inl rfl⟩

/-- the variables of a successful answer -/
def okVars (x : Option (Res Var)) : Option (List (Str × Val)) := (x.bind (·.toOption)).map (·.vars)

/-- the error of a failing answer -/
def errOf (x : Option (Res Var)) : Option Error :=
  match x with
  | some (.error e) => some e
  | _ => none

/-- what the theorem gives for a concrete machine once the semantics has been evaluated -/
theorem exMach_runs (p : SStmt) (hp : p.Pure) (vars l : List (Str × Val)) (hsz : size p ≤ 60000) (fuel : Nat)
    (h : okVars (exec fuel { vars := vars } p) = some l) :
    ∃ n σ', runSteps exEnv false n (exMach p vars) =
      (.ok .continue, { exMach p vars with pc := 2 + size p, vars := σ' }) ∧ σ'.vars = l := by
  obtain ⟨σ', hσ, hl⟩ := ok_of_vars h
  obtain ⟨hc, ht, hr, hg⟩ := exMach_placed p vars hsz
  obtain ⟨n, hn⟩ := (structured_correct exEnv false fuel p hp (exMach p vars) hc ht hr hg).1 σ' hσ
  exact ⟨n, σ', hn, hl⟩

example : exIf.Pure ∧ exWhile.Pure ∧ exFor.Pure ∧ exOver.Pure := by decide

/-- the code: jump targets are absolute addresses -/
example : compile exIf 2 =
    [.push "A%".toList, .literal (.int 10), .gt, .ifNot 9, .literal (.int 1), .pop "B%".toList, .jump 11,
     .literal (.int 2), .pop "B%".toList] := by decide
example : compile exWhile 2 =
    [.push "I%".toList, .literal (.int 3), .lt, .ifNot 11, .push "I%".toList, .literal (.int 1), .add,
     .pop "I%".toList, .jump 2] := by decide
example : compile exFor 2 =
    [.literal (.int 0), .pop "S%".toList, .literal (.int 1), .pop "I%".toList, .literal (.int 3), .literal (.int 1),
     .literal (.str "I%".toList), .literal (.nxt 10), .push "S%".toList, .push "I%".toList, .add, .pop "S%".toList,
     .next "I%".toList] := by decide

/-- IF, both branches: the semantics … -/
example : okVars (exec 5 { vars := [("A%".toList, .int 20)] } exIf) =
    some [("B%".toList, .int 1), ("A%".toList, .int 20)] := by decide
example : okVars (exec 5 { vars := [("A%".toList, .int 5)] } exIf) =
    some [("B%".toList, .int 2), ("A%".toList, .int 5)] := by decide
/-- … the theorem applied to the machine … -/
example : ∃ n σ', runSteps exEnv false n (exMach exIf [("A%".toList, .int 20)]) =
    (.ok .continue, { exMach exIf [("A%".toList, .int 20)] with pc := 11, vars := σ' }) ∧
    σ'.vars = [("B%".toList, .int 1), ("A%".toList, .int 20)] :=
  exMach_runs exIf (by decide) _ _ (by decide) 5 (by decide)
/-- … and the machine itself, run by the kernel (THEN branch: 7 steps, ELSE branch: 6 steps) -/
example : (runSteps exEnv false 7 (exMach exIf [("A%".toList, .int 20)])).2.vars.vars =
    [("B%".toList, .int 1), ("A%".toList, .int 20)] ∧
    (runSteps exEnv false 7 (exMach exIf [("A%".toList, .int 20)])).2.pc = 11 ∧
    (runSteps exEnv false 7 (exMach exIf [("A%".toList, .int 20)])).2.stack = #[.int 7] := by decide
example : (runSteps exEnv false 6 (exMach exIf [("A%".toList, .int 5)])).2.vars.vars =
    [("B%".toList, .int 2), ("A%".toList, .int 5)] ∧
    (runSteps exEnv false 6 (exMach exIf [("A%".toList, .int 5)])).2.pc = 11 := by decide
/-- a string condition is TYPE MISMATCH, in the semantics and on the machine -/
example : errOf (exec 5 { vars := [] } (.ifThen (.string (0, 0) ['x']) (.assign "B%".toList (cI 1)))) =
    some (Error.mk' Code.typeMismatch) := by decide
example : exErr (runSteps exEnv false 2 (exMach (.ifThen (.string (0, 0) ['x']) (.assign "B%".toList (cI 1))) [])) =
    some (Error.mk' Code.typeMismatch) := by decide

/-- WHILE counts to 3: semantics, theorem, machine (3 passes of 9 steps and the final test of 4) -/
example : okVars (exec 6 { vars := [] } exWhile) = some [("I%".toList, .int 3)] := by decide
example : ∃ n σ', runSteps exEnv false n (exMach exWhile []) =
    (.ok .continue, { exMach exWhile [] with pc := 11, vars := σ' }) ∧ σ'.vars = [("I%".toList, .int 3)] :=
  exMach_runs exWhile (by decide) _ _ (by decide) 6 (by decide)
example : (runSteps exEnv false 31 (exMach exWhile [])).2.vars.vars = [("I%".toList, .int 3)] ∧
    (runSteps exEnv false 31 (exMach exWhile [])).2.pc = 11 ∧
    (runSteps exEnv false 31 (exMach exWhile [])).2.stack = #[.int 7] := by decide
/-- a WHILE whose condition is false at once runs no pass -/
example : okVars (exec 6 { vars := [("I%".toList, .int 9)] } exWhile) = some [("I%".toList, .int 9)] := by decide

/-- FOR: `Float` is opaque to the kernel, so the sign of the step `1` (`F.i2d 1 < 0` is false on every
    IEEE machine) is a hypothesis; with it `S% = 6`, `I% = 4`, the frame is gone and the stack is as before -/
example : okVars (execWith (oneStep 1 false) 6 { vars := [] } exFor) =
    some [("I%".toList, .int 4), ("S%".toList, .int 6)] := by decide
example (h : stepNeg (.int 1) = some false) : ∃ n σ', runSteps exEnv false n (exMach exFor []) =
    (.ok .continue, { exMach exFor [] with pc := 15, vars := σ' }) ∧
    σ'.vars = [("I%".toList, .int 4), ("S%".toList, .int 6)] := by
  have hx : okVars (exec 6 { vars := [] } exFor) = some [("I%".toList, .int 4), ("S%".toList, .int 6)] := by
    have hd : okVars (execWith (oneStep 1 false) 6 { vars := [] } exFor) =
        some [("I%".toList, .int 4), ("S%".toList, .int 6)] := by decide
    obtain ⟨σ', hσ, hl⟩ := ok_of_vars hd
    rw [exec_of_oracle (negLe_oneStep h) 6 exFor _ _ hσ]
    simpa [okVars, Except.toOption] using hl
  exact exMach_runs exFor (by decide) _ _ (by decide) 6 hx
/-- the body runs at least once, and an Integer loop variable that overflows stops the loop with OVERFLOW -/
example : errOf (execWith (oneStep 1 false) 3 { vars := [] } exOver) = some (Error.mk' Code.overflow) := by decide
/-- the Integer reading at work: three passes from 1 to 3 by 1 -/
example : okVars (intFor (assignT "S%".toList (.bin .add (0, 0) (vI "S%") (vI "I%"))) "I%".toList 3 1 5 1
    { vars := [("I%".toList, .int 1)] }) = some [("I%".toList, .int 4), ("S%".toList, .int 6)] := by decide

end structured

/-! Structured statements: what the generator and the linker produce.

  `Lemmas/StructCodegen.lean`: the statement fragments the visitor pushes for a structured statement
  (`AStmt` = `SStmt` with the columns and identifiers of the AST; `FragShape`).
  `Lemmas/StructLink.lean`: appended to a CLEAN link (no pending references, WHILE marks or local
  labels: an empty program with its line label, or a linked program) and linked, those fragments ARE
  `compile p a`.  Scope: the statement is the whole line — one-line programs and direct-mode lines; a
  FOR / WHILE spread over several program lines among other statements is NOT covered (the linker
  invariants of arbitrary surrounding code are those of `Lemmas/Layout.lean` and `Lemmas/Inv.lean`). -/

section generated
open Basic.Spec Basic.Lemmas.ExprCompile Basic.Lemmas.StructCompile Basic.Lemmas.StructCodegen Basic.Lemmas.StructLink
open Basic.Codegen

/-- **Codegen shape.**  Visiting the statement list of a structured statement (pure expressions, names
    that are no zero-argument built-ins, code that fits the code segment) pushes its fragments on the
    statement stack, in order — `whileFrag`, `wendFrag`, `forFrag`, `plain #[next v]`, `ifFrag` built from
    the fragments of its parts, `plain (flat e ++ [pop v])` —, reports nothing and leaves the other
    stacks and the fragment under construction alone. -/
theorem structured_codegen_shape (p : AStmt) (hp : p.erase.Pure) (hn : p.Named) (hsz : size p.erase ≤ 65535)
    (v : Array VarItem) (ex st : Array (Col × Link)) (cur : Link) (errs : List Error) :
    ∃ frs : List (Col × Link), FragShape p (frs.map (·.2)) ∧
      acceptStmts p.stmts ⟨⟨v, ex, st, cur⟩, errs⟩ = ⟨⟨v, ex, st ++ frs.toArray, cur⟩, errs⟩ :=
  acceptStmts_shape p hp hn hsz v ex st cur errs

/-- `Codegen.codegen` appends those fragments to the program's link and reports nothing -/
theorem structured_codegen (p : AStmt) (hp : p.erase.Pure) (hn : p.Named) (l0 : Link)
    (hsz : l0.ops.size + size p.erase ≤ 65535) (hdd : l0.data.size ≤ 65535) :
    ∃ fs, FragShape p fs ∧ Codegen.codegen l0 p.stmts = (appendAllL l0 fs, []) :=
  codegen_struct p hp hn l0 hsz hdd

/-- **Linking.**  The fragments of a structured statement appended to a clean link, followed by any
    raw ops, link to `compile p a` at their address `a`; the raw ops follow unchanged. -/
theorem structured_linked (p : AStmt) (fs : List Link) (h : FragShape p fs) (l0 : Link) (hc : Clean l0)
    (post : Array Opcode) :
    CodeAt ((appendAllL l0 fs).pushOps post).link.1.ops l0.ops.size (compile p.erase l0.ops.size) ∧
    ∀ k, ((appendAllL l0 fs).pushOps post).link.1.ops[l0.ops.size + size p.erase + k]? = post[k]? :=
  struct_linked p fs h l0 hc post

/-- **A one-line program, end to end.**  Let the line `n <tokens>` parse to the statement list of a
    structured statement `p`, and let `s` be a machine that holds the compiled program
    (`Program.compile`), stands at address 0 with trace off, room on the stack, and a stored program
    without compile errors (`hie = false`).  Then the run follows `Spec.exec`: see `structured_correct`. -/
theorem one_line_program_correct (env : Env) (n : Nat) (toks : List Token) (p : AStmt)
    (hparse : Parse.parse (some n) toks = .ok p.stmts) (hp : p.erase.Pure) (hn : p.Named)
    (hsz : size p.erase ≤ 65535) (fuel : Nat) (s : Runtime)
    (hprog : s.program = Program.compile [⟨some n, toks⟩]) (hpc : s.pc = 0) (htr : s.tron = false)
    (hroom : s.stack.size + size p.erase ≤ 65535) :
    (∀ σ', exec fuel s.vars p.erase = some (.ok σ') →
      ∃ k, runSteps env false k s = (.ok .continue, { s with pc := s.pc + size p.erase, vars := σ' })) ∧
    (∀ e, exec fuel s.vars p.erase = some (.error e) → ∃ k s', runSteps env false k s = (.error e, s')) := by
  have hcode := compile_one_line n toks p hparse hp hn hsz
  rw [← hprog, ← hpc] at hcode
  exact structured_correct env false fuel p.erase hp s hcode htr hroom (.inl rfl)

/-! non-vacuity: the generator and the linker of the model, run by the kernel on the FOR program and on
    a WHILE with an IF-THEN-ELSE nested in it (on an empty link and behind a stored program), against
    `compile` -/

/-- the identifier `n` (Integer) -/
def iI (n : String) : TIdent := .integer n.toList

/-- `S% = 0 : FOR I% = 1 TO 3 STEP 1 : S% = S% + I% : NEXT I%` -/
def exForA : AStmt :=
  .seq (.assign (0, 0) (0, 0) (iI "S%") (cI 0))
    (.for (0, 0) (0, 0) (0, 0) (0, 0) (iI "I%") (cI 1) (cI 3) (cI 1)
      (.assign (0, 0) (0, 0) (iI "S%") (.bin .add (0, 0) (vI "S%") (vI "I%"))))

/-- `WHILE I% < 3 : IF I% > 1 THEN B% = 1 ELSE B% = 2 : I% = I% + 1 : WEND` -/
def exNestA : AStmt :=
  .while (0, 0) (0, 0) (.bin .less (0, 0) (vI "I%") (cI 3))
    (.seq (.ifThenElse (0, 0) (.bin .greater (0, 0) (vI "I%") (cI 1)) (.assign (0, 0) (0, 0) (iI "B%") (cI 1))
        (.assign (0, 0) (0, 0) (iI "B%") (cI 2)))
      (.assign (0, 0) (0, 0) (iI "I%") (.bin .add (0, 0) (vI "I%") (cI 1))))

example : exForA.erase = exFor := rfl
example : exForA.erase.Pure ∧ exForA.Named ∧ exNestA.erase.Pure ∧ exNestA.Named := by decide
/-- the statement list of the AST -/
example : exForA.stmts =
    [.let (0, 0) (.unary (0, 0) (iI "S%")) (cI 0),
     .for (0, 0) (.unary (0, 0) (iI "I%")) (cI 1) (cI 3) (cI 1),
     .let (0, 0) (.unary (0, 0) (iI "S%")) (.bin .add (0, 0) (vI "S%") (vI "I%")),
     .next (0, 0) [.unary (0, 0) (iI "I%")]] := rfl

/-- the model's generator and linker on line `10 <FOR program>`, an `end` pushed as `linkProg` does:
    exactly `compile` at address 0, then the `end` -/
example : (((Codegen.codegen (({} : Link).pushSymbol 10) exForA.stmts).1.push .end).1.link).1.ops.toList =
    compile exForA.erase 0 ++ [.end] := by decide +kernel
example : (((Codegen.codegen (({} : Link).pushSymbol 10) exForA.stmts).1.push .end).1.link).2 = [] := by decide +kernel
/-- nested: the IF fragment carries its own labels, re-based when it is appended inside the loop -/
example : (((Codegen.codegen (({} : Link).pushSymbol 10) exNestA.stmts).1.push .end).1.link).1.ops.toList =
    compile exNestA.erase 0 ++ [.end] := by decide +kernel
/-- … and behind a stored program (a clean link with code and a line label): address 3 -/
example : (((Codegen.codegen ({ ops := #[.cls, .cls, .end], symbols := [(10, (0, 0))] } : Link) exNestA.stmts).1.push
    .end).1.link).1.ops.toList = [.cls, .cls, .end] ++ compile exNestA.erase 3 ++ [.end] := by decide +kernel

end generated

end Thm.C01
end Basic

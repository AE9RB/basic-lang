import BasicModel.Lemmas.HexVal
import BasicModel.Thm.C17Input
/-
  C17 / C07 — reading a radix constant from TEXT.

  `Val.ofStr` (the model of `impl From<&str> for Val`, val.rs) is the reader behind `VAL` and behind the
  conversion of an INPUT field for a numeric target.  It looks for `&H…` / `&…` FIRST and only then
  normalises the exponent letter D→E for `str::parse::<f64>`; doing the D→E replacement first would read
  `&H0D` as `&H0E` = 14.  For ALL non-empty runs `ds` of hexadecimal digit characters (`0-9 A-F a-f`, so D, d, E, e
  among them; any number of digits, leading zeros allowed) `&H ds` / `&h ds` is the INTEGER `hexValue ds` when that is
  at most 32767 (`ofStr_hex`); from `&H8000` on it is NOT an error and NOT a negative number but the text itself
  (`Val.str`) — which a numeric INPUT target then refuses and from which VAL drops characters at the end.  `& ds` with
  octal digits likewise; in TEXT the spelling `&O17` is NOT octal (`ofStr_ampO`: the lexer accepts `&O17` in a
  program, `from_str_radix("O17", 8)` fails).  Then VAL and INPUT on such texts.
-/
namespace Basic
namespace Thm
namespace C17Hex
open HexVal Fmt Spec
open Basic.Runtime

theorem hexValue_eq_fold (ds : List Char) : hexValue ds = radixFold 16 hexDigitValue 0 ds := rfl
theorem octValue_eq_fold (ds : List Char) : octValue ds = radixFold 8 hexDigitValue 0 ds := rfl

/-- **`&H` constants in text.**  For every non-empty run `ds` of hexadecimal digit characters the
    reader returns the Integer `hexValue ds` when it is at most 32767, and otherwise the text
    unchanged (a `Val.str`): no OVERFLOW error, no two's-complement wrap, no digit limit. -/
theorem ofStr_hex (h : Char) (hh : h = 'H' ∨ h = 'h') (ds : List Char) (hne : ds ≠ [])
    (hd : ∀ c ∈ ds, c ∈ hexDigits) :
    Val.ofStr ('&' :: h :: ds) =
      if hexValue ds ≤ 32767 then .int (Int16.ofNat (hexValue ds)) else .str ('&' :: h :: ds) := by
  have hH : (h = 'H' || h = 'h') = true := by rcases hh with rfl | rfl <;> decide
  rw [ofStr_amp, if_pos hH,
    parseI16Radix_fold 16 (by decide) hexDigitValue ds (fun c hc => hexDigits_radixDigit c (hd c hc)),
    ← hexValue_eq_fold]
  by_cases hv : hexValue ds ≤ 32767
  · simp [hne, hv]
  · simp [hne, hv, fallback_amp]

/-- no digit at all: the text itself -/
theorem ofStr_hex_empty (h : Char) (hh : h = 'H' ∨ h = 'h') : Val.ofStr ['&', h] = .str ['&', h] := by
  rcases hh with rfl | rfl <;> decide

theorem hexValue_snoc (ds : List Char) (c : Char) : hexValue (ds ++ [c]) = hexValue ds * 16 + hexDigitValue c := by
  simp [hexValue, List.foldl_append]

/-- **the regression**: a final `D` (or `d`) is the digit thirteen, a final `E` (`e`) fourteen — the
    exponent-letter normalisation D→E of the decimal reader does not touch a radix constant -/
theorem ofStr_hex_D_is_13 (h : Char) (hh : h = 'H' ∨ h = 'h') (ds : List Char) (hd : ∀ c ∈ ds, c ∈ hexDigits)
    (x : Char) (k : Nat) (hx : (x = 'D' ∨ x = 'd') ∧ k = 13 ∨ (x = 'E' ∨ x = 'e') ∧ k = 14)
    (hv : hexValue ds * 16 + k ≤ 32767) :
    Val.ofStr ('&' :: h :: (ds ++ [x])) = .int (Int16.ofNat (hexValue ds * 16 + k)) := by
  have hxm : x ∈ hexDigits ∧ hexDigitValue x = k := by
    rcases hx with ⟨rfl | rfl, rfl⟩ | ⟨rfl | rfl, rfl⟩ <;> decide
  have hd' : ∀ c ∈ ds ++ [x], c ∈ hexDigits := by
    intro c hc
    rcases List.mem_append.1 hc with hc | hc
    · exact hd c hc
    · simp at hc; subst hc; exact hxm.1
  rw [ofStr_hex h hh (ds ++ [x]) (by simp) hd', hexValue_snoc, hxm.2, if_pos hv]

/-- **`&` (octal) constants in text**: the same, base 8 -/
theorem ofStr_oct (ds : List Char) (hne : ds ≠ []) (hd : ∀ c ∈ ds, c ∈ octDigits) :
    Val.ofStr ('&' :: ds) =
      if octValue ds ≤ 32767 then .int (Int16.ofNat (octValue ds)) else .str ('&' :: ds) := by
  cases ds with
  | nil => contradiction
  | cons c r =>
    obtain ⟨-, -, -, h1, h2⟩ := octDigits_radixDigit c (hd c (by simp))
    have hH : (c = 'H' || c = 'h') = false := by simp [h1, h2]
    rw [ofStr_amp, hH,
      parseI16Radix_fold 8 (by decide) hexDigitValue (c :: r) (fun x hx =>
        have ⟨h1, h2, h3, _⟩ := octDigits_radixDigit x (hd x hx)
        ⟨h1, h2, h3⟩),
      ← octValue_eq_fold]
    by_cases hv : octValue (c :: r) ≤ 32767
    · simp [hv]
    · simp [hv, fallback_amp]

/-- FINDING: in text, `&O…` is not an octal constant (the lexer reads `&O17` in a program line as
    octal 17; `Val::from("&O17")` hands `O17` to `from_str_radix(_, 8)`, which fails) — `VAL("&O17")`
    is 0 and an INPUT reply `&O17` is refused for a numeric target -/
theorem ofStr_ampO : Val.ofStr ['&', 'O', '1', '7'] = .str ['&', 'O', '1', '7'] ∧
    Val.ofStr ['&', '1', '7'] = .int 15 := by decide

/-- FINDING: `from_str_radix` accepts a sign, so `&H-D` reads as −13 and `&H+D` as 13 -/
theorem ofStr_hex_signed : Val.ofStr ['&', 'H', '-', 'D'] = .int (-13) ∧
    Val.ofStr ['&', 'H', '+', 'D'] = .int 13 := by decide

example : Val.ofStr ['&', 'H', '0', 'D'] = .int 13 :=
  ofStr_hex_D_is_13 'H' (.inl rfl) ['0'] (by decide) 'D' 13 (.inl ⟨.inl rfl, rfl⟩) (by decide)
example : Val.ofStr ['&', 'h', 'd', 'e'] = .int 222 :=
  ofStr_hex_D_is_13 'h' (.inr rfl) ['d'] (by decide) 'e' 14 (.inr ⟨.inr rfl, rfl⟩) (by decide)
example : Val.ofStr ['&', 'H', '0', 'D'] = .int 13 := by decide
example : Val.ofStr ['&', 'H', '7', 'F', 'F', 'F'] = .int 32767 := by decide
example : Val.ofStr ['&', 'H', '8', '0', '0', '0'] = .str ['&', 'H', '8', '0', '0', '0'] := by decide
example : Val.ofStr ['&', 'H', 'F', 'F', 'F', 'F'] = .str ['&', 'H', 'F', 'F', 'F', 'F'] := by decide
example : Val.ofStr ['&', 'H', '0', '0', '0', '0', '0', '0', '0', '1', 'e'] = .int 30 := by decide
example : Val.ofStr ['&', '7', '7', '7', '7', '7'] = .int 32767 ∧
    Val.ofStr ['&', '1', '0', '0', '0', '0', '0'] = .str ['&', '1', '0', '0', '0', '0', '0'] := by decide
/-- the decimal reader does normalise D: `1D2` is the Double 100 -/
example : (Val.ofStr ['1', 'D', '2']).ty = .dbl := by decide

theorem hexDigits_not_white : ∀ c ∈ hexDigits, RStd.isWhitespace c = false := by decide

theorem trim_id (s : Str) (h1 : ∀ c ∈ s.head?, RStd.isWhitespace c = false)
    (h2 : ∀ c ∈ s.getLast?, RStd.isWhitespace c = false) : RStd.trim s = s := by
  cases s with
  | nil => rfl
  | cons a t =>
    have ha := h1 a (by simp)
    have e1 : (a :: t).dropWhile RStd.isWhitespace = a :: t := by simp [ha]
    unfold RStd.trim
    rw [e1]
    cases hr : (a :: t).reverse with
    | nil => simp at hr
    | cons y ys =>
      have hy : (a :: t).getLast? = some y := by
        rw [List.getLast?_eq_head?_reverse, hr]; rfl
      have hy' := h2 y (by rw [hy]; simp)
      rw [List.dropWhile_cons, hy']
      simp only [Bool.false_eq_true, if_false]
      rw [← hr, List.reverse_reverse]

theorem trim_hex (h : Char) (hh : h = 'H' ∨ h = 'h') (ds : List Char) (hd : ∀ c ∈ ds, c ∈ hexDigits) :
    RStd.trim ('&' :: h :: ds) = '&' :: h :: ds := by
  apply trim_id
  · intro c hc; simp at hc; subst hc; decide
  · intro c hc
    have hc' := List.mem_of_getLast? hc
    simp only [List.mem_cons] at hc'
    rcases hc' with rfl | rfl | hc'
    · decide
    · rcases hh with rfl | rfl <;> decide
    · exact hexDigits_not_white c (hd c hc')

theorem val_of_ofStr (s : Str) (hs : s ≠ []) (ht : RStd.trim s = s) (n : Int16) (h : Val.ofStr s = .int n) :
    Func.val (.str s) = .ok (.int n) := by
  cases s with
  | nil => contradiction
  | cons a t =>
    simp only [Func.val, Func.trim, ht, List.length_cons]
    unfold Func.val.go
    simp [h]

/-- **`VAL("&H…")`**: the Integer `hexValue ds`, whenever that is at most 32767 -/
theorem val_hex (h : Char) (hh : h = 'H' ∨ h = 'h') (ds : List Char) (hne : ds ≠ [])
    (hd : ∀ c ∈ ds, c ∈ hexDigits) (hv : hexValue ds ≤ 32767) :
    Func.val (.str ('&' :: h :: ds)) = .ok (.int (Int16.ofNat (hexValue ds))) :=
  val_of_ofStr _ (by simp) (trim_hex h hh ds hd) _ (by rw [ofStr_hex h hh ds hne hd, if_pos hv])

example : Func.val (.str ['&', 'H', '0', 'D']) = .ok (.int 13) := by decide
example : Func.val (.str ['&', 'h', 'd', 'e']) = .ok (.int 222) := by decide
example : Func.val (.str ['&', 'H', '0', 'D']) = .ok (.int 13) :=
  val_hex 'H' (.inl rfl) ['0', 'D'] (by decide) (by decide) (by decide)
/-- blanks around the text are VAL's business (`trim`), and they are dropped -/
example : Func.val (.str [' ', '&', 'H', '0', 'D', ' ']) = .ok (.int 13) := by decide
/-- FINDING: beyond `&H7FFF`, VAL does not fail: it drops characters at the end until the rest is a
    number — `VAL("&H8000")` is `&H800` = 2048, `VAL("&HFFFF")` is `&HFFF` = 4095 -/
theorem val_hex_overflow : Func.val (.str ['&', 'H', '8', '0', '0', '0']) = .ok (.int 2048) ∧
    Func.val (.str ['&', 'H', 'F', 'F', 'F', 'F']) = .ok (.int 4095) ∧
    Func.val (.str ['&', 'O', '1', '7']) = .ok (.int 0) := by decide

/-- **INPUT, the specification's field conversion**: a field `&H…` (blanks around it allowed by the
    trimming of the field are not considered here) for a numeric target stands for `hexValue ds` -/
theorem fieldValue_hex (name : Str) (hn : name.getLast? ≠ some '$') (h : Char) (hh : h = 'H' ∨ h = 'h')
    (ds : List Char) (hne : ds ≠ []) (hd : ∀ c ∈ ds, c ∈ hexDigits) (hv : hexValue ds ≤ 32767) :
    fieldValue name ('&' :: h :: ds) = .int (Int16.ofNat (hexValue ds)) := by
  rw [C17.fieldValue_numeric name _ hn, trim_hex h hh ds hd, ofStr_hex h hh ds hne hd, if_pos hv]
  simp

/-- **INPUT, the machine**: the opcode `input name` with the field `&H…` on top of the stack replaces
    it by the Integer `hexValue ds` (which the following `pop name` stores) -/
theorem doInput_hex_field (name : Str) (s : Runtime) (st : Array Val)
    (hstate : s.state = .inputRunning) (hname : name ≠ []) (hn : name.getLast? ≠ some '$')
    (h : Char) (hh : h = 'H' ∨ h = 'h') (ds : List Char) (hne : ds ≠ []) (hd : ∀ c ∈ ds, c ∈ hexDigits)
    (hv : hexValue ds ≤ 32767)
    (hs : s.stack = st.push (.str ('&' :: h :: ds))) (hroom : st.size + 1 ≤ Gen.stackMaxLen) :
    ((doInput name).run).run s =
      (.ok false, { s with stack := st.push (.int (Int16.ofNat (hexValue ds))) }) := by
  rw [C17.doInput_field name s st _ hstate hname hs hroom, fieldValue_hex name hn h hh ds hne hd hv]

/-- **INPUT, one numeric scalar target, reply `&H…`**: the statement stores `hexValue ds` -/
theorem inputSpec_hex_single (vars : Var) (n : Str) (hn : n.getLast? ≠ some '$')
    (h : Char) (hh : h = 'H' ∨ h = 'h') (ds : List Char) (hne : ds ≠ []) (hd : ∀ c ∈ ds, c ∈ hexDigits)
    (hv : hexValue ds ≤ 32767) (hlen : RStd.utf8Len ('&' :: h :: ds) ≤ Gen.maxLineLen) :
    inputSpec vars [.scalar n] ('&' :: h :: ds) =
      match vars.store n (.int (Int16.ofNat (hexValue ds))) with
      | .ok v => .ok v
      | .error _ => .error .redo := by
  rw [C17.inputSpec_single vars n _ hlen, fieldValue_hex n hn h hh ds hne hd hv]
  cases vars.store n (.int (Int16.ofNat (hexValue ds))) <;> rfl

/-- a reply beyond `&H7FFF` is a text for the reader, so a numeric target refuses it -/
example : fieldValue ['A'] ['&', 'H', '8', '0', '0', '0'] = .str ['&', 'H', '8', '0', '0', '0'] := by decide

/-- `INPUT "N";A%,B$` (the machine of `Thm/C17Input.lean`) with the reply `&H0D,&hde`:
    `A% = 13`; the `$` target takes its field as text -/
example : (execute C17.demoEnv (enter C17.demoEnv (C17.waiting C17.demo (-1) ['N'] 2)
      ['&', 'H', '0', 'D', ',', '&', 'h', 'd', 'e']) 5).1.vars.vars =
    [(['B', '$'], .str ['&', 'h', 'd', 'e']), (['A', '%'], .int 13)] := by decide +kernel

end C17Hex
end Thm
end Basic

import BasicModel.Lemmas.Control
import BasicModel.Lemmas.Codegen
import BasicModel.Lemmas.GenClean
import BasicModel.Lemmas.DataLits
import BasicModel.Lemmas.WhileMarks
import BasicModel.Lemmas.ReadRun
import BasicModel.Lemmas.ParseLines
/-
  C09 — READ consumes DATA in source order; RESTORE and RUN reposition the cursor.

  The data segment is an array filled by `append` in fragment order; a line symbol records how
  many constants precede the line; `readData` is a cursor into the array; `restoreData` and
  CLEAR (which RUN executes first) move the cursor.
-/
namespace Basic
namespace Thm.C09
open Link

/-- READ with data left: the constant under the cursor, cursor + 1, nothing else changes -/
theorem readData_advances (l : Link) (h : l.dataPos < l.data.size) :
    l.readData = ({ l with dataPos := l.dataPos + 1 }, .ok l.data[l.dataPos]) := by
  unfold readData
  rw [Array.getElem?_eq_getElem h]

/-- READ past the end: OUT OF DATA (code 4), link unchanged -/
theorem readData_out_of_data (l : Link) (h : l.data.size ≤ l.dataPos) :
    l.readData = (l, .error (Error.mk' Code.outOfData)) ∧ (Error.mk' Code.outOfData).code = 4 := by
  unfold readData
  rw [Array.getElem?_eq_none h]
  exact ⟨rfl, rfl⟩

/-- RESTORE sets the cursor and nothing else -/
theorem restoreData_sets (l : Link) (a : Nat) :
    (l.restoreData a).dataPos = a ∧ (l.restoreData a).data = l.data ∧ (l.restoreData a).ops = l.ops ∧
    (l.restoreData a).symbols = l.symbols := ⟨rfl, rfl, rfl, rfl⟩

/-- `k` consecutive READs: the final link and the results in order -/
def readN : Nat → Link → Link × List (Except Error Val)
  | 0, l => (l, [])
  | k+1, l =>
    let (l1, r) := l.readData
    let (l2, rs) := readN k l1
    (l2, r :: rs)

theorem readN_from (l : Link) (k : Nat) (h : l.dataPos + k ≤ l.data.size) :
    readN k l = ({ l with dataPos := l.dataPos + k }, ((l.data.toList.drop l.dataPos).take k).map Except.ok) := by
  induction k generalizing l with
  | zero => simp [readN]
  | succ k ih =>
    have hlt : l.dataPos < l.data.size := by omega
    simp only [readN, readData_advances l hlt]
    rw [ih { l with dataPos := l.dataPos + 1 } (by simp only; omega)]
    simp only [Prod.mk.injEq]
    refine ⟨by simp only [Link.mk.injEq, and_true, true_and]; omega, ?_⟩
    have hlt' : l.dataPos < l.data.toList.length := by simpa using hlt
    rw [List.drop_eq_getElem_cons hlt', List.take_succ_cons]
    simp

/-- after `RESTORE a` the next `k` READs return `data[a], data[a+1], …` -/
theorem restore_then_reads_from (l : Link) (a k : Nat) (h : a + k ≤ l.data.size) :
    readN k (l.restoreData a) =
      ({ l with dataPos := a + k }, ((l.data.toList.drop a).take k).map Except.ok) :=
  readN_from (l.restoreData a) k h

/-- from the start, `|data|` READs return the whole data segment in order, and the next is OUT OF DATA -/
theorem read_all_in_order (l : Link) (h0 : l.dataPos = 0) :
    (readN l.data.size l).2 = l.data.toList.map Except.ok ∧
    (readN l.data.size l).1.readData.2 = .error (Error.mk' Code.outOfData) := by
  rw [readN_from l l.data.size (by omega)]
  simp only [h0, List.drop_zero, Nat.zero_add]
  constructor
  · rw [List.take_of_length_le (by simp)]
  · exact congrArg Prod.snd (readData_out_of_data { l with dataPos := l.data.size } (Nat.le_refl _)).1

/-- the `read` helper of the VM: pushes the constant under the cursor and advances it -/
theorem doRead_pushes_next (s : Runtime) (h : s.program.link.dataPos < s.program.link.data.size)
    (hb : s.stack.size + 1 ≤ Gen.stackMaxLen) :
    (Runtime.doRead.run).run s =
      (.ok (), { s with
        program := { s.program with link := { s.program.link with dataPos := s.program.link.dataPos + 1 } },
        stack := s.stack.push s.program.link.data[s.program.link.dataPos] }) :=
  Lemmas.ReadRun.doRead_ok s _ (Array.getElem?_eq_getElem h) hb

theorem doRead_out_of_data (s : Runtime) (h : s.program.link.data.size ≤ s.program.link.dataPos) :
    (Runtime.doRead.run).run s = (.error (Error.mk' Code.outOfData), s) :=
  Lemmas.ReadRun.doRead_none s (Array.getElem?_eq_none h)

/-- CLEAR (and RUN, which executes `clear` first) rewinds the cursor -/
theorem doClear_rewinds (env : Env) (s : Runtime) : (Runtime.doClear env s).program.link.dataPos = 0 := rfl

/-- … and leaves the data segment alone -/
theorem doClear_keeps_data (env : Env) (s : Runtime) :
    (Runtime.doClear env s).program.link.data = s.program.link.data := rfl

/-- the code `RUN [n]` compiles to starts with `clear`, so every RUN rewinds the cursor -/
theorem run_starts_with_clear (c : Col) (ln : Option Nat) (g : Codegen.GState)
    (h : g.cur.ops.size + 1 ≤ Gen.stackMaxLen) :
    (((Codegen.pushRun c ln).run).run g).2.cur.ops[g.cur.ops.size]? = some .clear := by
  unfold Codegen.pushRun
  simp only [Codegen.grun_bind, Codegen.grun_lpush_ok .clear g h]
  have key : ∀ g' : Codegen.GState, g'.cur.ops[g.cur.ops.size]? = some .clear →
      (((Codegen.lpush (.jump 0)).run).run g').2.cur.ops[g.cur.ops.size]? = some .clear := by
    intro g' hg'
    rw [Codegen.grun_lpush_eq]
    exact push_keeps hg' _
  cases ln with
  | none =>
    simp only [Option.isSome_none, Bool.false_eq_true, if_false]
    apply key
    simp
  | some n =>
    simp only [Option.isSome_some, if_true, Codegen.grun_bind, Link.symbolForLineNumber, Codegen.grun_liftE,
      Codegen.grun_laddUnlinked]
    apply key
    simp [Link.addUnlinked]

/-- when no append fails (the reported errors are just the visitor's), the
    data segment after compiling a line is the old one followed by the data of the line's statement
    fragments in statement order (DATA inside multi-statement lines included), and the code likewise.
    `Program.codegenLines` is a left fold over the lines in listing (ascending) order, so the data
    segment of a program is in source order. -/
theorem codegen_appends_in_order (link : Link) (ast : List Stmt)
    (h : (Codegen.codegen link ast).2 = (Codegen.acceptStmts ast {}).errors) :
    (Codegen.codegen link ast).1.data.toList =
      link.data.toList ++ ((Codegen.acceptStmts ast {}).g.stmt.toList.map (·.2.data.toList)).flatten ∧
    (Codegen.codegen link ast).1.ops.toList =
      link.ops.toList ++ ((Codegen.acceptStmts ast {}).g.stmt.toList.map (·.2.ops.toList)).flatten := by
  exact Codegen.codegen_appended link ast h

/-- whatever the outcome (including OUT OF MEMORY part-way), appending only ever *extends* the data segment -/
theorem append_data_extends (a b : Link) : ∃ suf, (a.append b).1.data.toList = a.data.toList ++ suf :=
  Link.append_ind (P := fun l => ∃ suf, l.data.toList = a.data.toList ++ suf) a b
    ⟨[], (List.append_nil _).symm⟩ fun _ => ⟨⟨b.data.toList, Array.toList_append⟩, ⟨[], (List.append_nil _).symm⟩⟩

/-- compiling numbered lines only extends the data segment: the constants already there keep their
    positions, so the data address recorded for a line (`pushSymbol_records_data_addr`) stays valid
    while the lines after it are compiled -/
theorem codegenLines_data_extends (p : Program) (lines : List Line) (h : ∀ l ∈ lines, ∃ n, l.number = some n) :
    ∃ suf, (p.codegenLines lines).link.data.toList = p.link.data.toList ++ suf :=
  Program.codegenLines_inv (P := fun l => ∃ suf, l.data.toList = p.link.data.toList ++ suf) (Q := fun _ => True)
    (fun l f ⟨s1, h1⟩ _ => (append_data_extends l f).elim fun s2 h2 => ⟨s1 ++ s2, by rw [h2, h1, List.append_assoc]⟩)
    (fun _ _ _ => trivial) (fun _ _ h => h) lines p h ⟨[], (List.append_nil _).symm⟩

/-- `Program.codegenLines` compiles the lines in the order given (a left fold) -/
theorem codegenLines_in_order (p : Program) (l : Line) (ls : List Line) :
    p.codegenLines (l :: ls) = (p.codegenLine l).codegenLines ls := rfl

/-- a line symbol records (code address, data address) = (ops, constants) compiled before that line -/
theorem pushSymbol_records_data_addr (l : Link) (n : Symbol) :
    (l.pushSymbol n).symbols.lookup n = some (l.ops.size, l.data.size) :=
  pushSymbol_lookup l n

/-- other symbols are not disturbed -/
theorem pushSymbol_keeps_others (l : Link) (n m : Symbol) (h : m ≠ n) :
    (l.pushSymbol n).symbols.lookup m = l.symbols.lookup m := by
  unfold pushSymbol
  rw [symInsert_lookup, if_neg h]

/-- `RESTORE n` is patched to the data address recorded for line `n` -/
theorem restore_patched {l : Link} {a x : Nat} {c : Col} {n : Symbol} {o d : Nat}
    (hsym : l.symbols.lookup n = some (o, d)) (hop : l.ops[a]? = some (.restore x)) :
    (l.linkOne a c n).1.ops[a]? = some (.restore d) ∧ (l.linkOne a c n).2 = none :=
  ⟨(linkOne_resolves_get hsym hop rfl).1, (linkOne_resolves_get hsym hop rfl).2.1⟩

/-- `RESTORE n` then READ, end to end on the link: line `n` was compiled when `d` constants were
    present, so after the restore the next READ returns the first constant of line `n` or later -/
theorem restore_line_then_read (l : Link) (d : Nat) (h : d < l.data.size) :
    (l.restoreData d).readData = ({ l with dataPos := d + 1 }, .ok l.data[d]) :=
  readData_advances (l.restoreData d) h

def expectedLiteral (c : Col) : Error := ((Error.mk' Code.syntaxError).inCol c.1 c.2).withMsg "EXPECTED LITERAL"

/-- a fragment that is exactly one literal becomes one data item and no code -/
theorem transformToData_literal (l : Link) (c : Col) (v : Val) (h : l.ops = #[.literal v]) :
    Codegen.transformToData l c = ({ l with ops := #[] }).pushData v ∧
    (Codegen.transformToData l c).1.ops = #[] ∧ (Codegen.transformToData l c).1.data = l.data.push v := by
  unfold Codegen.transformToData
  simp [h, pushData]

/-- a numeric literal under unary minus becomes the negated value -/
theorem transformToData_neg_literal (l : Link) (c : Col) (v nv : Val) (h : l.ops = #[.literal v, .neg])
    (hn : Ops.negate v = .ok nv) :
    Codegen.transformToData l c = ({ l with ops := #[] }).pushData nv ∧
    (Codegen.transformToData l c).1.ops = #[] ∧ (Codegen.transformToData l c).1.data = l.data.push nv := by
  unfold Codegen.transformToData
  simp [h, hn, pushData]

/-- … and when the negation itself fails (a string, or −(−32768)) that error is reported, no data is added -/
theorem transformToData_neg_error (l : Link) (c : Col) (v : Val) (e : Error) (h : l.ops = #[.literal v, .neg])
    (hn : Ops.negate v = .error e) :
    Codegen.transformToData l c = ({ l with ops := #[] }, .error e) := by
  unfold Codegen.transformToData
  simp [h, hn]

/-- anything else is SYNTAX ERROR "EXPECTED LITERAL" at the item's column (or the negation's own error) -/
theorem transformToData_cases (l : Link) (c : Col) :
    (∃ v, l.ops = #[.literal v]) ∨ (∃ v, l.ops = #[.literal v, .neg]) ∨
    (Codegen.transformToData l c).2 = .error (expectedLiteral c) :=
  DataOrder.td_cases l c

def exData : Link := { data := #[.int 10, .int 20, .int 30] }

example : (readN 3 exData).2 = [.ok (.int 10), .ok (.int 20), .ok (.int 30)] := by decide
example : (readN 4 exData).2 = [.ok (.int 10), .ok (.int 20), .ok (.int 30), .error (Error.mk' 4)] := by decide
example : (readN 2 (exData.restoreData 1)).2 = [.ok (.int 20), .ok (.int 30)] := by decide
example : (readN 1 ((readN 3 exData).1.restoreData 0)).2 = [.ok (.int 10)] := by decide
example : (Codegen.transformToData { ops := #[.literal (.int 7)] } (0, 1)).1.data = #[.int 7] := by decide
example : (Codegen.transformToData { ops := #[.literal (.int 7), .neg] } (0, 1)).1.data = #[.int (-7)] := by decide
example : (Codegen.transformToData { ops := #[.push "A".toList] } (2, 3)).2 = .error (expectedLiteral (2, 3)) := by decide
example : (({ ops := #[.end], data := #[.int 1, .int 2] } : Link).pushSymbol 30).symbols.lookup 30 = some (1, 2) := by decide
example : (appendMany {} [{ data := #[.int 1] }, { ops := #[.end] }, { data := #[.int 2, .int 3] }]).1.data
    = #[.int 1, .int 2, .int 3] := by decide +kernel

/-! The mechanisms above, composed at program level; the symbol of line `n`, `RESTORE n` after linking, RUN and the
  headline are in `Thm/C09Program.lean`. -/

open DataOrder Lemmas.ReadRun Lemmas.ExprCompile Lemmas.FnCall Spec Codegen

/-- **`dataOf`** (`DataOrder.dataOf`): the constants of every DATA statement of the listing — also of
    those inside the branches of IF — in line order and left to right within a line; a constant is a
    literal, or a numeric literal under one unary minus (negated by `Ops.negate`, as
    `transformToData` does); a line that does not parse has none.

    **The data segment of a compiled program is `dataOf` of its listing**, for every listing of
    numbered lines each of which, compiled in its turn, either does not parse or compiles without a
    report (`ListingClean`).  No hypothesis on the DATA items: `codegen` reports every item that is
    not a constant (`clean_compile_has_constant_data`). -/
theorem data_segment_in_source_order (lines : List Line) (hnum : DataOrder.Numbered lines)
    (hok : ListingClean {} lines) : (Program.compile lines).link.data.toList = dataOf lines :=
  compile_data lines hnum hok

/-- … in particular **for every listing that compiles without errors** (`indirectErrors = []`: what
    RUN requires) -/
theorem data_segment_of_clean_program (lines : List Line) (hnum : DataOrder.Numbered lines)
    (h : (Program.compile lines).indirectErrors = []) :
    (Program.compile lines).link.data.toList = dataOf lines :=
  compile_data_of_clean lines hnum h

/-- such a listing parses line by line, and every line compiles without a report -/
theorem clean_program_listingClean (lines : List Line) (hnum : DataOrder.Numbered lines)
    (h : (Program.compile lines).indirectErrors = []) :
    ListingClean {} lines ∧ (∀ l ∈ lines, ∃ ast, Parse.parse l.number l.tokens = .ok ast) :=
  listingClean_of_compile_clean lines hnum h

/-- a statement list that compiles without a report has constants as DATA items (syntactically:
    `stmtsLit`), also inside IF branches: anything else is SYNTAX ERROR "EXPECTED LITERAL"
    (`transformToData_cases`) or the error of the negation -/
theorem clean_compile_has_constant_data (link : Link) (ast : List Stmt) (h : (Codegen.codegen link ast).2 = []) :
    stmtsLit ast = true :=
  (codegen_clean link ast h).1

/-- the error case: **a line that does not parse contributes nothing** — neither data nor code — but
    its error (its line symbol is still recorded) -/
theorem unparsable_line_contributes_nothing (p : Program) (line : Line) (n : Nat) (hn : line.number = some n)
    (e : Error) (hp : Parse.parse line.number line.tokens = .error e) :
    (p.codegenLine line).link.data = p.link.data ∧ (p.codegenLine line).link.ops = p.link.ops ∧
    (p.codegenLine line).errors = p.errors ++ [e] ∧ lineData line = [] := by
  have hl : lineData line = [] := by unfold lineData; rw [hp]
  rw [Program.codegenLine_numbered p line n hn, Program.genNumbered_error (hn ▸ hp)]
  exact ⟨rfl, rfl, rfl, hl⟩

/-- one line: the data segment grows by the constants of its statements, in statement order -/
theorem line_appends_its_constants (p : Program) (line : Line) (n : Nat) (hn : line.number = some n)
    (hok : LineClean p line) : (p.codegenLine line).link.data.toList = p.link.data.toList ++ lineData line :=
  codegenLine_data p line n hn hok

/-- one statement list: DATA contributes its constants, IF those of its THEN branch followed by those
    of its ELSE branch, every other statement nothing -/
theorem statements_append_their_constants (link : Link) (ast : List Stmt)
    (h : (Codegen.codegen link ast).2 = []) :
    (Codegen.codegen link ast).1.data.toList = link.data.toList ++ stmtsData ast :=
  codegen_data link ast h

/-- **position independence**: `dataOf` depends only on the subsequence of lines that carry
    constants, and of those only on their texts — not on their line numbers, not on the code lines
    around them.  Moving a DATA line among the code lines (keeping the relative order of the DATA
    lines) leaves `dataOf`, hence the compiled data segment, unchanged. -/
theorem data_position_independent (ls ls' : List Line)
    (h : (ls.filter carriesData).map (·.tokens) = (ls'.filter carriesData).map (·.tokens)) :
    dataOf ls = dataOf ls' := by
  rw [dataOf_eq_tokens, dataOf_eq_tokens, h]

theorem data_segment_position_independent (ls ls' : List Line) (hn : DataOrder.Numbered ls)
    (hn' : DataOrder.Numbered ls') (hok : ListingClean {} ls) (hok' : ListingClean {} ls')
    (h : (ls.filter carriesData).map (·.tokens) = (ls'.filter carriesData).map (·.tokens)) :
    (Program.compile ls).link.data = (Program.compile ls').link.data := by
  apply Array.ext'
  rw [compile_data ls hn hok, compile_data ls' hn' hok', data_position_independent ls ls' h]

/-- `RESTORE` / `RESTORE n` compiles to the single instruction `restore 0`, reporting nothing, with
    no data; with a line-number operand the reference to the symbol of line `n` is pending at that
    instruction (`restoreFrag`), without one nothing is pending and the operand stays 0 -/
theorem restore_fragment (c c2 : Col) (bits : UInt32) (s : VState) :
    acceptStmt (.restore c (.single c2 bits)) s =
      { s with g := { s.g with stmt := s.g.stmt.push (c, restoreFrag c2 (restoreTarget bits)) } } :=
  acceptStmt_restore c c2 bits s

/-- **the linker patches `RESTORE n` with the data address of line `n`**: a `restore` waiting for a
    defined symbol ends as `restore d`, `d` the data address the symbol records
    (`pushSymbol_records_data_addr`: the number of constants compiled before the line) — whatever
    WHILE/WEND pairing adds to the pending references, because marks sit on their own branches
    (`WhilesOps`, an invariant of every fragment and of the compile state) -/
theorem restore_resolved_by_link (l : Link) (hk : KeysDistinct l.unlinked) (hw : WhilesOps l) (a y : Nat) (c : Col)
    (sym : Symbol) (o d : Nat) (hp : PendingAt l a (.restore y) (some (c, sym)))
    (hsym : l.symbols.lookup sym = some (o, d)) : l.link.1.ops[a]? = some (.restore d) :=
  link_restore_resolves l hk hw a y c sym o d hp hsym

/-- the compile state of any listing of numbered lines has its marks on their branches and distinct
    reference addresses -/
theorem compile_state_marks (lines : List Line) (hnum : DataOrder.Numbered lines) :
    WhilesOps (({} : Program).codegenLines lines).link ∧
    KeysDistinct (({} : Program).codegenLines lines).link.unlinked :=
  ⟨codegenLines_whilesOps lines {} hnum WhilesOps.empty, codegenLines_keysDistinct lines {} hnum List.Pairwise.nil⟩

/-- **code shape**: `READ v₁,…,vₖ` (scalar targets that are not zero-argument built-ins) compiles to
    one fragment, nothing reported, whose code is `read; pop v₁; …; read; pop vₖ`: one `read` and one
    store per target, left to right — READ is `read` followed by the code of an assignment -/
theorem read_code_shape (c : Col) (pis : List (Col × TIdent)) (hz : ∀ p ∈ pis, isZeroArg p.2.name = false)
    (s : VState) (hlen : 2 * pis.length ≤ Gen.stackMaxLen) :
    acceptStmt (.read c (pis.map fun p => Variable.unary p.1 p.2)) s =
      { s with g := { s.g with stmt := s.g.stmt.push (c, plain (readCode (pis.map (·.2.name))).toArray) } } := by
  obtain ⟨⟨v, ex, st, cur⟩, errs⟩ := s
  simp only [acceptStmt]
  rw [acceptVars_unary]
  have hg : Clean (genStatement (.read c (pis.map fun p => Variable.unary p.1 p.2)))
      ⟨v ++ (pis.map scalarItem).toArray, ex, st, {}⟩ c ⟨v, ex, st, plain (readCode (pis.map (·.2.name))).toArray⟩ := by
    simp only [genStatement, show (pis.map fun p => Variable.unary p.1 p.2).length = (pis.map scalarItem).length by simp]
    refine Clean.congr (.bind (.popNVar ..) <| .bind (.forIn_emit (fun it => [Opcode.read, Opcode.pop it.name]) _ v ex st _
      (fun it hit cur => by
        obtain ⟨p, hp, rfl⟩ := List.mem_map.1 hit
        refine Clean.congr (.bind (.lpush ..) <| .bind (pushAsPop_scalar_clean p.1 p.2.name {} (hz p hp) ..) (.pure ..)) ?_
        simp only [scalarItem, Link.push, pushOps, GState.mk.injEq, true_and]
        congr 1) _) (.pure ..)) ?_
    simp [readCode, List.flatMap_map, scalarItem, plain, pushOps]
  rw [visitStatement_clean hg ⟨by simpa [plain, readCode_length] using hlen, Nat.zero_le _, rfl⟩]

/-- **the run**: from any state (trace off, room for one value on the stack) with the cursor at `p`,
    the code of a READ list runs as `readSpec` says; the stack ends as it began (`afterRead` changes
    `pc`, the variables and the cursor only) -/
theorem read_list_run (env : Env) (hie : Bool) (names : List Str) (s : Runtime)
    (hcode : CodeAt s.program.link.ops s.pc (readCode names)) (htr : s.tron = false)
    (hroom : s.stack.size + 1 ≤ Gen.stackMaxLen) :
    runOps env hie (readCode names) s =
      readResult s (readSpec s.program.link.data names s.vars s.program.link.dataPos) :=
  read_run env hie names s hcode htr hroom

/-- enough constants, every store accepted: target `i` receives `data[p+i]` converted by `Var.store`
    (as an assignment would), one after the other, left to right; the cursor ends at `p + k` -/
theorem read_list_ok (env : Env) (hie : Bool) (names : List Str) (s : Runtime) (vars' : Var)
    (hcode : CodeAt s.program.link.ops s.pc (readCode names)) (htr : s.tron = false)
    (hroom : s.stack.size + 1 ≤ Gen.stackMaxLen)
    (hp : s.program.link.dataPos + names.length ≤ s.program.link.data.size)
    (hst : bindParams s.vars names ((s.program.link.data.toList.drop s.program.link.dataPos).take names.length) =
      .ok vars') :
    runOps env hie (readCode names) s =
      (.ok .continue, { s with pc := s.pc + 2 * names.length, vars := vars', program := { s.program with link := { s.program.link with dataPos := s.program.link.dataPos + names.length } } }) := by
  rw [read_run env hie names s hcode htr hroom, readSpec_ok _ names s.vars vars' _ hp hst]
  rfl

/-- **a conversion error** (TYPE MISMATCH for a string constant read into a numeric variable, or the
    reverse; OVERFLOW): the list stops at the first target whose store is refused, with that store's
    error; the earlier targets are assigned; and the cursor is `p + i + 1` — **the offending constant
    has been consumed** (the `read` happens before the store) -/
theorem read_list_conversion_error (env : Env) (hie : Bool) (pre : List Str) (n : Str) (post : List Str)
    (s : Runtime) (vars1 : Var) (v : Val) (e : Error)
    (hcode : CodeAt s.program.link.ops s.pc (readCode (pre ++ n :: post))) (htr : s.tron = false)
    (hroom : s.stack.size + 1 ≤ Gen.stackMaxLen)
    (hp : s.program.link.dataPos + pre.length ≤ s.program.link.data.size)
    (hpre : bindParams s.vars pre ((s.program.link.data.toList.drop s.program.link.dataPos).take pre.length) =
      .ok vars1)
    (hv : s.program.link.data[s.program.link.dataPos + pre.length]? = some v) (hs : vars1.store n v = .error e) :
    runOps env hie (readCode (pre ++ n :: post)) s =
      (.error e, { s with pc := s.pc + (2 * pre.length + 2), vars := vars1, program := { s.program with link := { s.program.link with dataPos := s.program.link.dataPos + pre.length + 1 } } }) := by
  rw [read_run env hie _ s hcode htr hroom, readSpec_store_error _ pre n post s.vars vars1 _ v e hp hpre hv hs]
  rfl

/-- **OUT OF DATA**: with fewer constants left than targets, the first `|data| - p` targets are
    assigned, the error is OUT OF DATA (code 4), and the cursor stays at the end of the data -/
theorem read_list_out_of_data (env : Env) (hie : Bool) (pre : List Str) (n : Str) (post : List Str)
    (s : Runtime) (vars1 : Var)
    (hcode : CodeAt s.program.link.ops s.pc (readCode (pre ++ n :: post))) (htr : s.tron = false)
    (hroom : s.stack.size + 1 ≤ Gen.stackMaxLen)
    (hp : s.program.link.dataPos + pre.length = s.program.link.data.size)
    (hpre : bindParams s.vars pre ((s.program.link.data.toList.drop s.program.link.dataPos).take pre.length) =
      .ok vars1) :
    runOps env hie (readCode (pre ++ n :: post)) s =
      (.error (Error.mk' Code.outOfData), { s with pc := s.pc + (2 * pre.length + 1), vars := vars1, program := { s.program with link := { s.program.link with dataPos := s.program.link.data.size } } }) ∧
    (Error.mk' Code.outOfData).code = 4 := by
  rw [read_run env hie _ s hcode htr hroom, readSpec_out_of_data _ pre n post s.vars vars1 _ hp hpre]
  exact ⟨rfl, rfl⟩

/-! Non-vacuity.  The kernel does not evaluate the parser, so the parses of the example lines are proved by
  unfolding it (`Lemmas/ParseLines.lean`), and the listing-level hypotheses are then checked on the parses
  (`listingClean_of_check`, `dataOf_of_parses`).  All constants are Integers or strings: `Float32` is
  opaque to the kernel. -/

/-- `10 READ A%,B$` / `20 DATA 7,-8` / `30 END` / `40 DATA "X"` -/
def exL1 : Line := ⟨some 10, [.word .read, .whitespace 1, .ident (.integer ['A', '%']), .comma, .ident (.string ['B', '$'])]⟩
def exL2 : Line := ⟨some 20, [.word .data, .whitespace 1, .literal (.integer ['7']), .comma, .operator .minus,
  .literal (.integer ['8'])]⟩
def exL3 : Line := ⟨some 30, [.word .end]⟩
def exL4 : Line := ⟨some 40, [.word .data, .whitespace 1, .literal (.string ['X'])]⟩

def exAsts : List (List Stmt) :=
  [[.read (0, 4) [.unary (5, 7) (.integer ['A', '%']), .unary (8, 10) (.string ['B', '$'])]],
   [.data (9, 9) [.integer (5, 6) 7, .neg (7, 8) (.integer (8, 9) 8)]],
   [.end (0, 3)],
   [.data (8, 8) [.string (5, 8) ['X']]]]

theorem exParses : Parses [exL1, exL2, exL3, exL4] exAsts :=
  .cons (Parse.parse_read_ab _) (.cons (Parse.parse_data_7_m8 _) (.cons (Parse.parse_end _) (.cons (Parse.parse_data_x _) .nil)))

/-- the hypotheses of `data_segment_in_source_order` hold for the example -/
theorem exOk : ListingClean {} [exL1, exL2, exL3, exL4] :=
  listingClean_of_check _ _ _ exParses (by decide +kernel)

/-- its data segment: `7, -8, "X"` — the DATA lines sit behind and between the code -/
example : (Program.compile [exL1, exL2, exL3, exL4]).link.data.toList = [.int 7, .int (-8), .str ['X']] := by
  rw [data_segment_in_source_order _ (numbered_of_check _ (by decide)) exOk, dataOf_of_parses _ _ exParses]
  decide +kernel

/-- the DATA lines moved in front of the code and renumbered: the same data sequence -/
theorem exMovedParses : Parses [{ exL2 with number := some 1 }, { exL4 with number := some 2 }, exL1, exL3]
    [exAsts[1], exAsts[3], exAsts[0], exAsts[2]] :=
  .cons (Parse.parse_data_7_m8 _) (.cons (Parse.parse_data_x _) (.cons (Parse.parse_read_ab _) (.cons (Parse.parse_end _) .nil)))

example : dataOf [{ exL2 with number := some 1 }, { exL4 with number := some 2 }, exL1, exL3] =
    dataOf [exL1, exL2, exL3, exL4] := by
  rw [dataOf_of_parses _ _ exMovedParses, dataOf_of_parses _ _ exParses]
  decide +kernel

/-- DATA inside IF branches counts, THEN branch first; PRINT contributes nothing -/
example : stmtsData [.data (0, 0) [.integer (0, 0) 1], .print (0, 0) [.integer (0, 0) 5],
    .«if» (0, 0) (.integer (0, 0) 1) [.data (0, 0) [.string (0, 0) ['A']]] [.data (0, 0) [.integer (0, 0) 2]]] =
    [.int 1, .str ['A'], .int 2] := by decide

example : (Codegen.codegen {} [.data (0, 0) [.integer (0, 0) 1], .print (0, 0) [.integer (0, 0) 5],
    .«if» (0, 0) (.integer (0, 0) 1) [.data (0, 0) [.string (0, 0) ['A']]] [.data (0, 0) [.integer (0, 0) 2]]]).1.data =
    #[.int 1, .str ['A'], .int 2] := by decide +kernel

/-- the RESTORE fragments -/
example : restoreFrag (8, 10) (some 40) = { ops := #[.restore 0], unlinked := [(0, ((8, 10), 40))] } := rfl
example : restoreFrag (7, 7) none = { ops := #[.restore 0] } := rfl

/-- the linker on `restore 0` waiting for line 40, whose symbol records 2 constants before it -/
def exRestoreLink : Link :=
  { ops := #[.restore 0, .end], symbols := [(10, (0, 0)), (40, (1, 2))], unlinked := [(0, ((8, 10), 40))] }

example : exRestoreLink.link.1.ops = #[.restore 2, .end] := by decide +kernel

/-- the READ list `READ A%,B$` on the data `7, "X", 9` from cursor 0 … -/
def exRun : Runtime :=
  { program := { link := { ops := #[.read, .pop ['A', '%'], .read, .pop ['B', '$'], .end],
                           data := #[.int 7, .str ['X'], .int 9] } } }

theorem exRun_code : CodeAt exRun.program.link.ops exRun.pc (readCode [['A', '%'], ['B', '$']]) := by decide

/-- … assigns both, cursor 2, stack empty, `pc` past the code -/
example (env : Env) (hie : Bool) :
    (runOps env hie (readCode [['A', '%'], ['B', '$']]) exRun).2.program.link.dataPos = 2 ∧
    (runOps env hie (readCode [['A', '%'], ['B', '$']]) exRun).2.vars.fetch ['A', '%'] = .ok (.int 7) ∧
    (runOps env hie (readCode [['A', '%'], ['B', '$']]) exRun).2.vars.fetch ['B', '$'] = .ok (.str ['X']) ∧
    (runOps env hie (readCode [['A', '%'], ['B', '$']]) exRun).2.stack = #[] ∧
    (runOps env hie (readCode [['A', '%'], ['B', '$']]) exRun).2.pc = 4 := by
  rw [read_list_run env hie _ exRun exRun_code rfl (by decide)]
  decide +kernel

/-- `READ B$,A%` on the same data: the Integer 7 cannot be stored into `B$` — TYPE MISMATCH (13),
    nothing assigned, and the cursor is 1: the constant is consumed -/
example : (readSpec exRun.program.link.data [['B', '$'], ['A', '%']] Var.new 0).1.map (·.code) = some 13 ∧
    (readSpec exRun.program.link.data [['B', '$'], ['A', '%']] Var.new 0).2.2 = (1, 2) := by decide +kernel

/-- four targets, three constants: OUT OF DATA (4) after three assignments, cursor 3 -/
example : (readSpec exRun.program.link.data [['A', '%'], ['B', '$'], ['A', '%'], ['A', '%']] Var.new 0).1.map (·.code) =
      some 4 ∧
    (readSpec exRun.program.link.data [['A', '%'], ['B', '$'], ['A', '%'], ['A', '%']] Var.new 0).2.2 = (3, 7) ∧
    (readSpec exRun.program.link.data [['A', '%'], ['B', '$'], ['A', '%'], ['A', '%']] Var.new 0).2.1.fetch ['A', '%'] =
      .ok (.int 9) := by decide +kernel

/-- the code shape of `READ A%,B$` (the AST the parser returns for it) -/
example : acceptStmt (.read (0, 4) ([((5, 7), TIdent.integer ['A', '%']), ((8, 10), TIdent.string ['B', '$'])].map
      fun p => Variable.unary p.1 p.2)) {} =
    { g := { stmt := #[((0, 4), plain #[.read, .pop ['A', '%'], .read, .pop ['B', '$']])] }, errors := [] } := by
  rw [read_code_shape (0, 4) _ (by decide) {} (by decide)]
  rfl

end Thm.C09
end Basic

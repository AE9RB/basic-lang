import BasicModel.Thm.C04
import BasicModel.Lemmas.RangeNoFault
/-
  C19 / C04 (continuation) — after DELETE took lines away, or a numbered line was
  entered, nothing may resume into the old program.

  What the model (= `runtime.rs`) does, exactly:

  * `doDelete` (`r#delete`) pops two values, converts both with `toLineNumber`, calls
    `Listing.removeRange`.  ONLY IF that reports `removed = true` does it set `dirty := true`,
    `state := stopped`, `cont := stopped`, `stack := #[]`, `functions := []`; then, in both cases,
    `r#end` (`doEnd`) runs.  From a state with `state = cont = stopped`, `doEnd` leaves `cont = stopped`
    at every `pc` (`doEnd_of_cancelled`).  A DELETE whose range holds no line behaves like END: inside
    a program it *keeps* a continue point (see the empty-range example on `mid` at the end) — nothing was edited.
  * `enter` with a numbered line (state neither `input` nor `inkey`, the typed text and the listed
    text both within the line buffer) is `enterIndirect`, which cancels `cont`, `stack`, `functions`
    *unconditionally* — also for a bare number naming no line — and raises `dirty` iff the listing
    changed (`Thm/C04.lean`).  If one of the two length tests fails the line is NOT stored and the
    continue point survives: the state only turns into the LINE BUFFER OVERFLOW report.
  * In a state with `cont = stopped` and an empty stack the instructions CONT / RETURN / NEXT fail
    with CAN'T CONTINUE / RETURN WITHOUT GOSUB / NEXT WITHOUT FOR and change nothing.

  `edit_then_resume_refused` here speaks of the instructions; its namesake in `Thm/C04.lean` is the
  statement for the helpers `doCont`, `doReturn`, `doNext`, `doFn`.
-/
namespace Basic
namespace Thm.C19
open Basic.Runtime

/-- from a cancelled state (`state = cont = stopped`) `r#end` keeps everything cancelled, at any `pc` -/
theorem doEnd_of_cancelled (s : Runtime) (hs : s.state = .stopped) (hc : s.cont = .stopped) :
    (doEnd s).cont = .stopped ∧ (doEnd s).state = .stopped ∧ (doEnd s).stack = s.stack ∧
    (doEnd s).functions = s.functions ∧ (doEnd s).dirty = s.dirty ∧ (doEnd s).listing = s.listing := by
  rw [doEnd_eq]
  refine ⟨?_, rfl, rfl, rfl, rfl, rfl⟩
  dsimp only
  rw [hs, hc]
  split
  · rfl
  · split <;> rfl

/-- **DELETE that took lines away leaves nothing to resume** — whatever the range, the stack below
    the operands, the continue point and `pc` were -/
theorem delete_removed_cancels (s : Runtime) (stk : Array Val) (a b : Val) (lo hi : Option Nat)
    (h : s.stack = (stk.push a).push b) (ha : a.toLineNumber = .ok lo) (hb : b.toLineNumber = .ok hi)
    (hr : (s.listing.removeRange lo hi).2 = true) :
    (doDelete.run.run s).1 = .ok .stopped ∧
    (doDelete.run.run s).2.cont = .stopped ∧ (doDelete.run.run s).2.stack = #[] ∧
    (doDelete.run.run s).2.functions = [] ∧ (doDelete.run.run s).2.dirty = true ∧
    (doDelete.run.run s).2.state = .stopped ∧
    (doDelete.run.run s).2.listing = (s.listing.removeRange lo hi).1 := by
  rw [run_doDelete s stk a b lo hi h ha hb, if_pos hr]
  obtain ⟨h1, h2, h3, h4, h5, h6⟩ :=
    doEnd_of_cancelled (deleted s (s.listing.removeRange lo hi).1) rfl rfl
  exact ⟨rfl, h1, h3, h4, h5, h2, h6⟩

theorem doDelete_ok {s t : Runtime} {ev : Event} (h : doDelete.run.run s = (.ok ev, t)) :
    ∃ (stk : Array Val) (a b : Val) (lo hi : Option Nat),
      s.stack = (stk.push a).push b ∧ a.toLineNumber = .ok lo ∧ b.toLineNumber = .ok hi := by
  unfold doDelete pop2 at h
  obtain ⟨⟨a, b⟩, s2, h2, h⟩ := run_bind_inv h
  obtain ⟨b', s1, hb, h2⟩ := run_bind_inv h2
  obtain ⟨a', s2', ha, h2⟩ := run_bind_inv h2
  cases h2
  obtain ⟨lo, s3, hlo, h⟩ := run_bind_inv h
  obtain ⟨hi, s4, hhi, h⟩ := run_bind_inv h
  exact ⟨s2.stack, a, b, lo, hi, by rw [run_pop_inv hb, run_pop_inv ha], (run_liftE_inv hlo).1, (run_liftE_inv hhi).1⟩

/-- the same without naming the operands: ANY successful `r#delete` after which the listing differs
    from the one before has cancelled the continue point, the stack and the DEF FN table -/
theorem delete_changed_cancels (s t : Runtime) (ev : Event) (hrun : doDelete.run.run s = (.ok ev, t))
    (hl : t.listing ≠ s.listing) :
    t.cont = .stopped ∧ t.stack = #[] ∧ t.functions = [] ∧ t.dirty = true ∧ t.state = .stopped := by
  obtain ⟨stk, a, b, lo, hi, h, ha, hb⟩ := doDelete_ok hrun
  cases hr : (s.listing.removeRange lo hi).2 with
  | true =>
    obtain ⟨_, h1, h2, h3, h4, h5, _⟩ := delete_removed_cancels s stk a b lo hi h ha hb hr
    rw [hrun] at h1 h2 h3 h4 h5
    exact ⟨h1, h2, h3, h4, h5⟩
  | false =>
    -- nothing was removed: the listing is the old one
    have := doDelete_range s stk a b lo hi h ha hb
    rw [hrun, Listing.removeRange_unchanged _ lo hi hr] at this
    exact absurd this hl

theorem execOp_delete_run (env : Env) (h : Bool) (s : Runtime) :
    (execOp env h .delete).run.run s =
      match doDelete.run.run s with
      | (.ok ev, t) => (.ok (.event ev), t)
      | (.error e, t) => (.error e, t) := by
  simp only [execOp, run_bind]
  rcases doDelete.run.run s with ⟨r, t⟩
  cases r <;> rfl

theorem delete_instruction_cancels (env : Env) (hie : Bool) (s : Runtime) (stk : Array Val) (a b : Val)
    (lo hi : Option Nat)
    (h : s.stack = (stk.push a).push b) (ha : a.toLineNumber = .ok lo) (hb : b.toLineNumber = .ok hi)
    (hr : (s.listing.removeRange lo hi).2 = true) :
    ∃ t, (execOp env hie .delete).run.run s = (.ok (.event .stopped), t) ∧
      t.cont = .stopped ∧ t.stack = #[] ∧ t.functions = [] ∧ t.dirty = true ∧ t.state = .stopped := by
  obtain ⟨_, h1, h2, h3, h4, h5, _⟩ := delete_removed_cancels s stk a b lo hi h ha hb hr
  refine ⟨(doDelete.run.run s).2, ?_, h1, h2, h3, h4, h5⟩
  rw [execOp_delete_run, run_doDelete s stk a b lo hi h ha hb]

/-- **entering any numbered line** — insert, replace or a bare number, whether or not the listing
    changes — **leaves nothing to resume** -/
theorem enter_numbered_cancels (env : Env) (s : Runtime) (str : Str) (n : Nat)
    (hi : s.state ≠ .input) (hk : s.state ≠ .inkey)
    (hlen : ¬ RStd.utf8Len str > Gen.maxLineLen)
    (hn : (env.lex str).number = some n)
    (hfit : ¬ RStd.utf8Len (printLine (env.lex str).number (env.lex str).tokens) > Gen.maxLineLen) :
    (enter env s str).cont = .stopped ∧ (enter env s str).stack = #[] ∧ (enter env s str).functions = [] := by
  rw [enter_numbered env s str n hi hk hlen hn hfit]
  exact C04.enterIndirect_cancels s _

/-- without the length hypotheses: a numbered line is either refused as a whole (LINE BUFFER
    OVERFLOW; listing, continue point and stack untouched) or it cancels everything resumable -/
theorem enter_numbered_cancels_or_refused (env : Env) (s : Runtime) (str : Str) (n : Nat)
    (hi : s.state ≠ .input) (hk : s.state ≠ .inkey) (hn : (env.lex str).number = some n) :
    enter env s str = { s with state := .runtimeError (Error.mk' Code.lineBufferOverflow) } ∨
    ((enter env s str).cont = .stopped ∧ (enter env s str).stack = #[] ∧ (enter env s str).functions = []) := by
  rw [enter_prompt env s str hi hk]
  split
  · exact .inl rfl
  · rename_i hlen
    rw [if_neg (by rw [hn]; simp)]
    split
    · exact .inl rfl
    · rename_i hfit
      have := enter_numbered_cancels env s str n hi hk hlen hn hfit
      rw [enter_numbered env s str n hi hk hlen hn hfit] at this
      exact .inr this

/-- the three *instructions* in a state with no continue point and an empty stack: the error, and
    the state is untouched -/
theorem resume_instructions_refused (env : Env) (hie : Bool) (t : Runtime) (hc : t.cont = .stopped)
    (hs : t.stack = #[]) (name : Str) :
    (execOp env hie .cont).run.run t = (.error (Error.mk' Code.cantContinue), t) ∧
    (execOp env hie .return).run.run t = (.error (Error.mk' Code.returnWithoutGosub), t) ∧
    (execOp env hie (.next name)).run.run t = (.error (Error.mk' Code.nextWithoutFor), t) := by
  refine ⟨?_, ?_, ?_⟩
  · rw [execOp_cont_run, if_pos hc]
  · simp only [execOp]
    exact run_bind_error (doReturn_refused t hs)
  · simp only [execOp]
    exact run_bind_error (doNext_refused name t hs)

/-- the same for a whole `step` (trace off) whose `pc` points at one of the three instructions:
    `pc` has advanced, the rest of the state is untouched -/
theorem resume_step_refused (env : Env) (hie : Bool) (t : Runtime) (hc : t.cont = .stopped)
    (hs : t.stack = #[]) (htr : t.tron = false) (op : Opcode) (hop : t.program.link.ops[t.pc]? = some op) :
    (op = .cont → (step env hie).run.run t =
        (.error (Error.mk' Code.cantContinue), { t with pc := t.pc + 1 })) ∧
    (op = .return → (step env hie).run.run t =
        (.error (Error.mk' Code.returnWithoutGosub), { t with pc := t.pc + 1 })) ∧
    (∀ name, op = .next name → (step env hie).run.run t =
        (.error (Error.mk' Code.nextWithoutFor), { t with pc := t.pc + 1 })) := by
  have hstep : (step env hie).run.run t = (execOp env hie op).run.run { t with pc := t.pc + 1 } := by
    rw [run_step env hie t _ htr hop]
  have h3 := fun name => resume_instructions_refused env hie { t with pc := t.pc + 1 } hc hs name
  refine ⟨fun h => ?_, fun h => ?_, fun name h => ?_⟩
  · rw [hstep, h]; exact (h3 []).1
  · rw [hstep, h]; exact (h3 []).2.1
  · rw [hstep, h]; exact (h3 name).2.2

theorem refused_also_after_direct (env : Env) (hie : Bool) (u : Runtime) (hc : u.cont = .stopped)
    (hs : u.stack = #[]) (line : Line) (name : Str) :
    ∀ t, (t = u ∨ t = enterDirect u line) →
      (execOp env hie .cont).run.run t = (.error (Error.mk' Code.cantContinue), t) ∧
      (execOp env hie .return).run.run t = (.error (Error.mk' Code.returnWithoutGosub), t) ∧
      (execOp env hie (.next name)).run.run t = (.error (Error.mk' Code.nextWithoutFor), t) := by
  intro t ht
  rcases ht with rfl | rfl
  · exact resume_instructions_refused env hie _ hc hs name
  · obtain ⟨k1, k2, _⟩ := C04.enterDirect_keeps_resumables u line
    exact resume_instructions_refused env hie _ (k1.trans hc) (k2.trans hs) name

/-- DELETE took lines away ⇒ in the state it leaves — and in the state any later direct line starts
    in — CONT, RETURN and NEXT are refused -/
theorem delete_then_resume_refused (env : Env) (hie : Bool) (s : Runtime) (stk : Array Val) (a b : Val)
    (lo hi : Option Nat)
    (h : s.stack = (stk.push a).push b) (ha : a.toLineNumber = .ok lo) (hb : b.toLineNumber = .ok hi)
    (hr : (s.listing.removeRange lo hi).2 = true) (line : Line) (name : Str) :
    ∀ t, (t = (doDelete.run.run s).2 ∨ t = enterDirect (doDelete.run.run s).2 line) →
      (execOp env hie .cont).run.run t = (.error (Error.mk' Code.cantContinue), t) ∧
      (execOp env hie .return).run.run t = (.error (Error.mk' Code.returnWithoutGosub), t) ∧
      (execOp env hie (.next name)).run.run t = (.error (Error.mk' Code.nextWithoutFor), t) := by
  obtain ⟨_, h1, h2, _⟩ := delete_removed_cancels s stk a b lo hi h ha hb hr
  exact refused_also_after_direct env hie _ h1 h2 line name

/-- a numbered line was entered ⇒ the same -/
theorem edit_then_resume_refused (env : Env) (hie : Bool) (s : Runtime) (str : Str) (n : Nat)
    (hi : s.state ≠ .input) (hk : s.state ≠ .inkey)
    (hlen : ¬ RStd.utf8Len str > Gen.maxLineLen)
    (hn : (env.lex str).number = some n)
    (hfit : ¬ RStd.utf8Len (printLine (env.lex str).number (env.lex str).tokens) > Gen.maxLineLen)
    (line : Line) (name : Str) :
    ∀ t, (t = enter env s str ∨ t = enterDirect (enter env s str) line) →
      (execOp env hie .cont).run.run t = (.error (Error.mk' Code.cantContinue), t) ∧
      (execOp env hie .return).run.run t = (.error (Error.mk' Code.returnWithoutGosub), t) ∧
      (execOp env hie (.next name)).run.run t = (.error (Error.mk' Code.nextWithoutFor), t) := by
  obtain ⟨h1, h2, _⟩ := enter_numbered_cancels env s str n hi hk hlen hn hfit
  exact refused_also_after_direct env hie _ h1 h2 line name

def line10 : Line := ⟨some 10, [.word .end]⟩
def line20 : Line := ⟨some 20, [.word .cls]⟩

/-- stopped inside a subroutine of a two-line program: a continue point, a pending RETURN frame, a
    DEF FN, and the operands of `DELETE 20` (the Integer 20 twice) on the stack -/
def mid : Runtime :=
  { listing := { source := [(10, line10), (20, line20)], rooted := true }, dirty := false, state := .running,
    cont := .running, contPc := 3, pc := 1, entryAddress := 5,
    stack := #[.ret 7, .int 20, .int 20], functions := [(['F'], (1, 2))] }

example : mid.stack = ((#[.ret 7] : Array Val).push (.int 20)).push (.int 20) ∧
    (Val.int 20).toLineNumber = .ok (some 20) ∧
    (mid.listing.removeRange (some 20) (some 20)).2 = true := by decide

/-- `delete_removed_cancels` on it: the RETURN frame and the continue point are gone -/
example : (doDelete.run.run mid).2.cont = .stopped ∧ (doDelete.run.run mid).2.stack = #[] ∧
    mid.cont = .running :=
  have h := delete_removed_cancels mid #[.ret 7] (.int 20) (.int 20) (some 20) (some 20) rfl
    (by decide) (by decide) (by decide)
  ⟨h.2.1, h.2.2.1, rfl⟩

/-- the contrast the model makes (and `runtime.rs` with it): a DELETE whose range is empty edits
    nothing and acts like END — inside a program the continue point and the frames below the two
    operands SURVIVE -/
example : (mid.listing.removeRange (some 30) (some 40)).2 = false ∧
    (doDelete.run.run { mid with stack := #[.ret 7, .int 30, .int 40] }).2.cont = .running ∧
    (doDelete.run.run { mid with stack := #[.ret 7, .int 30, .int 40] }).2.stack = #[.ret 7] := by
  refine ⟨by decide, ?_, ?_⟩
  · rw [run_doDelete _ #[.ret 7] (.int 30) (.int 40) (some 30) (some 40) rfl (by decide) (by decide)]
    decide
  · rw [run_doDelete _ #[.ret 7] (.int 30) (.int 40) (some 30) (some 40) rfl (by decide) (by decide)]
    decide

/-- a lexer that knows one numbered line and one bare number -/
def envE : Env :=
  { lex := fun s => if s = "10 END".toList then line10
                    else if s = "30".toList then ⟨some 30, []⟩ else ⟨none, []⟩,
    lineRenum := fun _ l => l }

/-- the hypotheses of `enter_numbered_cancels` hold for `10 END` and for the bare `30` (which names
    no line of `mid`) -/
example : mid.state ≠ .input ∧ mid.state ≠ .inkey ∧ ¬ RStd.utf8Len "10 END".toList > Gen.maxLineLen ∧
    (envE.lex "10 END".toList).number = some 10 ∧
    ¬ RStd.utf8Len (printLine (envE.lex "10 END".toList).number (envE.lex "10 END".toList).tokens) > Gen.maxLineLen := by
  decide
example : (enter envE mid "30".toList).cont = .stopped ∧ (enter envE mid "30".toList).stack = #[] ∧
    (enter envE mid "30".toList).dirty = false := by decide

/-- the refusal theorem applied to a concrete state -/
example : (execOp envE false .cont).run.run (enter envE mid "10 END".toList) =
    (.error (Error.mk' Code.cantContinue), enter envE mid "10 END".toList) :=
  (resume_instructions_refused envE false _ (by decide) (by decide) []).1

end Thm.C19
end Basic

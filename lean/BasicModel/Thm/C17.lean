import BasicModel.Lemmas.C17
import BasicModel.Lemmas.Session
import BasicModel.Spec.InputStmt
/-
  C17 — INPUT parses replies as documented and retries atomically per reply.

  * The reply is split at the commas that lie outside double quotes (`Lemmas.C17.splitOutside` is
    the accumulator-free specification); joining the fields with commas gives the reply back, the
    number of fields is one more than the number of such commas, and a quote-free reply yields
    comma-free fields.
  * A statement with a single target (count 0 or 1 on the stack) takes the whole reply, commas
    included.
  * `doInputReply` either accepts — pushing `ret pc` and then the fields, first field on top, and
    entering `inputRunning` — or, when the number of fields differs from the count, leaves the stack
    untouched and enters `inputRedo`.
  * `doInput` converts one field: trimmed; for a `$` target one enclosing pair of quotes is removed;
    for a numeric target the empty field is 0, anything else goes through `Val.ofStr`.
  * `executeInput` leaves the stack as it found it, resets the column and asks with
    `prompt ++ "? "`, with the caps flag read off the stack.
  * When executing the targets fails in `inputRunning`, `execute` unwinds the stack down to and
    including the `ret` pushed by the reply, i.e. to exactly the stack of the `input` state, and the
    next two events are REDO FROM START and the same prompt.
-/
namespace Basic
namespace Thm.C17
open Basic.Runtime Basic.Lemmas.C17

/-- the field splitter of `doInputReply` as it is called there -/
abbrev fields (reply : Str) : List Str := Runtime.doInputReply.split reply false [] []

/-- the fields are those of the specification "split at commas outside double quotes" -/
theorem split_spec (reply : Str) : fields reply = splitOutside reply false := split_outside reply

/-- joining the fields with commas gives the reply back — nothing is lost or invented -/
theorem split_join (reply : Str) : List.intercalate [','] (fields reply) = reply := by
  rw [split_spec, intercalate_eq_joinC, joinC_splitOutside]

/-- number of fields = 1 + number of commas outside quotes -/
theorem split_count (reply : Str) : (fields reply).length = 1 + commasOutside reply false := by
  rw [split_spec, length_splitOutside]

/-- without quotes no field contains a comma … -/
theorem split_no_quotes (reply : Str) (hq : '"' ∉ reply) : ∀ f ∈ fields reply, ',' ∉ f := by
  rw [split_spec]; exact splitOutside_no_quotes reply hq

/-- … and every comma separates -/
theorem split_count_no_quotes (reply : Str) (hq : '"' ∉ reply) :
    (fields reply).length = 1 + reply.count ',' := by
  rw [split_count, commasOutside_no_quotes reply hq]

/-- one target (count 0 or 1): the whole reply is the field, commas included -/
theorem single_var_whole_reply (s : Runtime) (reply : Str) (n : Int16)
    (htop : s.stack.back? = some (.int n)) (h0 : 0 ≤ n.toInt) (h1 : n.toInt ≤ 1)
    (hroom : s.stack.size + 2 ≤ Gen.stackMaxLen) :
    doInputReply s reply =
      ({ s with stack := (s.stack.push (.ret s.pc)).push (.str reply), state := .inputRunning },
        .ok ()) := by
  unfold doInputReply
  simp only [htop, h0, h1, decide_true, Bool.and_self, if_true]
  rw [run_accept]
  · simp
  · simp only [List.length_cons, List.length_nil]; omega

theorem single_var_whole_reply_one (s : Runtime) (reply : Str)
    (htop : s.stack.back? = some (.int 1)) (hroom : s.stack.size + 2 ≤ Gen.stackMaxLen) :
    doInputReply s reply =
      ({ s with stack := (s.stack.push (.ret s.pc)).push (.str reply), state := .inputRunning },
        .ok ()) :=
  single_var_whole_reply s reply 1 htop (by decide) (by decide) hroom

theorem single_var_whole_reply_zero (s : Runtime) (reply : Str)
    (htop : s.stack.back? = some (.int 0)) (hroom : s.stack.size + 2 ≤ Gen.stackMaxLen) :
    doInputReply s reply =
      ({ s with stack := (s.stack.push (.ret s.pc)).push (.str reply), state := .inputRunning },
        .ok ()) :=
  single_var_whole_reply s reply 0 htop (by decide) (by decide) hroom

/-- count other than 0/1 and different from the number of fields: REDO, stack untouched -/
theorem field_count_mismatch_redo (s : Runtime) (reply : Str) (n : Int16)
    (htop : s.stack.back? = some (.int n)) (hn : ¬ (0 ≤ n.toInt ∧ n.toInt ≤ 1))
    (hne : n.toInt ≠ ((fields reply).length : Int)) :
    doInputReply s reply = ({ s with state := .inputRedo }, .ok ()) := by
  unfold doInputReply
  simp only [htop, Bool.and_eq_true, decide_eq_true_eq, hn, if_false]
  rw [if_neg hne]

/-- a negative count can never be matched: always REDO -/
theorem negative_count_redo (s : Runtime) (reply : Str) (n : Int16)
    (htop : s.stack.back? = some (.int n)) (hneg : n.toInt < 0) :
    doInputReply s reply = ({ s with state := .inputRedo }, .ok ()) :=
  field_count_mismatch_redo s reply n htop (by omega) (by omega)

/-- count ≥ 2 equal to the number of fields: `ret pc` and the fields are pushed, the first field
    ending up on top; the machine goes on in `inputRunning` -/
theorem field_count_match_accept (s : Runtime) (reply : Str) (n : Int16)
    (htop : s.stack.back? = some (.int n)) (hn : ¬ (0 ≤ n.toInt ∧ n.toInt ≤ 1))
    (heq : n.toInt = ((fields reply).length : Int))
    (hroom : s.stack.size + 1 + (fields reply).length ≤ Gen.stackMaxLen) :
    doInputReply s reply =
      ({ s with stack := s.stack ++ (Val.ret s.pc :: (fields reply).reverse.map Val.str).toArray,
                state := .inputRunning }, .ok ()) := by
  unfold doInputReply
  simp only [htop, Bool.and_eq_true, decide_eq_true_eq, hn, if_false]
  rw [if_pos heq]
  simp only []
  rw [run_accept _ _ hroom, List.push_append_toArray]

/-- the same stack, read as a list: old stack, `ret pc`, last field … first field -/
theorem field_count_match_accept_toList (s : Runtime) (reply : Str) (n : Int16)
    (htop : s.stack.back? = some (.int n)) (hn : ¬ (0 ≤ n.toInt ∧ n.toInt ≤ 1))
    (heq : n.toInt = ((fields reply).length : Int))
    (hroom : s.stack.size + 1 + (fields reply).length ≤ Gen.stackMaxLen) :
    (doInputReply s reply).1.stack.toList =
      s.stack.toList ++ Val.ret s.pc :: (fields reply).reverse.map Val.str ∧
    (doInputReply s reply).1.state = .inputRunning ∧ (doInputReply s reply).1.pc = s.pc := by
  rw [field_count_match_accept s reply n htop hn heq hroom]
  simp

/-- in every case where the top of the stack is an Integer the reply is either accepted or
    refused with the stack exactly as it was -/
theorem accept_or_redo_reply (s : Runtime) (reply : Str) (n : Int16)
    (htop : s.stack.back? = some (.int n))
    (hroom : s.stack.size + 1 + (fields reply).length ≤ Gen.stackMaxLen) :
    (∃ fs, doInputReply s reply =
        ({ s with stack := s.stack ++ (Val.ret s.pc :: fs.reverse.map Val.str).toArray,
                  state := .inputRunning }, .ok ()) ∧
        (fs = [reply] ∨ fs = fields reply)) ∨
    doInputReply s reply = ({ s with state := .inputRedo }, .ok ()) := by
  by_cases hn : 0 ≤ n.toInt ∧ n.toInt ≤ 1
  · left
    refine ⟨[reply], ?_, .inl rfl⟩
    have h1 := split_count reply
    have hst : (s.stack.push (.ret s.pc)).push (.str reply) =
        s.stack ++ (Val.ret s.pc :: [reply].reverse.map Val.str).toArray := by
      apply Array.ext'; simp
    rw [single_var_whole_reply s reply n htop hn.1 hn.2 (by omega), hst]
  · by_cases heq : n.toInt = ((fields reply).length : Int)
    · left
      exact ⟨fields reply, field_count_match_accept s reply n htop hn heq hroom, .inr rfl⟩
    · right
      exact field_count_mismatch_redo s reply n htop hn heq

/-- anything but an Integer on top (or an empty stack) is an internal error, state untouched -/
theorem non_int_top (s : Runtime) (reply : Str) (htop : ∀ n, s.stack.back? ≠ some (.int n)) :
    doInputReply s reply = (s, .error (Error.mk' Code.internalError)) := by
  unfold doInputReply
  split
  · rename_i n h; exact absurd h (htop n)
  · rfl

/-- first execution of the opcode: suspend, re-execute later -/
theorem doInput_running (name : Str) (s : Runtime) (h : s.state = .running) :
    ((doInput name).run).run s = (.ok true, { s with state := .input, pc := s.pc - 1 }) := by
  simp only [doInput, run_bind, Runtime.run_get, h, if_true, Runtime.run_set, run_pure]

/-- the closing opcode (empty name): the reply's return address, the count, the caps value and the prompt
    are dropped -/
theorem doInput_end (s : Runtime) (st : Array Val) (a b c d : Val) (h : s.state = .inputRunning)
    (hs : s.stack = (((st.push a).push b).push c).push d) :
    ((doInput []).run).run s = (.ok false, { s with state := .running, stack := st }) := by
  simp only [doInput, run_bind, Runtime.run_get, h, reduceCtorEq, if_false, if_true, Runtime.run_modify,
    List.isEmpty_nil]
  rw [run_pop_push d (((st.push a).push b).push c) { s with state := .running } hs]
  simp only
  rw [run_pop_push c ((st.push a).push b) _ rfl]
  simp only
  rw [run_pop_push b (st.push a) _ rfl]
  simp only
  rw [run_pop_push a st _ rfl]
  simp only [run_pure]

/-- `"…"` → `…` (one enclosing pair only) -/
def stripQuotes (f : Str) : Str :=
  if f.length ≥ 2 && f.head? = some '"' && f.getLast? = some '"' then (f.drop 1).dropLast else f

/-- the model tests with `&&`, the specification's `Spec.unquote` with `∧` -/
theorem stripQuotes_eq_unquote (f : Str) : stripQuotes f = Spec.unquote f := by
  unfold stripQuotes Spec.unquote
  by_cases h : f.length ≥ 2 ∧ f.head? = some '"' ∧ f.getLast? = some '"'
  · rw [if_pos h, if_pos (by simp only [Bool.and_eq_true, decide_eq_true_eq]; exact ⟨⟨h.1, h.2.1⟩, h.2.2⟩)]
  · rw [if_neg h, if_neg (by simp only [Bool.and_eq_true, decide_eq_true_eq]; exact fun g => h ⟨g.1.1, g.1.2, g.2⟩)]

/-- the value stored for one field of a reply -/
def convertField (name field : Str) : Val :=
  if name.getLast? = some '$' then .str (stripQuotes (RStd.trim field))
  else if (RStd.trim field).isEmpty then .int 0
  else Val.ofStr (RStd.trim field)

/-- the conversion the `input` opcode performs is the specification's `Spec.fieldValue` -/
theorem convertField_eq_fieldValue (name field : Str) : convertField name field = Spec.fieldValue name field := by
  unfold convertField Spec.fieldValue
  rw [stripQuotes_eq_unquote]
  by_cases h : name.getLast? = some '$'
  · simp only [h, if_true]
  · simp only [h, if_false]
    cases RStd.trim field <;> simp

/-- one target: the field on top of the stack is replaced by its converted value -/
theorem doInput_field (name : Str) (s : Runtime) (st : Array Val) (field : Str)
    (hstate : s.state = .inputRunning) (hname : name ≠ []) (hs : s.stack = st.push (.str field))
    (hroom : st.size + 1 ≤ Gen.stackMaxLen) :
    ((doInput name).run).run s = (.ok false, { s with stack := st.push (Spec.fieldValue name field) }) := by
  have hne : name.isEmpty = false := by cases name <;> simp_all
  rw [← convertField_eq_fieldValue]
  simp only [doInput, run_bind, Runtime.run_get, hstate, hne, Bool.false_eq_true, reduceCtorEq, if_false,
    if_true]
  rw [run_pop_push (.str field) st s hs]
  -- every branch pushes a value and answers `false`; the value is `convertField name field`
  simp only [← apply_ite (fun v : Val => (do push v; pure false : RM Bool)), run_bind]
  rw [run_push_room _ _ hroom]
  simp only [run_pure, hstate]
  rfl

/-- `$` target: trimmed, one enclosing pair of quotes removed -/
theorem doInput_string_field (name : Str) (s : Runtime) (st : Array Val) (field : Str)
    (hstate : s.state = .inputRunning) (hd : name.getLast? = some '$')
    (hs : s.stack = st.push (.str field)) (hroom : st.size + 1 ≤ Gen.stackMaxLen) :
    ((doInput name).run).run s =
      (.ok false, { s with stack := st.push (.str (
        let f := RStd.trim field
        if f.length ≥ 2 ∧ f.head? = some '"' ∧ f.getLast? = some '"' then (f.drop 1).dropLast else f)) }) := by
  have hname : name ≠ [] := by intro h; rw [h] at hd; simp at hd
  rw [doInput_field name s st field hstate hname hs hroom]
  simp only [Spec.fieldValue, hd, if_true]
  rfl

/-- numeric target: the blank field is 0, anything else is read by `Val.ofStr` (VAL's reader) -/
theorem doInput_numeric_field (name : Str) (s : Runtime) (st : Array Val) (field : Str)
    (hstate : s.state = .inputRunning) (hname : name ≠ []) (hd : name.getLast? ≠ some '$')
    (hs : s.stack = st.push (.str field)) (hroom : st.size + 1 ≤ Gen.stackMaxLen) :
    ((doInput name).run).run s =
      (.ok false, { s with stack := st.push (
        if RStd.trim field = [] then .int 0 else Val.ofStr (RStd.trim field)) }) := by
  rw [doInput_field name s st field hstate hname hs hroom]
  simp only [Spec.fieldValue, hd, if_false]

/-- a non-`str` value where a field is expected is an internal error -/
theorem doInput_non_str_top (name : Str) (s : Runtime) (st : Array Val) (v : Val)
    (hstate : s.state = .inputRunning) (hname : name ≠ []) (hs : s.stack = st.push v)
    (hv : ∀ f, v ≠ .str f) :
    ((doInput name).run).run s = (.error (Error.mk' Code.internalError), { s with stack := st }) := by
  have hne : name.isEmpty = false := by cases name <;> simp_all
  simp only [doInput, run_bind, Runtime.run_get, hstate, hne, Bool.false_eq_true, reduceCtorEq, if_false,
    if_true]
  rw [run_pop_push v st s hs]
  cases v <;> first | exact absurd rfl (hv _) | simp only [Runtime.run_throw, hstate]

/-- in any state other than `running` / `inputRunning` the opcode is an internal error -/
theorem doInput_bad_state (name : Str) (s : Runtime) (h1 : s.state ≠ .running)
    (h2 : s.state ≠ .inputRunning) :
    ((doInput name).run).run s = (.error (Error.mk' Code.internalError), s) := by
  simp only [doInput, run_bind, Runtime.run_get, h1, h2, if_false, Runtime.run_throw]

/-- `executeInput`: prompt text is `prompt ++ "? "`, caps = "the caps value is not Integer 0",
    the column is reset and the stack is as before -/
theorem executeInput_prompt (s : Runtime) (st : Array Val) (prompt : Str) (capsVal lenVal : Val)
    (hs : s.stack = ((st.push (.str prompt)).push capsVal).push lenVal)
    (hroom : st.size + 3 ≤ Gen.stackMaxLen) :
    (Runtime.executeInput.run).run s =
      (.ok (Event.input (prompt ++ ['?', ' ']) (decide (capsVal ≠ .int 0))), { s with printCol := 0 }) := by
  simp only [executeInput, run_bind]
  rw [run_pop_push lenVal ((st.push (.str prompt)).push capsVal) s hs]
  simp only []
  rw [run_pop_push capsVal (st.push (.str prompt)) _ rfl]
  simp only [Runtime.run_get, Array.back?_push, run_pure]
  rw [run_push_room _ _ (by simp only [Array.size_push]; omega)]
  simp only []
  rw [run_push_room _ _ (by simp only [Array.size_push]; omega)]
  simp only [Runtime.run_modify, ← hs]

/-- caps is off exactly when the caps value on the stack is Integer 0 -/
theorem caps_flag (capsVal : Val) : decide (capsVal ≠ .int 0) = false ↔ capsVal = .int 0 := by
  simp

/-- without a `str` prompt below the two values: internal error -/
theorem executeInput_no_prompt (s : Runtime) (st : Array Val) (v capsVal lenVal : Val)
    (hs : s.stack = ((st.push v).push capsVal).push lenVal) (hv : ∀ p, v ≠ .str p) :
    (Runtime.executeInput.run).run s =
      (.error (Error.mk' Code.internalError), { s with stack := st.push v }) := by
  simp only [executeInput, run_bind]
  rw [run_pop_push lenVal ((st.push v).push capsVal) s hs]
  simp only []
  rw [run_pop_push capsVal (st.push v) _ rfl]
  simp only [Runtime.run_get, Array.back?_push]
  cases v <;> first | exact absurd rfl (hv _) | rfl

/-- `execute` in state `input` emits the prompt and changes nothing but the column -/
theorem execute_input_prompt (env : Env) (s : Runtime) (k : Nat) (st : Array Val) (prompt : Str)
    (capsVal lenVal : Val) (hstate : s.state = .input)
    (hs : s.stack = ((st.push (.str prompt)).push capsVal).push lenVal)
    (hroom : st.size + 3 ≤ Gen.stackMaxLen) :
    execute env s k =
      ({ s with printCol := 0 }, Event.input (prompt ++ ['?', ' ']) (decide (capsVal ≠ .int 0))) := by
  exact execute_input_ok env s _ k _ hstate (executeInput_prompt s st prompt capsVal lenVal hs hroom)

/-- refused reply, seen from the session: the stack is the `input`-state stack, and the next two
    `execute` calls give REDO FROM START and the same prompt (`execute_inputRedo`,
    `execute_input_prompt`) -/
theorem enter_input_mismatch (env : Env) (s : Runtime) (reply : Str) (n : Int16)
    (hstate : s.state = .input) (hlen : RStd.utf8Len reply ≤ Gen.maxLineLen)
    (htop : s.stack.back? = some (.int n)) (hn : ¬ (0 ≤ n.toInt ∧ n.toInt ≤ 1))
    (hne : n.toInt ≠ ((fields reply).length : Int)) :
    enter env s reply = { s with state := .inputRedo, printCol := 0 } :=
  enter_input_reply env s _ reply hstate hlen (field_count_mismatch_redo s reply n htop hn hne)

/-- `execute`: when running the targets fails in `inputRunning` (and the failing state's stack is
    `st`, a `ret a`, then values that are not `ret`s), the stack is cut back to `st`, `pc` is `a`,
    the state is `inputRedo` and the caller sees `Running` — everything else is as the failing
    instruction left it.  The shape of the failing stack is a hypothesis: it fails when a target's
    subscript calls a user function that raises (its own `ret` is then the nearest one). -/
theorem redo_restores_stack (env : Env) (s s1 : Runtime) (k : Nat) (e : Error) (st : Array Val)
    (a : Nat) (vs : List Val)
    (hstate : s.state = .inputRunning) (hde : s.listing.directErrors.isEmpty = true)
    (hrun : ((executeLoop env k).run).run s = (.error e, s1))
    (hs1 : s1.state = .inputRunning)
    (hstack : s1.stack = st.push (.ret a) ++ vs.toArray)
    (hvs : ∀ v ∈ vs, ∀ b, v ≠ .ret b) :
    execute env s k = ({ s1 with stack := st, pc := a, state := .inputRedo }, Event.running) := by
  rw [execute_active env s k (.inr hstate) (List.isEmpty_iff.1 hde), hrun]
  show finishLoop (.error e) s1 = _
  rw [finishLoop_error, if_pos hs1, hstack, unwind_to_ret st a vs hvs _ (by simp; omega)]
  rfl

/-- … in particular, right after a reply was accepted from a state `s0` (stack
    `s0.stack ++ [ret s0.pc, fields…]`), a failure anywhere before another `ret` is pushed and left
    on the stack restores exactly `s0.stack` and `s0.pc`.  (The variables are not restored:
    `input_redo_not_atomic` in `Thm/C17Input.lean`.) -/
theorem redo_restores_input_stack (env : Env) (s0 s s1 : Runtime) (k : Nat) (e : Error)
    (vs : List Val)
    (hstate : s.state = .inputRunning) (hde : s.listing.directErrors.isEmpty = true)
    (hrun : ((executeLoop env k).run).run s = (.error e, s1))
    (hs1 : s1.state = .inputRunning)
    (hstack : s1.stack = s0.stack.push (.ret s0.pc) ++ vs.toArray)
    (hvs : ∀ v ∈ vs, ∀ b, v ≠ .ret b) :
    (execute env s k).1.stack = s0.stack ∧ (execute env s k).1.pc = s0.pc ∧
    (execute env s k).1.state = .inputRedo := by
  rw [redo_restores_stack env s s1 k e s0.stack s0.pc vs hstate hde hrun hs1 hstack hvs]
  exact ⟨rfl, rfl, rfl⟩

/-- without any `ret` on the failing stack the stack is emptied and `pc` stays -/
theorem redo_no_ret (env : Env) (s s1 : Runtime) (k : Nat) (e : Error)
    (hstate : s.state = .inputRunning) (hde : s.listing.directErrors.isEmpty = true)
    (hrun : ((executeLoop env k).run).run s = (.error e, s1))
    (hs1 : s1.state = .inputRunning)
    (hst : ∀ v ∈ s1.stack.toList, ∀ b, v ≠ .ret b) :
    execute env s k = ({ s1 with stack := #[], state := .inputRedo }, Event.running) := by
  rw [execute_active env s k (.inr hstate) (List.isEmpty_iff.1 hde), hrun]
  show finishLoop (.error e) s1 = _
  rw [finishLoop_error, if_pos hs1, unwind_no_ret s1.stack hst _ (by omega)]
  rfl

example : fields "a,\"b,c\",d".toList = ["a".toList, "\"b,c\"".toList, "d".toList] := by decide
example : fields "".toList = [[]] := by decide
example : fields ",".toList = [[], []] := by decide
example : fields "1,\"x".toList = ["1".toList, "\"x".toList] := by decide
example : commasOutside "a,\"b,c\",d".toList false = 2 := by decide
example : List.intercalate [','] (fields "a,\"b,c\",d".toList) = "a,\"b,c\",d".toList := by decide
example : stripQuotes "\"a,b\"".toList = "a,b".toList := by decide
example : stripQuotes "\"".toList = "\"".toList := by decide
example : stripQuotes "\"\"x\"\"".toList = "\"x\"".toList := by decide
example : convertField "A$".toList "  \"hi\" ".toList = .str "hi".toList := by decide
example : convertField "A".toList "   ".toList = .int 0 := by decide
example : convertField "A%".toList " &H1F ".toList = .int 31 := by decide
example : convertField "A".toList "&17".toList = .int 15 := by decide
-- unconvertible text reaches the assignment as a `str`, which a numeric target then refuses
example : convertField "A".toList "x".toList = .str "x".toList := by decide

/-- a two-target INPUT with a two-field reply is accepted -/
example : (doInputReply { stack := #[.str "P".toList, .int 0, .int 2], state := .input, pc := 7 }
      "1,2".toList).1.stack =
    #[.str "P".toList, .int 0, .int 2, .ret 7, .str "2".toList, .str "1".toList] := by decide
/-- … and with a one-field reply it is refused -/
example : (doInputReply { stack := #[.str "P".toList, .int 0, .int 2], state := .input, pc := 7 }
      "1".toList).1.state = .inputRedo := by decide
example : Runtime.execute.unwind 5 #[.int 1, .ret 9, .str [], .nxt 3] = (#[.int 1], some 9) := by
  decide

end Thm.C17
end Basic

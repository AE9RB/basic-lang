import BasicModel.Gen.Limits
import BasicModel.Model.Func
import BasicModel.Spec.StrSpec
/-
  C07 — string operations work on characters, as documented, within 0..255.

  Strings are `List Char` in the model, so "counts in characters / never splits a character" is
  built into the types *of the model*; that the Rust code (which slices UTF-8 at byte offsets taken
  from `char_indices`) agrees is the job of the correspondence, which runs every function over a
  grid of 1-, 2-, 3- and 4-byte characters.  The theorems give, for all strings and all Integer
  arguments, the exact documented result or the documented error.  Left out: INSTR is covered by its
  search only (`findSub_spec`), and "never faults" is stated for LEFT$ (`no_fault_left`).
-/
namespace Basic
namespace Thm.C07

theorem toUsize_int (n : Int16) :
    (Val.int n).toUsize = if 0 ≤ n.toInt then .ok n.toInt.toNat else err Code.overflow := rfl

theorem toU16_int (n : Int16) :
    (Val.int n).toU16 = if 0 ≤ n.toInt then .ok n.toInt.toNat else err Code.overflow := rfl

theorem toUsize_nonneg {n : Int16} (h : 0 ≤ n.toInt) : (Val.int n).toUsize = .ok n.toInt.toNat :=
  (toUsize_int n).trans (if_pos h)

theorem toUsize_neg {n : Int16} (h : ¬ 0 ≤ n.toInt) : (Val.int n).toUsize = err Code.overflow :=
  (toUsize_int n).trans (if_neg h)

/-- LEFT$ = `take`; a negative count is OVERFLOW -/
theorem left_spec (s : Str) (n : Int16) :
    Func.left (.str s) (.int n) =
      if 0 ≤ n.toInt then .ok (.str (Spec.left s n.toInt.toNat)) else err Code.overflow := by
  rw [Func.left, toUsize_int]
  split <;> rfl

/-- RIGHT$ = `drop (length - n)`; a negative count is OVERFLOW -/
theorem right_spec (s : Str) (n : Int16) :
    Func.right (.str s) (.int n) =
      if 0 ≤ n.toInt then .ok (.str (Spec.right s n.toInt.toNat)) else err Code.overflow := by
  rw [Func.right, toUsize_int]
  split
  · show (if n.toInt.toNat = 0 then _ else _) = _
    split
    · rename_i h0; rw [Spec.right, h0]; simp
    · rfl
  · rfl

/-- the common part of MID$ with and without a length: `f` is what is done to the tail from `p` -/
theorem mid_from (s : Str) (p : Int16) (f : Str → Str) :
    (do
      let pos ← (Val.int p).toUsize
      if pos = 0 then err Code.overflow
      else do
        let string ← (Val.str s).toStr
        Except.ok (Val.str (f (string.drop (pos - 1))))) =
      if 0 < p.toInt then .ok (.str (f (s.drop (p.toInt.toNat - 1)))) else err Code.overflow := by
  rw [toUsize_int]
  split
  · show (if p.toInt.toNat = 0 then _ else _) = _
    split
    · rw [if_neg (by omega)]
    · rw [if_pos (by omega)]; rfl
  · rw [if_neg (by omega)]; rfl

/-- MID$(s,p): position 0 and negative positions are OVERFLOW, otherwise the tail from p -/
theorem mid2_spec (s : Str) (p : Int16) :
    Func.mid [.str s, .int p] =
      if 0 < p.toInt then .ok (.str (Spec.mid s p.toInt.toNat none)) else err Code.overflow :=
  mid_from s p id

/-- MID$(s,p,l) for every Integer length: a negative one is OVERFLOW, before the position is looked at -/
theorem mid3_eq (s : Str) (p l : Int16) :
    Func.mid [.str s, .int p, .int l] =
      if 0 ≤ l.toInt then
        if 0 < p.toInt then .ok (.str (Spec.mid s p.toInt.toNat (some l.toInt.toNat))) else err Code.overflow
      else err Code.overflow := by
  show (do
    let n ← (Val.int l).toU16
    let pos ← (Val.int p).toUsize
    if pos = 0 then err Code.overflow
    else do
      let string ← (Val.str s).toStr
      Except.ok (Val.str ((string.drop (pos - 1)).take n))) = _
  rw [toU16_int]
  split
  · exact mid_from s p (·.take l.toInt.toNat)
  · rfl

/-- MID$(s,p,l) = `(drop (p-1)).take l` -/
theorem mid3_spec (s : Str) (p l : Int16) (hl : 0 ≤ l.toInt) :
    Func.mid [.str s, .int p, .int l] =
      if 0 < p.toInt then .ok (.str (Spec.mid s p.toInt.toNat (some l.toInt.toNat))) else err Code.overflow :=
  (mid3_eq s p l).trans (if_pos hl)

/-- the model's substring search is the least-offset search of the specification -/
theorem findSub_spec (pat : Str) : ∀ (x : Str) (i : Nat),
    Func.findSub pat x i =
      ((List.range (x.length + 1)).find? (fun k => Spec.occursAt x pat k)).map (· + i)
  | [], i => by
    simp only [Func.findSub, List.length_nil, Nat.zero_add, List.range_one, Spec.occursAt, List.drop_nil]
    cases pat <;> simp [List.find?, List.isPrefixOf]
  | c :: cs, i => by
    have ih := findSub_spec pat cs (i + 1)
    simp only [Func.findSub]
    rw [show (c :: cs).length + 1 = (cs.length + 1) + 1 from rfl, List.range_succ_eq_map, List.find?_cons]
    simp only [Spec.occursAt, List.drop_zero]
    by_cases h : pat.isPrefixOf (c :: cs) = true
    · simp [h]
    · simp only [h, Bool.false_eq_true, if_false, ih, List.find?_map]
      simp only [Option.map_map]
      congr 1
      funext k; simp [Nat.add_comm, Nat.add_left_comm]

/-- LEN counts characters (beyond 32767 of them it is OVERFLOW: `Lemmas.NumFunc.len_str`) -/
theorem len_spec (s : Str) (h : s.length ≤ 32767) :
    Func.len (.str s) = .ok (.int (Int16.ofNat s.length)) := by
  simp [Func.len, Val.toStr, bind, Except.bind, Val.ofUsize, h]

/-- concatenation is list append -/
theorem concat_spec (a b : Str) : Ops.sum (.str a) (.str b) = .ok (.str (a ++ b)) := rfl

/-- the count of SPC and STRING$: an Integer in 0..255, anything else is OVERFLOW -/
theorem count_255 {α : Type} (n : Int16) (g : Nat → Res α) :
    ((Val.int n).toUsize >>= fun k => if k > 255 then err Code.overflow else g k) =
      if 0 ≤ n.toInt ∧ n.toInt ≤ 255 then g n.toInt.toNat else err Code.overflow := by
  rw [toUsize_int]
  by_cases h : 0 ≤ n.toInt
  · rw [if_pos h]
    show (if n.toInt.toNat > 255 then _ else _) = _
    by_cases h2 : n.toInt ≤ 255
    · rw [if_neg (by omega), if_pos ⟨h, h2⟩]
    · rw [if_pos (by omega), if_neg (by omega)]
  · rw [if_neg h, if_neg (by omega)]; rfl

/-- SPC(n) for every Integer: n blanks for 0 ≤ n ≤ 255, OVERFLOW otherwise -/
theorem spc_eq (n : Int16) :
    Func.spc (.int n) =
      if 0 ≤ n.toInt ∧ n.toInt ≤ 255 then .ok (.str (List.replicate n.toInt.toNat ' '))
      else err Code.overflow :=
  count_255 n _

/-- STRING$(n, c$) for every Integer and every non-empty string: n copies of its first character -/
theorem string_eq (n : Int16) (c : Char) (rest : Str) :
    Func.string (.int n) (.str (c :: rest)) =
      if 0 ≤ n.toInt ∧ n.toInt ≤ 255 then .ok (.str (List.replicate n.toInt.toNat c))
      else err Code.overflow :=
  count_255 n _

theorem count_nonneg {α : Type} (n : Int16) (h : 0 ≤ n.toInt) (a b : α) :
    (if 0 ≤ n.toInt ∧ n.toInt ≤ 255 then a else b) = if n.toInt.toNat > 255 then b else a := by
  by_cases h2 : n.toInt ≤ 255
  · rw [if_pos ⟨h, h2⟩, if_neg (by omega)]
  · rw [if_neg (fun h' => h2 h'.2), if_pos (by omega)]

/-- SPC(n) / STRING$(n, c): n copies; more than 255 is OVERFLOW -/
theorem spc_spec (n : Int16) (h : 0 ≤ n.toInt) :
    Func.spc (.int n) = if n.toInt.toNat > 255 then err Code.overflow
      else .ok (.str (List.replicate n.toInt.toNat ' ')) :=
  (spc_eq n).trans (count_nonneg n h _ _)

theorem string_spec (n : Int16) (c : Char) (rest : Str) (h : 0 ≤ n.toInt) :
    Func.string (.int n) (.str (c :: rest)) = if n.toInt.toNat > 255 then err Code.overflow
      else .ok (.str (List.replicate n.toInt.toNat c)) :=
  (string_eq n c rest).trans (count_nonneg n h _ _)

/-- ASC of a non-empty string is the code point of its first character (as an Integer when it fits) -/
theorem asc_spec (c : Char) (rest : Str) (h : c.toNat ≤ 32767) :
    Func.asc (.str (c :: rest)) = .ok (.int (Int16.ofNat c.toNat)) := by
  simp [Func.asc, Val.toStr, bind, Except.bind, h]

theorem asc_empty : Func.asc (.str []) = err Code.illegalFunctionCall := rfl

/-- comparison is lexicographic by code point; `<` and `>=` are complementary on strings -/
theorem compare_total (a b : Str) :
    Ops.less (.str a) (.str b) = .ok (Ops.truth (RStd.strLt a b)) ∧
    Ops.greaterEqual (.str a) (.str b) = .ok (Ops.truth (!RStd.strLt a b)) := by
  constructor <;> simp [Ops.less, Ops.greaterEqual, Ops.lessBool, Ops.lessEqualBool, RStd.strLe, bind, Except.bind, pure, Except.pure]

theorem strLt_irrefl : ∀ a : Str, RStd.strLt a a = false
  | [] => rfl
  | c :: cs => by simp [RStd.strLt, strLt_irrefl cs]

theorem toUnsigned_err (a b c : Nat) (v : Val) (e : Error) (h : Val.toUnsigned a b c v = .error e) :
    e.code = Code.overflow ∨ e.code = Code.typeMismatch := by
  have hfloat : ∀ (o : Option Int) (bound : Nat),
      (match o with
        | some z => if 0 ≤ z ∧ z ≤ bound then .ok (min z.toNat c) else err Code.overflow
        | none => err Code.overflow : Res Nat) = .error e → e.code = Code.overflow := by
    intro o bound h
    cases o with
    | none => cases h; rfl
    | some z =>
      dsimp only at h
      split at h
      · cases h
      · cases h; rfl
  cases v with
  | int n =>
    simp only [Val.toUnsigned] at h
    split at h
    · cases h
    · cases h; exact .inl rfl
  | sng bits => exact .inl (hfloat _ a h)
  | dbl bits => exact .inl (hfloat _ b h)
  | str _ => cases h; exact .inr rfl
  | ret _ => cases h; exact .inr rfl
  | nxt _ => cases h; exact .inr rfl

/-- LEFT$ never faults: for every argument value it returns a string or OVERFLOW / TYPE MISMATCH -/
theorem no_fault_left (s : Str) (n : Val) (e : Error) (h : Func.left (.str s) n = .error e) :
    e.code = Code.overflow ∨ e.code = Code.typeMismatch := by
  simp only [Func.left, bind, Except.bind] at h
  cases hu : n.toUsize with
  | error e' =>
    rw [hu] at h; simp only at h
    injection h with h; subst h
    exact toUnsigned_err _ _ _ n e' hu
  | ok k => rw [hu] at h; simp [Val.toStr, pure, Except.pure] at h

/-! non-vacuity (multi-byte characters count as one) -/
example : Func.left (.str "日本語".toList) (.int 2) = .ok (.str "日本".toList) := by decide
example : Func.right (.str "éa😀".toList) (.int 1) = .ok (.str "😀".toList) := by decide
example : Func.mid [.str "abc".toList, .int 4] = .ok (.str []) := by decide
example : Func.mid [.str "abc".toList, .int 0] = err Code.overflow := by decide
example : Func.mid [.str "aébc".toList, .int 2, .int 2] = .ok (.str "éb".toList) := by decide
example : Func.instr [.str "abc".toList, .str "z".toList] = .ok (.int 0) := by decide
example : Func.instr [.int 5, .str "abcdeb".toList, .str "b".toList] = .ok (.int 6) := by decide
example : Func.instr [.int (-1), .str "abc".toList, .str "b".toList] = err Code.illegalFunctionCall := by decide
example : Func.left (.str "abc".toList) (.int (-1)) = err Code.overflow := by decide
example : Func.spc (.int 256) = err Code.overflow := by decide

/-- the 255-character limits re-extracted from var.rs, parse.rs and function.rs; `Gen/Limits.lean` is regenerated from /repo/src on every run, so editing one of these
    constants in the Rust source breaks this obligation -/
theorem generated_limits_documented : Gen.stringMaxLen = 255 ∧ Gen.literalMaxLen = 255 ∧ Gen.spcMax = 255 ∧ Gen.stringFnMax = 255 := by decide

end Thm.C07
end Basic

import BasicModel.Thm.C04
import BasicModel.Thm.C14
import BasicModel.Lemmas.RenumRun
import BasicModel.Lemmas.DataLits
import BasicModel.Lemmas.RenumCompile
import BasicModel.Thm.C20Layout
/-
  C14 — RENUM, the part that lives in the virtual machine (`Runtime.doRenum`, `Opcode.renum`).

  The rewriting of the lines themselves (`Line::renum`, `Listing.renum`) is in `Thm/C14.lean` and
  `Thm/C15.lean`; this file says what the *machine state* looks like after the instruction — in particular the clause
  "a RENUM that would fail changes nothing".

  What is true in the model:
  * RENUM is refused inside a program (`pc < entryAddress`: ILLEGAL DIRECT) and — returning the
    compile errors as its event — while the listing has compile errors; in both cases the state is
    exactly the state before (`renum_refused_in_program`, `renum_refused_with_errors`).
  * Otherwise the operands are popped (`step` first, then `oldStart`, then `newStart`) and converted
    to `u16`; then `Listing.renum` computes the plan.  If any of this fails the error is thrown and
    the state differs from the initial one *only in the operand stack*, which has lost the operands
    popped so far (`renum_failure_changes_nothing`).  `execute` then handles the error like that of
    any other direct statement: it leaves listing, `dirty`, program, variables and DEF FN table
    alone, but empties the stack and cancels the CONT point (`renum_failure_through_execute`).
  * On success the listing is replaced, `dirty` is set (so the next direct line recompiles,
    `Thm.C04.enterDirect_recompiles`), and nothing resumable is left: `cont = stopped`, empty
    stack, empty DEF FN table, `state = stopped` (`Runtime.renumed`, `doRenum_success`).  The variables are kept.
    The final `r#end` is the identity there.
  * RENUM therefore only ever rewrites a listing whose recorded diagnostics are empty
    (`renum_runs_only_error_free`); under the invariant `Runtime.Inv` and `dirty = false` these are
    the diagnostics of compiling the current listing, so every line parses and the linker found
    no dangling reference (`renum_runs_only_on_clean_program`, `renum_runs_only_on_parsed_lines`).
  * The compiled programs of the old and of the renumbered listing correspond (`renum_preserves_code`,
    `renum_preserves_running_program`, `renum_run_preserves_code`, under `## RENUM and the compiled
    program`).

  Findings (the Rust code has the same logic as the model):
  * `10 LIST 100-150` / `100 END` compiles without errors, so RENUM is accepted; `RENUM 1000` gives
    `1000 LIST 1010-150`, which no longer parses (UNDEFINED LINE "INVALID RANGE", `from > to`): an operand
    naming a line that does not exist is left alone while its partner moves.  A clean program becomes
    one with a compile error — the hypothesis `RenumParses` fails for this listing.
  * `10 GOTO 150` / `100 END`, `RENUM 140`: at the level of `Listing.renum` the dangling reference becomes
    a defined one (`140 GOTO 150` / `150 END`) — hypothesis `RefsStable`; the machine refuses this RENUM
    because the listing has a compile error (`renum_refused_with_errors`).
  * a line that does not parse keeps its number, so lines can be lost or reordered
    (`renum_unparsable_line_lost` in `Thm/C14.lean`); again refused by the machine.
  * known residue: `1 END` / `10 ON X GOTO 1,1,…` (250 operands, 512 characters), `RENUM 60000` gives a
    line of 1515 characters, more than the 1024-byte line buffer: it parses, but can no longer be loaded.
-/
namespace Basic
namespace Thm.C14
open Basic.Runtime

/-- the operands in the order the compiled statement pushes them (`newStart`, `oldStart`, `step`):
    they are converted from the top, and a failing conversion leaves the operands below on the stack -/
theorem renum_operands (rest : Array Val) (vNew vOld vStep : Val) :
    renumArgs (((rest.push vNew).push vOld).push vStep) =
      match vStep.toU16 with
      | .error e => (.error e, (rest.push vNew).push vOld)
      | .ok step =>
        match vOld.toU16 with
        | .error e => (.error e, rest.push vNew)
        | .ok oldStart =>
          match vNew.toU16 with
          | .error e => (.error e, rest)
          | .ok newStart => (.ok (newStart, oldStart, step), rest) := by
  unfold renumArgs
  rw [popU16_push]
  cases vStep.toU16 with
  | error e => rfl
  | ok step =>
    dsimp only
    rw [popU16_push]
    cases vOld.toU16 with
    | error e => rfl
    | ok oldStart =>
      dsimp only
      rw [popU16_push]
      cases vNew.toU16 <;> rfl

/-- the final `r#end` of a successful RENUM changes nothing -/
theorem renum_final_end_is_identity (s : Runtime) (l : Listing) (h : ¬ s.pc < s.entryAddress) :
    doEnd { s with listing := l, dirty := true, cont := .stopped, stack := #[], functions := [],
                   state := .stopped } =
      { s with listing := l, dirty := true, cont := .stopped, stack := #[], functions := [],
               state := .stopped } := by
  rw [doEnd_eq]
  dsimp only
  rw [if_neg h, if_neg h, ite_self]

/-- **The whole of `doRenum`.**  With `renumArgs` (the three operands popped off the bare stack:
    `step` from the top, `oldStart` below, `newStart` below that — result and remaining stack) and
    `renumed s l = { s with listing := l, dirty := true, cont := stopped, stack := #[],
    functions := [], state := stopped }`:
    1. inside a program: ILLEGAL DIRECT, state unchanged;
    2. listing with compile errors: the event `errors …`, state unchanged;
    3. an operand missing or not a `u16`: that error, only `stack` changed;
    4. `Listing.renum` fails (step 0, new numbers overlapping kept lines, overflow): that error,
       only `stack` changed (all three operands popped);
    5. success: the event `stopped` and the state `renumed s l`. -/
theorem doRenum_run (env : Env) (s : Runtime) :
    (doRenum env).run.run s =
      if s.pc < s.entryAddress then (.error (Error.mk' Code.illegalDirect), s)
      else if s.listing.indirectErrors ≠ [] then (.ok (.errors s.listing.indirectErrors), s)
      else match renumArgs s.stack with
        | (.error e, st) => (.error e, { s with stack := st })
        | (.ok (newStart, oldStart, step), st) =>
          match s.listing.renum env.lineRenum newStart oldStart step with
          | .error e => (.error e, { s with stack := st })
          | .ok l => (.ok .stopped, renumed s l) := by
  unfold doRenum
  rw [run_bind_ok (run_get s)]
  dsimp only
  by_cases h1 : s.pc < s.entryAddress
  · rw [if_pos h1, if_pos h1]; rfl
  · rw [if_neg h1, if_neg h1]
    by_cases h2 : s.listing.indirectErrors = []
    · rw [if_neg (by simp [h2]), if_neg (by simp [h2])]
      rw [run_popU16_bind]
      unfold renumArgs
      rcases popU16 s.stack with ⟨r1, st1⟩
      cases r1 with
      | error e => rfl
      | ok step =>
        dsimp only
        rw [run_popU16_bind]
        rcases popU16 st1 with ⟨r2, st2⟩
        cases r2 with
        | error e => rfl
        | ok oldStart =>
          dsimp only
          rw [run_popU16_bind]
          rcases popU16 st2 with ⟨r3, st3⟩
          cases r3 with
          | error e => rfl
          | ok newStart =>
            dsimp only
            rw [run_bind_ok (run_get _), run_bind, run_liftE]
            cases hl : s.listing.renum env.lineRenum newStart oldStart step with
            | error e => rfl
            | ok l =>
              dsimp only
              rw [run_bind_ok (run_set _ _), run_bind_ok (run_modify _ _)]
              have := renum_final_end_is_identity s l h1
              unfold renumed
              rw [this]
              rfl
    · have : (!s.listing.indirectErrors.isEmpty) = true := by
        cases hh : s.listing.indirectErrors with
        | nil => exact absurd hh h2
        | cons a b => rfl
      rw [if_pos this, if_pos h2]; rfl

theorem doRenum_failure {env : Env} {s t : Runtime} {r : Except Error Event}
    (h : (doRenum env).run.run s = (r, t)) (hf : r ≠ .ok .stopped) :
    ∃ st, t = { s with stack := st } ∧
      (st = s.stack ∨ st = s.stack.pop ∨ st = s.stack.pop.pop ∨ st = s.stack.pop.pop.pop) := by
  rw [doRenum_run] at h
  split at h
  · cases h; exact ⟨s.stack, rfl, .inl rfl⟩
  · split at h
    · cases h; exact ⟨s.stack, rfl, .inl rfl⟩
    · have hst := renumArgs_stack s.stack
      split at h
      · rename_i e st heq
        rw [heq] at hst
        cases h
        exact ⟨st, rfl, hst⟩
      · rename_i n o k st heq
        rw [heq] at hst
        split at h
        · cases h; exact ⟨st, rfl, hst⟩
        · cases h; exact absurd rfl hf

theorem doRenum_success {env : Env} {s t : Runtime} (h : (doRenum env).run.run s = (.ok .stopped, t)) :
    ¬ s.pc < s.entryAddress ∧ s.listing.indirectErrors = [] ∧
    ∃ newStart oldStart step st l,
      renumArgs s.stack = (.ok (newStart, oldStart, step), st) ∧
      s.listing.renum env.lineRenum newStart oldStart step = .ok l ∧ t = renumed s l := by
  rw [doRenum_run] at h
  split at h
  · cases h
  · rename_i h1
    split at h
    · cases h
    · rename_i h2
      refine ⟨h1, Classical.byContradiction h2, ?_⟩
      split at h
      · cases h
      · rename_i n o k st heq
        split at h
        · cases h
        · rename_i l hl
          cases h
          exact ⟨n, o, k, st, l, heq, hl, rfl⟩

/-- with fewer than three values on the stack the error is the stack's UNDERFLOW (an internal
    error: the compiler always pushes three); whatever was there has been popped -/
theorem renum_operands_missing (v w : Val) (a b : Nat) (hv : v.toU16 = .ok a) (hw : w.toU16 = .ok b) :
    renumArgs #[] = (.error underflow, #[]) ∧
    renumArgs #[v] = (.error underflow, #[]) ∧
    renumArgs #[w, v] = (.error underflow, #[]) := by
  refine ⟨rfl, ?_, ?_⟩
  · show renumArgs ((#[] : Array Val).push v) = _
    unfold renumArgs
    rw [popU16_push, hv]
    rfl
  · show renumArgs (((#[] : Array Val).push w).push v) = _
    unfold renumArgs
    rw [popU16_push, hv]
    dsimp only
    rw [popU16_push, hw]
    rfl

/-- RENUM inside a program (the instruction lies below the direct segment) is refused with
    ILLEGAL DIRECT before anything is touched — not even the operands are popped -/
theorem renum_refused_in_program (env : Env) (s : Runtime) (h : s.pc < s.entryAddress) :
    (doRenum env).run.run s = (.error (Error.mk' Code.illegalDirect), s) := by
  rw [doRenum_run, if_pos h]

/-- RENUM of a listing with (recorded) compile errors is refused: the event carries the errors,
    no error is thrown, and the state — operands included — is exactly the state before -/
theorem renum_refused_with_errors (env : Env) (s : Runtime) (hp : ¬ s.pc < s.entryAddress)
    (he : s.listing.indirectErrors ≠ []) :
    (doRenum env).run.run s = (.ok (.errors s.listing.indirectErrors), s) := by
  rw [doRenum_run, if_neg hp, if_pos he]

/-- **A RENUM that fails changes nothing.**  Whatever `doRenum` returns other than
    `Ok(Event::Stopped)` — ILLEGAL DIRECT, the compile errors, a bad operand, step 0, an overlap,
    an overflow — the final state is the initial state with at most three values popped off the
    operand stack; in particular the listing (lines and diagnostics), `dirty`, the compiled
    program, the variables, the CONT point and the DEF FN table are untouched. -/
theorem renum_failure_changes_nothing (env : Env) (s t : Runtime) (r : Except Error Event)
    (h : (doRenum env).run.run s = (r, t)) (hf : r ≠ .ok .stopped) :
    (∃ st, t = { s with stack := st } ∧
      (st = s.stack ∨ st = s.stack.pop ∨ st = s.stack.pop.pop ∨ st = s.stack.pop.pop.pop)) ∧
    t.listing = s.listing ∧ t.dirty = s.dirty ∧ t.program = s.program ∧ t.vars = s.vars ∧
    t.cont = s.cont ∧ t.contPc = s.contPc ∧ t.functions = s.functions ∧ t.state = s.state ∧
    t.pc = s.pc ∧ t.entryAddress = s.entryAddress := by
  obtain ⟨st, rfl, hst⟩ := doRenum_failure h hf
  exact ⟨⟨st, rfl, hst⟩, rfl, rfl, rfl, rfl, rfl, rfl, rfl, rfl, rfl, rfl⟩

/-- `RENUM new, old, 0`: ILLEGAL FUNCTION CALL, whatever the listing and the other operands -/
theorem renum_step_zero_refused (env : Env) (s : Runtime) (rest : Array Val) (vNew vOld vStep : Val)
    (n o : Nat) (hp : ¬ s.pc < s.entryAddress) (he : s.listing.indirectErrors = [])
    (hs : s.stack = ((rest.push vNew).push vOld).push vStep)
    (hn : vNew.toU16 = .ok n) (ho : vOld.toU16 = .ok o) (hk : vStep.toU16 = .ok 0) :
    (doRenum env).run.run s = (.error (Error.mk' Code.illegalFunctionCall), { s with stack := rest }) := by
  rw [doRenum_run, if_neg hp, if_neg (fun h => h he), hs, renum_operands, hk, ho, hn]
  dsimp only
  rw [renum_step_zero]
  rfl

/-- three good operands and a plan that works out: the event `stopped` and the state
    `Runtime.renumed s l` (the converse is `doRenum_success`) -/
theorem renum_succeeds (env : Env) (s : Runtime) (rest : Array Val) (vNew vOld vStep : Val)
    (n o k : Nat) (l : Listing) (hp : ¬ s.pc < s.entryAddress) (he : s.listing.indirectErrors = [])
    (hs : s.stack = ((rest.push vNew).push vOld).push vStep)
    (hn : vNew.toU16 = .ok n) (ho : vOld.toU16 = .ok o) (hk : vStep.toU16 = .ok k)
    (hl : s.listing.renum env.lineRenum n o k = .ok l) :
    (doRenum env).run.run s =
      (.ok .stopped, { s with listing := l, dirty := true, cont := .stopped, stack := #[],
                              functions := [], state := .stopped }) := by
  rw [doRenum_run, if_neg hp, if_neg (fun h => h he), hs, renum_operands, hk, ho, hn]
  dsimp only
  rw [hl]
  rfl

/-- after a successful RENUM the next direct line compiles the *renumbered* listing -/
theorem renum_then_direct_recompiles (env : Env) (s t : Runtime) (line : Line)
    (h : (doRenum env).run.run s = (.ok .stopped, t)) :
    (enterDirect t line).program =
      (((s.program.clear).codegenLines t.listing.lines).codegenLine line).linkProg ∧
    (enterDirect t line).dirty = false := by
  obtain ⟨_, _, _, _, _, _, l, _, _, rfl⟩ := doRenum_success h
  exact C04.enterDirect_recompiles (renumed s l) line rfl

/-- **RENUM only ever runs on a listing without recorded compile errors**: if the instruction
    returned `stopped` — in particular (`renum_changed_listing`) whenever it changed the listing at all —
    then it was executed in a direct line and `listing.indirectErrors` was empty -/
theorem renum_runs_only_error_free (env : Env) (s t : Runtime)
    (h : (doRenum env).run.run s = (.ok .stopped, t)) :
    s.listing.indirectErrors = [] ∧ ¬ s.pc < s.entryAddress :=
  ⟨(doRenum_success h).2.1, (doRenum_success h).1⟩

/-- a `doRenum` that changed the listing went down the success path -/
theorem renum_changed_listing (env : Env) (s : Runtime)
    (hc : ((doRenum env).run.run s).2.listing ≠ s.listing) :
    ((doRenum env).run.run s).1 = .ok .stopped ∧ s.listing.indirectErrors = [] ∧
    ¬ s.pc < s.entryAddress := by
  rcases hr : (doRenum env).run.run s with ⟨r, t⟩
  rw [hr] at hc
  have key : r = .ok .stopped := by
    apply Classical.byContradiction
    intro hne
    exact hc (renum_failure_changes_nothing env s t r hr hne).2.1
  subst key
  exact ⟨rfl, renum_runs_only_error_free env s t hr⟩

/-- under the invariant of `Thm/C04` (`Runtime.Inv`: holds in every state reachable through the
    API, `Thm.C04.inv_reachable`) and with nothing edited since the last compile (`dirty = false`,
    the situation right after `enterDirect`), the recorded diagnostics are those of compiling the
    current listing from scratch: RENUM only renumbers **a listing that compiles without errors**.
    (`dirty = false` cannot be dropped: the API accepts a numbered line while a direct line is
    still running — `enter` in state `running` — and then `listing.indirectErrors` is stale.) -/
theorem renum_runs_only_on_clean_program (env : Env) (s t : Runtime) (hi : Inv s) (hd : s.dirty = false)
    (h : (doRenum env).run.run s = (.ok .stopped, t)) :
    (Program.compile s.listing.lines).indirectErrors = [] ∧
    (freshBase s.listing).indirectErrors = [] ∧
    s.program.linkProg.indirectErrors = [] := by
  have he := (renum_runs_only_error_free env s t h).1
  obtain ⟨h1, _, _, _, _, h6⟩ := C04.inv_spelled_out s hi hd
  rw [he] at h6
  exact ⟨h6.symm, by rw [freshBase_indirectErrors]; exact h6.symm, by rw [h1]; exact h6.symm⟩

/-- … and for a well-formed store (`Thm.C15.WF`: every line is stored under its own number —
    preserved by all store operations) this means: **every line of the listing parses, and the
    linker had nothing to report** (no branch, RESTORE or RUN to a missing line, no unmatched
    WHILE / WEND): the hypotheses "every line parses" and "no dangling references" of the
    compile-correspondence theorem hold whenever RENUM actually rewrites the listing -/
theorem renum_runs_only_on_parsed_lines (env : Env) (s t : Runtime) (hi : Inv s) (hd : s.dirty = false)
    (hw : C15.WF s.listing) (h : (doRenum env).run.run s = (.ok .stopped, t)) :
    (∀ l ∈ s.listing.lines, ∃ ast, Parse.parse l.number l.tokens = .ok ast) ∧
    (Program.ensureEnd (({} : Program).codegenLines s.listing.lines)).link.link.2 = [] ∧
    (∀ n, (∀ l ∈ s.listing.lines, l.number ≠ some n) → Program.NoRef n s.listing.lines) := by
  have hc := (renum_runs_only_on_clean_program env s t hi hd h).1
  have hnum := numbered_of_wf hw
  exact ⟨(DataOrder.listingClean_of_compile_clean _ hnum hc).2, Program.link_clean_of_compile_clean _ hnum hc,
    fun n hn => Program.noRef_of_clean _ hnum n hn hc⟩

/-- RENUM as the instruction of a program line (`pc + 1 < entryAddress`): the step throws ILLEGAL
    DIRECT and only `pc` has moved -/
theorem step_renum_in_program (env : Env) (h : Bool) (s : Runtime) (ht : s.tron = false)
    (hop : s.program.link.ops[s.pc]? = some .renum) (hp : s.pc + 1 < s.entryAddress) :
    (step env h).run.run s = (.error (Error.mk' Code.illegalDirect), { s with pc := s.pc + 1 }) := by
  rw [step_renum_run env h s ht hop, renum_refused_in_program env _ hp]
  rfl

/-- a step that changed the listing by RENUM: the listing had no recorded compile errors.
    (With `Thm.C04.listing_changed_only_by_edit`: a step changes the listing only by DELETE, RENUM
    or NEW.) -/
theorem step_renum_changed_listing (env : Env) (h : Bool) (s : Runtime)
    (hop : s.program.link.ops[s.pc]? = some .renum)
    (hc : ((step env h).run.run s).2.listing ≠ s.listing) :
    s.listing.indirectErrors = [] ∧ ((step env h).run.run s).2.dirty = true := by
  rcases step_renum_cases env h s hop with ⟨text, tr, col, he⟩ | ⟨tr, he⟩
  · rw [he] at hc; exact absurd rfl hc
  · rw [he] at hc ⊢
    obtain ⟨h1, h2, -⟩ := renum_changed_listing env { s with tr := tr, pc := s.pc + 1 } hc
    obtain ⟨-, -, _, _, _, _, l, -, -, e⟩ := doRenum_success (Prod.ext h1 rfl)
    exact ⟨h2, congrArg Runtime.dirty e⟩

/-- what `execute` makes of the error a failed RENUM throws (`Runtime.finishLoop`, the tail of
    `execute`): listing, `dirty`, compiled program, variables and DEF FN table stay as they are —
    so at the level of the API, too, a failing RENUM changes nothing of the program or its data —
    but, as after an error in any direct statement, the operand stack is emptied and the CONT point
    is cancelled, and the state becomes `runtimeError` (reported by the next `execute`) -/
theorem renum_failure_through_execute (env : Env) (s t : Runtime) (e : Error)
    (h : (doRenum env).run.run s = (.error e, t)) :
    (finishLoop (.error e) t).1.listing = s.listing ∧ (finishLoop (.error e) t).1.dirty = s.dirty ∧
    (finishLoop (.error e) t).1.program = s.program ∧ (finishLoop (.error e) t).1.vars = s.vars ∧
    (finishLoop (.error e) t).1.functions = s.functions ∧
    (s.state ≠ .inputRunning → ¬ s.pc < s.entryAddress →
      (finishLoop (.error e) t).1.stack = #[] ∧ (finishLoop (.error e) t).1.cont = .stopped ∧
      (finishLoop (.error e) t).1.state = .runtimeError (e.inLine (lineNumber s))) := by
  obtain ⟨st, rfl, -⟩ := doRenum_failure h (fun hc => nomatch hc)
  obtain ⟨h1, h2, h3, h4, h5, _⟩ := finishLoop_error_fields e { s with stack := st }
  refine ⟨h1, h2, h3, h4, h5, ?_⟩
  intro hs hp
  rw [(finishLoop_error_direct e { s with stack := st } hs hp).1]
  exact ⟨rfl, rfl, rfl⟩

/-- the numbering part of `Line::renum` as the rewriter -/
def envN : Env := { lex := fun _ => ⟨none, []⟩, lineRenum := Listing.renumNumberOnly }

def l10 : Line := ⟨some 10, [.word .cls]⟩
def l20 : Line := ⟨some 20, [.word .end]⟩

/-- stopped in a direct line (`pc ≥ entryAddress`) with a CONT point, a DEF FN, something below the
    operands on the stack, and the operands of `RENUM 100, 0, step`: `newStart` is pushed first,
    `step` last -/
def st (step : Int16) : Runtime :=
  { state := .running, cont := .running, contPc := 3, pc := 9, entryAddress := 4,
    stack := #[.ret 7, .int 100, .int 0, .int step], functions := [("FNA".toList, (1, 4))],
    listing := { source := [(10, l10), (20, l20)], rooted := true }, dirty := false }

/-- `RENUM 100, 0, 0`: ILLEGAL FUNCTION CALL; the three operands are gone, the rest is as before -/
example : (doRenum envN).run.run (st 0) =
    (.error (Error.mk' Code.illegalFunctionCall), { st 0 with stack := #[.ret 7] }) :=
  renum_step_zero_refused envN (st 0) #[.ret 7] (.int 100) (.int 0) (.int 0) 100 0
    (by decide) rfl rfl (by decide) (by decide) (by decide)

example : ((doRenum envN).run.run (st 0)).2.listing.source = [(10, l10), (20, l20)] ∧
    ((doRenum envN).run.run (st 0)).2.cont = .running ∧ ((doRenum envN).run.run (st 0)).2.dirty = false ∧
    ((doRenum envN).run.run (st 0)).2.functions = [("FNA".toList, (1, 4))] ∧
    ((doRenum envN).run.run (st 0)).2.stack = #[.ret 7] := by
  rw [renum_step_zero_refused envN (st 0) #[.ret 7] (.int 100) (.int 0) (.int 0) 100 0
    (by decide) rfl rfl (by decide) (by decide) (by decide)]
  exact ⟨rfl, rfl, rfl, rfl, rfl⟩

/-- `RENUM 100, 0, 10`: lines 10, 20 become 100, 110; nothing resumable is left -/
example : (doRenum envN).run.run (st 10) =
    (.ok .stopped,
     { st 10 with listing := { source := [(100, ⟨some 100, [.word .cls]⟩), (110, ⟨some 110, [.word .end]⟩)],
                               rooted := true },
                  dirty := true, cont := .stopped, stack := #[], functions := [], state := .stopped }) :=
  renum_succeeds envN (st 10) #[.ret 7] (.int 100) (.int 0) (.int 10) 100 0 10 _
    (by decide) rfl rfl (by decide) (by decide) (by decide) rfl

/-- an operand that is not a number: TYPE MISMATCH after `step` and the offending value have been
    popped; `newStart` stays on the stack -/
example : (doRenum envN).run.run { st 10 with stack := #[.int 100, .str [], .int 10] } =
    (.error (Error.mk' Code.typeMismatch), { st 10 with stack := #[.int 100] }) := by
  rw [doRenum_run, if_neg (by decide), if_neg (by decide)]
  have h : renumArgs ({ st 10 with stack := #[.int 100, .str [], .int 10] } : Runtime).stack =
      (.error (Error.mk' Code.typeMismatch), #[.int 100]) :=
    renum_operands #[] (.int 100) (.str []) (.int 10)
  rw [h]

/-- inside a program, and with recorded compile errors -/
example : (doRenum envN).run.run { st 10 with pc := 2 } =
    (.error (Error.mk' Code.illegalDirect), { st 10 with pc := 2 }) :=
  renum_refused_in_program envN _ (by decide)
example (e : Error) :
    (doRenum envN).run.run { st 10 with listing := { (st 10).listing with indirectErrors := [e] } } =
    (.ok (.errors [e]), { st 10 with listing := { (st 10).listing with indirectErrors := [e] } }) :=
  renum_refused_with_errors envN _ (show ¬ (9 : Nat) < 4 by decide) (List.cons_ne_nil _ _)

/-- the initial state satisfies the hypotheses `Inv` and `dirty = false` of
    `renum_runs_only_on_clean_program` -/
example : Inv ({} : Runtime) ∧ ({} : Runtime).dirty = false ∧ C15.WF ({} : Runtime).listing :=
  ⟨inv_init, rfl, C15.wf_empty⟩

/-! ## RENUM and the compiled program

  `φ = Listing.renumMap ch` is the renumbering of the plan `ch`.  The compiled programs of the old and
  of the renumbered listing are related by `RenumRel.ProgRel φ K` (`K` = the line numbers of the old
  listing and the mark 65530 of the direct segment), that is:

  * `ops`: `RenumRel.OpsRel φ` — instruction by instruction the same, except that the two
    line-number literals which `LIST a-b` / `DELETE a-b` push in front of their opcode carry the new
    numbers (or the same ones: the bounds 0 / 65529 of an open range, which are not written in the
    source, are kept).  These are the only operands that are compiled as run-time literals; GOTO,
    GOSUB, THEN / ELSE n, ON … lists, RESTORE n and RUN n are link-time references, and the linker
    resolves them to **identical addresses** on both sides (`renum_targets_identical`);
  * `data`, `directAddress`, `dataPos`: equal;
  * `symbols`: the old table with its keys mapped by `φ` (`renum_symbol_table`), so
    `lineNumberFor` — error reports, TRON — gives `φ` of the old line (`renum_lineNumberFor`);
  * diagnostics: the same kinds in the same order (`RenumRel.ErrRel`: code and message; line and
    column differ), in particular the renumbered listing compiles without errors iff the old one does.

  Hypotheses: `WF l`; `RenumParses l ch` — every line parses, and so does its rewritten version, to
  the same statements up to columns with the line-number operands renumbered (`RenumRel.StmtRel`).
  This is the lexer / parser fact that is *not* proved here: `lineRenum` re-lexes the listed text with
  the digits replaced (`lineRenum_replacements`), and relating that text to the old syntax tree needs
  the round-trip property of the lexer for the spliced text and that `Float32.ofNat` (opaque) is exact
  on line numbers.  And: every pending reference resolves alike in both tables (`RefsStable`), which
  holds when no reference dangles — in particular when the old listing compiles without errors
  (`renum_preserves_code_clean`), the only situation in which the machine executes RENUM at all
  (`renum_run_preserves_code`). -/

section Compile
open RenumRel Program

/-- **the named hypothesis** about a particular listing and plan: every stored line parses, its
    rewritten version parses too, and the two statement lists are equal up to columns with every
    line-number operand `n` replaced by `renumMap ch n` -/
def RenumParses (l : Listing) (ch : List (Nat × Nat)) : Prop :=
  ∀ p ∈ l.source, ∃ ast ast', Parse.parse p.2.number p.2.tokens = .ok ast ∧
    Parse.parse (Lex.lineRenum ch p.2).number (Lex.lineRenum ch p.2).tokens = .ok ast' ∧
    StmtsRel (Listing.renumMap ch) ast ast'

theorem RenumParses.allParse {l : Listing} {ch : List (Nat × Nat)} (h : RenumParses l ch) : l.AllParse :=
  fun p hp => let ⟨ast, _, h1, _⟩ := h p hp; ⟨ast, h1⟩

/-- every pending reference of the old program (after WHILE / WEND matching) is a local label, or
    resolves in the renumbered symbol table to what it resolved to before.  Dangling references to a
    number that becomes a line number by the RENUM are what this excludes. -/
def RefsStable (l : Listing) (ch : List (Nat × Nat)) : Prop :=
  ∀ q ∈ (({} : Program).codegenLines l.lines).link.linkWhiles.1.unlinked,
    q.2.2 < 0 ∨ RefOK (Listing.renumMap ch) (({} : Program).codegenLines l.lines).link.symbols q.2.2

theorem mem_lineSet {l : Listing} (hl : C15.WF l) {n : Nat} :
    (∃ x ∈ l.lines, x.number = some n) ↔ n ∈ l.source.map (·.1) := by
  constructor
  · rintro ⟨x, hx, hn⟩
    obtain ⟨p, hp, rfl⟩ := List.mem_map.1 hx
    rw [hl.coherent p hp] at hn
    cases hn
    exact List.mem_map.2 ⟨p, hp, rfl⟩
  · intro hn
    obtain ⟨p, hp, rfl⟩ := List.mem_map.1 hn
    exact ⟨p.2, List.mem_map.2 ⟨p, hp, rfl⟩, hl.coherent p hp⟩

/-- the renumbering of a successful plan is strictly monotone on the line numbers of the listing
    and keeps the mark 65530 of the direct segment -/
theorem renum_lineMap {l : Listing} {a b c : Nat} {ch : List (Nat × Nat)} (hl : C15.WF l)
    (h : Listing.renumPlan (l.source.map (·.1)) a b c = .ok ch) :
    LineMap (Listing.renumMap ch) (LineSet l.lines) := by
  have hs := Listing.keys_pairwise hl
  have hb := Listing.keys_bounded hl
  have htop : Listing.renumMap ch (Gen.maxLineNumber + 1) = Gen.maxLineNumber + 1 := by
    apply Listing.renumMap_not_key h
    intro hk
    have := hb _ hk
    simp only [Gen.maxLineNumber, maxLineNumber] at this
    omega
  have hle : ∀ k, (∃ x ∈ l.lines, x.number = some k) → k ≤ Gen.maxLineNumber ∧
      Listing.renumMap ch k ≤ Gen.maxLineNumber := by
    intro k hk
    have hk' := (mem_lineSet hl).1 hk
    exact ⟨hb k hk', Listing.renumMap_le hs hb h k hk'⟩
  refine ⟨?_, .inr rfl, htop, ?_⟩
  · intro i j hi hj hij
    rcases hi with hi | rfl
    · rcases hj with hj | rfl
      · exact Listing.renumMap_strictMono hs hb h i j ((mem_lineSet hl).1 hi) ((mem_lineSet hl).1 hj) hij
      · rw [htop]; have := (hle i hi).2; omega
    · rcases hj with hj | rfl
      · have := (hle j hj).1; omega
      · omega
  · intro k hk
    rcases hk with hk | rfl
    · have := hle k hk
      exact ⟨fun _ => this.1, fun _ => this.2⟩
    · rw [htop]

theorem renum_lines_related {l : Listing} {ch : List (Nat × Nat)} (hl : C15.WF l) (hp : RenumParses l ch) :
    All₂ (LineRel (Listing.renumMap ch) (LineSet l.lines)) l.lines (l.lines.map (Lex.lineRenum ch)) := by
  apply All₂.map_right
  intro x hx
  obtain ⟨p, hpm, rfl⟩ := List.mem_map.1 hx
  obtain ⟨ast, ast', h1, h2, h3⟩ := hp p hpm
  have hn := hl.coherent p hpm
  refine ⟨p.1, ast, ast', hn, .inl ⟨p.2, hx, hn⟩, ?_, h1, h2, h3⟩
  rw [lineRenum_number ch p.2 ast h1, hn]
  rfl

/-- the compiled programs of the listing before and after a successful RENUM correspond
    (`ProgRel`, spelled out in the corollaries below) -/
theorem renum_preserves_code {l l' : Listing} {a b c : Nat} {ch : List (Nat × Nat)} (hl : C15.WF l)
    (hplan : Listing.renumPlan (l.source.map (·.1)) a b c = .ok ch)
    (h : l.renum Lex.lineRenum a b c = .ok l') (hp : RenumParses l ch) (hr : RefsStable l ch) :
    ProgRel (Listing.renumMap ch) (LineSet l.lines) (compile l.lines) (compile l'.lines) := by
  rw [Listing.renum_lines hl hp.allParse hplan h]
  exact compile_rel (renum_lineMap hl hplan) (renum_lines_related hl hp) ((refsOK_iff _).2 hr)

/-- a listing that compiles without errors has no dangling reference … -/
theorem refsStable_of_clean {l : Listing} {a b c : Nat} {ch : List (Nat × Nat)} (hl : C15.WF l)
    (hplan : Listing.renumPlan (l.source.map (·.1)) a b c = .ok ch)
    (hc : (compile l.lines).indirectErrors = []) : RefsStable l ch :=
  (refsOK_iff _).1 (refs_of_clean (renum_lineMap hl hplan) (Runtime.numbered_of_wf hl) hc)

/-- … so for an error-free listing `RenumParses` is the only hypothesis, and the renumbered listing
    compiles without errors too -/
theorem renum_preserves_code_clean {l l' : Listing} {a b c : Nat} {ch : List (Nat × Nat)} (hl : C15.WF l)
    (hplan : Listing.renumPlan (l.source.map (·.1)) a b c = .ok ch)
    (h : l.renum Lex.lineRenum a b c = .ok l') (hp : RenumParses l ch)
    (hc : (compile l.lines).indirectErrors = []) :
    ProgRel (Listing.renumMap ch) (LineSet l.lines) (compile l.lines) (compile l'.lines) ∧
    (compile l'.lines).indirectErrors = [] := by
  have hr := renum_preserves_code hl hplan h hp (refsStable_of_clean hl hplan hc)
  refine ⟨hr, ?_⟩
  have := hr.indirectErrors.length_eq
  rw [hc] at this
  exact List.eq_nil_of_length_eq_zero this

/-- **the program the machine runs**: after RENUM the program is stale (`dirty`), and the next direct
    line `d'` makes the machine compile the new listing, the direct line, and link
    (`Program.runProg`; `renum_then_direct_recompiles`, `Thm.C04`).  That program corresponds to the one
    the old listing gives with the direct line `d`, when `d` and `d'` are the same up to renumbered
    operands (`RUN` and `RUN`; `GOTO 100` and `GOTO 1000`) and the references of the direct line
    resolve alike too. -/
theorem renum_preserves_running_program {l l' : Listing} {a b c : Nat} {ch : List (Nat × Nat)} (hl : C15.WF l)
    (hplan : Listing.renumPlan (l.source.map (·.1)) a b c = .ok ch)
    (h : l.renum Lex.lineRenum a b c = .ok l') (hp : RenumParses l ch) (hr : RefsStable l ch)
    {d d' : Line} (hd : DirectRel (Listing.renumMap ch) d d')
    (hr2 : ∀ q ∈ ((({} : Program).codegenLines l.lines).codegenLine d).link.linkWhiles.1.unlinked,
      q.2.2 < 0 ∨ RefOK (Listing.renumMap ch) ((({} : Program).codegenLines l.lines).codegenLine d).link.symbols q.2.2) :
    ProgRel (Listing.renumMap ch) (LineSet l.lines) (runProg l.lines d) (runProg l'.lines d') := by
  rw [Listing.renum_lines hl hp.allParse hplan h]
  exact runProg_rel (renum_lineMap hl hplan) (renum_lines_related hl hp) hd ((refsOK_iff _).2 hr) ((refsOK_iff _).2 hr2)
    (Runtime.numbered_of_wf hl)

variable {φ : Nat → Nat} {K : Nat → Prop} {p p' : Program}

/-- the code: the same instructions, up to the operand literals of LIST / DELETE -/
theorem renum_code (h : ProgRel φ K p p') : OpsRel φ p.link.ops.toList p'.link.ops.toList := h.link.ops

/-- same number of instructions; same DATA segment, data cursor, start of the direct segment -/
theorem renum_sizes (h : ProgRel φ K p p') :
    p'.link.ops.size = p.link.ops.size ∧ p'.link.data = p.link.data ∧ p'.link.dataPos = p.link.dataPos ∧
    p'.directAddress = p.directAddress :=
  ⟨h.link.size, h.link.data, h.link.dataPos, h.directAddress⟩

/-- instruction by instruction: equal, or two line-number literals (operands of LIST / DELETE) -/
theorem renum_instruction (h : ProgRel φ K p p') (a : Nat) :
    p'.link.ops[a]? = p.link.ops[a]? ∨
    ∃ n n', p.link.ops[a]? = some (lineLit n) ∧ p'.link.ops[a]? = some (lineLit n') := by
  have := h.link.ops.getElem? a
  rwa [Array.getElem?_toList, Array.getElem?_toList] at this

/-- **all link-resolved targets are identical**: wherever the old program has a branch (`Jump`,
    `IfNot`), a pushed return / NEXT address, or a `Restore` with its data address, the renumbered
    program has the very same instruction with the very same address -/
theorem renum_targets_identical (h : ProgRel φ K p p') (a : Nat) (o : Opcode)
    (ho : p.link.ops[a]? = some o) (hp : IsPatch o) : p'.link.ops[a]? = some o := by
  have := h.link.ops.getElem?_patch (i := a) (o := o) (by rw [Array.getElem?_toList]; exact ho) hp
  rwa [Array.getElem?_toList] at this

/-- the symbol table is the old one with its keys renumbered (local labels are gone after linking) -/
theorem renum_symbol_table (h : ProgRel φ K p p') :
    p'.link.symbols = p.link.symbols.map (fun e => (symMap φ e.1, e.2)) := h.link.symbols

/-- the line an address belongs to — what error reports and TRON show — is the renumbered line -/
theorem renum_lineNumberFor (hm : LineMap φ K) (h : ProgRel φ K p p') (a : Nat) :
    p'.link.lineNumberFor a = (p.link.lineNumberFor a).map φ := lineNumberFor_rel hm h.link a

/-- the diagnostics are of the same kinds, in the same order -/
theorem renum_diagnostics (h : ProgRel φ K p p') :
    All₂ ErrRel p.indirectErrors p'.indirectErrors ∧ All₂ ErrRel p.errors p'.errors :=
  ⟨h.indirectErrors, h.errors⟩

/-- a line number that exists in the old listing resolves, after RENUM, under its new number to
    the same code and data addresses -/
theorem renum_line_address (hm : LineMap φ K) (h : ProgRel φ K p p') {n : Nat} (hn : K n) :
    p'.link.symbols.lookup ((φ n : Nat) : Int) = p.link.symbols.lookup (n : Int) := by
  rw [h.link.symbols, ← symMap_nat]
  exact lookup_mapSyms hm (.inr ⟨n, rfl, hn⟩) h.link.keys

/-- **when the machine executes RENUM**, from a state satisfying the invariant of `Thm/C04` with an
    up-to-date compile (`dirty = false`) and a well-formed store, the listing it renumbers compiles
    without errors; so with `RenumParses` the programs compiled from the old and the new listing
    correspond, and the new one compiles without errors as well.  (`env.lineRenum` is `Line::renum`.) -/
theorem renum_run_preserves_code (env : Env) (henv : env.lineRenum = Lex.lineRenum) (s t : Runtime)
    (hi : Runtime.Inv s) (hd : s.dirty = false) (hw : C15.WF s.listing)
    (h : (Runtime.doRenum env).run.run s = (.ok .stopped, t)) :
    ∃ ch, (∃ a b c, Listing.renumPlan (s.listing.source.map (·.1)) a b c = .ok ch ∧
        s.listing.renum Lex.lineRenum a b c = .ok t.listing) ∧
      (RenumParses s.listing ch →
        ProgRel (Listing.renumMap ch) (LineSet s.listing.lines) (compile s.listing.lines) (compile t.listing.lines) ∧
        (compile t.listing.lines).indirectErrors = []) := by
  have hc := (renum_runs_only_on_clean_program env s t hi hd h).1
  obtain ⟨_, _, a, b, c, st, l, _, h2, rfl⟩ := doRenum_success h
  obtain ⟨ch, h3⟩ := (Listing.renum_ok_iff _ _ _ _ _).1 ⟨_, h2⟩
  rw [henv] at h2
  exact ⟨ch, ⟨a, b, c, h3, h2⟩, fun hp => renum_preserves_code_clean hw h3 h2 hp hc⟩

/-! #### non-vacuity

  (1) syntax trees with real line-number operands (100.0f32 ↦ 1000.0f32 …), related by hand, and the
  fragments the generator builds for them, computed in the kernel; (2) a listing with link-time
  references (`10 WHILE A / 30 WEND`, renumbered to 100 / 110) that satisfies every hypothesis of
  `renum_preserves_code`, with the compiled programs computed independently.  The parser itself cannot
  be evaluated on a line-number operand (`Float32.ofNat` is opaque), which is why (1) starts from the
  syntax trees. -/

/-- 1000.0f32, 1010.0f32, 65529.0f32 -/
def n1000 : UInt32 := 0x447A0000
def n1010 : UInt32 := 0x447C8000
def n65529 : UInt32 := 0x477FF900

/-- the renumbering of `RENUM 1000` on lines 100, 200 -/
def φx : Nat → Nat := Listing.renumMap [(100, 1000), (200, 1010)]

example : (Val.sng n100).toLineNumber = .ok (some 100) ∧ (Val.sng n1000).toLineNumber = .ok (some 1000) ∧
    (Val.sng n200).toLineNumber = .ok (some 200) ∧ (Val.sng n1010).toLineNumber = .ok (some 1010) ∧
    (Val.sng n65529).toLineNumber = .ok (some 65529) ∧ (∀ n, (Val.sng nNone).toLineNumber ≠ .ok (some n)) ∧
    φx 100 = 1000 ∧ φx 200 = 1010 ∧ φx 300 = 300 := by
  refine ⟨by decide +kernel, by decide +kernel, by decide +kernel, by decide +kernel, by decide +kernel, ?_,
    by decide, by decide, by decide⟩
  intro n h
  have : (Val.sng nNone).toLineNumber = err Code.overflow := by decide +kernel
  rw [this] at h
  cases h

/-- `GOTO 100 : ON X GOSUB 100,200 : RESTORE : LIST 100- : GOTO 300` and what RENUM makes of it
    (`GOTO 1000 : ON X GOSUB 1000,1010 : RESTORE : LIST 1000- : GOTO 300`, columns shifted) -/
def astOld : List Stmt :=
  [.goto (0, 4) (.single (5, 8) n100),
   .onGosub (9, 11) (.var (.unary (12, 13) (.plain ['X']))) [.single (20, 23) n100, .single (24, 27) n200],
   .restore (28, 35) (.single (35, 35) nNone),
   .list (36, 40) (.single (41, 44) n100) (.single (45, 45) n65529),
   .goto (46, 50) (.single (51, 54) n300)]
def astNew : List Stmt :=
  [.goto (0, 4) (.single (5, 9) n1000),
   .onGosub (10, 12) (.var (.unary (13, 14) (.plain ['X']))) [.single (21, 25) n1000, .single (26, 30) n1010],
   .restore (31, 38) (.single (38, 38) nNone),
   .list (39, 43) (.single (44, 48) n1000) (.single (49, 49) n65529),
   .goto (50, 54) (.single (55, 58) n300)]

theorem astOld_astNew : StmtsRel φx astOld astNew := by
  have l100 : ∀ c c', OperandRel φx (.single c n100) (.single c' n1000) := fun _ _ =>
    .line (v := .sng n100) (v' := .sng n1000) (n := 100) rfl rfl (by decide +kernel) (by decide +kernel)
  have l200 : OperandRel φx (.single (24, 27) n200) (.single (26, 30) n1010) :=
    .line (v := .sng n200) (v' := .sng n1010) (n := 200) rfl rfl (by decide +kernel) (by decide +kernel)
  have l300 : OperandRel φx (.single (51, 54) n300) (.single (55, 58) n300) :=
    .line (v := .sng n300) (v' := .sng n300) (n := 300) rfl rfl (by decide +kernel) (by decide +kernel)
  have none' : OperandRel φx (.single (35, 35) nNone) (.single (38, 38) nNone) := by
    refine .other (v := .sng nNone) rfl rfl ?_
    intro n h
    have : (Val.sng nNone).toLineNumber = err Code.overflow := by decide +kernel
    rw [this] at h
    cases h
  have r100 : RangeOperandRel φx (.single (41, 44) n100) (.single (44, 48) n1000) :=
    .line (v := .sng n100) (v' := .sng n1000) (n := 100) rfl rfl (by decide +kernel) (by decide +kernel)
  have rmax : RangeOperandRel φx (.single (45, 45) n65529) (.single (49, 49) n65529) :=
    .kept (v := .sng n65529) (n := 65529) rfl rfl (by decide +kernel)
  exact .cons (.goto _ _ (l100 _ _)) (.cons (.onGosub _ _ (.var (.unary _ _ _)) (.cons (l100 _ _) (.cons l200 .nil)))
    (.cons (.restore _ _ none') (.cons (.list _ _ r100 rmax) (.cons (.goto _ _ l300) .nil))))

/-- so the fragments generated for the two trees are related … -/
example : All₂ (EntryRel φx) (Codegen.acceptStmts astOld {}).g.stmt.toList (Codegen.acceptStmts astNew {}).g.stmt.toList :=
  (fragments_rel astOld_astNew).1

/-- … and here are the pending references of the first, second and last statement, computed: the
    same addresses, the symbols renumbered (100 ↦ 1000, 200 ↦ 1010, 300 stays), other columns -/
example :
    (Codegen.codegen {} [.goto (0, 4) (.single (5, 8) n100)]).1.unlinked = [(0, ((5, 8), 100))] ∧
    (Codegen.codegen {} [.goto (0, 4) (.single (5, 9) n1000)]).1.unlinked = [(0, ((5, 9), 1000))] ∧
    (Codegen.codegen {} [.goto (0, 4) (.single (5, 8) n100)]).1.ops = #[.jump 0] ∧
    (Codegen.codegen {} [.goto (0, 4) (.single (5, 9) n1000)]).1.ops = #[.jump 0] ∧
    (Codegen.codegen {} [.goto (46, 50) (.single (51, 54) n300)]).1.unlinked = [(0, ((51, 54), 300))] ∧
    ((Codegen.codegen {} [astOld[1]!]).1.unlinked.map fun p => (p.1, p.2.2)) = [(5, 200), (4, 100), (0, -1)] ∧
    ((Codegen.codegen {} [astNew[1]!]).1.unlinked.map fun p => (p.1, p.2.2)) = [(5, 1010), (4, 1000), (0, -1)] ∧
    (Codegen.codegen {} [astOld[1]!]).1.ops = (Codegen.codegen {} [astNew[1]!]).1.ops := by
  decide +kernel

/-- `10 WHILE A / 30 WEND` -/
def exL : Listing := { source := [(10, C20.exW), (30, C20.exE)], rooted := true }

theorem exL_wf : C15.WF exL := ⟨by unfold SortedList.Sorted; decide, by decide, by decide⟩

theorem exL_plan : Listing.renumPlan (exL.source.map (·.1)) 100 0 10 = .ok [(10, 100), (30, 110)] := by decide

theorem exL_renumParses : RenumParses exL [(10, 100), (30, 110)] := by
  intro p hp
  have hp' : p = (10, C20.exW) ∨ p = (30, C20.exE) := by simpa [exL] using hp
  rcases hp' with rfl | rfl
  · have h1 := Parse.parse_while_a (some 10)
    refine ⟨_, _, h1, ?_, .cons (.while (0, 5) (0, 5) (.var (.unary (6, 7) (6, 7) (.plain ['A'])))) .nil⟩
    rw [Listing.lineRenum_no_operands _ C20.exW _ h1 (by decide)]
    exact Parse.parse_while_a _
  · have h1 := Parse.parse_wend (some 30)
    refine ⟨_, _, h1, ?_, .cons (.wend (0, 4) (0, 4)) .nil⟩
    rw [Listing.lineRenum_no_operands _ C20.exE _ h1 (by decide)]
    exact Parse.parse_wend _

/-- the compile state of `10 WHILE A / 30 WEND` (`Thm.C20.exState`) -/
def exSt : Program :=
  { lineNumber := some 30,
    link := { currentSymbol := -2, ops := #[.push ['A'], .ifNot 0, .jump 0],
              symbols := [(-2, (3, 0)), (-1, (0, 0)), (10, (0, 0)), (30, (2, 0))],
              whiles := [(true, (0, 5), 1, -1), (false, (0, 4), 2, -2)] } }

theorem exL_state : ({} : Program).codegenLines exL.lines = exSt := C20.exState

theorem exL_refsStable : RefsStable exL [(10, 100), (30, 110)] := by
  intro q hq
  rw [exL_state] at hq
  have e : exSt.link.linkWhiles.1.unlinked = [(2, ((0, 4), (-1 : Int))), (1, ((0, 5), (-2 : Int)))] := by
    decide +kernel
  rw [e] at hq
  left
  rcases List.mem_cons.1 hq with rfl | hq'
  · decide
  · rcases List.mem_cons.1 hq' with rfl | hq''
    · decide
    · cases hq''

/-- RENUM 100 on `10 WHILE A / 30 WEND` succeeds, and every hypothesis of `renum_preserves_code` holds;
    the conclusion, instantiated: the code is that of the old program (computed in
    `Thm/C20Layout.lean`: `#[Push A, IfNot 3, Jump 0, End]`), the table has the keys 100, 110 -/
example : ∃ l', exL.renum Lex.lineRenum 100 0 10 = .ok l' ∧
    ProgRel (Listing.renumMap [(10, 100), (30, 110)]) (LineSet exL.lines) (compile exL.lines) (compile l'.lines) ∧
    (compile l'.lines).link.ops.toList = [.push ['A'], .ifNot 3, .jump 0, .end] ∧
    (compile l'.lines).link.symbols = [(100, (0, 0)), (110, (2, 0)), (65530, (4, 0))] := by
  obtain ⟨l', hl'⟩ := (Listing.renum_ok_iff Lex.lineRenum exL 100 0 10).2 ⟨_, exL_plan⟩
  have hr := renum_preserves_code exL_wf exL_plan hl' exL_renumParses exL_refsStable
  have hold : (compile exL.lines).link.ops = #[.push ['A'], .ifNot 3, .jump 0, .end] ∧
      (compile exL.lines).link.symbols = [(10, (0, 0)), (30, (2, 0)), (65530, (4, 0))] := by
    unfold compile
    rw [exL_state]
    decide +kernel
  refine ⟨l', hl', hr, ?_, ?_⟩
  · have h1 := renum_code hr
    rw [hold.1] at h1
    exact h1.eq_of_plain (by decide)
  · rw [renum_symbol_table hr, hold.2]
    decide

end Compile

end Thm.C14
end Basic

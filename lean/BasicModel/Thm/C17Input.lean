import BasicModel.Thm.C17
import BasicModel.Lemmas.InputRun
/-
  C17, continued — the INPUT statement end to end, against the hand-written specification `Spec.inputSpec`
  (Spec/InputStmt.lean); `Thm/C17.lean` has the pieces (splitter, `doInputReply`, `doInput`, prompt, REDO unwinding).

  The code of `INPUT [,]["prompt";] v₁,…,vₖ` (`input_statement_code`); the prompt event (`input_prompt`); a reply the
  specification accepts leads to the state behind the statement with the specification's variables, the stack as before
  the statement and column 0 (`input_accepted`); a reply it refuses leads back to the waiting state — same stack and
  `pc`, REDO FROM START, the same prompt — with the variables `redoVars` (`input_refused`).  ATOMICITY holds for a reply
  that is too long, has the wrong number of fields or is refused by its first target (`redoVars_atomic_partial`) and is
  FALSE in general (`input_redo_not_atomic`): the model, like `runtime.rs`, assigns target by target, so the targets
  before a refused field keep the values of the refused reply.
-/
namespace Basic
namespace Thm.C17
open Basic.Runtime Basic.Spec Basic.Lemmas.ExprCompile Basic.Lemmas.InputRun Basic.Lemmas.ExecSteps
open Basic.Lemmas.FnCall (ValueStore valueStore_new)

/-- the conversion of one field in the model (`convertField`, read off `doInput`) is the
    specification's -/
theorem field_conversion_spec (name field : Str) : convertField name field = fieldValue name field :=
  convertField_eq_fieldValue name field

/-- a `$` target: the trimmed field with one pair of enclosing quotes removed -/
theorem fieldValue_string (name field : Str) (h : name.getLast? = some '$') :
    fieldValue name field = .str (unquote (RStd.trim field)) := by
  simp only [fieldValue, h, if_true]

/-- a numeric target: the number the trimmed field spells, nothing being 0 -/
theorem fieldValue_numeric (name field : Str) (h : name.getLast? ≠ some '$') :
    fieldValue name field = if RStd.trim field = [] then .int 0 else Val.ofStr (RStd.trim field) := by
  simp only [fieldValue, h, if_false]

theorem unquote_quoted (m : Str) : unquote ('"' :: m ++ ['"']) = m := by
  have h2 : ('"' :: (m ++ ['"'])).getLast? = some '"' := by
    rw [show '"' :: (m ++ ['"']) = ('"' :: m) ++ ['"'] from rfl, List.getLast?_concat]
  simp [unquote, h2]

/-- the specification in closed form: refused outright under the condition of `redoVars` (too long, wrong
    number of fields), otherwise the flag of `assignAll` decides -/
theorem inputSpec_eq (vars : Var) (ts : List InTarget) (reply : Str) :
    inputSpec vars ts reply =
      if RStd.utf8Len reply > Gen.maxLineLen ∨ (replyFields ts.length reply).length ≠ ts.length then .error .redo
      else if (assignAll vars ts (replyFields ts.length reply)).2 = true then
        .ok (assignAll vars ts (replyFields ts.length reply)).1
      else .error .redo := by
  unfold inputSpec
  by_cases hl : RStd.utf8Len reply > Gen.maxLineLen
  · rw [if_pos hl, if_pos (Or.inl hl)]
  · rw [if_neg hl]
    by_cases hc : (replyFields ts.length reply).length ≠ ts.length
    · exact (if_pos hc).trans (if_pos (Or.inr hc)).symm
    · refine (if_neg hc).trans ((if_neg (not_or.2 ⟨hl, hc⟩)).trans ?_).symm
      rcases assignAll vars ts (replyFields ts.length reply) with ⟨v, _ | _⟩ <;> rfl

/-- an over-long reply is refused whatever it says -/
theorem inputSpec_too_long (vars : Var) (ts : List InTarget) (reply : Str)
    (h : RStd.utf8Len reply > Gen.maxLineLen) : inputSpec vars ts reply = .error .redo := by
  rw [inputSpec_eq, if_pos (.inl h)]

theorem inputSpec_count (vars : Var) (ts : List InTarget) (reply : Str)
    (h : (replyFields ts.length reply).length ≠ ts.length) : inputSpec vars ts reply = .error .redo := by
  rw [inputSpec_eq, if_pos (.inr h)]

/-- ONE scalar target takes the whole reply — commas and quotes included — as its field -/
theorem inputSpec_single (vars : Var) (n : Str) (reply : Str) (h : RStd.utf8Len reply ≤ Gen.maxLineLen) :
    inputSpec vars [.scalar n] reply =
      match vars.store n (fieldValue n reply) with
      | .ok v => .ok v
      | .error _ => .error .redo := by
  have h' : ¬ RStd.utf8Len reply > Gen.maxLineLen := by omega
  simp only [inputSpec, h', if_false, replyFields, List.length_singleton, Nat.le_refl, if_true, ne_eq,
    not_true_eq_false, assignAll, assignTarget, InTarget.name]
  cases vars.store n (fieldValue n reply) <;> rfl

theorem inputSpec_ok {vars v' : Var} {ts : List InTarget} {reply : Str} (h : inputSpec vars ts reply = .ok v') :
    RStd.utf8Len reply ≤ Gen.maxLineLen ∧ (replyFields ts.length reply).length = ts.length ∧
      assignAll vars ts (replyFields ts.length reply) = (v', true) := by
  rw [inputSpec_eq] at h
  split at h
  · cases h
  · rename_i hn
    split at h
    · rename_i hb
      cases h
      exact ⟨by omega, by simpa using (not_or.1 hn).2, Prod.ext rfl hb⟩
    · cases h

theorem inputSpec_refused {vars : Var} {ts : List InTarget} {reply : Str}
    (h : (inputSpec vars ts reply).toBool = false) : inputSpec vars ts reply = .error .redo := by
  cases hx : inputSpec vars ts reply with
  | error r => cases r; rfl
  | ok v => rw [hx] at h; cases h

/-- **Code shape.**  `INPUT [,]["prompt";] v₁,…,vₖ` (caps expression an Integer literal: 0 for the
    leading-comma form, −1 otherwise; scalar targets and array elements with subscripts in the pure
    fragment) compiles to one fragment whose code is

        literal "prompt" · literal caps · literal k · (input vᵢ · ⟨store vᵢ⟩)ᵢ₌₁..ₖ · input ""

    with `⟨store v⟩ = pop v` for a scalar and `subscripts… · literal n · popArr v` for an element. -/
theorem input_statement_code (c cc pc : Col) (capsN : Int16) (prompt : Str) (vs : List Variable)
    (hok : ∀ x ∈ vs, TargetOk x) (s : Codegen.VState) (hk : vs.length ≤ 32767)
    (hlen : (inputCode capsN prompt (vs.map targetOf)).length ≤ Gen.stackMaxLen) :
    (Codegen.acceptStmt (.input c (.integer cc capsN) (.string pc prompt) vs) s).g.stmt =
      s.g.stmt.push (c, plain (inputCode capsN prompt (vs.map targetOf)).toArray) ∧
    (Codegen.acceptStmt (.input c (.integer cc capsN) (.string pc prompt) vs) s).errors = s.errors := by
  rw [input_codegen_shape c cc pc capsN prompt vs hok s hk hlen]
  exact ⟨rfl, rfl⟩

/-- a running machine (trace off, no errors in the direct statements) whose `pc` is at the code of an
    INPUT statement with at least one target, with room on the stack -/
structure AtInput (s : Runtime) (capsN : Int16) (prompt : Str) (ts : List InTarget) : Prop where
  running : s.state = .running
  traceOff : s.tron = false
  noDirectErrors : s.listing.directErrors.isEmpty = true
  code : CodeAt s.program.link.ops s.pc (inputCode capsN prompt ts)
  targets : ∀ t ∈ ts, TargetRunOk t
  nonempty : 1 ≤ ts.length
  count : ts.length ≤ 32767
  room : s.stack.size + 4 + ts.length + (ts.flatMap targetCode).length ≤ Gen.stackMaxLen

/-- the state after the first slice: prompt, caps value and count pushed, `pc` on the first `input`
    opcode, state `input` -/
def asking (s : Runtime) (capsN : Int16) (prompt : Str) (k : Nat) : Runtime :=
  { s with pc := s.pc + 3,
           stack := ((s.stack.push (.str prompt)).push (.int capsN)).push (.int (Int16.ofNat k)),
           state := .input }

/-- … and after the prompt has been shown: the column is 0; the machine waits for `enter` -/
def waiting (s : Runtime) (capsN : Int16) (prompt : Str) (k : Nat) : Runtime :=
  { asking s capsN prompt k with printCol := 0 }

/-- the state after a reply with the right number of fields: `ret` (the address of the first `input`
    opcode) and the fields, first field on top; state `inputRunning` -/
def accepted (s : Runtime) (capsN : Int16) (prompt : Str) (k : Nat) (fs : List Str) : Runtime :=
  { waiting s capsN prompt k with
      stack := (waiting s capsN prompt k).stack ++ (Val.ret (s.pc + 3) :: fs.reverse.map Val.str).toArray,
      state := .inputRunning }

/-- the state behind the statement: `s` with the new variables, `pc` past the code, column 0 -/
def behind (s : Runtime) (capsN : Int16) (prompt : Str) (ts : List InTarget) (v' : Var) : Runtime :=
  { s with pc := s.pc + (inputCode capsN prompt ts).length, vars := v', printCol := 0 }

/-- **the prompt.**  The first slice (quantum ≥ 4) pushes the three values and returns `running`
    with the machine in state `input`; the next slice — any quantum — returns the `input` event with
    the prompt text followed by `"? "` and the caps flag "the caps value is not 0", resets the column
    and changes nothing else. -/
theorem input_prompt (env : Env) {s : Runtime} {capsN : Int16} {prompt : Str} {ts : List InTarget}
    (h : AtInput s capsN prompt ts) (q : Nat) (hq : 4 ≤ q) (q' : Nat) :
    execute env s q = (asking s capsN prompt ts.length, .running) ∧
    execute env (asking s capsN prompt ts.length) q' =
      (waiting s capsN prompt ts.length, .input (inputPrompt prompt) (decide (Val.int capsN ≠ .int 0))) := by
  have hr := h.room
  constructor
  · exact execute_of_runSteps env s _ q _ .running (.inl h.running) h.noDirectErrors
      (runSteps_event_mono env _ 4 q s _ _
        (input_suspends env _ capsN prompt ts s h.running h.traceOff h.code (by omega)) hq)
      rfl fun h => nomatch h.2
  · exact execute_input_prompt env (asking s capsN prompt ts.length) q' s.stack prompt (.int capsN)
      (.int (Int16.ofNat ts.length)) rfl rfl (by omega)

/-- the caps flag is off exactly for the leading-comma form (for which the parser supplies the caps
    value 0, and −1 otherwise: `Parse.inputStmt`) -/
theorem input_caps_flag (comma : Bool) :
    decide (Val.int (if comma then 0 else -1) ≠ .int 0) = inputCaps comma := by
  cases comma <;> decide

theorem waiting_top (s : Runtime) (capsN : Int16) (prompt : Str) (k : Nat) :
    (waiting s capsN prompt k).stack.back? = some (.int (Int16.ofNat k)) := by
  simp [waiting, asking]

theorem enter_right_count (env : Env) {s : Runtime} {capsN : Int16} {prompt : Str} {ts : List InTarget}
    (h : AtInput s capsN prompt ts) (reply : Str) (hl : RStd.utf8Len reply ≤ Gen.maxLineLen)
    (hc : (replyFields ts.length reply).length = ts.length) :
    enter env (waiting s capsN prompt ts.length) reply =
      accepted s capsN prompt ts.length (replyFields ts.length reply) := by
  have hr := h.room
  rw [enter_accept env (waiting s capsN prompt ts.length) reply ts.length h.nonempty h.count rfl
    (waiting_top s capsN prompt ts.length) hl hc (by simp [waiting, asking]; omega)]
  rfl

/-- under the condition of `redoVars` — too long, wrong number of fields — `enter` refuses by itself -/
theorem enter_refuses (env : Env) {s : Runtime} {capsN : Int16} {prompt : Str} {ts : List InTarget}
    (h : AtInput s capsN prompt ts) (reply : Str)
    (hr : RStd.utf8Len reply > Gen.maxLineLen ∨ (replyFields ts.length reply).length ≠ ts.length) :
    enter env (waiting s capsN prompt ts.length) reply =
      { waiting s capsN prompt ts.length with state := .inputRedo } := by
  by_cases hl : RStd.utf8Len reply > Gen.maxLineLen
  · exact enter_input_too_long env _ reply rfl hl
  · exact enter_refuse_count env _ reply ts.length h.nonempty h.count rfl (waiting_top s capsN prompt ts.length)
      (by omega) (hr.resolve_left hl)

theorem accepted_run (env : Env) (hie : Bool) {s : Runtime} {capsN : Int16} {prompt : Str} {ts : List InTarget}
    (h : AtInput s capsN prompt ts) (fs : List Str) (hlen : ts.length = fs.length) (v' : Var)
    (ha : assignAll s.vars ts fs = (v', true)) :
    runSteps env hie ((ts.flatMap targetCode).length + 1) (accepted s capsN prompt ts.length fs) =
      (.ok .continue, behind s capsN prompt ts v') := by
  have hr := h.room
  have hcode : CodeAt s.program.link.ops (s.pc + 3) (ts.flatMap targetCode ++ [.input []]) := by
    have := h.code
    unfold inputCode at this
    rw [List.append_assoc] at this
    exact this.right
  rw [input_accept_run env hie ts fs (accepted s capsN prompt ts.length fs) s.stack (.str prompt) (.int capsN)
    (.int (Int16.ofNat ts.length)) (s.pc + 3) v' h.targets rfl h.traceOff hcode
    (by simp only [accepted, waiting, asking]; apply Array.ext'; simp) (by omega) hlen ha]
  simp only [accepted, waiting, asking, behind, inputCode_length, ← h.running]
  congr 2
  omega

/-- **accepted reply.**  When the specification accepts the reply with the variables `v'`:
    `enter` stages the fields, and the slices that follow run the conversions and the stores and go
    on behind the statement exactly as the machine `behind …` would: `vars = v'`, the stack as before
    the statement, column 0, `pc` past the statement's code, state `running`.  (A slice whose quantum
    covers the rest of the statement and `m` more instructions is the slice of quantum `m` from
    there.) -/
theorem input_accepted (env : Env) {s : Runtime} {capsN : Int16} {prompt : Str} {ts : List InTarget}
    (h : AtInput s capsN prompt ts) (reply : Str) (v' : Var) (hv : inputSpec s.vars ts reply = .ok v') (m : Nat) :
    enter env (waiting s capsN prompt ts.length) reply =
      accepted s capsN prompt ts.length (replyFields ts.length reply) ∧
    execute env (accepted s capsN prompt ts.length (replyFields ts.length reply))
        ((ts.flatMap targetCode).length + 1 + m) =
      execute env (behind s capsN prompt ts v') m := by
  obtain ⟨hl, hc, ha⟩ := inputSpec_ok hv
  refine ⟨enter_right_count env h reply hl hc, ?_⟩
  exact execute_split env _ _ _ m (.inr rfl) (.inl h.running) rfl h.noDirectErrors
    (accepted_run env _ h _ hc.symm v' ha)

/-- … in particular a slice that covers exactly the rest of the statement stops right behind it -/
theorem input_accepted_done (env : Env) {s : Runtime} {capsN : Int16} {prompt : Str} {ts : List InTarget}
    (h : AtInput s capsN prompt ts) (reply : Str) (v' : Var) (hv : inputSpec s.vars ts reply = .ok v') :
    execute env (enter env (waiting s capsN prompt ts.length) reply) ((ts.flatMap targetCode).length + 1) =
      (behind s capsN prompt ts v', .running) ∧
    (behind s capsN prompt ts v').vars = v' ∧ (behind s capsN prompt ts v').stack = s.stack ∧
    (behind s capsN prompt ts v').printCol = 0 ∧ (behind s capsN prompt ts v').state = .running ∧
    (behind s capsN prompt ts v').pc = s.pc + (inputCode capsN prompt ts).length := by
  obtain ⟨hl, hc, ha⟩ := inputSpec_ok hv
  rw [enter_right_count env h reply hl hc]
  refine ⟨?_, rfl, rfl, rfl, h.running, rfl⟩
  exact execute_of_runSteps env _ _ _ _ .running (.inr rfl) h.noDirectErrors
    (accepted_run env _ h _ hc.symm v' ha) rfl fun h => nomatch h.2

/-- the variables the MACHINE has when it reports REDO FROM START for a refused reply: untouched when
    the reply is too long or has the wrong number of fields; otherwise the working copy in which the
    fields BEFORE the refused one have been assigned -/
def redoVars (vars : Var) (ts : List InTarget) (reply : Str) : Var :=
  if RStd.utf8Len reply > Gen.maxLineLen ∨ (replyFields ts.length reply).length ≠ ts.length then vars
  else (assignAll vars ts (replyFields ts.length reply)).1

/-- `reply`, entered in the waiting state `w`, is refused, and `sR` is the state in which the REDO is
    about to be reported: either `enter` refuses by itself, or it stages the fields and the next
    slice (quantum `q`) fails in a target and comes back with `running` -/
inductive RefusedAt (env : Env) (w : Runtime) (reply : Str) (q : Nat) : Runtime → Prop where
  | byEnter : (enter env w reply).state = .inputRedo → RefusedAt env w reply q (enter env w reply)
  | byTarget (sR : Runtime) : (enter env w reply).state = .inputRunning →
      execute env (enter env w reply) q = (sR, .running) → RefusedAt env w reply q sR

/-- **refused reply.**  When the specification refuses the reply (the variables holding numbers and
    strings, as in every reachable state: `Lemmas.FnCall.valueStore_of_typed`), the machine gets — by
    `enter` alone, or by the slice after it, whose quantum covers the targets' code — into the waiting
    state again but for
    `state = inputRedo` and `vars = redoVars …`: same stack as at the first prompt, same `pc`, column
    0, everything else untouched.  The next slice reports `?REDO FROM START`, the one after shows the
    same prompt with the same caps flag, and the machine waits in state `input` as before. -/
theorem input_refused (env : Env) {s : Runtime} {capsN : Int16} {prompt : Str} {ts : List InTarget}
    (h : AtInput s capsN prompt ts) (reply : Str) (hv : inputSpec s.vars ts reply = .error .redo)
    (hvals : ValueStore s.vars)
    (q : Nat) (hq : (ts.flatMap targetCode).length ≤ q) (q1 q2 : Nat) :
    let w := waiting s capsN prompt ts.length
    let sR : Runtime := { w with state := .inputRedo, vars := redoVars s.vars ts reply }
    RefusedAt env w reply q sR ∧
    execute env sR q1 = ({ sR with state := .input }, .errors [Error.mk' Code.redoFromStart]) ∧
    execute env { sR with state := .input } q2 =
      ({ w with vars := redoVars s.vars ts reply },
       .input (inputPrompt prompt) (decide (Val.int capsN ≠ .int 0))) := by
  intro w sR
  have hr := h.room
  refine ⟨?_, execute_inputRedo env sR q1 rfl,
    execute_input_prompt env { sR with state := .input } q2 s.stack prompt (.int capsN)
      (.int (Int16.ofNat ts.length)) rfl rfl (by omega)⟩
  by_cases hout : RStd.utf8Len reply > Gen.maxLineLen ∨ (replyFields ts.length reply).length ≠ ts.length
  · -- too long, or the wrong number of fields: `enter` ends in `sR`
    have he : enter env w reply = sR := by
      rw [enter_refuses env h reply hout]
      simp only [sR, redoVars, hout, if_true]
      rfl
    exact he ▸ .byEnter (by rw [he])
  · -- a field is refused
    have hl : RStd.utf8Len reply ≤ Gen.maxLineLen := by have := (not_or.1 hout).1; omega
    have hc : (replyFields ts.length reply).length = ts.length := by simpa using (not_or.1 hout).2
    have hfalse : (assignAll s.vars ts (replyFields ts.length reply)).2 = false := by
      rw [inputSpec_eq, if_neg hout] at hv
      split at hv
      · cases hv
      · rename_i hb; simpa using hb
    have he := enter_right_count env h reply hl hc
    have hcode : CodeAt s.program.link.ops (s.pc + 3) (ts.flatMap targetCode) := by
      have := h.code
      unfold inputCode at this
      exact this.left.right
    have hx := execute_field_refused env ts (replyFields ts.length reply)
      (accepted s capsN prompt ts.length (replyFields ts.length reply)) s.stack (.str prompt) (.int capsN)
      (.int (Int16.ofNat ts.length)) (s.pc + 3) (assignAll s.vars ts (replyFields ts.length reply)).1 q
      h.targets rfl h.traceOff h.noDirectErrors hcode
      (by simp only [accepted, waiting, asking]; apply Array.ext'; simp) (by omega) hc.symm hvals
      (by rw [← hfalse]; rfl) hq
    refine .byTarget sR (by rw [he]; rfl) ?_
    rw [he, hx]
    simp only [sR, w, redoVars, hout, if_false, accepted, waiting, asking]

/-- **atomicity, the part that holds.**  Nothing has been assigned when the REDO is reported if the
    reply is too long, has the wrong number of fields, or is refused in its FIRST field by a scalar
    target. -/
theorem redoVars_atomic_partial (vars : Var) (ts : List InTarget) (reply : Str)
    (h : RStd.utf8Len reply > Gen.maxLineLen ∨ (replyFields ts.length reply).length ≠ ts.length ∨
      ∃ n ts' f fs', ts = .scalar n :: ts' ∧ replyFields ts.length reply = f :: fs' ∧
        (vars.store n (fieldValue n f)).toBool = false) :
    redoVars vars ts reply = vars := by
  unfold redoVars
  split
  · rfl
  · rename_i hn
    rcases h with h | h | ⟨n, ts', f, fs', hts, hfs, hst⟩
    · exact absurd (.inl h) hn
    · exact absurd (.inr h) hn
    · rw [hfs, hts]
      cases hs : vars.store n (fieldValue n f) with
      | ok v => rw [hs] at hst; cases hst
      | error e => simp only [assignAll, assignTarget, InTarget.name, hs]

/-
  The FULL atomicity statement of the property — "if a field does not convert, NOTHING is assigned" —

      theorem input_refused_atomic … (hv : inputSpec s.vars ts reply = .error .redo) :
          RefusedAt env w reply q { w with state := .inputRedo }          -- i.e. `vars` as before

  is FALSE in the model (and in `src/mach/runtime.rs`, whose `r#input` only converts the field and
  leaves the store to the `Pop`/`PopArr` opcode that follows it, target by target): see
  `input_redo_not_atomic` / `input_redo_not_atomic_machine` below.  What is restored is the stack and
  `pc`; `redoVars_atomic_partial` is the part of the statement that holds, `input_refused` says
  exactly what the variables are in general.
-/

/-- **FINDING (model = implementation).**  `INPUT A%,B%` with the reply `5,x` is refused by the
    specification (`x` is no number), but when REDO FROM START is reported `A%` is already 5. -/
theorem input_redo_not_atomic :
    (inputSpec Var.new [.scalar "A%".toList, .scalar "B%".toList] "5,x".toList).toBool = false ∧
    (redoVars Var.new [.scalar "A%".toList, .scalar "B%".toList] "5,x".toList).fetch "A%".toList = .ok (.int 5) ∧
    Var.new.fetch "A%".toList = .ok (.int 0) := by
  decide +kernel

/-! ### non-vacuity: `INPUT "N";A%,B$` and `INPUT A%,B%` on concrete machines -/

/-- a machine whose program is the statement's code and nothing else, running at its first opcode
    with an empty stack, is at that statement -/
theorem atInput_program (capsN : Int16) (prompt : Str) (ts : List InTarget) (hts : ∀ t ∈ ts, TargetRunOk t)
    (h1 : 1 ≤ ts.length) (hk : ts.length ≤ 32767)
    (hroom : 4 + ts.length + (ts.flatMap targetCode).length ≤ Gen.stackMaxLen) :
    AtInput { program := { link := { ops := (inputCode capsN prompt ts).toArray } }, state := .running }
      capsN prompt ts where
  running := rfl
  traceOff := rfl
  noDirectErrors := rfl
  code := fun k hk => by simp [hk]
  targets := hts
  nonempty := h1
  count := hk
  room := by simpa using hroom

/-- for the concrete target lists below -/
instance : DecidablePred TargetRunOk := fun t => by
  cases t <;> unfold TargetRunOk <;> infer_instance

/-- the targets of `INPUT "N";A%,B$` -/
def demoTargets : List InTarget := [.scalar "A%".toList, .scalar "B$".toList]

/-- a machine whose program is the code of `INPUT "N";A%,B$` (caps value −1: no leading comma),
    running at its first opcode, with empty stack and variables -/
def demo : Runtime :=
  { program := { link := { ops := (inputCode (-1) "N".toList demoTargets).toArray } }, state := .running }

theorem demo_atInput : AtInput demo (-1) "N".toList demoTargets :=
  atInput_program _ _ _ (by decide) (by decide) (by decide) (by decide)

/-- the code is `LIT "N" · LIT −1 · LIT 2 · INPUT A% · POP A% · INPUT B$ · POP B$ · INPUT ""` -/
example : inputCode (-1) "N".toList demoTargets =
    [.literal (.str "N".toList), .literal (.int (-1)), .literal (.int 2), .input "A%".toList, .pop "A%".toList,
     .input "B$".toList, .pop "B$".toList, .input []] := by decide

/-- the prompt is `N? `, caps on -/
example (env : Env) : execute env (asking demo (-1) "N".toList 2) 0 =
    (waiting demo (-1) "N".toList 2, .input "N? ".toList true) :=
  (input_prompt env demo_atInput 4 (by decide) 0).2

/-- reply `7, "x,y"`: accepted; `A% = 7`, `B$ = x,y` (quotes removed, the comma inside them kept);
    five instructions later the machine is behind the statement with empty stack and column 0 -/
theorem demo_accepted (env : Env) :
    ∃ v', inputSpec demo.vars demoTargets "7, \"x,y\"".toList = .ok v' ∧
      v'.vars = [("B$".toList, .str "x,y".toList), ("A%".toList, .int 7)] ∧
      execute env (enter env (waiting demo (-1) "N".toList 2) "7, \"x,y\"".toList) 5 =
        (behind demo (-1) "N".toList demoTargets v', .running) ∧
      (behind demo (-1) "N".toList demoTargets v').stack = #[] ∧
      (behind demo (-1) "N".toList demoTargets v').pc = 8 := by
  have hd : (inputSpec demo.vars demoTargets "7, \"x,y\"".toList).map (·.vars) =
      .ok [("B$".toList, .str "x,y".toList), ("A%".toList, .int 7)] := by decide +kernel
  cases hv : inputSpec demo.vars demoTargets "7, \"x,y\"".toList with
  | error r => rw [hv] at hd; cases hd
  | ok v' =>
    rw [hv] at hd
    refine ⟨v', rfl, by injection hd, (input_accepted_done env demo_atInput _ v' hv).1, rfl, rfl⟩

/-- reply `7`: one field for two targets — refused by `enter`, nothing assigned, REDO FROM START and
    the prompt `N? ` again -/
theorem demo_refused_count (env : Env) (q q1 q2 : Nat) :
    let w := waiting demo (-1) "N".toList 2
    RefusedAt env w "7".toList q { w with state := .inputRedo } ∧
    execute env { w with state := .inputRedo } q1 =
      ({ w with state := .input }, .errors [Error.mk' Code.redoFromStart]) ∧
    execute env { w with state := .input } q2 = (w, .input "N? ".toList true) := by
  have hv : inputSpec demo.vars demoTargets "7".toList = .error .redo := inputSpec_count _ _ _ (by decide)
  have ha : redoVars demo.vars demoTargets "7".toList = demo.vars :=
    redoVars_atomic_partial _ _ _ (.inr (.inl (by decide)))
  have h := input_refused env demo_atInput "7".toList hv valueStore_new 4 (by decide) q1 q2
  simp only [ha] at h
  -- `enter` itself refuses, whatever the quantum of the next slice
  have he : enter env (waiting demo (-1) "N".toList 2) "7".toList = _ :=
    enter_refuses env demo_atInput "7".toList (.inr (by decide))
  exact ⟨he ▸ .byEnter (by rw [he]), h.2⟩

/-- reply `x,1`: two fields, but `x` is no number — the FIRST target refuses, so nothing has been
    assigned (here the retry is atomic); REDO FROM START and the prompt again -/
theorem demo_refused_field (env : Env) (q1 q2 : Nat) :
    let w := waiting demo (-1) "N".toList 2
    (inputSpec demo.vars demoTargets "x,1".toList).toBool = false ∧
    RefusedAt env w "x,1".toList 4 { w with state := .inputRedo } ∧
    execute env { w with state := .inputRedo } q1 =
      ({ w with state := .input }, .errors [Error.mk' Code.redoFromStart]) ∧
    execute env { w with state := .input } q2 = (w, .input "N? ".toList true) := by
  have hb : (inputSpec demo.vars demoTargets "x,1".toList).toBool = false := by decide +kernel
  have hv := inputSpec_refused hb
  have ha : redoVars demo.vars demoTargets "x,1".toList = demo.vars := by
    refine redoVars_atomic_partial _ _ _ (.inr (.inr ⟨"A%".toList, [.scalar "B$".toList], "x".toList, ["1".toList],
      rfl, by decide, by decide +kernel⟩))
  have h := input_refused env demo_atInput "x,1".toList hv valueStore_new 4 (by decide) q1 q2
  simp only [ha] at h
  exact ⟨hb, h⟩

/-- the same three replies, by evaluating the model itself (`enter`, `execute`) in the kernel -/
def demoEnv : Env := { lex := fun _ => default, lineRenum := fun _ l => l }

example : (execute demoEnv (enter demoEnv (waiting demo (-1) "N".toList 2) "7, \"x,y\"".toList) 5).1.vars.vars =
    [("B$".toList, .str "x,y".toList), ("A%".toList, .int 7)] := by decide +kernel
example : (execute demoEnv (enter demoEnv (waiting demo (-1) "N".toList 2) "7, \"x,y\"".toList) 5).1.state = .running ∧
    (execute demoEnv (enter demoEnv (waiting demo (-1) "N".toList 2) "7, \"x,y\"".toList) 5).1.stack = #[] ∧
    (execute demoEnv (enter demoEnv (waiting demo (-1) "N".toList 2) "7, \"x,y\"".toList) 5).1.pc = 8 := by
  decide +kernel
example : (enter demoEnv (waiting demo (-1) "N".toList 2) "7".toList).state = .inputRedo := by decide +kernel
example : (execute demoEnv (enter demoEnv (waiting demo (-1) "N".toList 2) "x,1".toList) 4).1.state = .inputRedo ∧
    (execute demoEnv (enter demoEnv (waiting demo (-1) "N".toList 2) "x,1".toList) 4).1.vars.vars = [] ∧
    (execute demoEnv (enter demoEnv (waiting demo (-1) "N".toList 2) "x,1".toList) 4).1.stack =
      #[.str "N".toList, .int (-1), .int 2] := by decide +kernel

/-! the finding on a machine: `INPUT A%,B%`, reply `5,x` -/

def demo2Targets : List InTarget := [.scalar "A%".toList, .scalar "B%".toList]

def demo2 : Runtime :=
  { program := { link := { ops := (inputCode (-1) [] demo2Targets).toArray } }, state := .running }

theorem demo2_atInput : AtInput demo2 (-1) [] demo2Targets :=
  atInput_program _ _ _ (by decide) (by decide) (by decide) (by decide)

/-- **FINDING, on the machine.**  `10 INPUT A%,B%` with the reply `5,x`: the specification refuses
    the reply, the machine reports REDO FROM START and asks again — in a state whose `A%` is 5, not
    the 0 it was before the statement.  (A second reply `,7` then leaves `A% = 0`; but a program that
    is interrupted at the second prompt, or whose later target is `A(I)` with `I` an earlier target,
    sees the value of the refused reply.) -/
theorem input_redo_not_atomic_machine (env : Env) (q1 : Nat) :
    let w := waiting demo2 (-1) [] 2
    ∃ sR, RefusedAt env w "5,x".toList 4 sR ∧
      (inputSpec demo2.vars demo2Targets "5,x".toList).toBool = false ∧
      execute env sR q1 = ({ sR with state := .input }, .errors [Error.mk' Code.redoFromStart]) ∧
      sR.stack = w.stack ∧ sR.pc = w.pc ∧
      demo2.vars.fetch "A%".toList = .ok (.int 0) ∧ sR.vars.fetch "A%".toList = .ok (.int 5) := by
  intro w
  have hb : (inputSpec demo2.vars demo2Targets "5,x".toList).toBool = false := by decide +kernel
  have hv := inputSpec_refused hb
  have h := input_refused env demo2_atInput "5,x".toList hv valueStore_new 4 (by decide) q1 0
  exact ⟨_, h.1, hb, h.2.1, rfl, rfl, by decide +kernel, by decide +kernel⟩

example : (execute demoEnv (enter demoEnv (waiting demo2 (-1) [] 2) "5,x".toList) 4).1.state = .inputRedo ∧
    (execute demoEnv (enter demoEnv (waiting demo2 (-1) [] 2) "5,x".toList) 4).1.vars.vars =
      [("A%".toList, .int 5)] := by decide +kernel

/-! an array element whose subscript is an earlier target: `INPUT I%,A%(I%),J%` -/

def demo3Targets : List InTarget :=
  [.scalar "I%".toList, .elem "A%".toList [.var (.unary (0, 0) (.integer "I%".toList))], .scalar "J%".toList]

def demo3 : Runtime :=
  { program := { link := { ops := (inputCode (-1) [] demo3Targets).toArray } }, state := .running }

theorem demo3_atInput : AtInput demo3 (-1) [] demo3Targets :=
  atInput_program _ _ _ (by decide) (by decide) (by decide) (by decide)

/-- the code: `… INPUT I% · POP I% · INPUT A% · PUSH I% · LIT 1 · POPARR A% · INPUT J% · POP J% · INPUT ""` -/
example : inputCode (-1) [] demo3Targets =
    [.literal (.str []), .literal (.int (-1)), .literal (.int 3), .input "I%".toList, .pop "I%".toList,
     .input "A%".toList, .push "I%".toList, .literal (.int 1), .popArr "A%".toList,
     .input "J%".toList, .pop "J%".toList, .input []] := by decide

/-- reply `1,5,9`: accepted, `I% = 1`, `A%(1) = 5` (the subscript sees the new `I%`), `J% = 9` -/
theorem demo3_accepted (env : Env) :
    ∃ v', inputSpec demo3.vars demo3Targets "1,5,9".toList = .ok v' ∧
      v'.fetch "I%".toList = .ok (.int 1) ∧ (v'.fetchArray "A%".toList [.int 1]).2 = .ok (.int 5) ∧
      v'.fetch "J%".toList = .ok (.int 9) ∧
      execute env (enter env (waiting demo3 (-1) [] 3) "1,5,9".toList) 9 =
        (behind demo3 (-1) [] demo3Targets v', .running) := by
  have hd : (inputSpec demo3.vars demo3Targets "1,5,9".toList).map
      (fun v' => (v'.fetch "I%".toList, (v'.fetchArray "A%".toList [.int 1]).2, v'.fetch "J%".toList)) =
      .ok (.ok (.int 1), .ok (.int 5), .ok (.int 9)) := by decide +kernel
  cases hv : inputSpec demo3.vars demo3Targets "1,5,9".toList with
  | error r => rw [hv] at hd; cases hd
  | ok v' =>
    rw [hv] at hd
    have hd' : (v'.fetch "I%".toList, (v'.fetchArray "A%".toList [.int 1]).2, v'.fetch "J%".toList) =
        (.ok (.int 1), .ok (.int 5), .ok (.int 9)) := Except.ok.inj hd
    simp only [Prod.mk.injEq] at hd'
    exact ⟨v', rfl, hd'.1, hd'.2.1, hd'.2.2, (input_accepted_done env demo3_atInput _ v' hv).1⟩

/-- reply `1,5,x`: refused in the THIRD field — REDO FROM START, but `I% = 1` and `A%(1) = 5` stay -/
theorem demo3_refused_keeps (env : Env) (q1 : Nat) :
    let w := waiting demo3 (-1) [] 3
    ∃ sR, RefusedAt env w "1,5,x".toList 8 sR ∧
      (inputSpec demo3.vars demo3Targets "1,5,x".toList).toBool = false ∧
      execute env sR q1 = ({ sR with state := .input }, .errors [Error.mk' Code.redoFromStart]) ∧
      sR.stack = w.stack ∧ sR.pc = w.pc ∧
      sR.vars.fetch "I%".toList = .ok (.int 1) ∧ (sR.vars.fetchArray "A%".toList [.int 1]).2 = .ok (.int 5) := by
  intro w
  have hb : (inputSpec demo3.vars demo3Targets "1,5,x".toList).toBool = false := by decide +kernel
  have hv := inputSpec_refused hb
  have h := input_refused env demo3_atInput "1,5,x".toList hv valueStore_new 8 (by decide) q1 0
  exact ⟨_, h.1, hb, h.2.1, rfl, rfl, by decide +kernel, by decide +kernel⟩

/-- a subscript that cannot be evaluated (`1\0` is not in the example; here `A%(I%)` with `I% = 99`,
    beyond the automatic dimension 10) is refused like an unconvertible field: REDO -/
example : (inputSpec demo3.vars demo3Targets "99,5,1".toList).toBool = false := by decide +kernel
example : (execute demoEnv (enter demoEnv (waiting demo3 (-1) [] 3) "99,5,1".toList) 8).1.state = .inputRedo ∧
    (execute demoEnv (enter demoEnv (waiting demo3 (-1) [] 3) "99,5,1".toList) 8).1.stack =
      #[.str [], .int (-1), .int 3] := by decide +kernel

/-! a subscript whose evaluation fails: `INPUT I%,A%(1\\I%)` with the reply `0,5` -/

def demo4Targets : List InTarget :=
  [.scalar "I%".toList,
   .elem "A%".toList [.bin .divideInt (0, 0) (.integer (0, 0) 1) (.var (.unary (0, 0) (.integer "I%".toList)))]]

def demo4 : Runtime :=
  { program := { link := { ops := (inputCode (-1) [] demo4Targets).toArray } }, state := .running }

theorem demo4_atInput : AtInput demo4 (-1) [] demo4Targets :=
  atInput_program _ _ _ (by decide) (by decide) (by decide) (by decide)

/-- DIVISION BY ZERO in the subscript is answered by REDO FROM START (any error while the targets
    are executed is); `I% = 0` — a default value — is all the refused reply leaves behind -/
theorem demo4_refused_subscript (env : Env) (q1 : Nat) :
    let w := waiting demo4 (-1) [] 2
    ∃ sR, RefusedAt env w "0,5".toList 8 sR ∧
      (inputSpec demo4.vars demo4Targets "0,5".toList).toBool = false ∧
      execute env sR q1 = ({ sR with state := .input }, .errors [Error.mk' Code.redoFromStart]) ∧
      sR.stack = w.stack ∧ sR.pc = w.pc := by
  intro w
  have hb : (inputSpec demo4.vars demo4Targets "0,5".toList).toBool = false := by decide +kernel
  have hv := inputSpec_refused hb
  have h := input_refused env demo4_atInput "0,5".toList hv valueStore_new 8 (by decide) q1 0
  exact ⟨_, h.1, hb, h.2.1, rfl, rfl⟩

example : (execute demoEnv (enter demoEnv (waiting demo4 (-1) [] 2) "0,5".toList) 7).1.state = .inputRedo ∧
    (execute demoEnv (enter demoEnv (waiting demo4 (-1) [] 2) "0,5".toList) 7).1.stack =
      #[.str [], .int (-1), .int 2] := by decide +kernel
example : (execute demoEnv (enter demoEnv (waiting demo4 (-1) [] 2) "1,5".toList) 9).1.state = .running ∧
    (execute demoEnv (enter demoEnv (waiting demo4 (-1) [] 2) "1,5".toList) 9).1.stack = #[] := by decide +kernel

end Thm.C17
end Basic

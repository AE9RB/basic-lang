import BasicModel.Lemmas.Layout
import BasicModel.Lemmas.ParseLines
/-
  C20 — whole-program layout invariance (the `layout_invariance` target of DESIGN.md §8 C20).

  The runtime part reuses `Runtime.Sim` of `Lemmas/Sim.lean`.  `Lemmas/Layout.lean` has the machinery: every stage of the
  compile pipeline commutes with an extra symbol-table entry that nothing refers to.

  Summary of what is true in the model:
  * a code-less line (`REM …`, `' …`, blank, only `:`) compiles to one symbol-table entry — its
    number ↦ (end of code so far, end of data so far) — and nothing else;
  * inserted *before a further line* it leaves the compiled program identical except for that
    entry, whose address is the address of the following line's code; `lineNumberFor` is the same
    function, so error reports and TRON output are unchanged too (`layout_invariance`,
    `layout_invariance_step`, `layout_invariance_slice`);
  * *appended after the last line* it forces an `End` behind the code (its entry is a symbol at
    the very end of the code).  If the linker pushes that `End` anyway — the code does not end with
    `END`, or some symbol already sits at the end of the code: a code-less last line, or (since
    fix D20) a local label such as the ELSE target of a trailing `IF … THEN END` — the code is
    identical (`layout_invariance_append`).  Otherwise — code ending in `END` and nothing can
    branch behind it, e.g. `10 END` — there is one more `End` and `directAddress` is one later
    (`layout_invariance_append_D16`); that `End` is unreachable in the old program's terms, so
    only addresses of the direct segment move.  In both cases the final `End` belongs to the
    appended line (`appended_line_owns_final_end`): with TRON a program that runs into it traces
    the appended line's number.  This is the one observable difference.
  * (fix D20) every address a reference of the listing can resolve to — line or local label — lies
    strictly below `directAddress` (`branch_targets_inside_program`): no branch can fall into
    the direct line's code.
-/
namespace Basic
namespace Thm.C20
open Link Program

/-- a remark line (`REM …` / `' …`, whitespace in front allowed) compiles to nothing: it parses to
    the empty statement list, and generating that leaves any link unchanged -/
theorem rem_line_codeless (line : Line) (h : Parse.RemTokens line.tokens) : CodeLess line :=
  ⟨[], Parse.parse_blank _ _ (Parse.nextLoop_remTokens h 0 0), fun _ => rfl⟩

/-- … and so does every line on which the parser sees no token (blank, whitespace only) -/
theorem blank_line_codeless (line : Line) (h : Parse.Blank line.tokens) : CodeLess line :=
  ⟨[], Parse.parse_blank _ _ h, fun _ => rfl⟩

/-- compiling a code-less line `n` into any program: one entry `n ↦ (|ops|, |data|)`; `ops`, `data`,
    `unlinked`, `whiles`, the label counter and the errors are untouched -/
theorem codeless_line_adds_only_its_entry (p : Program) (r : Line) (n : Nat) (hn : r.number = some n)
    (hc : CodeLess r) :
    p.codegenLine r = { p.withSym (n : Int) (p.link.ops.size, p.link.data.size) with lineNumber := some n } := by
  obtain ⟨ast, hp, hg⟩ := hc
  rw [hn] at hp
  rw [codegenLine_numbered p r n hn]
  unfold genNumbered genAst startLine
  rw [hp]
  dsimp only
  rw [hg]
  simp only [List.map_nil, List.append_nil]
  rfl

/-- **layout_invariance** (insertion before a further line).  `pre ++ r :: post` is an ascending
    listing, `r` code-less, `post` not empty, and the program without `r` has no pending reference
    to `r`'s number (`NoRef`; see `noRef_of_clean`).  Then the compiled and linked programs are
    equal except that the symbol table has the additional entry of `r`, and every code address
    belongs to the same line in both. -/
theorem layout_invariance (pre post : List Line) (r : Line) (rn : Nat) (hl : Listed (pre ++ r :: post))
    (hr : r.number = some rn) (hc : CodeLess r) (hne : post ≠ []) (href : NoRef rn (pre ++ post)) :
    compile (pre ++ r :: post) = (compile (pre ++ post)).withSym (rn : Int) (endOf pre) ∧
    ∀ a, (compile (pre ++ r :: post)).link.lineNumberFor a = (compile (pre ++ post)).link.lineNumberFor a := by
  obtain ⟨hpre, hpost, hrn, -, hgt, -⟩ := hl.split hr
  have hrn0 := Int.natCast_nonneg rn
  have hrn1 := natCast_ne_mark hrn
  cases post with
  | nil => exact absurd rfl hne
  | cons hd tl =>
    obtain ⟨m, hm⟩ := hpost hd List.mem_cons_self
    obtain ⟨hm1, hm2⟩ := hgt hd List.mem_cons_self m hm
    have hnum := hl.remove.isNumbered
    have hk := codegenLines_no_key (pre ++ hd :: tl) hnum rn (hl.no_key hr)
    have hs := fresh_sorted (pre ++ hd :: tl) hnum
    have hent := List.mem_of_lookup (hl.remove.lookup hm)
    have hrm : (rn : Int) < (m : Int) := by exact_mod_cast hm1
    have hpost' : ∀ l ∈ hd :: tl, ∃ n : Nat, l.number = some n ∧ (n : Symbol) ≠ (rn : Int) := fun l h =>
      (hpost l h).imp fun n hn => ⟨hn, fun e => hl.unique hr l h (hn.trans (congrArg some (Int.ofNat_inj.1 e)))⟩
    -- `r` only enters its number; the line number it leaves behind is overwritten by `hd`
    have hstate : ({} : Program).codegenLines (pre ++ r :: hd :: tl) =
        (({} : Program).codegenLines (pre ++ hd :: tl)).withSym (rn : Int) (endOf pre) := by
      rw [codegenLines_append, codegenLines_cons, codeless_line_adds_only_its_entry _ r rn hr hc, codegenLines_cons,
        codegenLine_lineNumber _ _ hd m hm, ← codegenLines_cons,
        codegenLines_withSym (hd :: tl) _ hrn0 _ hpost' _ (codegenLines_syms pre hpre {} (Int.le_refl 0)).cur,
        ← codegenLines_append]
      rfl
    -- the entry of `hd` has the address of the new one, so the new entry never decides the line of an address
    have hlnf : ∀ a, ((({} : Program).codegenLines (pre ++ hd :: tl)).link.withSym (rn : Int) (endOf pre)).lineNumberFor a =
        (({} : Program).codegenLines (pre ++ hd :: tl)).link.lineNumberFor a :=
      fun a => lineNumberFor_withSym_of_masked hs hk a fun ha => ⟨_, hent, Int.natCast_nonneg m, hrm, ha⟩
    have hcomp : compile (pre ++ r :: hd :: tl) = (compile (pre ++ hd :: tl)).withSym (rn : Int) (endOf pre) := by
      unfold compile
      rw [hstate]
      apply linkProg_withSym _ _ hrn0 hrn1
      · rw [hasLineAtEnd_withSym _ _ _ hk]
        show (((endOf pre).1 == (({} : Program).codegenLines (pre ++ hd :: tl)).link.ops.size) || _) = _
        cases hsz : ((endOf pre).1 == (({} : Program).codegenLines (pre ++ hd :: tl)).link.ops.size) with
        | false => rfl
        | true => exact (Bool.true_or _).trans (List.any_eq_true.2 ⟨_, hent, hsz⟩).symm
      · exact pend_eq_linkWhiles _ ▸ href
      · exact .inl hlnf
    -- after linking the lines are those of the compile state below `directAddress`, which has not moved
    refine ⟨hcomp, fun a => ?_⟩
    rw [compile_lineNumberFor _ hl, compile_lineNumberFor _ hl.remove, hstate, hcomp, withSym_directAddress, withSym_link,
      hlnf a]

/-- field by field: same code, same data, same diagnostics, same start of the direct segment; every
    symbol other than `rn` has its old entry -/
theorem layout_invariance_fields (pre post : List Line) (r : Line) (rn : Nat) (hl : Listed (pre ++ r :: post))
    (hr : r.number = some rn) (hc : CodeLess r) (hne : post ≠ []) (href : NoRef rn (pre ++ post)) :
    (compile (pre ++ r :: post)).link.ops = (compile (pre ++ post)).link.ops ∧
    (compile (pre ++ r :: post)).link.data = (compile (pre ++ post)).link.data ∧
    (compile (pre ++ r :: post)).indirectErrors = (compile (pre ++ post)).indirectErrors ∧
    (compile (pre ++ r :: post)).errors = (compile (pre ++ post)).errors ∧
    (compile (pre ++ r :: post)).directAddress = (compile (pre ++ post)).directAddress ∧
    (∀ x : Symbol, (compile (pre ++ r :: post)).link.symbols.lookup x =
      if x = (rn : Int) then some (endOf pre) else (compile (pre ++ post)).link.symbols.lookup x) := by
  rw [(layout_invariance pre post r rn hl hr hc hne href).1]
  generalize compile (pre ++ post) = p
  exact ⟨rfl, rfl, rfl, rfl, rfl, fun x => symInsert_lookup _ _ _ x⟩

/-- the entry of the inserted line carries the address of the code of the line that follows -/
theorem inserted_line_points_to_next (pre tl : List Line) (r hd : Line) (rn m : Nat)
    (hl : Listed (pre ++ r :: hd :: tl)) (hr : r.number = some rn) (hc : CodeLess r) (hm : hd.number = some m)
    (href : NoRef rn (pre ++ hd :: tl)) :
    (compile (pre ++ r :: hd :: tl)).link.symbols.lookup (rn : Int) =
      (compile (pre ++ r :: hd :: tl)).link.symbols.lookup (m : Int) ∧
    (compile (pre ++ r :: hd :: tl)).link.symbols.lookup (m : Int) =
      (compile (pre ++ hd :: tl)).link.symbols.lookup (m : Int) := by
  have hm1 := ((hl.split hr).above hd List.mem_cons_self m hm).1
  -- both numbers are found with the end of `pre` as address
  have h3 := hl.remove.compile_lookup hm
  rw [(layout_invariance pre (hd :: tl) r rn hl hr hc (List.cons_ne_nil _ _) href).1]
  show (symInsert (rn : Int) (endOf pre) _).lookup (rn : Int) = (symInsert (rn : Int) (endOf pre) _).lookup (m : Int) ∧
    (symInsert (rn : Int) (endOf pre) _).lookup (m : Int) = _
  rw [Link.symInsert_lookup, Link.symInsert_lookup, if_pos rfl,
    if_neg (fun e => absurd (show m = rn by exact_mod_cast e) (by omega)), h3]
  exact ⟨rfl, rfl⟩

/-- a listing that compiles without errors has no reference to a number it does not contain, so
    for such listings `NoRef` is no extra hypothesis -/
theorem noRef_of_clean (ls : List Line) (hnum : Numbered ls) (n : Nat) (hn : ∀ l ∈ ls, l.number ≠ some n)
    (h : (compile ls).indirectErrors = []) : NoRef n ls :=
  Program.noRef_of_clean ls hnum n hn h

/-- appending a code-less line, general form: an `End` is forced behind the code, the entry of
    the new line points at it -/
theorem layout_invariance_append_general (pre : List Line) (r : Line) (rn : Nat) (hl : Listed (pre ++ [r]))
    (hr : r.number = some rn) (hc : CodeLess r) (href : NoRef rn pre)
    (hclean : (pushEndP (({} : Program).codegenLines pre)).link.link.2 = []) :
    compile (pre ++ [r]) =
      ((markDirect (resolve (pushEndP (({} : Program).codegenLines pre)))).withSym (rn : Int) (endOf pre)).setLN
        (some rn) := by
  obtain ⟨hpre, -, hrn, -⟩ := hl.split hr
  have hk := codegenLines_no_key pre hpre rn (hl.unique_pre hr)
  have hk1 := natCast_ne_mark hrn
  unfold compile
  rw [codegenLines_append, codegenLines_cons, codeless_line_adds_only_its_entry _ r rn hr hc]
  show (((({} : Program).codegenLines pre).withSym (rn : Int) (endOf pre)).setLN (some rn)).linkProg = _
  rw [linkProg_setLN, linkProg_eq]
  -- the new entry sits at the end of the code, so `ensureEnd` pushes the `End`
  have hE : ensureEnd ((({} : Program).codegenLines pre).withSym (rn : Int) (endOf pre)) =
      (pushEndP (({} : Program).codegenLines pre)).withSym (rn : Int) (endOf pre) := by
    rw [ensureEnd_eq, pushEndP_withSym, if_neg]
    rintro ⟨-, h⟩
    change (((({} : Program).codegenLines pre).link.withSym (rn : Int) (endOf pre)).hasLineAtEnd = false) at h
    rw [hasLineAtEnd_withSym _ _ _ hk, show ((endOf pre).1 == (({} : Program).codegenLines pre).link.ops.size) = true
      from beq_self_eq_true _] at h
    cases h
  rw [hE, resolve_withSym, markDirect_withSym _ _ _ hk1]
  apply link_withSym _ _ (Int.natCast_nonneg rn)
  · rw [pushEndP_link, pend_withEnd]
    exact pend_eq_linkWhiles _ ▸ href
  · exact .inr hclean

/-- appending a code-less line to an error-free listing whose code does not end with `END`, or has
    a symbol at its very end (`hasLineAtEnd`, since fix D20 any symbol: a code-less last line, or a
    local label as in `10 IF 0 THEN END`): only the entry (and the compile-time field `lineNumber`) -/
theorem layout_invariance_append (pre : List Line) (r : Line) (rn : Nat) (hl : Listed (pre ++ [r]))
    (hr : r.number = some rn) (hc : CodeLess r) (hclean : (compile pre).indirectErrors = [])
    (hE : ¬ ((({} : Program).codegenLines pre).link.ops.back? = some .end ∧
            (({} : Program).codegenLines pre).link.hasLineAtEnd = false)) :
    compile (pre ++ [r]) = ((compile pre).withSym (rn : Int) (endOf pre)).setLN (some rn) := by
  have hpre := (hl.split hr).preNum
  have hee : ensureEnd (({} : Program).codegenLines pre) = pushEndP (({} : Program).codegenLines pre) := by
    rw [ensureEnd_eq, if_neg hE]
  have hcl := link_clean_of_compile_clean pre hpre hclean
  rw [hee] at hcl
  rw [layout_invariance_append_general pre r rn hl hr hc
    (noRef_of_clean pre hpre rn (hl.unique_pre hr) hclean) hcl]
  unfold compile
  rw [linkProg_eq, hee]

/-- the D16 case: code ending with `END` and no symbol at the end of the code (nothing can branch
    behind the `END`).  One more `End`, `directAddress` one later (`bump`), and the entry -/
theorem layout_invariance_append_D16 (pre : List Line) (r : Line) (rn : Nat) (hl : Listed (pre ++ [r]))
    (hr : r.number = some rn) (hc : CodeLess r) (hclean : (compile pre).indirectErrors = [])
    (hE : (({} : Program).codegenLines pre).link.ops.back? = some .end ∧
            (({} : Program).codegenLines pre).link.hasLineAtEnd = false)
    (hroom : (({} : Program).codegenLines pre).link.ops.size < Gen.stackMaxLen) :
    compile (pre ++ [r]) = ((bump (compile pre)).withSym (rn : Int) (endOf pre)).setLN (some rn) ∧
    (bump (compile pre)).link.ops = (compile pre).link.ops.push .end ∧
    (bump (compile pre)).link.data = (compile pre).link.data ∧
    (bump (compile pre)).directAddress = (compile pre).directAddress + 1 ∧
    (bump (compile pre)).indirectErrors = (compile pre).indirectErrors := by
  refine ⟨?_, bump_fields _⟩
  have hpre := (hl.split hr).preNum
  have hee : ensureEnd (({} : Program).codegenLines pre) = (({} : Program).codegenLines pre) := by
    rw [ensureEnd_eq, if_pos hE]
  have hcl := link_clean_of_compile_clean pre hpre hclean
  rw [hee] at hcl
  have hcl' : (pushEndP (({} : Program).codegenLines pre)).link.link.2 = [] := by
    rw [pushEndP_link, link_withEnd]; exact hcl
  have hd0 := fresh_directAddress pre hpre
  rw [layout_invariance_append_general pre r rn hl hr hc
    (noRef_of_clean pre hpre rn (hl.unique_pre hr) hclean) hcl']
  have hC : compile pre = startDirect (resolve (({} : Program).codegenLines pre)) := by
    unfold compile
    rw [linkProg_fresh _ hd0, hee]
  -- resolving does not look at the `End` behind the code
  have hR : resolve { ({} : Program).codegenLines pre with link := (({} : Program).codegenLines pre).link.withEnd } =
      { resolve (({} : Program).codegenLines pre) with link := (resolve (({} : Program).codegenLines pre)).link.withEnd } := by
    generalize ({} : Program).codegenLines pre = P
    rw [resolve_eq, resolve_eq P]
    show (if P.errors.isEmpty = true then
        ({ P with link := P.link.withEnd.link.1, errors := P.link.withEnd.link.2 } : Program)
      else { P with link := P.link.withEnd.link.1 }) = _
    rw [link_withEnd]
    split <;> rfl
  rw [pushEndP_of_room _ hroom, hR, markDirect_eq, if_pos ((resolve_directAddress _).trans hd0),
    startDirect_withEnd, ← hC]

/-- **finding**: after appending, the final `End` (at the end of the listing's code) is attributed
    to the appended line — `lineNumberFor` there is the new number, not the last line with code -/
theorem appended_line_owns_final_end (pre : List Line) (r : Line) (rn : Nat) (hl : Listed (pre ++ [r]))
    (hr : r.number = some rn) (hc : CodeLess r) (href : NoRef rn pre)
    (hclean : (pushEndP (({} : Program).codegenLines pre)).link.link.2 = []) :
    (compile (pre ++ [r])).link.lineNumberFor (endOf pre).1 = some rn ∧
    (compile (pre ++ [r])).link.ops[(endOf pre).1]? = some .end := by
  obtain ⟨hpre, -, hrn, hlt, -⟩ := hl.split hr
  have hgen := layout_invariance_append_general pre r rn hl hr hc href hclean
  constructor
  · -- in the compile state the new entry sits at the end of the code and is the greatest key; the `End` behind it
    -- lies below `directAddress`
    have hstate : (({} : Program).codegenLines (pre ++ [r])).link =
        (({} : Program).codegenLines pre).link.withSym (rn : Int) (endOf pre) := by
      rw [codegenLines_append, codegenLines_cons, codeless_line_adds_only_its_entry _ r rn hr hc]
      rfl
    have hda : (compile (pre ++ [r])).directAddress = (endOf pre).1 + 1 := by
      rw [hgen, setLN_directAddress, withSym_directAddress]
      exact forced_directAddress _ (fresh_directAddress pre hpre)
    rw [compile_lineNumberFor _ hl, if_pos (by rw [hda]; exact Nat.lt_succ_self _), hstate]
    refine lineNumberFor_withSym_at (fresh_sorted pre hpre) hrn
      (codegenLines_no_key pre hpre rn (hl.unique_pre hr)) _ (Nat.le_refl _) fun p hp h0 _ => ?_
    obtain ⟨l, hl', hn⟩ := codegenLines_key pre hpre p hp h0
    rw [← Int.toNat_of_nonneg h0]
    exact_mod_cast hlt l hl' _ hn
  · rw [hgen, setLN_link, withSym_link, withSym_ops, (markDirect_fields _).1, resolve_link, pushEndP_link, link_withEnd]
    unfold endOf
    rw [← (link_cleans (({} : Program).codegenLines pre).link).2.2]
    exact Array.getElem?_push_size ..

/-- the two compiled programs cannot be told apart by a running program -/
theorem layout_invariance_progSim (pre post : List Line) (r : Line) (rn : Nat) (hl : Listed (pre ++ r :: post))
    (hr : r.number = some rn) (hc : CodeLess r) (hne : post ≠ []) (href : NoRef rn (pre ++ post)) :
    ProgSim (compile (pre ++ post)) (compile (pre ++ r :: post)) := by
  obtain ⟨h1, h2⟩ := layout_invariance pre post r rn hl hr hc hne href
  rw [h1] at h2 ⊢
  exact progSim_withSym _ _ _ h2

/-- … nor can the programs the interpreter holds after a direct line (`runProg`: the listing, the
    direct line, linked — what `enterDirect` builds); the direct lines may differ -/
theorem layout_invariance_progSim_run (pre post : List Line) (r : Line) (rn : Nat)
    (hl : Listed (pre ++ r :: post)) (hr : r.number = some rn) (hc : CodeLess r) (hne : post ≠ [])
    (href : NoRef rn (pre ++ post)) (d d' : Line) (hd : d.number = none) (hd' : d'.number = none) :
    ProgSim (runProg (pre ++ post) d) (runProg (pre ++ r :: post) d') :=
  (((progSim_runProg (pre ++ post) d hd).symm.trans (progSim_base_compile (pre ++ post)).symm).trans
    (layout_invariance_progSim pre post r rn hl hr hc hne href)).trans
    ((progSim_base_compile (pre ++ r :: post)).trans (progSim_runProg (pre ++ r :: post) d' hd'))

/-- **layout_invariance, running program**: a machine state holding the program of the listing
    and the same state holding the program with the code-less line inserted take the same step —
    same result (continue / event / error, TRON trace included), and the successor states are again
    related by `Runtime.Sim` (equal on what a running program observes below `directAddress`; free
    are the symbol table up to `lineNumberFor`, the code from `directAddress` on, `cont`/`contPc`,
    the compile-time fields and `tr` while tracing is off).  `InProg`: `pc` below `directAddress`
    and the instruction is not `CONT`. -/
theorem layout_invariance_step (pre post : List Line) (r : Line) (rn : Nat) (hl : Listed (pre ++ r :: post))
    (hr : r.number = some rn) (hc : CodeLess r) (hne : post ≠ []) (href : NoRef rn (pre ++ post))
    (d d' : Line) (hd : d.number = none) (hd' : d'.number = none)
    (env : Env) (h : Bool) (s : Runtime) (hs : s.program = runProg (pre ++ post) d)
    (hin : Runtime.InProg true s) :
    ((Runtime.step env h).run.run { s with program := runProg (pre ++ r :: post) d' }).1 =
      ((Runtime.step env h).run.run s).1 ∧
    Runtime.Sim true ((Runtime.step env h).run.run s).2
      ((Runtime.step env h).run.run { s with program := runProg (pre ++ r :: post) d' }).2 :=
  Runtime.step_sim env h
    ((layout_invariance_progSim_run pre post r rn hl hr hc hne href d d' hd hd').sim true s hs) hin

/-- … and so do whole slices of `n` instructions, as long as the program stays below
    `directAddress`: same event or error, same number of instructions executed -/
theorem layout_invariance_slice (pre post : List Line) (r : Line) (rn : Nat) (hl : Listed (pre ++ r :: post))
    (hr : r.number = some rn) (hc : CodeLess r) (hne : post ≠ []) (href : NoRef rn (pre ++ post))
    (d d' : Line) (hd : d.number = none) (hd' : d'.number = none)
    (env : Env) (h : Bool) (n : Nat) (s : Runtime) (hs : s.program = runProg (pre ++ post) d)
    (hstay : Runtime.StaysInProg true env h n s) :
    (Runtime.sliceRun env h n { s with program := runProg (pre ++ r :: post) d' }).1 =
      (Runtime.sliceRun env h n s).1 ∧
    (Runtime.sliceRun env h n { s with program := runProg (pre ++ r :: post) d' }).2.2 =
      (Runtime.sliceRun env h n s).2.2 ∧
    Runtime.Sim true (Runtime.sliceRun env h n s).2.1
      (Runtime.sliceRun env h n { s with program := runProg (pre ++ r :: post) d' }).2.1 :=
  Runtime.sliceRun_sim env h n
    ((layout_invariance_progSim_run pre post r rn hl hr hc hne href d d' hd hd').sim true s hs) hstay

/-- every statement fragment the generator builds keeps its symbol addresses within its code
    (end included); expression fragments have no symbols -/
theorem fragments_symbols_bounded (ast : List Stmt) :
    ∀ x ∈ (Codegen.acceptStmts ast {}).g.stmt.toList, x.2.SymBounded :=
  Codegen.fragments_symBounded ast

/-- **no branch can fall into the direct line's code**: the table with which the linker resolves
    every reference of the listing (`linkOne` patches an operand with `symbols.lookup sym`; the
    table is that of the compile state after `ensureEnd` and does not change during the pass) has
    all its code addresses — line numbers and local labels — strictly below `directAddress` -/
theorem branch_targets_inside_program (ls : List Line) (hnum : Numbered ls) (sym : Symbol) (o d : Nat)
    (h : (ensureEnd (({} : Program).codegenLines ls)).link.symbols.lookup sym = some (o, d)) :
    o < (compile ls).directAddress := by
  rw [compile_directAddress ls hnum]
  exact ensureEnd_symbols_lt _ (codegenLines_symBounded ls hnum {} SymBounded.empty) (sym, (o, d)) (List.mem_of_lookup h)

/-- in the linked program every line starts strictly below `directAddress`; only the mark of the
    direct segment (key 65530) sits at it -/
theorem line_addresses_inside_program (ls : List Line) (hnum : Numbered ls) (p : Symbol × (Nat × Nat))
    (hp : p ∈ (compile ls).link.symbols) (hk : p.1 ≠ (Gen.maxLineNumber : Int) + 1) :
    p.2.1 < (compile ls).directAddress := by
  rw [compile_symbols ls hnum] at hp
  rcases mem_symInsert hp with e | hp
  · rw [e] at hk; exact absurd rfl hk
  · rw [compile_directAddress ls hnum]
    apply ensureEnd_symbols_lt _ (codegenLines_symBounded ls hnum {} SymBounded.empty) p
    rw [(ensureEnd_symbols _).1]
    exact (List.mem_filter.1 hp).1

/-- an empty statement (`:` with nothing before it) is not represented in the AST: the statement
    loop consumes the colon and goes on with the same accumulator — so it generates no fragment -/
theorem empty_statement_not_in_ast (fuel : Nat) (ec : Bool) (acc : List Stmt) (s : Parse.PState)
    (ts' : List Token) (rem' : Bool) (cs' ce' : Nat) (hp : s.peeked = none)
    (hn : Parse.nextLoop s.toks s.rem s.cs s.ce = (some .colon, ts', rem', cs', ce')) :
    (Parse.statements (fuel + 1) ec acc).run s =
      (Parse.statements fuel false acc).run { s with toks := ts', rem := rem', cs := cs', ce := ce' } := by
  open _root_.Basic.Parse in (
  obtain ⟨toks, peeked, rem, cs, ce⟩ := s
  dsimp only at hp hn
  subst hp
  simp [statements, peek, next, hn])

/-- `::` is no statement at all, `:END::` is the one statement `END` -/
theorem empty_statement_examples (n : Option Nat) :
    Parse.parse n [.colon, .colon] = .ok [] ∧
    Parse.parse n [.colon, .word .end, .colon, .colon] = .ok [.end (1, 4)] :=
  ⟨Parse.parse_colons n, Parse.parse_colon_end n⟩

/-- a numbered line of empty statements only is code-less -/
example : CodeLess ⟨some 20, [.colon, .colon]⟩ := ⟨[], Parse.parse_colons _, fun _ => rfl⟩

/-! non-vacuity

  The kernel cannot evaluate the parser on numerals (`Float32.ofNat` is opaque, and every line
  number operand of GOTO/GOSUB/THEN/… is a `Single` literal), so the concrete programs branch
  through WHILE/WEND (references to local labels, resolved to code addresses by the same linker
  pass) and `END`.  For `10 GOTO 30 / 30 END` vs `10 GOTO 30 / 20 REM / 30 END` the compiled
  model (`#eval`, not kernel-checked) gives `ops=[Jump:1;End]` for both, symbols
  `{10:0/0,30:1/0,65530:2/0}` vs `{10:0/0,20:1/0,30:1/0,65530:2/0}`. -/

def exW : Line := ⟨some 10, [.word .while, .whitespace 1, .ident (.plain ['A'])]⟩
def exR : Line := ⟨some 20, [.word .rem1, .unknown " layout".toList]⟩
def exE : Line := ⟨some 30, [.word .wend]⟩
def exEnd : Line := ⟨some 10, [.word .end]⟩
def exCls : Line := ⟨some 10, [.word .cls]⟩

theorem exR_codeless : CodeLess exR := rem_line_codeless exR (.rem _ _ rfl)

/-- the compile state of `10 WHILE A / 30 WEND` -/
theorem exState : ({} : Program).codegenLines [exW, exE] =
    { lineNumber := some 30,
      link := { currentSymbol := -2, ops := #[.push ['A'], .ifNot 0, .jump 0],
                symbols := [(-2, (3, 0)), (-1, (0, 0)), (10, (0, 0)), (30, (2, 0))],
                whiles := [(true, (0, 5), 1, -1), (false, (0, 4), 2, -2)] } } := by
  unfold codegenLines
  simp only [List.foldl_cons, List.foldl_nil, exW, exE, codegenLine_of_parse _ _ _ _ (Parse.parse_while_a _),
    codegenLine_of_parse _ _ _ _ (Parse.parse_wend _)]
  decide +kernel

/-- the end of the code and data of `10 WHILE A` -/
theorem exEndOf : endOf [exW] = (2, 0) := by
  unfold endOf codegenLines
  simp only [List.foldl_cons, List.foldl_nil, exW, codegenLine_of_parse _ _ _ _ (Parse.parse_while_a _)]
  decide +kernel

theorem exNoRef : NoRef 20 [exW, exE] := by
  unfold NoRef
  rw [exState]
  decide +kernel

theorem exListed : Listed ([exW] ++ exR :: [exE]) := listed_of_check _ (by decide)

/-- `10 WHILE A / 20 REM layout / 30 WEND` compiles to the program of `10 WHILE A / 30 WEND` plus
    the entry `20 ↦ (2, 0)` — the hypotheses of `layout_invariance` are satisfiable -/
example : compile [exW, exR, exE] = (compile [exW, exE]).withSym 20 (endOf [exW]) :=
  (layout_invariance [exW] [exE] exR 20 exListed rfl exR_codeless (List.cons_ne_nil _ _) exNoRef).1

/-- … and, computed independently: the linked code with both branches resolved, and the tables -/
example : (compile [exW, exE]).link.ops = #[.push ['A'], .ifNot 3, .jump 0, .end] ∧
    (compile [exW, exE]).link.symbols = [(10, (0, 0)), (30, (2, 0)), (65530, (4, 0))] ∧
    (compile [exW, exE]).indirectErrors = [] := by
  unfold compile
  rw [exState]
  decide +kernel

example : (compile [exW, exR, exE]).link.ops = #[.push ['A'], .ifNot 3, .jump 0, .end] ∧
    (compile [exW, exR, exE]).link.symbols = [(10, (0, 0)), (20, (2, 0)), (30, (2, 0)), (65530, (4, 0))] := by
  have h := (layout_invariance [exW] [exE] exR 20 exListed rfl exR_codeless (List.cons_ne_nil _ _) exNoRef).1
  change compile [exW, exR, exE] = (compile [exW, exE]).withSym 20 (endOf [exW]) at h
  rw [h, exEndOf]
  unfold compile
  rw [exState]
  decide +kernel

theorem exEndState : ({} : Program).codegenLines [exEnd] =
    { lineNumber := some 10, link := { ops := #[.end], symbols := [(10, (0, 0))] } } := by
  unfold codegenLines
  simp only [List.foldl_cons, List.foldl_nil, exEnd, codegenLine_of_parse _ _ _ _ (Parse.parse_end _)]
  decide +kernel

theorem exClsState : ({} : Program).codegenLines [exCls] =
    { lineNumber := some 10, link := { ops := #[.cls], symbols := [(10, (0, 0))] } } := by
  unfold codegenLines
  simp only [List.foldl_cons, List.foldl_nil, exCls, codegenLine_of_parse _ _ _ _ (Parse.parse_cls _)]
  decide +kernel

/-- D16: `10 END` compiles to `#[End]`; `10 END / 20 REM` to `#[End, End]`, direct segment at 2 -/
example : compile [exEnd, exR] = ((bump (compile [exEnd])).withSym 20 (endOf [exEnd])).setLN (some 20) :=
  (layout_invariance_append_D16 [exEnd] exR 20 (listed_of_check _ (by decide)) rfl exR_codeless
    (by unfold compile; rw [exEndState]; decide +kernel)
    (by rw [exEndState]; decide +kernel)
    (by rw [exEndState]; decide +kernel)).1

example : (compile [exEnd]).link.ops = #[.end] ∧ (compile [exEnd]).directAddress = 1 := by
  unfold compile; rw [exEndState]; decide +kernel

example : (bump (compile [exEnd])).link.ops = #[.end, .end] ∧ (bump (compile [exEnd])).directAddress = 2 := by
  unfold compile; rw [exEndState]; decide +kernel

/-- no D16 `End` for `10 CLS` + `20 REM`: same code `#[Cls, End]` … -/
example : compile [exCls, exR] = ((compile [exCls]).withSym 20 (endOf [exCls])).setLN (some 20) :=
  layout_invariance_append [exCls] exR 20 (listed_of_check _ (by decide)) rfl exR_codeless
    (by unfold compile; rw [exClsState]; decide +kernel)
    (by rw [exClsState]; decide +kernel)

/-- … but the final `End` (address 1) changes its line from 10 to 20: the TRON-visible difference -/
example : (compile [exCls]).link.lineNumberFor 1 = some 10 ∧ (compile [exCls]).link.ops[1]? = some .end := by
  unfold compile; rw [exClsState]; decide +kernel

example : (compile [exCls, exR]).link.lineNumberFor 1 = some 20 ∧ (compile [exCls, exR]).link.ops[1]? = some .end := by
  have h := appended_line_owns_final_end [exCls] exR 20 (listed_of_check _ (by decide)) rfl exR_codeless
    (by unfold NoRef; rw [exClsState]; decide +kernel)
    (by rw [exClsState]; decide +kernel)
  have e : (endOf [exCls]).1 = 1 := by unfold endOf; rw [exClsState]; rfl
  rw [e] at h
  exact h

/-! fix D20: `10 IF 0 THEN END` — the ELSE label sits at the end of the code, so the closing `End`
    is there without any REM, and appending `20 REM` does not change the code -/

def exIf : Line := ⟨some 10, [.word .if, .whitespace 1, .literal (.integer ['0']), .whitespace 1, .word .then,
      .whitespace 1, .word .end]⟩

theorem exIfState : ({} : Program).codegenLines [exIf] =
    { lineNumber := some 10,
      link := { currentSymbol := -1, ops := #[.literal (.int 0), .ifNot 0, .end],
                symbols := [(-1, (3, 0)), (10, (0, 0))], unlinked := [(1, ((0, 2), -1))] } } := by
  unfold codegenLines
  simp only [List.foldl_cons, List.foldl_nil, exIf, codegenLine_of_parse _ _ _ _ (Parse.parse_if0_end _)]
  decide +kernel

/-- the label `-1` is at address 3 = end of the code: `hasLineAtEnd`, although no *line* is -/
example : (({} : Program).codegenLines [exIf]).link.hasLineAtEnd = true := by rw [exIfState]; decide +kernel

/-- the closing `End` (address 3, the target of the `IfNot`) is present; `directAddress = 4` -/
example : (compile [exIf]).link.ops = #[.literal (.int 0), .ifNot 3, .end, .end] ∧
    (compile [exIf]).directAddress = 4 ∧ (compile [exIf]).indirectErrors = [] := by
  unfold compile; rw [exIfState]; decide +kernel

/-- … so appending `20 REM` changes only the table (not the D16 case any more) -/
example : compile [exIf, exR] = ((compile [exIf]).withSym 20 (endOf [exIf])).setLN (some 20) :=
  layout_invariance_append [exIf] exR 20 (listed_of_check _ (by decide)) rfl exR_codeless
    (by unfold compile; rw [exIfState]; decide +kernel)
    (by rw [exIfState]; decide +kernel)

/-- `branch_targets_inside_program` on the example: the ELSE label resolves to 3 < 4 -/
example : (ensureEnd (({} : Program).codegenLines [exIf])).link.symbols.lookup (-1) = some (3, 0) := by
  rw [exIfState]; decide +kernel

end Thm.C20
end Basic

import BasicModel.Thm.Tables
import BasicModel.Lemmas.LexList
import BasicModel.Lemmas.LexPost
import BasicModel.Lemmas.LexStable
import BasicModel.Lemmas.LexTrail
import BasicModel.Lemmas.LexAll
import BasicModel.Lemmas.LexAllPayload
import BasicModel.Lemmas.LexEval
import BasicModel.Lemmas.LiteralTy
/-
  C05 — listing is faithful (lexer part): `Line::new(s).to_string()` re-lexes to the same line.

  * per-token round trips `lex t.text = (none, [t])` for words, operators, punctuation, closed string
    literals, radix literals, canonical names, and `rawTokens nm.text = [nm.token]` for canonical
    numerals (a numeral at the start of a line is a line number, so the statement is about the
    iterator);
  * `lex_print_canonical`: a canonical token list is a fixed point of print-then-lex, with and
    without line number; `relist_idempotent_partial` follows for every source line whose first
    listing is canonical (PARTIAL w.r.t. the property's quantifier: not every string lists
    canonically — see the three proved counter-examples at the end);
  * payload preservation: string-literal text verbatim, remark text verbatim up to trailing blanks
    (after `REM` only when the text does not start with a letter, digit or type suffix — the
    known finding K4 is `remark_glued_to_REM`);
  * for EVERY source string: the lexer's output is a `Chain` (`lex_output_chain`), and its listing is a
    fixed point of lex-then-list unless one of three characterised clashes occurs
    (`relist_fixed_point_all_partial`); payload preservation for every string
    (`string_payload_preserved_all`, `remark_preserved_apostrophe_all_partial`).
-/
namespace Basic
namespace Thm
namespace C05
open Lex

/-- the sixteen one-character tokens -/
def oneCharTokens : List Token :=
  [.lparen, .rparen, .comma, .colon, .semicolon, .word .print, .word .rem2, .operator .caret,
   .operator .multiply, .operator .divide, .operator .divideInt, .operator .plus, .operator .minus,
   .operator .equal, .operator .less, .operator .greater]

/-- whatever `match_minutia` recognises prints as the text it was given, except `?`, which prints as PRINT -/
theorem minutia_text (s : Str) (t : Token) (h : matchMinutia s = some t) :
    t.text = s ∨ (s = ['?'] ∧ t = .word .print) := by
  obtain ⟨c, rfl, hm⟩ := matchMinutia_some s t h
  exact (by decide +kernel : ∀ p ∈ minutiaTable, p.2.text = [p.1] ∨ ([p.1] = ['?'] ∧ p.2 = .word .print)) _ hm

example : matchMinutia ['<'] = some (.operator .less) := rfl

/-- every one-character token other than PRINT is recognised from its own text -/
theorem text_minutia : ∀ t ∈ oneCharTokens, t = .word .print ∨ matchMinutia t.text = some t := by
  decide

example : matchMinutia (Token.text .semicolon) = some .semicolon := by decide

/-- no two one-character tokens share a text -/
theorem oneChar_text_injective : (oneCharTokens.map Token.text).Nodup := by decide +kernel

example : oneCharTokens.length = 16 := rfl

theorem keyword_roundtrip (p : Str × Token) (hp : p ∈ keywords) : lex p.1 = (none, [p.2]) := by
  have h0 : StartsPlain p.1 := fun c hc =>
    have hc := (keywords_alpha p hp).2.1 c (List.mem_of_mem_head? hc)
    ⟨not_isDigit_of_isAlpha c hc, not_isWs_of_isAlpha c hc⟩
  have hl := lexFrom_keyword_na p hp [] (fun c hc => nomatch hc)
  rw [List.append_nil, lexFrom_nil] at hl
  rw [lex_startsPlain p.1 h0, hl]
  have hk := (keywords_tok p hp).1
  cases hp2 : p.2 <;> rw [hp2] at hk <;> first | cases hk | exact congrArg _ (postPasses_single _ (by simp) (by simp))

/-- every word re-lexes to itself from its printed form (`?` is not printed: PRINT is) -/
theorem word_roundtrip (w : Word) : lex w.text = (none, [.word w]) := by
  by_cases h : w = .rem2
  · subst h; decide +kernel
  · exact keyword_roundtrip (w.text, .word w) (word_in_keywords w h)

example : lex "RESTORE".toList = (none, [.word .restore]) := word_roundtrip .restore

theorem operator_roundtrip (o : Operator) : lex o.text = (none, [.operator o]) := by
  by_cases h : o.isWord = true
  · exact keyword_roundtrip (o.text, .operator o) (operator_in_keywords o h)
  · cases o <;> first | exact absurd rfl h | decide +kernel

example : lex "<=".toList = (none, [.operator .lessEqual]) := operator_roundtrip .lessEqual

theorem punctuation_roundtrip :
    ∀ t ∈ [Token.lparen, .rparen, .comma, .colon, .semicolon], lex t.text = (none, [t]) := by
  decide +kernel

example : lex [';'] = (none, [.semicolon]) := punctuation_roundtrip .semicolon (by decide)

theorem postPasses_rawOf (t : Token) (hw : ∀ n, t ≠ .whitespace n) (hu : ∀ s, t ≠ .unknown s) :
    postPasses (rawOf t) = [t] := by
  cases t with
  | whitespace n => exact absurd rfl (hw n)
  | unknown s => exact absurd rfl (hu s)
  | operator o => cases o <;> decide
  | _ => exact postPasses_single _ (by intro n; simp) (by intro s; simp)

example : postPasses (rawOf (.operator .notEqual)) = [.operator .notEqual] :=
  postPasses_rawOf _ (by intro n; simp) (by intro s; simp)

/-- THE per-token theorem: a printable token (not a blank run, which `trim_end` removes, and not a
    numeral, which at the start of a line is the line number) re-lexes to itself -/
theorem lex_print_token (t : Token) (hp : Printable t) (hw : ∀ n, t ≠ .whitespace n)
    (hf : Follows t []) (h0 : StartsPlain t.text) : lex t.text = (none, [t]) := by
  have hu : ∀ s, t ≠ .unknown s := by intro s e; subst e; exact hp
  have hc : Canon [t] := by
    refine ⟨?_, by simpa using postPasses_rawOf t hw hu⟩
    unfold CanonRaw
    by_cases h1 : t = .word .rem1
    · simp [h1]
    · by_cases h2 : t = .word .rem2
      · simp [h2]
      · simp only [h1, h2, if_false]
        exact ⟨hp, by simpa [printTokens] using hf, trivial⟩
  have := lex_print_direct [t] hc (by simpa [printTokens] using h0)
  simpa [printLine, printTokens] using this

example : lex "<>".toList = (none, [.operator .notEqual]) :=
  lex_print_token (.operator .notEqual) trivial (by intro n; simp) (by intro h; exact absurd h (by decide))
    (by decide)

theorem string_roundtrip (s : Str) (h : '"' ∉ s) :
    lex (Token.literal (.string s)).text = (none, [.literal (.string s)]) :=
  lex_print_token _ h (by intro n; simp) trivial
    (by intro c hc; simp [Token.text, Literal.text] at hc; subst hc; decide)

example : lex "\"HELLO, WORLD\"".toList = (none, [.literal (.string "HELLO, WORLD".toList)]) :=
  string_roundtrip "HELLO, WORLD".toList (by decide)

theorem hex_roundtrip (ds : List Char) (h : ∀ c ∈ ds, isRadixDigit true c = true) :
    lex (Token.literal (.hex ds)).text = (none, [.literal (.hex ds)]) :=
  lex_print_token _ h (by intro n; simp) (by intro c hc; simp at hc)
    (by intro c hc; simp [Token.text, Literal.text] at hc; subst hc; decide)

example : lex "&HFF".toList = (none, [.literal (.hex "FF".toList)]) :=
  hex_roundtrip "FF".toList (by decide)

theorem octal_roundtrip (ds : List Char) (h : ∀ c ∈ ds, isRadixDigit false c = true) :
    lex (Token.literal (.octal ds)).text = (none, [.literal (.octal ds)]) := by
  refine lex_print_token _ h (by intro n; simp) ⟨by intro c hc; simp at hc, ?_⟩
    (by intro c hc; simp [Token.text, Literal.text] at hc; subst hc; decide)
  intro c hc
  have hd : isRadixDigit false c = true := by
    cases ds with
    | nil => simp at hc
    | cons d ds => simp at hc; subst hc; exact h _ (by simp)
  constructor <;> (intro e; subst e; revert hd; decide)

example : lex "&777".toList = (none, [.literal (.octal "777".toList)]) :=
  octal_roundtrip "777".toList (by decide)

/-- names without embedded reserved words, with optional digits and type suffix, typed in any case -/
theorem name_roundtrip (nm : Name) (h : nm.WF) : lex nm.text = (none, [nm.token]) := by
  obtain ⟨c, cs, e, hc⟩ := nm.text_head h
  have hpp : postPasses [nm.token] = [nm.token] :=
    postPasses_single _ (by intro n; simp only [Name.token]; split <;> simp)
      (by intro s; simp only [Name.token]; split <;> simp)
  have := lexFrom_name nm h [] (fun _ => by intro c hc; simp at hc)
  rw [List.append_nil] at this
  rw [e] at this ⊢
  rw [lex_plain c cs (not_isDigit_of_isAlpha c hc) (not_isWs_of_isAlpha c hc), this]
  simpa using hpp

example : lex "Xy12$".toList = (none, [.ident (.string "XY12$".toList)]) :=
  name_roundtrip ⟨"Xy".toList, "12".toList, some '$'⟩
    ⟨by decide, by decide, by decide, by decide, .of_chars (by decide +kernel)⟩

/-- canonical numerals `d+`, `d*.d*`, with optional exponent and type suffix: the iterator returns
    exactly the token `number()` classifies them as -/
theorem numeral_roundtrip (nm : Numeral) (h : nm.WF) : rawTokens nm.text = [nm.token] := by
  have := lexFrom_numeral nm h [] (fun _ => by intro c hc; simp at hc)
  simpa [rawTokens_eq] using this

example : rawTokens "1.5E+10".toList = [.literal (.single "1.5E+10".toList)] :=
  numeral_roundtrip ⟨"1".toList, some "5".toList, some ⟨'E', ['+'], "10".toList⟩, none⟩
    (by decide)

theorem numeral_roundtrip_in_statement (nm : Numeral) (h : nm.WF) :
    lex ('X' :: '=' :: nm.text) =
      (none, [.ident (.plain ['X']), .operator .equal, nm.token]) := by
  have hx : alphabetic ('X' :: '=' :: nm.text) = ([.ident (.plain ['X'])], '=' :: nm.text) := by
    have := alphabetic_name ⟨['X'], [], none⟩ ⟨by decide, by decide, by decide, by decide, .of_chars (by decide +kernel)⟩
      ('=' :: nm.text) (fun _ => by intro c hc; simp at hc; subst hc; decide)
    simpa [Name.text, Name.token, Name.base, (by decide : upper 'X' = 'X')] using this
  rw [lex_plain 'X' _ (by decide) (by decide), lexFrom_alpha 'X' _ (by decide) _ _ _ hx,
    show ((Token.ident (TIdent.plain ['X']) == Token.word Word.rem1)) = false from by decide,
    lexFrom_minutia_one '=' _ _ rfl,
    show ((Token.operator Operator.equal == Token.word Word.rem2)) = false from by decide]
  have := lexFrom_numeral nm h [] (fun _ => by intro c hc; simp at hc)
  rw [List.append_nil] at this
  rw [this]
  rw [nm.token_eq h]
  exact congrArg _ (postPasses_stable [.ident (.plain ['X']), .operator .equal, .literal _] rfl rfl rfl rfl)

example : lex "X=12345678".toList =
    (none, [.ident (.plain ['X']), .operator .equal, .literal (.double "12345678".toList)]) :=
  numeral_roundtrip_in_statement ⟨"12345678".toList, none, none, none⟩
    (by decide)

/-- `A <= 10` -/
def sampleShort : List Token :=
  [.ident (.plain ['A']), .whitespace 1, .operator .lessEqual, .whitespace 1, .literal (.integer ['1', '0'])]

/-- canonical token lists are fixed points of print-then-lex (direct lines) -/
theorem lex_print_canonical (ts : List Token) (h : Canon ts) (h0 : StartsPlain (printTokens ts)) :
    lex (printLine none ts) = (none, ts) := lex_print_direct ts h h0

example : lex (printLine none [.word .cls]) = (none, [.word .cls]) :=
  lex_print_canonical [.word .cls]
    ⟨⟨trivial, by intro c hc; simp [printTokens] at hc, trivial⟩, by decide⟩ (by decide)

example : lex (printLine (some 65529) [.word .cls]) = (some 65529, [.word .cls]) :=
  lex_print_numbered 65529 (by decide) [.word .cls]
    ⟨⟨trivial, by intro c hc; simp [printTokens] at hc, trivial⟩, by decide⟩

/-- `Canon` from purely syntactic, decidable conditions on the token list: every token printable and
    followed by text it cannot absorb (`CanonRaw`), no comparison operators adjacent or one blank
    apart, no `GO <blank> TO|SUB`, word-like tokens separated, no trailing blanks -/
theorem canon_of_syntactic (ts : List Token) (h : CanonRaw ts) (h1 : tripleClash ts = false)
    (h2 : doubleClash ts = false) (h3 : wordClash ts = false) (h4 : endOk ts = true) : Canon ts :=
  ⟨h, postPasses_stable ts h1 h2 h3 h4⟩

/-- non-vacuity of `canon_of_syntactic`: the hypotheses hold for `A <= 10` -/
theorem sampleShort_canonRaw : CanonRaw sampleShort := by
  unfold sampleShort
  refine ⟨⟨⟨['A'], [], none⟩, ⟨by decide, by decide, by decide, by decide, .of_chars (by decide +kernel)⟩, rfl, rfl⟩, ?_, ?_⟩
  · show AlphaBoundary _; unfold AlphaBoundary; decide
  refine ⟨(by show 0 < 1; decide), ?_, ?_⟩
  · show ∀ c ∈ _, _; decide
  refine ⟨trivial, ?_, ?_⟩
  · intro h; exact absurd h (by decide)
  refine ⟨(by show 0 < 1; decide), ?_, ?_⟩
  · show ∀ c ∈ _, _; decide
  refine ⟨⟨⟨['1', '0'], none, none, none⟩, (by decide), by decide⟩, ?_, trivial⟩
  show NumBoundary _; unfold NumBoundary; decide

example : lex (printLine (some 100) sampleShort) = (some 100, sampleShort) :=
  lex_print_numbered 100 (by decide) _
    (canon_of_syntactic _ sampleShort_canonRaw (by decide) (by decide) (by decide) (by decide))

example : tripleClash sampleShort = false ∧ doubleClash sampleShort = false ∧
    wordClash sampleShort = false ∧ endOk sampleShort = true := by decide

/-- the location-and-splice implementations of two post-passes are plain left-to-right rewrites
    (`collapse_triples` likewise: `collapseTriples_eq` of Lemmas/LexStable) -/
theorem postpasses_are_rewrites (ts : List Token) :
    separateWords ts = sepRec ts ∧ collapseDoubles ts = dblRec ts :=
  ⟨separateWords_eq ts, collapseDoubles_eq ts⟩

example : collapseDoubles [.operator .equal, .operator .less, .operator .greater, .operator .equal] =
    [.operator .lessEqual, .operator .greaterEqual] := by decide

example : (10 : Nat) ≤ 65529 ∧ (lex "65530 X".toList).1 = none :=
  ⟨splitLineNumber_le "10 X".toList 10 (by decide +kernel), by decide +kernel⟩

set_option linter.unusedVariables false in
/-- `relist` is idempotent, and the listed text lexes to the same line, for every source line whose
    first listing is canonical.  PARTIAL: it does not cover the strings whose token list is not
    `Canon` (unknown tokens, glued remark text, adjacent comparison operators); the three counter-examples below show that the restriction is needed. -/
theorem relist_idempotent_partial (s : Str) (h : Canon (lex s).2)
    (h0 : (lex s).1 = none → StartsPlain (printTokens (lex s).2)) :
    lex (relist s) = lex s ∧ relist (relist s) = relist s := by
  -- the case of the all-strings theorem in which the passes have nothing to do; `h0` is not used
  have key := relist_of_canon s h
  exact ⟨key, by unfold relist; rw [show lex (printLine (lex s).1 (lex s).2) = lex s from key]⟩

example : relist (relist "  20  a<= 10  ".toList) = relist "  20  a<= 10  ".toList := by
  have e : (lex "  20  a<= 10  ".toList).2 =
      [.whitespace 1, .ident (.plain ['A']), .operator .lessEqual, .whitespace 1, .literal (.integer ['1', '0'])] ∧
      (lex "  20  a<= 10  ".toList).1 ≠ none := by
    simp only [lex_eval]; decide +kernel
  refine (relist_idempotent_partial _ ?_ (fun h => absurd h e.2)).2
  rw [e.1]
  refine canon_of_syntactic _ ?_ (by decide) (by decide) (by decide) (by decide)
  refine ⟨(by show 0 < 1; decide), (by show ∀ c ∈ _, _; decide), ?_⟩
  refine ⟨⟨⟨['A'], [], none⟩, ⟨by decide, by decide, by decide, by decide, .of_chars (by decide +kernel)⟩, rfl, rfl⟩, ?_, ?_⟩
  · show AlphaBoundary _; unfold AlphaBoundary; decide
  refine ⟨trivial, (by intro h; exact absurd h (by decide)), ?_⟩
  refine ⟨(by show 0 < 1; decide), (by show ∀ c ∈ _, _; decide), ?_⟩
  refine ⟨⟨⟨['1', '0'], none, none, none⟩, (by decide), by decide⟩, ?_, trivial⟩
  show NumBoundary _; unfold NumBoundary; decide

/-- a canonical line of the generated fragment -/
def sampleLine : List Token :=
  [.word .for, .whitespace 1, .ident (.plain ['I']), .operator .equal, .literal (.integer ['1']),
   .whitespace 1, .word .to, .whitespace 1, .literal (.integer ['1', '0']), .colon,
   .word .print, .whitespace 1, .literal (.string "A<=B".toList), .semicolon,
   .ident (.string ['A', '$']), .operator .lessEqual, .literal (.hex ['F', 'F']), .whitespace 1,
   .word .rem2, .unknown " note".toList]

example : lex (printLine (some 10) sampleLine) = (some 10, sampleLine) := by
  simp only [lex_eval]; decide +kernel

example : relist (relist "10 for i=1 to 10:print\"A<=B\";a$<=&hff ' note  ".toList) =
    relist "10 for i=1 to 10:print\"A<=B\";a$<=&hff ' note  ".toList := by
  simp only [relist, lex_eval]; decide +kernel

/-- the text of a closed string literal is copied verbatim, whatever precedes the closing quote -/
theorem string_payload_preserved (s rest : List Char) (h : '"' ∉ s) :
    lexFrom ('"' :: (s ++ '"' :: rest)) false = .literal (.string s) :: lexFrom rest false := by
  have := lexFrom_token (.literal (.string s)) rest h trivial (by simp) (by simp)
  simpa [Token.text, Literal.text, rawOf] using this

example : (lex "?\"a  b \"".toList).2 = [.word .print, .whitespace 1, .literal (.string "a  b ".toList)] := by
  simp only [lex_eval]; decide +kernel

/-- an unterminated string literal runs to the end of the line (and is listed closed) -/
theorem string_payload_open (s : List Char) (h : '"' ∉ s) :
    lexFrom ('"' :: s) false = [.literal (.string s)] := by
  rw [lexFrom_string]
  simp [string, stringBody_open s h]

example : relist "?\"abc".toList = "PRINT \"abc\"".toList := by simp only [relist, lex_eval]; decide +kernel

theorem postPasses_remark (w : Word) (s : List Char) :
    postPasses [.word w, .unknown s] =
      if (trimEndStr s).isEmpty then [.word w] else [.word w, .unknown (trimEndStr s)] := by
  have h1 : trimEnd [.word w, .unknown s] =
      if (trimEndStr s).isEmpty then [.word w] else [.word w, .unknown (trimEndStr s)] := by
    simp only [trimEnd, List.reverse_cons, List.reverse_nil, List.nil_append, List.cons_append, trimEndRev]
    split <;> rfl
  rw [postPasses, h1]
  split
  · exact passes_raw [.word w] rfl rfl
  · exact passes_raw [.word w, .unknown _] rfl rfl

example : postPasses [.word .rem2, .unknown "x  ".toList] = [.word .rem2, .unknown ['x']] := by decide

/-- remark text after `'` is kept verbatim except for trailing white space (a remark of nothing but
    white space disappears) -/
theorem remark_preserved_apostrophe (s : List Char) (h : s ≠ []) :
    lex ('\'' :: s) =
      (none, if (trimEndStr s).isEmpty then [.word .rem2] else [.word .rem2, .unknown (trimEndStr s)]) := by
  rw [lex_plain '\'' s (by decide) (by decide), lexFrom_minutia_one '\'' s _ rfl,
    show ((Token.word Word.rem2 == Token.word Word.rem2)) = true from by decide, lexFrom_remark s h,
    postPasses_remark]

example : lex "' Keep  THIS  ".toList = (none, [.word .rem2, .unknown " Keep  THIS".toList]) := by
  decide +kernel

/-- remark text after `REM` is kept verbatim except for trailing white space, provided it does not start with a
    letter (`REM1 x`, `REM% x` are remarks: the crunch of the letters `REM` leaves nothing, so what is behind them is not
    looked at) -/
theorem remark_after_REM (s : List Char) (h : s ≠ []) (hb : ∀ c ∈ s.head?, isAlpha c = false) :
    lex ("REM".toList ++ s) =
      (none, if (trimEndStr s).isEmpty then [.word .rem1] else [.word .rem1, .unknown (trimEndStr s)]) := by
  have hk := lexFrom_keyword_na _ rem_in_keywords s hb
  rw [show (("REM".toList, Token.word Word.rem1).2 == Token.word Word.rem1) = true from by decide,
    lexFrom_remark s h] at hk
  rw [lex_startsPlain _ (fun c hc => by cases hc; decide), hk, postPasses_remark]

/-- remark text after `REM` is kept verbatim except for trailing white space, provided it does not
    start with a letter, a digit or a type suffix (it normally starts with a blank) -/
theorem remark_preserved_REM (s : List Char) (h : s ≠ []) (hb : AlphaBoundary s) :
    lex ("REM".toList ++ s) =
      (none, if (trimEndStr s).isEmpty then [.word .rem1] else [.word .rem1, .unknown (trimEndStr s)]) :=
  remark_after_REM s h fun c hc => (hb c hc).1

example : lex "REM Keep  this ".toList = (none, [.word .rem1, .unknown " Keep  this".toList]) := by
  simp only [lex_eval]; decide +kernel

/-- a run of white space that is not blank/tab is one `Unknown` token, and `trim_end` removes it
    without a trace -/
theorem trailing_white_trimmed (l : List Token) (w : List Char) (hw : ∀ c ∈ w, isOddWhite c = true) :
    trimEnd (l ++ [.unknown w]) = trimEnd l := by
  simp [trimEnd, trimEndRev, trimEndStr_white w hw]

/-- `trim_end` is idempotent: what it leaves is not trimmed further (so a listed line, entered
    again, ends where it ended; D18: the loop runs until nothing is left to trim) -/
theorem trimEnd_idem (ts : List Token) : trimEnd (trimEnd ts) = trimEnd ts := by
  exact trimEnd_keeps _ (trimEnd_lastOK ts)

example : trimEnd [.word .print, .unknown [Char.ofNat 0x85], .whitespace 1, .unknown ['\r']] = [.word .print] := by
  decide

example : trimEnd [.word .print, .whitespace 1, .unknown ['\r']] = [.word .print] := by decide

/-- a canonical line followed by a carriage return (no-break space, …) lexes to the same line as
    without it: no empty `Unknown` token stays behind -/
theorem trailing_white_ignored (ts : List Token) (w : List Char) (hw : ∀ c ∈ w, isOddWhite c = true)
    (hne : w ≠ []) (h : CanonRawT w ts) (h' : CanonRawT [] ts)
    (c : Char) (cs : List Char) (e : printTokens ts = c :: cs) (hd : isDigit c = false)
    (hws : isWs c = false) : lex (printTokens ts ++ w) = lex (printTokens ts) := by
  open _root_.Basic.Lex in (
  have r1 := lexFrom_printTokens_tail w ts h
  have r2 := lexFrom_printTokens_tail [] ts h'
  rw [lexFrom_white w hw hne] at r1
  simp only [List.append_nil, lexFrom_nil] at r2
  rw [e] at r1 r2 ⊢
  rw [List.cons_append, lex_plain c _ hd hws, lex_plain c cs hd hws, ← List.cons_append, r1, r2]
  simp only [postPasses, trailing_white_trimmed _ w hw])

example : lex ['?', Char.ofNat 0xA0] = lex ['?'] ∧ lex "CLS\r".toList = lex "CLS".toList := by
  refine ⟨by decide +kernel, ?_⟩
  exact trailing_white_ignored [.word .cls] ['\r'] (by decide) (by decide)
    ⟨by decide, by decide, trivial, (by show AlphaBoundary _; decide), trivial⟩
    ⟨by decide, by decide, trivial, (by show AlphaBoundary _; decide), trivial⟩
    'C' "LS".toList (by decide) (by decide) (by decide)

/-! ### where listing is NOT faithful in the code that exists (negations proved on the model) -/

/-- K4 (known finding): remark text glued to `REM` is crunched as an identifier -/
theorem remark_glued_to_REM :
    relist "10 REMark this".toList = "10 REM ARK this".toList := by simp only [relist, lex_eval]; decide +kernel

/-- (D13) a second exponent letter ends the numeral in either case, so the line and its listing lex
    alike -/
theorem second_exponent_letter_faithful :
    lex (relist "?1E0e".toList) = lex "?1E0e".toList ∧
    relist (relist "?1E0e".toList) = relist "?1E0e".toList := by
  simp only [relist, lex_eval]; decide +kernel

example : relist "?1E0e".toList = "PRINT 1E0 E".toList := by simp only [relist, lex_eval]; decide +kernel

/-- (D18) `trim_end` looks at the last token until nothing is trimmed: of two white-space-only tokens
    separated by blanks none stays behind for the listing to lose -/
theorem separated_unicode_space_faithful :
    (lex ['\r', ' ', Char.ofNat 0x85]).2 = [] ∧
    (lex (relist ['\r', ' ', Char.ofNat 0x85])).2 = [] ∧
    lex ("X=O".toList ++ [Char.ofNat 0x85, '\t', Char.ofNat 0xA0]) = lex "X=O".toList := by
  simp only [relist, lex_eval]; decide +kernel

/-- two comparison operators separated by a blank do not survive listing: `<= <=` is listed as
    such and re-lexed as `< <= =` (only reachable in lines whose tail the parser ignores) -/
theorem adjacent_comparisons_not_faithful :
    (lex "CLEAR = < < =".toList).2 =
      [.word .clear, .whitespace 1, .operator .lessEqual, .whitespace 1, .operator .lessEqual] ∧
    (lex (relist "CLEAR = < < =".toList)).2 =
      [.word .clear, .whitespace 1, .operator .less, .operator .lessEqual, .operator .equal] := by
  simp only [relist, lex_eval]; decide +kernel

/-- the model's reserved-word table, minutia table and keyword spellings are the ones re-extracted from
    `token.rs` on this run (`Gen/Keywords.lean`): an edit of a table in the Rust source breaks this obligation -/
theorem tables_generated :
    Lex.keywords = Gen.keywords ∧ (∀ p ∈ Gen.minutia, Lex.matchMinutia p.1 = some p.2) ∧
    (∀ p ∈ Gen.wordText, Word.text p.1 = p.2.toList) ∧ (∀ p ∈ Gen.operatorText, Operator.text p.1 = p.2.toList) :=
  ⟨Thm.Tables.keywords_generated, Thm.Tables.minutia_generated, Thm.Tables.word_text_generated,
   Thm.Tables.operator_text_generated⟩

-- as for `Chain` below: lemmas about `postPasses l` meet `(lex s).2`; left open, the unifier walks into the four passes
seal Lex.postPasses

/-! ### the listing of EVERY line is a fixed point, up to three characterised exceptions

  The results above start from a token list that is already canonical.  The following ones start from
  an ARBITRARY source string.  They rest on the output invariant of the lexer (`Lemmas/LexAll*.lean`):

  * every scanner is idempotent on its own output (`number_rerun`, `alphabetic_spec`, `minutia_spec`, …):
    whatever token it produces for whatever text, the printed text of that token, followed by a character
    the scanner stops at, is scanned back to the same token (`tok_rescan`, for the predicate `Tok`);
  * the raw token list of every text is a `Chain` (`rawTokens_chain`): every token is `Tok`, and every
    token is followed by a token whose first printed character it does not absorb — or both are
    word-like, and then `separate_words` puts a blank between them;
  * the four post-passes keep the `Chain` (`chain_postPasses`); after them no two word-like tokens are
    adjacent and the line does not end in a blank run or in white space.

  Without the two clash hypotheses the listing still lexes to the same number and to `postPasses` of the raw form of the
  line's own tokens (`Lex.lex_relist_eq`); the clash predicates are what makes the passes rebuild the list.

  The exceptions (hypotheses of the fixed-point theorem, all on the token list `(lex s).2`):

  * `tripleClash`: two comparison-operator tokens (`< = > <= >= <>`) separated by one blank run, or the
    identifier `GO`, a blank run, and `TO` or the identifier `SUB` (the latter should not survive
    `collapse_triples`: no lexed line evaluated here meets it, but no theorem says so; it is kept in
    `tripleClash` because LexStable's lemmas are stated over it);
  * `doubleClash`: two comparison-operator tokens directly adjacent;
    both are the known finding K5 (the collapsing passes are not confluent), see
    `adjacent_comparisons_not_faithful` and `adjacent_comparisons_not_faithful_2`;
  * `remClash`: a `REM` token that is followed by anything else than its remark text (nothing, or one
    final `Unknown` token): text glued to `REM` (`REMARK` is `REM`, `ARK`; known finding K4,
    `remark_glued_to_REM`) or a `REM` that is not the first word of its run of letters (`AREM:X`), after
    which the line was lexed as code; the listing separates the words, and then `REM` starts a remark.
    The token lists differ, the parses do not (remark either way or rejected either way).
-/

section
-- `Chain` unfolds by matching on its argument: left open, elaborating `Chain (lex s).2` runs the whole
-- lexer symbolically to find the head of the list
seal Chain

/-- THE OUTPUT INVARIANT OF THE LEXER, for every source string: the token list is a `Chain` — every
    token is one the scanners produce and scan back from their own text (`Tok`: identifiers are maximal
    letter(+digit)(+suffix) runs without a reserved word inside, numerals re-scan to themselves, an
    `Unknown` run holds no character that starts another token, blank runs are non-empty, …) and every
    two neighbours are compatible (`Adj`); the remark text follows its marker as one final token.  Behind a `REM`
    that is not directly followed by its remark text (`REMark`, `AREM:X`: the `remClash` lines below) `Chain`
    claims nothing -/
theorem lex_output_chain (s : Str) : Chain (lex s).2 := lex_chain s

/-- for every source string: no two word-like tokens are adjacent (from `separate_words`) -/
theorem lex_output_wordClash (s : Str) : wordClash (lex s).2 = false := lex_wordClash s

/-- for every source string: the line does not end in a blank run, an empty `Unknown` token or an
    `Unknown` token with trailing white space (from `trim_end`; cf. `trimEnd_idem`) -/
theorem lex_output_endOk (s : Str) : endOk (lex s).2 = true := lex_endOk s

example : Chain (lex "10 IFATHENPRINTB".toList).2 ∧ wordClash (lex "10 IFATHENPRINTB".toList).2 = false ∧
    endOk (lex "10 IFATHENPRINTB".toList).2 = true :=
  ⟨lex_output_chain _, lex_output_wordClash _, lex_output_endOk _⟩

end

/-- what the `Chain` of a lexed line says about two neighbours that are not a remark marker and its text:
    the left one is a scanner product, and it does not absorb the first printed character of the right one -/
theorem lex_output_neighbours (s : Str) (pre : List Token) (a b : Token) (rest : List Token)
    (h : (lex s).2 = pre ++ a :: b :: rest) (hpre : ∀ t ∈ pre, t ≠ .word .rem1)
    (ha : a ≠ .word .rem1) (ha2 : a ≠ .word .rem2) : Tok a ∧ Bnd a (fc b) :=
  chain_neighbours pre a b rest (h ▸ lex_chain s) (h ▸ lex_wordClash s) hpre ha ha2

example : Tok (.operator .equal) ∧ Bnd (.operator .equal) (fc (.literal (.integer ['1']))) :=
  lex_output_neighbours "10 A=1".toList [.ident (.plain ['A'])] _ _ [] (by simp only [lex_eval]; decide +kernel) (by decide)
    (by decide) (by decide)

/-- THE FIXED-POINT THEOREM FOR ALL STRINGS.  PARTIAL with respect to the property's quantifier by exactly
    the three exclusions described above (K5 twice, K4 and its variant): for every other source string
    the listed text lexes to the same line — same number, same tokens — and listing is idempotent. -/
theorem relist_fixed_point_all_partial (s : Str) (h1 : tripleClash (lex s).2 = false)
    (h2 : doubleClash (lex s).2 = false) (h3 : remClash (lex s).2 = false) :
    lex (relist s) = lex s ∧ relist (relist s) = relist s :=
  ⟨lex_relist_all s h1 h2 h3, relist_idempotent_all s h1 h2 h3⟩

/-- the numbered-line variant: a program line keeps its number -/
theorem relist_fixed_point_numbered_partial (s : Str) (n : Nat) (hn : (lex s).1 = some n)
    (h1 : tripleClash (lex s).2 = false) (h2 : doubleClash (lex s).2 = false)
    (h3 : remClash (lex s).2 = false) :
    lex (RStd.natDigits n ++ ' ' :: printTokens (lex s).2) = (some n, (lex s).2) := by
  have := lex_relist_all s h1 h2 h3
  unfold relist at this
  rw [hn] at this
  rw [show printLine (some n) (lex s).2 = RStd.natDigits n ++ ' ' :: printTokens (lex s).2 from rfl] at this
  rw [this, ← hn]

/-- the direct-line variant: a line without number lists as a line without number -/
theorem relist_fixed_point_direct_partial (s : Str) (hn : (lex s).1 = none)
    (h1 : tripleClash (lex s).2 = false) (h2 : doubleClash (lex s).2 = false)
    (h3 : remClash (lex s).2 = false) : lex (printTokens (lex s).2) = (none, (lex s).2) := by
  have := lex_relist_all s h1 h2 h3
  unfold relist at this
  rw [hn] at this
  rw [show printLine none (lex s).2 = printTokens (lex s).2 from rfl] at this
  rw [this, ← hn]

/-! #### non-vacuity: the hypotheses hold on concrete strings, and the theorem applies -/

/-- the three hypotheses at once, so that a test vector evaluates the lexer once -/
theorem noClash_intro (ts : List Token)
    (h : (tripleClash ts || doubleClash ts || remClash ts) = false) :
    tripleClash ts = false ∧ doubleClash ts = false ∧ remClash ts = false := by
  simpa [and_assoc] using h

/-- packed keywords -/
example : lex (relist "10 IFATHENPRINTB".toList) = lex "10 IFATHENPRINTB".toList := by
  have h := noClash_intro (lex "10 IFATHENPRINTB".toList).2 (by simp only [lex_eval]; decide +kernel)
  exact (relist_fixed_point_all_partial _ h.1 h.2.1 h.2.2).1

example : relist "10 IFATHENPRINTB".toList = "10 IF A THEN PRINT B".toList := by simp only [relist, lex_eval]; decide +kernel

/-- `?`, `'`, multi-byte characters in a string literal and in the remark, trailing blanks -/
example : relist (relist "20 ?a$;\"grüß\";'naïve  café  ".toList) = relist "20 ?a$;\"grüß\";'naïve  café  ".toList := by
  have h := noClash_intro (lex "20 ?a$;\"grüß\";'naïve  café  ".toList).2 (by simp only [lex_eval]; decide +kernel)
  exact (relist_fixed_point_all_partial _ h.1 h.2.1 h.2.2).2

/-- numerals with exponents, type suffixes, an exponent letter at the end of the line; a direct line -/
example : lex (printTokens (lex "X=1.5e+10:Y=1d5:Z#=.5E-3!:W=1E".toList).2) =
    (none, (lex "X=1.5e+10:Y=1d5:Z#=.5E-3!:W=1E".toList).2) := by
  have h := noClash_intro (lex "X=1.5e+10:Y=1d5:Z#=.5E-3!:W=1E".toList).2 (by simp only [lex_eval]; decide +kernel)
  exact relist_fixed_point_direct_partial _ (by simp only [lex_eval]; decide +kernel) h.1 h.2.1 h.2.2

/-- a direct line that starts with blanks and a number too large for a line number; `Unknown` runs;
    a radix literal followed by a letter (pushed back upper-cased) -/
example : lex (relist "  65530 @#é:&h1fg".toList) = lex "  65530 @#é:&h1fg".toList := by
  have h := noClash_intro (lex "  65530 @#é:&h1fg".toList).2 (by simp only [lex_eval]; decide +kernel)
  exact (relist_fixed_point_all_partial _ h.1 h.2.1 h.2.2).1

/-- comparison operators typed with blanks inside are collapsed, and the result is a fixed point when no
    two of them end up next to each other -/
example : (lex "30 IF A< =B THEN 10".toList).2 =
      [.word .if, .whitespace 1, .ident (.plain ['A']), .operator .lessEqual, .ident (.plain ['B']),
       .whitespace 1, .word .then, .whitespace 1, .literal (.integer ['1', '0'])] ∧
    lex (relist "30 IF A< =B THEN 10".toList) = lex "30 IF A< =B THEN 10".toList := by
  have h := noClash_intro (lex "30 IF A< =B THEN 10".toList).2 (by simp only [lex_eval]; decide +kernel)
  exact ⟨by simp only [lex_eval]; decide +kernel, (relist_fixed_point_all_partial _ h.1 h.2.1 h.2.2).1⟩

/-- a well-formed remark satisfies the third hypothesis -/
example : remClash (lex "40 REM so it is".toList).2 = false ∧ remClash (lex "40 X=1:REM".toList).2 = false := by
  simp only [lex_eval]; decide +kernel

/-- string literals (generalises `string_payload_preserved` / `string_payload_open` from "the line starts
    with the literal" to every position of every line): the text of every string-literal token of
    `lex s` is a quote-free stretch of the source — after the line number — that follows a quote and runs
    to the next quote or to the end of the line; character for character, multi-byte characters included -/
theorem string_payload_preserved_all (s : Str) (p : Str) (h : .literal (.string p) ∈ (lex s).2) :
    ∃ a b, (splitLineNumber s).2 = a ++ '"' :: p ++ b ∧ '"' ∉ p ∧ (b = [] ∨ b.head? = some '"') :=
  string_payload_all s p h

example : ∃ a b, "?A$;\"héllo, wörld\";B".toList = a ++ '"' :: "héllo, wörld".toList ++ b ∧
    '"' ∉ "héllo, wörld".toList ∧ (b = [] ∨ b.head? = some '"') := by
  have := string_payload_preserved_all "10 ?A$;\"héllo, wörld\";B".toList "héllo, wörld".toList (by simp only [lex_eval]; decide +kernel)
  rwa [show (splitLineNumber "10 ?A$;\"héllo, wörld\";B".toList).2 = "?A$;\"héllo, wörld\";B".toList from by
    decide +kernel] at this

/-- the remark after an apostrophe (generalises `remark_preserved_apostrophe` from "the line starts with
    the apostrophe" to every line that holds the token `'`): the source after the line number is
    `a ++ ' ++ u0`, and the lexed line ends with the remark text `u0` without its trailing white space as
    one `Unknown` token (with `'` itself if nothing but white space follows).
    PARTIAL: for lines without `REM` clash (see above); after `REM` the remark text is covered by
    `remark_preserved_REM` (line starts with `REM`) only — what is missing for arbitrary contexts is the
    statement "the token list covers the source text", which the scanners' push-backs (an exponent letter
    or a rejected radix digit comes back upper-cased) make awkward to state. -/
theorem remark_preserved_apostrophe_all_partial (s : Str) (h : .word .rem2 ∈ (lex s).2)
    (hr : remClash (lex s).2 = false) :
    ∃ a u0, (splitLineNumber s).2 = a ++ '\'' :: u0 ∧
      (lex s).2.getLast? = some (if (trimEndStr u0).isEmpty then .word .rem2 else .unknown (trimEndStr u0)) :=
  remark_apostrophe_all_partial s h hr

example : (lex "10 ?1' Keep  THIS ü  ".toList).2.getLast? = some (.unknown " Keep  THIS ü".toList) ∧
    .word .rem2 ∈ (lex "10 ?1' Keep  THIS ü  ".toList).2 ∧ remClash (lex "10 ?1' Keep  THIS ü  ".toList).2 = false := by
  simp only [lex_eval]; decide +kernel

/-! #### the hypotheses are not vacuous and cannot be dropped -/

/-- the clash predicates fire on the K5 line, on which the fixed point fails (`adjacent_comparisons_not_faithful`) -/
theorem clash_hypotheses_needed_triple :
    tripleClash (lex "CLEAR = < < =".toList).2 = true ∧
    lex (relist "CLEAR = < < =".toList) ≠ lex "CLEAR = < < =".toList := by
  refine ⟨by simp only [lex_eval]; decide +kernel, ?_⟩
  intro h
  have := adjacent_comparisons_not_faithful
  rw [h, this.1] at this
  exact absurd this.2 (by decide)

/-- K5 again, through `collapse_doubles` alone: `= <blank-free> < blank =` is stored as `=`, `<=`, listed
    as `=<=` and entered again as `<=`, `=`; only `doubleClash` fires -/
theorem adjacent_comparisons_not_faithful_2 :
    (lex "CLEAR =< =".toList).2 = [.word .clear, .whitespace 1, .operator .equal, .operator .lessEqual] ∧
    (lex (relist "CLEAR =< =".toList)).2 =
      [.word .clear, .whitespace 1, .operator .lessEqual, .operator .equal] ∧
    tripleClash (lex "CLEAR =< =".toList).2 = false ∧ doubleClash (lex "CLEAR =< =".toList).2 = true ∧
    remClash (lex "CLEAR =< =".toList).2 = false := by
  simp only [relist, lex_eval]; decide +kernel

/-- the third hypothesis: K4 and its variant.  `REM` glued to text, or not the first word of its run of
    letters: the token lists of the line and of its listing differ (the listed TEXT is a fixed point) -/
theorem rem_hypothesis_needed :
    (remClash (lex "10 REMark".toList).2 = true ∧ lex (relist "10 REMark".toList) ≠ lex "10 REMark".toList ∧
      relist (relist "10 REMark".toList) = relist "10 REMark".toList) ∧
    (remClash (lex "10 AREM:X".toList).2 = true ∧
      (lex "10 AREM:X".toList).2 = [.ident (.plain ['A']), .whitespace 1, .word .rem1, .colon, .ident (.plain ['X'])] ∧
      (lex (relist "10 AREM:X".toList)).2 =
        [.ident (.plain ['A']), .whitespace 1, .word .rem1, .unknown [':', 'X']] ∧
      tripleClash (lex "10 AREM:X".toList).2 = false ∧ doubleClash (lex "10 AREM:X".toList).2 = false) := by
  simp only [relist, lex_eval]; decide +kernel

end C05
end Thm
end Basic

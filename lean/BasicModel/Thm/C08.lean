import BasicModel.Model.Func
/-
  C08 — 16-bit Integer arithmetic is always checked.

  Every Integer operation of the model returns the mathematically exact result (stated over `Int`,
  via `Int16.toInt`) when it lies in -32768..32767, and OVERFLOW / DIVISION BY ZERO otherwise — for
  all operands at once.  Float → Integer conversion is ⌊x⌋ or OVERFLOW, by exact integer decoding
  of the bit pattern.
-/
namespace Basic
namespace Thm.C08
open RStd

abbrev InRange (z : Int) : Prop := -32768 ≤ z ∧ z ≤ 32767

theorem inI16_iff (z : Int) : inI16 z = true ↔ InRange z := by
  simp [inI16, InRange]

theorem bmod_id {z : Int} (h : InRange z) : z.bmod (2 ^ 16) = z := by
  have h1 := h.1; have h2 := h.2
  rw [Int.bmod_eq_of_le] <;> omega

theorem toInt_range (a : Int16) : InRange a.toInt :=
  ⟨Int16.le_toInt a, by have := Int16.toInt_lt a; omega⟩

/-- The shape of every checked operation: the exact result `z` is tested for the range, and `w`, the
    wrapped 16-bit result, is returned when it passes — where it is `z`. -/
theorem checked_exact {z : Int} {w : Int16} (hw : w.toInt = z.bmod (2 ^ 16)) {res : Res Val}
    (h : res = Ops.ofChecked (if inI16 z then some w else none)) :
    (InRange z → ∃ r, res = .ok (.int r) ∧ r.toInt = z) ∧ (¬ InRange z → res = err Code.overflow) := by
  subst h
  by_cases hz : InRange z
  · rw [if_pos ((inI16_iff z).2 hz)]
    exact ⟨fun _ => ⟨w, rfl, hw.trans (bmod_id hz)⟩, fun hn => absurd hz hn⟩
  · rw [if_neg (mt (inI16_iff z).1 hz)]
    exact ⟨fun h => absurd h hz, fun _ => rfl⟩

/-- `+` : exact or OVERFLOW -/
theorem add_checked (a b : Int16) :
    (InRange (a.toInt + b.toInt) → ∃ r, Ops.sum (.int a) (.int b) = .ok (.int r) ∧ r.toInt = a.toInt + b.toInt) ∧
    (¬ InRange (a.toInt + b.toInt) → Ops.sum (.int a) (.int b) = err Code.overflow) :=
  checked_exact (Int16.toInt_add a b) rfl

/-- `-` : exact or OVERFLOW -/
theorem sub_checked (a b : Int16) :
    (InRange (a.toInt - b.toInt) → ∃ r, Ops.subtract (.int a) (.int b) = .ok (.int r) ∧ r.toInt = a.toInt - b.toInt) ∧
    (¬ InRange (a.toInt - b.toInt) → Ops.subtract (.int a) (.int b) = err Code.overflow) :=
  checked_exact (Int16.toInt_sub a b) rfl

/-- `*` : exact or OVERFLOW -/
theorem mul_checked (a b : Int16) :
    (InRange (a.toInt * b.toInt) → ∃ r, Ops.multiply (.int a) (.int b) = .ok (.int r) ∧ r.toInt = a.toInt * b.toInt) ∧
    (¬ InRange (a.toInt * b.toInt) → Ops.multiply (.int a) (.int b) = err Code.overflow) :=
  checked_exact (Int16.toInt_mul a b) rfl

/-- unary minus: exact or OVERFLOW (only at -32768) -/
theorem neg_checked (a : Int16) :
    (InRange (- a.toInt) → ∃ r, Ops.negate (.int a) = .ok (.int r) ∧ r.toInt = - a.toInt) ∧
    (¬ InRange (- a.toInt) → Ops.negate (.int a) = err Code.overflow) :=
  checked_exact (Int16.toInt_neg a) rfl

theorem checked_error_code {P : Prop} {z : Int} {res : Res Val} {e : Error}
    (h : (P → ∃ r, res = .ok (.int r) ∧ r.toInt = z) ∧ (¬ P → res = err Code.overflow))
    (he : res = .error e) : e.code = Code.overflow := by
  by_cases hp : P
  · obtain ⟨r, hr, _⟩ := h.1 hp
    rw [hr] at he; cases he
  · rw [h.2 hp] at he; cases he; rfl

theorem neg_overflow_iff (a : Int16) : Ops.negate (.int a) = err Code.overflow ↔ a.toInt = -32768 := by
  have hr := toInt_range a
  constructor
  · intro h
    by_cases hh : InRange (- a.toInt)
    · obtain ⟨r, hr', _⟩ := (neg_checked a).1 hh
      rw [hr'] at h; cases h
    · simp only [InRange] at hh hr; omega
  · intro h
    apply (neg_checked a).2
    simp only [InRange]; omega

/-- ABS: exact |a| or OVERFLOW -/
theorem abs_checked (a : Int16) :
    (InRange a.toInt.natAbs → ∃ r, Func.abs (.int a) = .ok (.int r) ∧ r.toInt = a.toInt.natAbs) ∧
    (¬ InRange a.toInt.natAbs → Func.abs (.int a) = err Code.overflow) := by
  by_cases hneg : a.toInt < 0
  · -- `checked_abs` of a negative number is `checked_neg`, and |a| = -a
    have habs : (a.toInt.natAbs : Int) = - a.toInt := by omega
    have hf : Func.abs (.int a) = Ops.negate (.int a) := by
      simp only [Func.abs, checkedAbs, hneg, if_true]
      rfl
    rw [habs, hf]
    exact neg_checked a
  · have habs : (a.toInt.natAbs : Int) = a.toInt := by omega
    have hf : Func.abs (.int a) = .ok (.int a) := by simp only [Func.abs, checkedAbs, hneg, if_false]
    rw [habs]
    exact ⟨fun _ => ⟨a, hf, rfl⟩, fun h => absurd (toInt_range a) h⟩

theorem divint_int_eq (a b : Int16) :
    Ops.divint (.int a) (.int b) =
      if b = 0 then err Code.divisionByZero else Ops.ofChecked (checkedDiv a b) := by
  simp only [Ops.divint, Val.toI16, bind, Except.bind]
  rfl

/-- `\` : truncated quotient, DIVISION BY ZERO for a zero divisor, OVERFLOW for -32768 \ -1 -/
theorem divint_checked (a b : Int16) :
    (b = 0 → Ops.divint (.int a) (.int b) = err Code.divisionByZero) ∧
    (b ≠ 0 → InRange (a.toInt.tdiv b.toInt) →
        ∃ r, Ops.divint (.int a) (.int b) = .ok (.int r) ∧ r.toInt = a.toInt.tdiv b.toInt) ∧
    (b ≠ 0 → ¬ InRange (a.toInt.tdiv b.toInt) → Ops.divint (.int a) (.int b) = err Code.overflow) := by
  have h := fun hb : b ≠ 0 => checked_exact (res := Ops.divint (.int a) (.int b))
    (z := a.toInt.tdiv b.toInt) Int16.toInt_ofInt (by rw [divint_int_eq, if_neg hb, checkedDiv, if_neg hb])
  exact ⟨fun hb => by rw [divint_int_eq, if_pos hb], fun hb => (h hb).1, fun hb => (h hb).2⟩

/-- MOD : exact remainder (always in range), DIVISION BY ZERO for a zero divisor -/
theorem mod_checked (a b : Int16) :
    (b = 0 → Ops.remainder (.int a) (.int b) = err Code.divisionByZero) ∧
    (b ≠ 0 → ∃ r, Ops.remainder (.int a) (.int b) = .ok (.int r) ∧ r.toInt = a.toInt.tmod b.toInt) := by
  have hrem : Ops.remainder (.int a) (.int b) =
      if b = 0 then err Code.divisionByZero else .ok (.int ((checkedRem a b).getD 0)) := by
    simp only [Ops.remainder, Val.toI16, bind, Except.bind]
    cases checkedRem a b <;> rfl
  refine ⟨fun hb => by rw [hrem, if_pos hb], fun hb => ⟨_, by rw [hrem, if_neg hb], ?_⟩⟩
  have ha := toInt_range a
  have hbr := toInt_range b
  have hb0 : b.toInt ≠ 0 := fun h => hb (Int16.toInt_inj.1 (h.trans Int16.toInt_zero.symm))
  have hmod := Int.natAbs_tmod a.toInt b.toInt
  have hdiv : (a.toInt.tdiv b.toInt).natAbs = a.toInt.natAbs / b.toInt.natAbs := Int.natAbs_tdiv _ _
  rw [checkedRem, if_neg hb]
  by_cases h : InRange (a.toInt.tdiv b.toInt)
  · -- |a tmod b| < |b| ≤ 32768
    have hlt : a.toInt.natAbs % b.toInt.natAbs < b.toInt.natAbs := Nat.mod_lt _ (by omega)
    rw [if_pos ((inI16_iff _).2 h)]
    refine (Int16.toInt_ofInt).trans (bmod_id ?_)
    simp only [InRange] at *
    omega
  · -- an out-of-range quotient forces |a| / |b| = 32768, hence |a| = 32768, |b| = 1, remainder 0
    rw [if_neg (mt (inI16_iff _).1 h)]
    have hle : a.toInt.natAbs / b.toInt.natAbs ≤ a.toInt.natAbs := Nat.div_le_self _ _
    have h32 : a.toInt.natAbs / b.toInt.natAbs = 32768 := by
      simp only [InRange] at h ha
      omega
    have hb1 := Nat.div_mul_le_self a.toInt.natAbs b.toInt.natAbs
    rw [h32] at hb1
    have hz : (a.toInt.tmod b.toInt).natAbs = 0 := by
      rw [hmod, show b.toInt.natAbs = 1 by simp only [InRange] at ha; omega]
      exact Nat.mod_one _
    show (0 : Int) = _
    omega

/-- `^` with a non-negative Integer exponent: exact power or OVERFLOW -/
theorem pow_checked (a b : Int16) (hb : 0 ≤ b.toInt) :
    (InRange (a.toInt ^ b.toInt.toNat) →
        ∃ r, Ops.power (.int a) (.int b) = .ok (.int r) ∧ r.toInt = a.toInt ^ b.toInt.toNat) ∧
    (¬ InRange (a.toInt ^ b.toInt.toNat) → Ops.power (.int a) (.int b) = err Code.overflow) :=
  checked_exact Int16.toInt_ofInt (by simp only [Ops.power, ge_iff_le, hb, ↓reduceIte]; rfl)

/-- float → Integer: ⌊x⌋ when it lies in range, OVERFLOW otherwise (incl. NaN, ±inf) -/
theorem float_to_int (v : Val) (hv : v.ty = .sng ∨ v.ty = .dbl) :
    v.toI16 = match v.floorZ with
      | some z => if InRange z then .ok (Int16.ofInt z) else err Code.overflow
      | none => err Code.overflow := by
  cases v <;> simp_all [Val.ty, Val.toI16, InRange] <;> rfl

/-- … and the stored Integer is exactly ⌊x⌋ -/
theorem float_to_int_exact (v : Val) (r : Int16) (h : v.toI16 = .ok r) (hv : v.ty = .sng ∨ v.ty = .dbl) :
    v.floorZ = some r.toInt := by
  rw [float_to_int v hv] at h
  cases hz : v.floorZ with
  | none => rw [hz] at h; cases h
  | some z =>
    rw [hz] at h
    simp only at h
    split at h
    · rename_i hin
      injection h with h
      rw [← h, Int16.toInt_ofInt]
      congr 1
      exact (bmod_id hin).symm
    · cases h

/-- no Integer operation of the model ever faults (panics): every failure is OVERFLOW or
    DIVISION BY ZERO -/
theorem never_faults (a b : Int16) (e : Error) :
    (Ops.sum (.int a) (.int b) = .error e ∨ Ops.subtract (.int a) (.int b) = .error e ∨
     Ops.multiply (.int a) (.int b) = .error e ∨ Ops.divint (.int a) (.int b) = .error e ∨
     Ops.remainder (.int a) (.int b) = .error e ∨ Ops.negate (.int a) = .error e ∨
     Func.abs (.int a) = .error e) → e.code = Code.overflow ∨ e.code = Code.divisionByZero := by
  intro h
  rcases h with h | h | h | h | h | h | h
  · exact .inl (checked_error_code (add_checked a b) h)
  · exact .inl (checked_error_code (sub_checked a b) h)
  · exact .inl (checked_error_code (mul_checked a b) h)
  · by_cases hb : b = 0
    · rw [(divint_checked a b).1 hb] at h
      cases h; exact .inr rfl
    · exact .inl (checked_error_code ⟨(divint_checked a b).2.1 hb, (divint_checked a b).2.2 hb⟩ h)
  · by_cases hb : b = 0
    · rw [(mod_checked a b).1 hb] at h
      cases h; exact .inr rfl
    · obtain ⟨r, h1, _⟩ := (mod_checked a b).2 hb
      rw [h1] at h; cases h
  · exact .inl (checked_error_code (neg_checked a) h)
  · exact .inl (checked_error_code (abs_checked a) h)

/-! non-vacuity: concrete operands on both sides of every guard -/
example : Ops.sum (.int 32767) (.int 1) = err Code.overflow := by decide
example : Ops.sum (.int 32766) (.int 1) = .ok (.int 32767) := by decide
example : Ops.negate (.int (-32768)) = err Code.overflow := by decide
example : Func.abs (.int (-32768)) = err Code.overflow := by decide
example : Ops.divint (.int (-32768)) (.int (-1)) = err Code.overflow := by decide
example : Ops.remainder (.int (-32768)) (.int (-1)) = .ok (.int 0) := by decide
example : Ops.remainder (.int (-7)) (.int 2) = .ok (.int (-1)) := by decide
example : Ops.divint (.int 7) (.int 0) = err Code.divisionByZero := by decide
example : Ops.multiply (.int 182) (.int 181) = err Code.overflow := by decide
example : Ops.multiply (.int 181) (.int 181) = .ok (.int 32761) := by decide
example : Ops.power (.int 2) (.int 15) = err Code.overflow := by decide
example : Ops.power (.int (-2)) (.int 15) = .ok (.int (-32768)) := by decide
example : (Val.sng 0x46fffe00).toI16 = .ok 32767 := by decide       -- 32767.0
example : (Val.sng 0x47000000).toI16 = err Code.overflow := by decide -- 32768.0
example : (Val.sng 0xc7000080).toI16 = err Code.overflow := by decide -- -32768.5 → floor -32769
example : (Val.sng 0xbf000000).toI16 = .ok (-1) := by decide          -- -0.5 → floor -1
example : (Val.dbl 0x7ff8000000000000).toI16 = err Code.overflow := by decide -- NaN

end Thm.C08
end Basic

import BasicModel.Gen.Limits
import BasicModel.Lemmas.AssocList
import BasicModel.Lemmas.KeyText
import BasicModel.Thm.C08
/-
  C06 — Variables and arrays are typed, zero-initialised, bounds-checked, never aliased.

  All statements are about `Model/Var.lean` (the port of `src/mach/var.rs`), for every state, name,
  value and subscript list at once.  `Typed`/`WF` are the invariants; every operation preserves
  them (`wf_*`), `Var.new` satisfies them, so they hold after every history.  What `store` writes is
  `Lemmas.VarPool.convTo`, the value converted to the type of the name: `store_def` is `store` as one
  equation, `store_ok_conv` its inversion, `fetch_store` what every name reads as afterwards.
-/
namespace Basic

namespace Thm.C06

theorem bind_ok {α β : Type} {x : Res α} {f : α → Res β} {b : β} (h : (x >>= f) = .ok b) :
    ∃ a, x = .ok a ∧ f a = .ok b := by
  cases x with
  | error e => cases h
  | ok a => exact ⟨a, rfl, h⟩

theorem map_bind_ok {α β γ : Type} (r : Res α) (f : α → β) (g : β → γ) :
    Except.map g (r >>= fun a => .ok (f a)) = r >>= fun a => .ok (g (f a)) := by
  cases r <;> rfl

theorem bind_ok_error {α β : Type} {r : Res α} {f : α → β} {e : Error}
    (h : (r >>= fun a => (.ok (f a) : Res β)) = .error e) : r = .error e := by
  cases r with
  | ok a => cases h
  | error e' => cases h; rfl

end Thm.C06

namespace Lemmas.VarPool
open Var
open Thm.C06 (map_bind_ok)

/-- the value `insert_integer` / `insert_single` / `insert_double` / `insert_string` hand to
    `update_val`: the value converted to the type of the variable -/
def convTo (t : VarTy) (x : Val) : Res Val :=
  match t with
  | .integer => match x with
    | .int _ => .ok x
    | _ => do let n ← x.toI16; .ok (.int n)
  | .single => match x with
    | .sng _ => .ok x
    | _ => do let y ← x.toF32; .ok (.sng (F.b32 y))
  | .double => match x with
    | .dbl _ => .ok x
    | _ => do let y ← x.toF64; .ok (.dbl (F.b64 y))
  | .string => match x with
    | .str s => if s.length > 255 then errMsg Code.stringTooLong "MAXIMUM STRING LENGTH IS 255" else .ok x
    | _ => err Code.typeMismatch

theorem insertTy_eq_conv (v : Var) (t : VarTy) (n : Str) (x : Val) :
    v.insertTy t n x = (convTo t x).map (v.updateVal n) := by
  cases t <;> cases x <;>
    simp only [insertTy, insertInteger, insertSingle, insertDouble, insertString, convTo] <;>
    first
    | rfl
    | exact (map_bind_ok _ _ _).symm
    | (split <;> rfl)

theorem convTo_ty {t : VarTy} {x y : Val} (h : convTo t x = .ok y) : y.ty = t.toTy := by
  cases t <;> cases x <;> simp only [convTo, bind, Except.bind] at h <;>
    first
    | (cases h; rfl)
    | (split at h <;> first | (cases h; rfl) | cases h)
    | cases h

theorem convTo_same {t : VarTy} {x : Val} (hx : x.ty = t.toTy) (hs : ∀ s, x = .str s → s.length ≤ 255) :
    convTo t x = .ok x := by
  cases t <;> cases x <;> first | rfl | cases hx
  exact if_neg (Nat.not_lt.2 (hs _ rfl))

/-- the Integer conversion is `Val.toI16` (an Integer converts to itself) -/
theorem convTo_integer (x : Val) : convTo .integer x = x.toI16 >>= fun n => .ok (.int n) := by
  cases x <;> rfl

/-- Integer ← float (`Thm.C08.float_to_int`): the floor when it lies in −32768..32767, OVERFLOW otherwise, NaN
    and the infinities included.  CINT and the assignment to an Integer variable are this. -/
theorem convTo_integer_float (x : Val) (hx : x.ty = .sng ∨ x.ty = .dbl) :
    convTo .integer x = match x.floorZ with
      | some z => if Thm.C08.InRange z then .ok (.int (Int16.ofInt z)) else err Code.overflow
      | none => err Code.overflow := by
  rw [convTo_integer, Thm.C08.float_to_int x hx]
  cases x.floorZ with
  | none => rfl
  | some z => dsimp only; split <;> rfl

/-- … and the Integer it gives is exactly ⌊x⌋ -/
theorem convTo_integer_exact {x y : Val} (hx : x.ty = .sng ∨ x.ty = .dbl) (h : convTo .integer x = .ok y) :
    ∃ n, y = .int n ∧ x.floorZ = some n.toInt := by
  rw [convTo_integer] at h
  cases ht : x.toI16 with
  | error e => rw [ht] at h; cases h
  | ok n => rw [ht] at h; cases h; exact ⟨n, rfl, Thm.C08.float_to_int_exact x n ht hx⟩

/-- `tyOf` never fails: its `Res` only mirrors the signature of the Rust function -/
theorem tyOf_ok (v : Var) (n : Str) : ∃ o, v.tyOf n = .ok o := by
  unfold tyOf
  cases suffixTy n with
  | some t => exact ⟨_, rfl⟩
  | none =>
    cases n with
    | nil => exact ⟨_, rfl⟩
    | cons c r =>
      by_cases hl : letterIndex c < 26
      · exact ⟨_, if_pos hl⟩
      · exact ⟨_, if_neg hl⟩

/-- **`store` as one equation**: the pool test (it refuses new names only, D23), then the type of the
    name selects the conversion, and the converted value is written by `updateVal` -/
theorem store_def (v : Var) (n : Str) (x : Val) :
    v.store n x =
      if v.vars.length > 65535 ∧ AL.contains n v.vars = false then err Code.outOfMemory
      else match v.tyOf n with
        | .ok (some t) => (convTo t x).map (v.updateVal n)
        | _ => err Code.internalError := by
  unfold store
  by_cases hc : v.vars.length > 65535 ∧ AL.contains n v.vars = false
  · rw [if_pos hc, if_pos ⟨hc.1, by rw [hc.2]; exact Bool.false_ne_true⟩]
  · rw [if_neg hc, if_neg (fun h => hc ⟨h.1, by simpa using h.2⟩)]
    obtain ⟨o, ho⟩ := tyOf_ok v n
    rw [ho]
    cases o with
    | none => rfl
    | some t => exact insertTy_eq_conv v t n x

theorem store_eq_conv (v : Var) (n : Str) (x : Val) (t : VarTy)
    (hlen : v.vars.length ≤ 65535 ∨ AL.contains n v.vars = true)
    (ht : v.tyOf n = .ok (some t)) : v.store n x = (convTo t x).map (v.updateVal n) := by
  rw [store_def, if_neg, ht]
  rintro ⟨h1, h2⟩
  rcases hlen with h | h
  · omega
  · rw [h] at h2; cases h2

end Lemmas.VarPool

namespace Thm.C06
open Var KeyText

def Typed (v : Var) : Prop :=
  ∀ p ∈ v.vars, ∃ t, v.tyOf p.1 = .ok (some t) ∧ p.2.ty = t.toTy ∧ isDefault p.2 = false

structure WF (v : Var) : Prop where
  typed : Typed v
  nodupVars : AL.NoDup v.vars
  nodupDims : AL.NoDup v.dims
  pool : v.vars.length ≤ 65536

theorem wf_new : WF Var.new :=
  ⟨(fun p hp => by cases hp), AL.noDup_nil, AL.noDup_nil, Nat.zero_le _⟩

example : Typed Var.new ∧ Var.new.vars.length ≤ 65536 := ⟨wf_new.typed, wf_new.pool⟩

theorem wf_clear (v : Var) : WF v.clear := wf_new

example : (Var.clear { vars := [("A".toList, .int 1)] }).vars = [] := rfl

theorem tyOf_congr {v v' : Var} (h : v'.types = v.types) (k : Str) : v'.tyOf k = v.tyOf k := by
  unfold tyOf; rw [h]

/-- an unassigned variable reads as the default value of its type … -/
theorem fetch_default (v : Var) (k : Str) (t : VarTy)
    (hk : AL.get k v.vars = none) (ht : v.tyOf k = .ok (some t)) :
    v.fetch k = .ok t.default := by
  simp [fetch, hk, ht, bind, Except.bind]

/-- … and the defaults are 0, 0.0 (single), 0.0 (double), "" -/
theorem default_values :
    VarTy.integer.default = .int 0 ∧ VarTy.single.default = .sng 0 ∧
    VarTy.double.default = .dbl 0 ∧ VarTy.string.default = .str [] := ⟨rfl, rfl, rfl, rfl⟩

example : Var.new.fetch "A$".toList = .ok (.str []) ∧ Var.new.fetch "A%".toList = .ok (.int 0) ∧
    Var.new.fetch "A".toList = .ok (.sng 0) ∧ Var.new.fetch "B#".toList = .ok (.dbl 0) := by decide

theorem fetch_present (v : Var) (k : Str) (x : Val) (hk : AL.get k v.vars = some x) :
    v.fetch k = .ok x := by
  simp [fetch, hk]

/-- an absent key reads as the default value of some type (Single where `tyOf` knows none) -/
theorem fetch_absent {v : Var} {k : Str} (hk : AL.get k v.vars = none) : ∃ t : VarTy, v.fetch k = .ok t.default := by
  obtain ⟨o, ho⟩ := Lemmas.VarPool.tyOf_ok v k
  cases o with
  | none => exact ⟨.single, by simp only [fetch, hk, ho, bind, Except.bind]; rfl⟩
  | some t => exact ⟨t, fetch_default v k t hk ho⟩

theorem fetch_typed (v : Var) (hv : Typed v) (k : Str) (t : VarTy) (ht : v.tyOf k = .ok (some t)) :
    ∃ x, v.fetch k = .ok x ∧ x.ty = t.toTy := by
  cases hk : AL.get k v.vars with
  | none =>
    refine ⟨t.default, fetch_default v k t hk ht, ?_⟩
    cases t <;> rfl
  | some x =>
    refine ⟨x, fetch_present v k x hk, ?_⟩
    obtain ⟨t', h1, h2, _⟩ := hv _ (AL.mem_of_get hk)
    rw [ht] at h1
    cases h1
    exact h2

example : ∃ x, (Var.new.fetch "Z".toList) = .ok x ∧ x.ty = Ty.sng :=
  fetch_typed Var.new wf_new.typed "Z".toList .single (by decide)

theorem updateVal_types (v : Var) (n : Str) (y : Val) : (v.updateVal n y).types = v.types := by
  unfold updateVal; split <;> rfl

theorem updateVal_dims (v : Var) (n : Str) (y : Val) : (v.updateVal n y).dims = v.dims := by
  unfold updateVal; split <;> rfl

theorem updateVal_get_self (v : Var) (n : Str) (y : Val) :
    AL.get n (v.updateVal n y).vars = if isDefault y then none else some y := by
  unfold updateVal
  split
  · exact AL.get_erase_self n v.vars
  · exact AL.get_set_self n y v.vars

theorem updateVal_get_ne (v : Var) {n k : Str} (h : k ≠ n) (y : Val) :
    AL.get k (v.updateVal n y).vars = AL.get k v.vars := by
  unfold updateVal
  split
  · exact AL.get_erase_ne h v.vars
  · exact AL.get_set_ne h y v.vars

theorem fetch_congr {v v' : Var} {k : Str} (hg : AL.get k v'.vars = AL.get k v.vars)
    (ht : v'.types = v.types) : v'.fetch k = v.fetch k := by
  unfold fetch
  rw [hg, tyOf_congr ht]

theorem fetch_updateVal_ne (v : Var) {n k : Str} (h : k ≠ n) (y : Val) :
    (v.updateVal n y).fetch k = v.fetch k :=
  fetch_congr (updateVal_get_ne v h y) (updateVal_types v n y)

/-- after `updateVal n y` with `y` of the type of `n`, the variable `n` reads as `y` (as the default
    of its type when `y` is that default, `-0.0` included) — a value of the target's type -/
theorem fetch_updateVal (v : Var) (n : Str) (t : VarTy) (y : Val) (ht : v.tyOf n = .ok (some t)) :
    (v.updateVal n y).fetch n = .ok (if isDefault y then t.default else y) := by
  have ht' : (v.updateVal n y).tyOf n = .ok (some t) := by
    rw [tyOf_congr (updateVal_types v n y)]; exact ht
  by_cases hd : isDefault y = true
  · rw [if_pos hd]
    exact fetch_default _ n t (by rw [updateVal_get_self, if_pos hd]) ht'
  · rw [if_neg hd]
    exact fetch_present _ n y (by rw [updateVal_get_self, if_neg hd])

theorem store_ok_conv {v v' : Var} {n : Str} {x : Val} (h : v.store n x = .ok v') :
    (v.vars.length ≤ 65535 ∨ AL.contains n v.vars = true) ∧
      ∃ t y, v.tyOf n = .ok (some t) ∧ Lemmas.VarPool.convTo t x = .ok y ∧ v' = v.updateVal n y := by
  rw [Lemmas.VarPool.store_def] at h
  split at h
  · cases h
  · rename_i hlen
    refine ⟨?_, ?_⟩
    · by_cases hl : v.vars.length ≤ 65535
      · exact .inl hl
      · cases hc : AL.contains n v.vars with
        | true => exact .inr rfl
        | false => exact absurd ⟨by omega, hc⟩ hlen
    · split at h
      · rename_i t ht
        cases hc : Lemmas.VarPool.convTo t x with
        | error e => rw [hc] at h; cases h
        | ok y => rw [hc] at h; cases h; exact ⟨t, y, ht, hc, rfl⟩
      · cases h

theorem store_ok {v v' : Var} {n : Str} {x : Val} (h : v.store n x = .ok v') :
    (v.vars.length ≤ 65535 ∨ AL.contains n v.vars = true) ∧
      ∃ t y, v.tyOf n = .ok (some t) ∧ y.ty = t.toTy ∧ v' = v.updateVal n y := by
  obtain ⟨hlen, t, y, ht, hy, hv⟩ := store_ok_conv h
  exact ⟨hlen, t, y, ht, Lemmas.VarPool.convTo_ty hy, hv⟩

/-- **reading after `store`**: the name reads as the converted value (as the default of its type when
    that is one: `-0.0` reads back as `0.0`), every other name as before -/
theorem fetch_store {v v' : Var} {n : Str} {x : Val} (h : v.store n x = .ok v') :
    ∃ t y, v.tyOf n = .ok (some t) ∧ Lemmas.VarPool.convTo t x = .ok y ∧ ∀ k,
      v'.fetch k = if k = n then .ok (if isDefault y then t.default else y) else v.fetch k := by
  obtain ⟨_, t, y, ht, hy, rfl⟩ := store_ok_conv h
  refine ⟨t, y, ht, hy, fun k => ?_⟩
  by_cases hk : k = n
  · rw [if_pos hk, hk]; exact fetch_updateVal v n t y ht
  · rw [if_neg hk]; exact fetch_updateVal_ne v hk y

/-- after a successful `store n x` the value held under `n`, if any, has the type of `n`
    (its suffix, else its first letter's DEFtype) -/
theorem store_typed {v v' : Var} {n : Str} {x : Val} (h : v.store n x = .ok v') :
    ∃ t, v'.tyOf n = .ok (some t) ∧ ∀ y, AL.get n v'.vars = some y → y.ty = t.toTy := by
  obtain ⟨_, t, y, ht, hy, rfl⟩ := store_ok h
  refine ⟨t, by rw [tyOf_congr (updateVal_types v n y)]; exact ht, ?_⟩
  intro z hz
  rw [updateVal_get_self] at hz
  split at hz
  · cases hz
  · cases hz; exact hy

example : (Var.new.store "A%".toList (.sng 0x40200000)).toOption.map (·.vars) =
    some [("A%".toList, .int 2)] := by decide

/-- an entry after `update_val` is an old one, or the value written — which is then no default -/
theorem mem_updateVal {v : Var} {n : Str} {y : Val} {p : Str × Val} (hp : p ∈ (v.updateVal n y).vars) :
    p ∈ v.vars ∨ (p = (n, y) ∧ isDefault y = false) := by
  unfold updateVal at hp
  split at hp
  · exact .inl (AL.mem_erase.1 hp).1
  · rename_i hd
    rcases AL.mem_set.1 hp with rfl | ⟨hp, _⟩
    · exact .inr ⟨rfl, by simpa using hd⟩
    · exact .inl hp

theorem typed_updateVal {v : Var} (hv : Typed v) {n : Str} {t : VarTy} {y : Val}
    (ht : v.tyOf n = .ok (some t)) (hy : y.ty = t.toTy) : Typed (v.updateVal n y) := by
  intro p hp
  rw [tyOf_congr (updateVal_types v n y)]
  rcases mem_updateVal hp with hp | ⟨rfl, hd⟩
  · exact hv p hp
  · exact ⟨t, ht, hy, hd⟩

theorem nodup_updateVal {v : Var} (hv : AL.NoDup v.vars) (n : Str) (y : Val) :
    AL.NoDup (v.updateVal n y).vars := by
  unfold updateVal
  split
  · exact AL.noDup_erase n hv
  · exact AL.noDup_set n y hv

theorem length_updateVal_le_of_contains (v : Var) {n : Str} (y : Val) (hc : AL.contains n v.vars = true) :
    (v.updateVal n y).vars.length ≤ v.vars.length := by
  unfold updateVal
  split
  · exact AL.length_erase_le n v.vars
  · exact AL.length_set_le_of_contains y hc

theorem length_updateVal_le (v : Var) (n : Str) (y : Val) :
    (v.updateVal n y).vars.length ≤ v.vars.length + 1 := by
  unfold updateVal
  split
  · exact Nat.le_succ_of_le (AL.length_erase_le n v.vars)
  · exact AL.length_set_le n y v.vars

theorem wf_store {v v' : Var} (hv : WF v) {n : Str} {x : Val} (h : v.store n x = .ok v') : WF v' := by
  obtain ⟨hlen, t, y, ht, hy, rfl⟩ := store_ok h
  refine ⟨typed_updateVal hv.typed ht hy, nodup_updateVal hv.nodupVars n y, ?_, ?_⟩
  · rw [updateVal_dims]; exact hv.nodupDims
  · rcases hlen with hlen | hc
    · have := length_updateVal_le v n y; omega
    · have := length_updateVal_le_of_contains v y hc
      have := hv.pool; omega

example : ∃ v', Var.new.store "A%".toList (.int 3) = .ok v' ∧ WF v' :=
  ⟨Var.new.updateVal "A%".toList (.int 3), rfl, wf_store wf_new (n := "A%".toList) (x := .int 3) rfl⟩

theorem store_full (v : Var) (n : Str) (x : Val) (h : 65535 < v.vars.length)
    (hn : AL.contains n v.vars = false) :
    v.store n x = err Code.outOfMemory := by
  rw [Lemmas.VarPool.store_def, if_pos ⟨h, hn⟩]

/-- (D23) a store to a name the pool holds is never refused for lack of room, whatever the size of
    the pool -/
theorem store_existing_not_full (v : Var) (n : Str) (x : Val) (hc : AL.contains n v.vars = true) :
    v.store n x = (match v.tyOf n with
                    | .ok (some t) => v.insertTy t n x
                    | .ok none => err Code.internalError
                    | .error e => .error e) := by
  rw [Lemmas.VarPool.store_def, if_neg (by simp [hc])]
  obtain ⟨o, ho⟩ := Lemmas.VarPool.tyOf_ok v n
  rw [ho]
  cases o with
  | none => rfl
  | some t => exact (Lemmas.VarPool.insertTy_eq_conv v t n x).symm

example : 65535 < (List.replicate 65536 ("A".toList, Val.int 1)).length := by
  rw [List.length_replicate]; omega

/-- a value that is a default (`0`, `±0.0`, `""`) of the name's type is not stored: the key is
    removed and the variable reads as the default again -/
theorem default_store_frees {v v' : Var} {n : Str} {x : Val} (h : v.store n x = .ok v')
    (hx : ∀ t y, v.tyOf n = .ok (some t) → y.ty = t.toTy → v' = v.updateVal n y → isDefault y = true) :
    AL.get n v'.vars = none ∧ v'.vars = AL.erase n v.vars := by
  obtain ⟨_, t, y, ht, hy, hv'⟩ := store_ok h
  have hd := hx t y ht hy hv'
  subst hv'
  constructor
  · rw [updateVal_get_self, if_pos hd]
  · unfold updateVal; rw [if_pos hd]

/-- the directly usable form: storing a default value of the variable's own type -/
theorem default_store_frees' (v : Var) (n : Str) (t : VarTy) (x : Val)
    (hlen : v.vars.length ≤ 65535 ∨ AL.contains n v.vars = true) (ht : v.tyOf n = .ok (some t))
    (hx : x.ty = t.toTy) (hd : isDefault x = true) :
    v.store n x = .ok { v with vars := AL.erase n v.vars } := by
  have hs : ∀ s, x = .str s → s.length ≤ 255 := by
    rintro s rfl
    rw [List.isEmpty_iff.1 hd]
    exact Nat.zero_le _
  rw [Lemmas.VarPool.store_eq_conv v n x t hlen ht, Lemmas.VarPool.convTo_same hx hs]
  simp only [Except.map, updateVal, hd, if_true]

example : ((Var.new.store "A".toList (.sng 0x3f800000)).toOption.map (·.vars.length) = some 1) ∧
    ((Var.new.store "A".toList (.sng 0x3f800000)).toOption.bind
      (fun v => (v.store "A".toList (.sng 0x80000000)).toOption.map (·.vars))) = some [] := by decide

/-- array keys of different (name, subscript list) are different texts -/
theorem key_injective {n n' : Str} {is is' : List Int16} (hn : ',' ∉ n) (hn' : ',' ∉ n')
    (h : arrayKey n is = arrayKey n' is') : n = n' ∧ is = is' := by
  rw [arrayKey_eq, arrayKey_eq] at h
  obtain ⟨t, ht⟩ := enc_head is n
  obtain ⟨t', ht'⟩ := enc_head is' n'
  rw [ht, ht'] at h
  obtain ⟨h1, h2⟩ := split_comma hn hn' h
  subst h1
  refine ⟨rfl, enc_inj hn ?_⟩
  rw [ht, ht', h2]

example : arrayKey "A".toList [1, 23] = "A,1,23,A".toList ∧
    arrayKey "A".toList [12, 3] = "A,12,3,A".toList := by decide

/-- a scalar (comma-free name) is never the key of an array element -/
theorem scalar_ne_element {n m : Str} (is : List Int16) (hn : ',' ∉ n) : n ≠ arrayKey m is := by
  intro h
  apply hn
  rw [h, arrayKey_eq]
  exact List.mem_append_right _ (comma_mem_enc is m)

example : "A1".toList ≠ arrayKey "A".toList [1] := scalar_ne_element _ (by decide)

/-- storing under `k` does not change what any other key reads as -/
theorem no_alias {v v' : Var} {k k' : Str} {x : Val} (hne : k' ≠ k) (h : v.store k x = .ok v') :
    v'.fetch k' = v.fetch k' := by
  obtain ⟨_, _, _, _, hf⟩ := fetch_store h
  rw [hf k', if_neg hne]

example : ((Var.new.store "A".toList (.sng 0x40400000)).toOption.bind fun v₁ =>
    (v₁.store "A!".toList (.sng 0x40800000)).toOption.bind fun v₂ =>
      (v₂.fetch "A".toList).toOption) = some (.sng 0x40400000) := by decide

/-- the declared bounds of `n`, or the automatic ones (10 per subscript) when it is not declared -/
def dimsOf (v : Var) (n : Str) (k : Nat) : List Int16 :=
  match AL.get n v.dims with
  | some d => d
  | none => List.replicate k 10

/-- the state after the (possible) automatic dimensioning by a use with `k` subscripts -/
def autoDim (v : Var) (n : Str) (k : Nat) : Var :=
  match AL.get n v.dims with
  | some _ => v
  | none => { v with dims := AL.set n (List.replicate k 10) v.dims }

theorem autoDim_vars (v : Var) (n : Str) (k : Nat) : (autoDim v n k).vars = v.vars := by
  unfold autoDim; split <;> rfl

theorem autoDim_types (v : Var) (n : Str) (k : Nat) : (autoDim v n k).types = v.types := by
  unfold autoDim; split <;> rfl

theorem autoDim_get (v : Var) (n : Str) (k : Nat) :
    AL.get n (autoDim v n k).dims = some (dimsOf v n k) := by
  unfold autoDim dimsOf
  split
  · rename_i d hd; exact hd
  · exact AL.get_set_self _ _ _

/-- subscripts `is` are accepted by bounds `ds`: the test `build_array_key` makes -/
def Accepts (is ds : List Int16) : Prop := is.length = ds.length ∧ withinBounds is ds = true

instance (is ds : List Int16) : Decidable (Accepts is ds) := inferInstanceAs (Decidable (_ ∧ _))

theorem withinBounds_iff : ∀ (is ds : List Int16), is.length = ds.length →
    (withinBounds is ds = true ↔ ∀ (j : Nat) (h : j < is.length) (h' : j < ds.length), is[j] ≤ ds[j])
  | [], [], _ => by simp [withinBounds]
  | [], _ :: _, h => by simp at h
  | _ :: _, [], h => by simp at h
  | r :: rs, d :: ds, h => by
    have hl : rs.length = ds.length := by simpa using h
    have ih := withinBounds_iff rs ds hl
    unfold withinBounds
    by_cases hrd : r > d
    · simp only [hrd, if_true, Bool.false_eq_true, false_iff]
      intro hall
      have := hall 0 (by simp) (by simp)
      simp only [List.getElem_cons_zero] at this
      exact Int16.lt_irrefl (Int16.lt_of_le_of_lt this hrd)
    · simp only [hrd, if_false]
      rw [ih]
      have hle : r ≤ d := Int16.not_lt.1 hrd
      constructor
      · intro hall j hj hj'
        cases j with
        | zero => simpa using hle
        | succ j =>
          simp only [List.getElem_cons_succ]
          exact hall j (by simpa using hj) (by simpa using hj')
      · intro hall j hj hj'
        have := hall (j + 1) (by simpa using hj) (by simpa using hj')
        simpa using this

theorem buildArrayKey_conv_error (v : Var) (n : Str) (arr : List Val) (e : Error)
    (h : vecValToVecI16 arr = .error e) : v.buildArrayKey n arr = (v, .error e) := by
  simp [buildArrayKey, h]

/-- `build_array_key` after the subscripts converted: the automatic dimension is in place in every
    case; the key is produced iff the bounds accept the subscripts, else SUBSCRIPT OUT OF RANGE -/
theorem buildArrayKey_conv_ok (v : Var) (n : Str) (arr : List Val) (is : List Int16)
    (h : vecValToVecI16 arr = .ok is) :
    v.buildArrayKey n arr =
      (autoDim v n is.length,
        if Accepts is (dimsOf v n is.length) then .ok (arrayKey n is) else err Code.subscriptOutOfRange) := by
  unfold buildArrayKey autoDim dimsOf Accepts
  simp only [h]
  cases AL.get n v.dims with
  | some d =>
    by_cases hl : d.length = is.length <;> by_cases hw : withinBounds is d = true <;>
      simp [hl, hw, eq_comm (a := is.length)]
  | none =>
    by_cases hw : withinBounds is (List.replicate is.length 10) = true <;> simp [hw]

/-- `fetch_array` and `store_array` after the subscripts converted, each as one equation -/
theorem fetchArray_conv_ok (v : Var) (n : Str) (arr : List Val) (is : List Int16) (h : vecValToVecI16 arr = .ok is) :
    v.fetchArray n arr =
      (autoDim v n is.length,
        if Accepts is (dimsOf v n is.length) then (autoDim v n is.length).fetch (arrayKey n is)
        else err Code.subscriptOutOfRange) := by
  unfold fetchArray
  rw [buildArrayKey_conv_ok v n arr is h]
  by_cases hacc : Accepts is (dimsOf v n is.length)
  · rw [if_pos hacc, if_pos hacc]
  · rw [if_neg hacc, if_neg hacc]
    rfl

theorem storeArray_conv_ok (v : Var) (n : Str) (arr : List Val) (is : List Int16) (x : Val)
    (h : vecValToVecI16 arr = .ok is) :
    v.storeArray n arr x =
      if Accepts is (dimsOf v n is.length) then
        match (autoDim v n is.length).store (arrayKey n is) x with
        | .ok v'' => (v'', .ok ())
        | .error e => (autoDim v n is.length, .error e)
      else (autoDim v n is.length, err Code.subscriptOutOfRange) := by
  unfold storeArray
  rw [buildArrayKey_conv_ok v n arr is h]
  by_cases hacc : Accepts is (dimsOf v n is.length)
  · rw [if_pos hacc, if_pos hacc]
    rfl
  · rw [if_neg hacc, if_neg hacc]
    rfl

theorem vecValToVecI16_cons_ok {x : Val} {r : List Val} {is : List Int16}
    (h : vecValToVecI16 (x :: r) = .ok is) :
    ∃ n rest, x.toI16 = .ok n ∧ ¬ n < 0 ∧ vecValToVecI16 r = .ok rest ∧ is = n :: rest := by
  unfold vecValToVecI16 at h
  cases hx : x.toI16 with
  | error e =>
    rw [hx] at h
    simp only at h
    split at h <;> cases h
  | ok n =>
    rw [hx] at h
    simp only at h
    split at h
    · cases h
    · rename_i hneg
      obtain ⟨rest, hrest, h3⟩ := bind_ok h
      cases h3
      exact ⟨n, rest, rfl, hneg, hrest, rfl⟩

theorem vecValToVecI16_nonneg : ∀ {arr : List Val} {is : List Int16},
    vecValToVecI16 arr = .ok is → ∀ i ∈ is, (0 : Int16) ≤ i
  | [], is, h => by
    simp only [vecValToVecI16, Except.ok.injEq] at h
    subst h; intro i hi; cases hi
  | x :: r, is, h => by
    obtain ⟨n, rest, _, hneg, hrest, rfl⟩ := vecValToVecI16_cons_ok h
    intro i hi
    rcases List.mem_cons.1 hi with rfl | hi
    · exact Int16.not_lt.1 hneg
    · exact vecValToVecI16_nonneg hrest i hi

theorem vecValToVecI16_length : ∀ {arr : List Val} {is : List Int16},
    vecValToVecI16 arr = .ok is → is.length = arr.length
  | [], is, h => by
    simp only [vecValToVecI16, Except.ok.injEq] at h
    subst h; rfl
  | x :: r, is, h => by
    obtain ⟨n, rest, _, _, hrest, rfl⟩ := vecValToVecI16_cons_ok h
    simp [vecValToVecI16_length hrest]

/-- an element key ends as the array name does and begins with its first letter -/
theorem tyOf_arrayKey (v : Var) {n : Str} (hn : n ≠ []) (is : List Int16) :
    v.tyOf (arrayKey n is) = v.tyOf n := by
  obtain ⟨c, r, rfl⟩ := List.exists_cons_of_ne_nil hn
  have hl : (arrayKey (c :: r) is).getLast? = (c :: r).getLast? := by
    rw [arrayKey, List.getLast?_append, List.getLast?_cons_cons]
    cases h : (c :: r).getLast? with
    | none => simp at h
    | some x => rfl
  unfold tyOf suffixTy
  rw [hl]
  rfl

theorem bounds_fetch (v : Var) (hv : Typed v) (n : Str) (hn : n ≠ []) (t : VarTy)
    (ht : v.tyOf n = .ok (some t)) (arr : List Val) (is : List Int16)
    (h : vecValToVecI16 arr = .ok is) :
    (Accepts is (dimsOf v n is.length) →
        ∃ x, (v.fetchArray n arr).2 = .ok x ∧ x.ty = t.toTy) ∧
    (¬ Accepts is (dimsOf v n is.length) →
        (v.fetchArray n arr).2 = err Code.subscriptOutOfRange) := by
  rw [fetchArray_conv_ok v n arr is h]
  refine ⟨fun hacc => ?_, fun hacc => if_neg hacc⟩
  rw [if_pos hacc]
  have hv' : Typed (autoDim v n is.length) := by
    intro p hp
    rw [autoDim_vars] at hp
    rw [tyOf_congr (autoDim_types v n is.length)]
    exact hv p hp
  apply fetch_typed _ hv'
  rw [tyOf_congr (autoDim_types v n is.length), tyOf_arrayKey v hn, ht]

/-- `fetch_array` with convertible subscripts on a well-named array succeeds iff the subscript count
    matches the dimensions and every subscript is within 0..bound (bound 10 when the array was not
    declared); `0 ≤` is `vecValToVecI16_nonneg` -/
theorem bounds (v : Var) (hv : Typed v) (n : Str) (hn : n ≠ []) (t : VarTy)
    (ht : v.tyOf n = .ok (some t)) (arr : List Val) (is : List Int16)
    (h : vecValToVecI16 arr = .ok is) :
    (∃ x, (v.fetchArray n arr).2 = .ok x) ↔
      is.length = (dimsOf v n is.length).length ∧
      ∀ (j : Nat) (h1 : j < is.length) (h2 : j < (dimsOf v n is.length).length),
        is[j] ≤ (dimsOf v n is.length)[j] := by
  obtain ⟨b1, b2⟩ := bounds_fetch v hv n hn t ht arr is h
  constructor
  · rintro ⟨x, hx⟩
    by_cases hacc : Accepts is (dimsOf v n is.length)
    · exact ⟨hacc.1, (withinBounds_iff _ _ hacc.1).1 hacc.2⟩
    · rw [b2 hacc] at hx; cases hx
  · intro hacc
    obtain ⟨x, hx, _⟩ := b1 ⟨hacc.1, (withinBounds_iff _ _ hacc.1).2 hacc.2⟩
    exact ⟨x, hx⟩

/-- subscripts that do not convert fail without touching the store (for numbers the error is
    SUBSCRIPT OUT OF RANGE, for anything else the conversion's TYPE MISMATCH:
    `vecValToVecI16_numeric`) -/
theorem bounds_conv_error (v : Var) (n : Str) (arr : List Val) (x : Val) (e : Error)
    (h : vecValToVecI16 arr = .error e) :
    v.fetchArray n arr = (v, .error e) ∧ v.storeArray n arr x = (v, .error e) := by
  simp [fetchArray, storeArray, buildArrayKey_conv_error v n arr e h]

example : (Var.new.fetchArray "A".toList [.int 10]).2 = .ok (.sng 0) ∧
    (Var.new.fetchArray "A".toList [.int 11]).2 = err Code.subscriptOutOfRange ∧
    (Var.new.fetchArray "A".toList [.int 1, .int 1]).2 = .ok (.sng 0) ∧
    (Var.new.fetchArray "A".toList [.int (-1)]).2 = err Code.subscriptOutOfRange := by decide

theorem wf_autoDim {v : Var} (hv : WF v) (n : Str) (k : Nat) : WF (autoDim v n k) := by
  unfold autoDim
  split
  · exact hv
  · exact ⟨hv.typed, hv.nodupVars, AL.noDup_set _ _ hv.nodupDims, hv.pool⟩

theorem buildArrayKey_state (v : Var) (n : Str) (arr : List Val) :
    (v.buildArrayKey n arr).1 = v ∨ ∃ k, (v.buildArrayKey n arr).1 = autoDim v n k := by
  cases h : vecValToVecI16 arr with
  | error e => left; rw [buildArrayKey_conv_error v n arr e h]
  | ok is => right; exact ⟨is.length, by rw [buildArrayKey_conv_ok v n arr is h]⟩

theorem wf_buildArrayKey {v : Var} (hv : WF v) (n : Str) (arr : List Val) :
    WF (v.buildArrayKey n arr).1 := by
  rcases buildArrayKey_state v n arr with h | ⟨k, h⟩
  · rw [h]; exact hv
  · rw [h]; exact wf_autoDim hv n k

theorem fetchArray_fst (v : Var) (n : Str) (arr : List Val) :
    (v.fetchArray n arr).1 = (v.buildArrayKey n arr).1 := by
  unfold fetchArray
  cases hb : v.buildArrayKey n arr with
  | mk v' r => cases r <;> rfl

theorem wf_fetchArray {v : Var} (hv : WF v) (n : Str) (arr : List Val) :
    WF (v.fetchArray n arr).1 ∧ (v.fetchArray n arr).1.vars = v.vars ∧
    (v.fetchArray n arr).1.types = v.types := by
  rw [fetchArray_fst]
  rcases buildArrayKey_state v n arr with h | ⟨k, h⟩
  · rw [h]; exact ⟨hv, rfl, rfl⟩
  · rw [h]; exact ⟨wf_autoDim hv n k, autoDim_vars v n k, autoDim_types v n k⟩

theorem storeArray_fst (v : Var) (n : Str) (arr : List Val) (x : Val) :
    (v.storeArray n arr x).1 = (v.buildArrayKey n arr).1 ∨
      ∃ key, (v.buildArrayKey n arr).1.store key x = .ok (v.storeArray n arr x).1 := by
  unfold storeArray
  cases v.buildArrayKey n arr with
  | mk v' r =>
    cases r with
    | error e => exact .inl rfl
    | ok key =>
      dsimp only
      cases hs : v'.store key x with
      | error e => exact .inl rfl
      | ok v'' => exact .inr ⟨key, hs⟩

theorem wf_storeArray {v : Var} (hv : WF v) (n : Str) (arr : List Val) (x : Val) :
    WF (v.storeArray n arr x).1 := by
  rcases storeArray_fst v n arr x with h | ⟨key, h⟩
  · rw [h]; exact wf_buildArrayKey hv n arr
  · exact wf_store (wf_buildArrayKey hv n arr) h

example : WF (Var.new.storeArray "A%".toList [.int 3] (.int 7)).1 := wf_storeArray wf_new _ _ _

/-- the mathematical value of a numeric subscript: the Integer itself, ⌊x⌋ of a float
    (`none`: NaN, ±inf, or not a number at all) -/
def subZ : Val → Option Int
  | .int n => some n.toInt
  | .sng b => Val.floorZ (.sng b)
  | .dbl b => Val.floorZ (.dbl b)
  | _ => none

/-- subscripts `arr` lie within bounds `ds`: as many subscripts as dimensions, and each one is a
    number whose value `z` satisfies `0 ≤ z ≤ bound` -/
def InBounds : List Val → List Int16 → Prop
  | [], [] => True
  | x :: xs, d :: ds => (∃ z, subZ x = some z ∧ 0 ≤ z ∧ z ≤ d.toInt) ∧ InBounds xs ds
  | _, _ => False

theorem toI16_ok_subZ {x : Val} {n : Int16} (hx : x.isNumeric = true) (h : x.toI16 = .ok n) :
    subZ x = some n.toInt := by
  cases x with
  | int m => cases h; rfl
  | sng b => exact C08.float_to_int_exact _ n h (.inl rfl)
  | dbl b => exact C08.float_to_int_exact _ n h (.inr rfl)
  | str s => cases hx
  | ret a => cases hx
  | nxt a => cases hx

theorem toI16_err_subZ {x : Val} {e : Error} (h : x.toI16 = .error e) :
    ∀ z, subZ x = some z → ¬ (-32768 ≤ z ∧ z ≤ 32767) := by
  intro z hz hr
  have hf : ∀ y : Val, y.ty = .sng ∨ y.ty = .dbl → y.floorZ = some z → y.toI16 ≠ .error e := by
    intro y hy hyz hy'
    rw [C08.float_to_int y hy, hyz] at hy'
    simp only [C08.InRange, if_pos hr] at hy'
    cases hy'
  cases x with
  | int m => cases h
  | sng b => exact hf (.sng b) (.inl rfl) hz h
  | dbl b => exact hf (.dbl b) (.inr rfl) hz h
  | str s => cases hz
  | ret a => cases hz
  | nxt a => cases hz

theorem not_inBounds_nil_cons (d : Int16) (ds : List Int16) : ¬ InBounds [] (d :: ds) := by
  intro h; simp [InBounds] at h

theorem subscript_numeric {x : Val} (hx : x.isNumeric = true) (xs : List Val) :
    (∃ n, vecValToVecI16 (x :: xs) = (vecValToVecI16 xs >>= fun rest => .ok (n :: rest)) ∧
        subZ x = some n.toInt ∧ 0 ≤ n.toInt) ∨
    (vecValToVecI16 (x :: xs) = err Code.subscriptOutOfRange ∧
      ∀ d : Int16, ¬ ∃ z, subZ x = some z ∧ 0 ≤ z ∧ z ≤ d.toInt) := by
  have h00 := Int16.toInt_zero
  cases hconv : x.toI16 with
  | error e =>
    refine .inr ⟨by simp only [vecValToVecI16, hconv, hx, if_true], ?_⟩
    rintro d ⟨z, hz, h0, hd⟩
    have := (C08.toInt_range d).2
    exact toI16_err_subZ hconv z hz ⟨by omega, by omega⟩
  | ok n =>
    have hsub := toI16_ok_subZ hx hconv
    by_cases hneg : n < 0
    · refine .inr ⟨by simp only [vecValToVecI16, hconv, hneg, if_true], ?_⟩
      rintro d ⟨z, hz, h0, _⟩
      rw [hsub] at hz; cases hz
      have := Int16.lt_iff_toInt_lt.1 hneg
      omega
    · have := Int16.le_iff_toInt_le.1 (Int16.not_lt.1 hneg)
      exact .inl ⟨n, by simp only [vecValToVecI16, hconv, hneg, if_false], hsub, by omega⟩

/-- numeric subscripts either all convert — and then "within bounds" is exactly the comparison the
    code makes — or the conversion itself is SUBSCRIPT OUT OF RANGE and no bounds contain them -/
theorem vecValToVecI16_numeric : ∀ (arr : List Val), (∀ x ∈ arr, x.isNumeric = true) →
    (vecValToVecI16 arr = err Code.subscriptOutOfRange ∧ ∀ ds, ¬ InBounds arr ds) ∨
    (∃ is, vecValToVecI16 arr = .ok is ∧ ∀ ds, InBounds arr ds ↔ Accepts is ds)
  | [], _ => .inr ⟨[], rfl, fun ds => by cases ds <;> simp [InBounds, Accepts, withinBounds]⟩
  | x :: xs, hnum => by
    have hxs : ∀ y ∈ xs, y.isNumeric = true := fun y hy => hnum y (List.mem_cons_of_mem _ hy)
    rcases subscript_numeric (hnum x List.mem_cons_self) xs with ⟨n, hc, hsub, hn0⟩ | ⟨herr, hno⟩
    · rcases vecValToVecI16_numeric xs hxs with ⟨herr, hno⟩ | ⟨is, hok, hiff⟩
      · refine .inl ⟨by rw [hc, herr]; rfl, fun ds hb => ?_⟩
        cases ds with
        | nil => exact hb
        | cons d ds => exact hno ds hb.2
      · refine .inr ⟨n :: is, by rw [hc, hok]; rfl, fun ds => ?_⟩
        cases ds with
        | nil => simp [InBounds, Accepts]
        | cons d ds =>
          have hle : (∃ z, subZ x = some z ∧ 0 ≤ z ∧ z ≤ d.toInt) ↔ ¬ n > d := by
            rw [hsub]
            constructor
            · rintro ⟨z, hz, _, hzd⟩ hgt
              cases hz
              have := Int16.lt_iff_toInt_lt.1 hgt
              omega
            · exact fun h => ⟨_, rfl, hn0, Int16.le_iff_toInt_le.1 (Int16.not_lt.1 h)⟩
          show (_ ∧ InBounds xs ds) ↔ _
          rw [hle, hiff ds]
          simp only [Accepts, withinBounds, List.length_cons, Nat.add_right_cancel_iff]
          by_cases hgt : n > d <;> simp [hgt]
    · refine .inl ⟨herr, fun ds hb => ?_⟩
      cases ds with
      | nil => exact hb
      | cons d ds => exact hno d hb.1

/-- **The bounds sentence of C06, at full strength.**  On a well-named array, numeric subscripts are
    accepted exactly when there are as many as dimensions and each value lies in 0..bound (bound 10
    in every dimension when the array was not declared); *every* other list of numbers — negative,
    beyond the bound, beyond the Integer range, NaN, infinite, wrong count — is SUBSCRIPT OUT OF
    RANGE.  For `fetch_array`: -/
theorem subscript_out_of_range_exact (v : Var) (hv : Typed v) (n : Str) (hn : n ≠ []) (t : VarTy)
    (ht : v.tyOf n = .ok (some t)) (arr : List Val) (hnum : ∀ x ∈ arr, x.isNumeric = true) :
    (InBounds arr (dimsOf v n arr.length) →
        ∃ x, (v.fetchArray n arr).2 = .ok x ∧ x.ty = t.toTy) ∧
    (¬ InBounds arr (dimsOf v n arr.length) →
        (v.fetchArray n arr).2 = err Code.subscriptOutOfRange) := by
  rcases vecValToVecI16_numeric arr hnum with ⟨herr, hno⟩ | ⟨is, hok, hiff⟩
  · refine ⟨fun hb => absurd hb (hno _), fun _ => ?_⟩
    have := (bounds_conv_error v n arr (.int 0) _ herr).1
    rw [this]; rfl
  · have hlen := vecValToVecI16_length hok
    obtain ⟨b1, b2⟩ := bounds_fetch v hv n hn t ht arr is hok
    rw [hlen] at b1 b2
    exact ⟨fun hb => b1 ((hiff _).1 hb), fun hb => b2 (fun hacc => hb ((hiff _).2 hacc))⟩

/-- … and for `store_array`: nothing is stored and the error is SUBSCRIPT OUT OF RANGE -/
theorem subscript_out_of_range_exact_store (v : Var) (n : Str) (arr : List Val) (x : Val)
    (hnum : ∀ y ∈ arr, y.isNumeric = true) (hb : ¬ InBounds arr (dimsOf v n arr.length)) :
    (v.storeArray n arr x).2 = err Code.subscriptOutOfRange ∧ (v.storeArray n arr x).1.vars = v.vars := by
  rcases vecValToVecI16_numeric arr hnum with ⟨herr, _⟩ | ⟨is, hok, hiff⟩
  · have := (bounds_conv_error v n arr x _ herr).2
    rw [this]; exact ⟨rfl, rfl⟩
  · have hlen := vecValToVecI16_length hok
    have hacc : ¬ Accepts is (dimsOf v n is.length) := by
      rw [hlen]
      exact fun hacc => hb ((hiff _).2 hacc)
    rw [storeArray_conv_ok v n arr is x hok, if_neg hacc]
    exact ⟨rfl, autoDim_vars v n is.length⟩

/-- DIM with numeric bounds fails only with SUBSCRIPT OUT OF RANGE (or REDIMENSIONED ARRAY) -/
theorem dim_numeric_error (v : Var) (n : Str) (arr : List Val) (hnum : ∀ y ∈ arr, y.isNumeric = true)
    (e : Error) (h : v.dimensionArray n arr = .error e) :
    e = Error.mk' Code.redimensionedArray ∨ e = Error.mk' Code.subscriptOutOfRange := by
  unfold dimensionArray at h
  split at h
  · left; cases h; rfl
  · right
    rcases vecValToVecI16_numeric arr hnum with ⟨herr, _⟩ | ⟨is, hok, _⟩
    · rw [herr] at h; cases h; rfl
    · rw [hok] at h; cases h

example : (Var.new.fetchArray "A".toList [.sng 0x47000000]).2 = err Code.subscriptOutOfRange ∧
    (Var.new.fetchArray "A".toList [.dbl 0x7ff8000000000000]).2 = err Code.subscriptOutOfRange ∧
    (Var.new.fetchArray "A".toList [.sng 0xc7000100]).2 = err Code.subscriptOutOfRange ∧
    (Var.new.fetchArray "A".toList [.sng 0x40200000]).2 = .ok (.sng 0) ∧
    (Var.new.fetchArray "A".toList [.str []]).2 = err Code.typeMismatch := by decide

example : InBounds [.int 10, .sng 0x40200000] [10, 10] :=
  ⟨⟨10, rfl, by decide, by decide⟩, ⟨2, by decide, by decide, by decide⟩, trivial⟩

/-- DIM of an array that has dimensions is REDIMENSIONED ARRAY, whatever the subscripts -/
theorem redim_rejected (v : Var) (n : Str) (arr : List Val) (d : List Int16)
    (h : AL.get n v.dims = some d) : v.dimensionArray n arr = err Code.redimensionedArray := by
  unfold dimensionArray
  have : AL.contains n v.dims = true := AL.contains_iff.2 ⟨d, h⟩
  rw [if_pos this]

theorem dim_ok (v : Var) (n : Str) (arr : List Val) (is : List Int16)
    (h : AL.get n v.dims = none) (hc : vecValToVecI16 arr = .ok is) :
    v.dimensionArray n arr = .ok { v with dims := AL.set n is v.dims } := by
  unfold dimensionArray
  have : ¬ AL.contains n v.dims = true := by
    intro hc'
    obtain ⟨x, hx⟩ := AL.contains_iff.1 hc'
    rw [h] at hx; cases hx
  rw [if_neg this, hc]
  rfl

theorem dimensionArray_ok {v v' : Var} {n : Str} {arr : List Val} (h : v.dimensionArray n arr = .ok v') :
    ∃ is, vecValToVecI16 arr = .ok is ∧ v' = { v with dims := AL.set n is v.dims } := by
  unfold dimensionArray at h
  split at h
  · cases h
  · obtain ⟨is, his, h2⟩ := bind_ok h
    cases h2
    exact ⟨is, his, rfl⟩

/-- … so a second DIM is rejected -/
theorem dim_twice_rejected (v v' : Var) (n : Str) (arr arr' : List Val)
    (h : v.dimensionArray n arr = .ok v') : v'.dimensionArray n arr' = err Code.redimensionedArray := by
  obtain ⟨is, _, rfl⟩ := dimensionArray_ok h
  exact redim_rejected _ n arr' is (AL.get_set_self _ _ _)

/-- … and so is a DIM after any use with convertible subscripts (the use dimensioned it, bound 10,
    even when the use itself failed with SUBSCRIPT OUT OF RANGE) -/
theorem use_then_dim_rejected (v : Var) (n : Str) (arr arr' : List Val) (is : List Int16)
    (hc : vecValToVecI16 arr = .ok is) :
    (v.fetchArray n arr).1.dimensionArray n arr' = err Code.redimensionedArray := by
  rw [fetchArray_conv_ok v n arr is hc]
  exact redim_rejected _ n arr' _ (autoDim_get v n is.length)

example : (Var.new.fetchArray "A".toList [.int 11]).2 = err Code.subscriptOutOfRange ∧
    (match (Var.new.fetchArray "A".toList [.int 11]).1.dimensionArray "A".toList [.int 20] with
      | .error e => e.code | .ok _ => 0) = Code.redimensionedArray := by decide

theorem wf_dimensionArray {v v' : Var} (hv : WF v) {n : Str} {arr : List Val}
    (h : v.dimensionArray n arr = .ok v') : WF v' := by
  obtain ⟨is, _, rfl⟩ := dimensionArray_ok h
  exact ⟨hv.typed, hv.nodupVars, AL.noDup_set _ _ hv.nodupDims, hv.pool⟩

/-- ERASE of an array without dimensions is ILLEGAL FUNCTION CALL "ARRAY NOT DIMENSIONED" -/
theorem erase_undeclared (v : Var) (n : Str) (h : AL.get n v.dims = none) :
    v.eraseArray n = errMsg Code.illegalFunctionCall "ARRAY NOT DIMENSIONED" := by
  unfold eraseArray; rw [h]

theorem erase_ok {v v' : Var} {n : Str} (h : v.eraseArray n = .ok v') :
    v' = { v with dims := AL.erase n v.dims,
                  vars := v.vars.filter (fun p => !startsWith p.1 (n ++ [','])) } := by
  unfold eraseArray at h
  split at h
  · cases h
  · cases h; rfl

/-- after ERASE the array can be dimensioned again, with any convertible bounds -/
theorem erase_then_dim_ok {v v' : Var} {n : Str} (h : v.eraseArray n = .ok v')
    (arr : List Val) (is : List Int16) (hc : vecValToVecI16 arr = .ok is) :
    ∃ v'', v'.dimensionArray n arr = .ok v'' ∧ AL.get n v''.dims = some is := by
  have hv' := erase_ok h
  have hnone : AL.get n v'.dims = none := by rw [hv']; exact AL.get_erase_self n v.dims
  exact ⟨_, dim_ok v' n arr is hnone hc, AL.get_set_self _ _ _⟩

example : ((Var.new.dimensionArray "A".toList [.int 5]).toOption.bind fun v₁ =>
    (v₁.eraseArray "A".toList).toOption.bind fun v₂ =>
      (v₂.dimensionArray "A".toList [.int 7, .int 2]).toOption.map (·.dims)) =
    some [("A".toList, [7, 2])] := by decide

theorem wf_eraseArray {v v' : Var} (hv : WF v) {n : Str} (h : v.eraseArray n = .ok v') : WF v' := by
  rw [erase_ok h]
  refine ⟨?_, AL.noDup_filter _ hv.nodupVars, AL.noDup_erase n hv.nodupDims, ?_⟩
  · intro p hp
    exact hv.typed p (List.mem_filter.1 hp).1
  · exact Nat.le_trans (List.length_filter_le _ _) hv.pool

theorem startsWith_iff : ∀ (s p : Str), startsWith s p = true ↔ ∃ r, s = p ++ r
  | s, [] => by simp [startsWith]
  | [], b :: bs => by simp [startsWith]
  | a :: as, b :: bs => by
    simp only [startsWith, Bool.and_eq_true, beq_iff_eq, List.cons_append, List.cons.injEq]
    rw [startsWith_iff as bs]
    constructor
    · rintro ⟨rfl, r, rfl⟩; exact ⟨r, rfl, rfl⟩
    · rintro ⟨r, rfl, rfl⟩; exact ⟨rfl, r, rfl⟩

theorem startsWith_own (n : Str) (is : List Int16) :
    startsWith (arrayKey n is) (n ++ [',']) = true := by
  rw [startsWith_iff, arrayKey_eq]
  obtain ⟨t, ht⟩ := enc_head is n
  exact ⟨t, by rw [ht]; simp⟩

theorem not_startsWith_scalar {k n : Str} (hk : ',' ∉ k) : startsWith k (n ++ [',']) = false := by
  cases h : startsWith k (n ++ [',']) with
  | false => rfl
  | true =>
    obtain ⟨r, hr⟩ := (startsWith_iff _ _).1 h
    exfalso; apply hk; rw [hr]; simp

theorem not_startsWith_other {m n : Str} (is : List Int16) (hm : ',' ∉ m) (hn : ',' ∉ n)
    (hne : m ≠ n) : startsWith (arrayKey m is) (n ++ [',']) = false := by
  cases h : startsWith (arrayKey m is) (n ++ [',']) with
  | false => rfl
  | true =>
    obtain ⟨r, hr⟩ := (startsWith_iff _ _).1 h
    rw [arrayKey_eq] at hr
    obtain ⟨t, ht⟩ := enc_head is m
    rw [ht] at hr
    have : m ++ ',' :: t = n ++ ',' :: r := by rw [hr]; simp
    exact absurd (split_comma hm hn this).1 hne

/-- ERASE A: every element of `A` reads as the default again; every scalar, and every element of
    every other array, reads exactly as before (names are comma-free, as the lexer guarantees) -/
theorem erase_exact {v v' : Var} (hv : WF v) {n : Str} (hn : ',' ∉ n) (h : v.eraseArray n = .ok v') :
    (∀ is, AL.get (arrayKey n is) v'.vars = none) ∧
    (∀ k, ',' ∉ k → v'.fetch k = v.fetch k) ∧
    (∀ m is, ',' ∉ m → m ≠ n → v'.fetch (arrayKey m is) = v.fetch (arrayKey m is)) := by
  have hv' := erase_ok h
  have hty : v'.types = v.types := by rw [hv']
  have hget : ∀ k, startsWith k (n ++ [',']) = false → AL.get k v'.vars = AL.get k v.vars := by
    intro k hk
    rw [hv']
    simp only
    rw [AL.get_filter hv.nodupVars]
    cases AL.get k v.vars with
    | none => rfl
    | some x => simp [hk]
  refine ⟨?_, ?_, ?_⟩
  · intro is
    rw [hv']
    simp only
    rw [AL.get_none_iff]
    intro p hp hk
    have := (List.mem_filter.1 hp).2
    rw [hk, startsWith_own] at this
    cases this
  · exact fun k hk => fetch_congr (hget k (not_startsWith_scalar hk)) hty
  · exact fun m is hm hne => fetch_congr (hget _ (not_startsWith_other is hm hn hne)) hty

example : ((Var.new.storeArray "A%".toList [.int 1] (.int 5)).1.storeArray "A1%".toList [.int 1] (.int 6)).1.vars.length = 2 ∧
    (((Var.new.storeArray "A%".toList [.int 1] (.int 5)).1.storeArray "A1%".toList [.int 1] (.int 6)).1.eraseArray
      "A%".toList).toOption.map (·.vars) = some [("A1%,1,A1%".toList, .int 6)] := by decide

theorem no_alias_array {v : Var} {n : Str} {arr : List Val} {is : List Int16} {x : Val}
    (hc : vecValToVecI16 arr = .ok is) (h : (v.storeArray n arr x).2 = .ok ()) :
    ∀ k', k' ≠ arrayKey n is → (v.storeArray n arr x).1.fetch k' = v.fetch k' := by
  intro k' hne
  rw [storeArray_conv_ok v n arr is x hc] at h ⊢
  by_cases hacc : Accepts is (dimsOf v n is.length)
  · rw [if_pos hacc] at h ⊢
    cases hs : (autoDim v n is.length).store (arrayKey n is) x with
    | error e => rw [hs] at h; cases h
    | ok v'' =>
      simp only
      rw [no_alias hne hs]
      exact fetch_congr (by rw [autoDim_vars]) (autoDim_types v n is.length)
  · rw [if_neg hacc] at h
    cases h

/-- a successful `store_array` changes what no scalar reads as, nor any element with a different
    (array, subscripts) -/
theorem no_alias_elements {v : Var} {n : Str} {arr : List Val} {is : List Int16} {x : Val}
    (hn : ',' ∉ n) (hc : vecValToVecI16 arr = .ok is) (h : (v.storeArray n arr x).2 = .ok ()) :
    (∀ k, ',' ∉ k → (v.storeArray n arr x).1.fetch k = v.fetch k) ∧
    (∀ m js, ',' ∉ m → (m, js) ≠ (n, is) →
      (v.storeArray n arr x).1.fetch (arrayKey m js) = v.fetch (arrayKey m js)) := by
  refine ⟨fun k hk => no_alias_array hc h k (scalar_ne_element is hk), ?_⟩
  intro m js hm hne
  apply no_alias_array hc h
  intro heq
  obtain ⟨h1, h2⟩ := key_injective hm hn heq
  exact hne (by rw [h1, h2])

example : ((Var.new.storeArray "A%".toList [.int 1, .int 2] (.int 5)).1.fetchArray "A%".toList [.int 2, .int 1]).2
    = .ok (.int 0) ∧
    ((Var.new.storeArray "A%".toList [.int 1, .int 2] (.int 5)).1.fetchArray "A%".toList [.int 1, .int 2]).2
    = .ok (.int 5) ∧
    ((Var.new.storeArray "A%".toList [.int 1, .int 2] (.int 5)).1.fetch "A%".toList) = .ok (.int 0) := by decide

theorem defTy_ok {v v' : Var} {t : VarTy} {a b : Val} (h : v.defTy t a b = .ok v') :
    ∃ lo hi : Nat, (hi < 26 ∨ hi < lo) ∧
      v' = { v with types := fun i => if lo ≤ i ∧ i ≤ hi then t else v.types i,
                    vars := v.vars.filter (defKeeps t) } := by
  unfold defTy at h
  obtain ⟨f, _, h⟩ := bind_ok h
  obtain ⟨u, _, h⟩ := bind_ok h
  cases f with
  | nil => cases h
  | cons fc fr =>
    cases u with
    | nil => cases h
    | cons tc tr =>
      simp only at h
      split at h
      · cases h
      · rename_i hcond
        cases h
        refine ⟨letterIndex fc, letterIndex tc, ?_, rfl⟩
        omega

theorem defKeeps_ty {t : VarTy} {p : Str × Val} (hs : suffixTy p.1 = none) (hk : defKeeps t p = true)
    {t0 : VarTy} (h0 : p.2.ty = t0.toTy) : p.2.ty = t.toTy := by
  rcases p with ⟨k, x⟩
  unfold defKeeps at hk
  simp only at hs hk h0 ⊢
  rw [hs] at hk
  cases x <;> cases t <;> first
    | rfl
    | (simp at hk; done)
    | (cases t0 <;> cases h0; done)

/-- DEFINT/DEFSNG/DEFDBL/DEFSTR preserve the invariant: afterwards every stored value still has
    the type of its name under the *new* DEFtype table (undecorated variables whose value is of
    another type than the one being declared are dropped — for every letter, see `defTy_drops`) -/
theorem wf_defTy {v v' : Var} (hv : WF v) {t : VarTy} {a b : Val} (h : v.defTy t a b = .ok v') :
    WF v' := by
  obtain ⟨lo, hi, _, rfl⟩ := defTy_ok h
  refine ⟨?_, AL.noDup_filter _ hv.nodupVars, hv.nodupDims,
    Nat.le_trans (List.length_filter_le _ _) hv.pool⟩
  intro p hp
  obtain ⟨hp1, hp2⟩ := List.mem_filter.1 hp
  obtain ⟨t0, h1, h2, h3⟩ := hv.typed p hp1
  unfold tyOf at h1 ⊢
  cases hs : suffixTy p.1 with
  | some s =>
    rw [hs] at h1
    simp only at h1 ⊢
    exact ⟨t0, h1, h2, h3⟩
  | none =>
    rw [hs] at h1
    simp only at h1 ⊢
    have hty := defKeeps_ty hs hp2 h2
    cases hk : p.1 with
    | nil => rw [hk] at h1; cases h1
    | cons c r =>
      rw [hk] at h1
      simp only at h1 ⊢
      split at h1
      · rename_i hlt
        rw [if_pos hlt]
        cases h1
        by_cases hr : lo ≤ letterIndex c ∧ letterIndex c ≤ hi
        · exact ⟨t, by rw [if_pos hr], hty, h3⟩
        · exact ⟨v.types (letterIndex c), by rw [if_neg hr], h2, h3⟩
      · cases h1

/-- the `retain` of DEFtype: an undecorated variable holding a value of another type than the
    declared one is dropped, whatever its first letter (also outside the declared range);
    decorated variables and values of the declared type stay -/
theorem defTy_drops {v v' : Var} (hv : WF v) {t : VarTy} {a b : Val} (h : v.defTy t a b = .ok v')
    (k : Str) (x : Val) (hx : AL.get k v.vars = some x) :
    AL.get k v'.vars = if defKeeps t (k, x) then some x else none := by
  obtain ⟨lo, hi, _, rfl⟩ := defTy_ok h
  simp only
  rw [AL.get_filter hv.nodupVars, hx, Option.filter_some]

example : ((Var.new.store "B".toList (.sng 0x3fc00000)).toOption.bind fun v₁ =>
    (v₁.defint (.str "A".toList) (.str "A".toList)).toOption.bind fun v₂ =>
      (v₂.fetch "B".toList).toOption) = some (.sng 0) := by decide

inductive Op where
  | store (n : Str) (x : Val)
  | storeArray (n : Str) (arr : List Val) (x : Val)
  | fetchArray (n : Str) (arr : List Val)
  | dim (n : Str) (arr : List Val)
  | erase (n : Str)
  | defTy (t : VarTy) (a b : Val)
  | clear

/-- state after an operation (an error leaves the state the Rust code leaves: unchanged, except for
    the automatic dimension of a failed array use) -/
def step (v : Var) : Op → Var
  | .store n x => match v.store n x with | .ok v' => v' | .error _ => v
  | .storeArray n arr x => (v.storeArray n arr x).1
  | .fetchArray n arr => (v.fetchArray n arr).1
  | .dim n arr => match v.dimensionArray n arr with | .ok v' => v' | .error _ => v
  | .erase n => match v.eraseArray n with | .ok v' => v' | .error _ => v
  | .defTy t a b => match v.defTy t a b with | .ok v' => v' | .error _ => v
  | .clear => v.clear

theorem wf_of_res {v : Var} (hv : WF v) {r : Res Var} (h : ∀ v', r = .ok v' → WF v') :
    WF (match (generalizing := false) r with | .ok v' => v' | .error _ => v) := by
  cases r with
  | ok v' => exact h v' rfl
  | error e => exact hv

theorem wf_step {v : Var} (hv : WF v) (op : Op) : WF (step v op) := by
  cases op with
  | store n x => exact wf_of_res hv fun _ => wf_store hv
  | storeArray n arr x => exact wf_storeArray hv n arr x
  | fetchArray n arr => exact (wf_fetchArray hv n arr).1
  | dim n arr => exact wf_of_res hv fun _ => wf_dimensionArray hv
  | erase n => exact wf_of_res hv fun _ => wf_eraseArray hv
  | defTy t a b => exact wf_of_res hv fun _ => wf_defTy hv
  | clear => exact wf_new

/-- after every history of operations: every variable holds a value of its own type, keys are
    distinct, and the pool holds at most 65 536 values -/
theorem wf_run (ops : List Op) : WF (ops.foldl step Var.new) :=
  List.foldlRecOn ops _ wf_new fun _ h op _ => wf_step h op

theorem pool_bounded (ops : List Op) : (ops.foldl step Var.new).vars.length ≤ 65536 :=
  (wf_run ops).pool

example : ([Op.store "A%".toList (.int 1), Op.storeArray "B%".toList [.int 3] (.int 2),
    Op.defTy .string (.str "A".toList) (.str "Z".toList)].foldl step Var.new).vars.length = 2 := by decide

/-- the limits the Rust source states are the documented ones: auto-dimension bound 10, 255-character strings, 65 535-variable pool test; `Gen/Limits.lean` is regenerated from /repo/src on every run, so editing one of these
    constants in the Rust source breaks this obligation -/
theorem generated_limits_documented : Gen.autoDimBound = 10 ∧ Gen.stringMaxLen = 255 ∧ Gen.varMaxLen = 65535 := by decide

end Thm.C06
end Basic

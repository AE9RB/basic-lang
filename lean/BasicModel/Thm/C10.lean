import BasicModel.Lemmas.FnCall
/-
  C10 — User functions bind parameters locally and evaluate at call time.

  `DEF FNx(p₁..pₖ)=body` compiles to `k, def FNx, jump→L, pop p₁ … pop pₖ, ⟨body⟩, return, L:`.
  Executing `def` records (k, address of the first `pop`); a call `fn FNx` checks the argument
  count, pushes the return address and the arguments in reverse, and enters the body, whose
  `pop`s therefore bind parameter i to argument i; the final `return` leaves the body's value on
  the caller's stack.  Parameter slots have mangled names `FNx.p` containing a '.'.
-/
namespace Basic
namespace Thm.C10
open Link
open Basic.Runtime

/-- in a program (`pc < entryAddress`), with the parameter count on top: the count is popped and
    `(count, pc + 1)` recorded under `name`, replacing any older entry -/
theorem doDef_records (s : Runtime) (σ : Array Val) (n : Int16) (name : Str)
    (hst : s.stack = σ.push (.int n)) (hpc : s.pc < s.entryAddress) :
    ∃ s', ((doDef name).run).run s = (.ok (), s') ∧ s'.stack = σ ∧
      s'.functions.lookup name = some (n.toInt.toNat, s.pc + 1) ∧
      (∀ other, other ≠ name → s'.functions.lookup other = s.functions.lookup other) ∧
      (s'.functions.filter (·.1 = name)).length = 1 ∧ s'.pc = s.pc ∧ s'.vars = s.vars := by
  refine ⟨_, run_doDef s σ n name hst hpc, rfl, ?_, ?_, ?_, rfl, rfl⟩
  · simp
  · intro other ho
    rw [List.lookup_cons, beq_false_of_ne ho]
    exact List.lookup_filter other _ fun p _ e => by simp [e, ho]
  · simp only [List.filter_cons, decide_true, if_true, List.length_cons, List.filter_filter]
    have : (s.functions.filter (fun a => decide (a.1 = name) && decide (a.1 ≠ name))) = [] := by
      rw [List.filter_eq_nil_iff]; intro a _; simp
    rw [this]; rfl

/-- as a direct statement (`pc ≥ entryAddress`): ILLEGAL DIRECT, nothing popped, nothing recorded -/
theorem doDef_direct_illegal (s : Runtime) (name : Str) (hpc : s.pc ≥ s.entryAddress) :
    ((doDef name).run).run s = (.error (Error.mk' Code.illegalDirect), s) ∧ Code.illegalDirect = 12 :=
  ⟨run_doDef_direct s name hpc, rfl⟩

/-- the instruction `def name` at address `p` records the entry point `p + 2`: the op after the
    `jump` that skips the body, i.e. the first `pop` (see `pushDefFn_shape`) -/
theorem def_step_records_entry (env : Env) (hie : Bool) (s : Runtime) (σ : Array Val) (n : Int16) (name : Str)
    (htr : s.tron = false) (hop : s.program.link.ops[s.pc]? = some (.def name))
    (hst : s.stack = σ.push (.int n)) (hpc : s.pc + 1 < s.entryAddress) :
    ∃ s', ((step env hie).run).run s = (.ok .continue, s') ∧ s'.stack = σ ∧ s'.pc = s.pc + 1 ∧
      s'.functions.lookup name = some (n.toInt.toNat, s.pc + 2) := by
  rw [run_step_unit env hie s (doDef name) htr hop]
  rw [run_doDef { s with pc := s.pc + 1 } σ n name hst hpc]
  refine ⟨_, rfl, rfl, rfl, ?_⟩
  simp

/-- the call: `σ, a₁ … aₖ, k` becomes `σ, ret pc, aₖ … a₁`, control enters the body at `addr` -/
theorem doFn_calls (s : Runtime) (σ : Array Val) (args : List Val) (k : Int16) (name : Str) (addr : Nat)
    (hst : s.stack = (σ ++ args.toArray).push (.int k)) (hk : k.toInt = args.length)
    (hfn : s.functions.lookup name = some (args.length, addr))
    (hb : σ.size + 1 + args.length ≤ 65535) :
    ((doFn name).run).run s =
      (.ok (), { s with stack := σ.push (.ret s.pc) ++ args.reverse.toArray, pc := addr }) :=
  run_doFn s σ args k name addr hst hk hfn hb

/-- binding: after the call, once the first `i` parameters have been popped the top of the stack is
    argument `i` — so the body's `pop p₁ … pop pₖ` (emitted in parameter order) give parameter i
    the value of argument i -/
theorem fn_args_popped_in_order (σ : Array Val) (r : Val) (args : List Val) (i : Nat) (hi : i < args.length) :
    (σ.push r ++ (args.drop i).reverse.toArray).back? = some args[i] ∧
    (σ.push r ++ (args.drop i).reverse.toArray).pop = σ.push r ++ (args.drop (i + 1)).reverse.toArray := by
  have hd : args.drop i = args[i] :: args.drop (i + 1) := List.drop_eq_getElem_cons hi
  rw [hd, List.reverse_cons]
  have : σ.push r ++ ((args.drop (i + 1)).reverse ++ [args[i]]).toArray =
      (σ.push r ++ (args.drop (i + 1)).reverse.toArray).push args[i] := by
    apply Array.ext'; simp
  rw [this]
  exact ⟨Array.back?_push .., Array.pop_push ..⟩

/-- … each `pop p` of the body stores the value on top into the slot `p` -/
theorem pop_step_binds (env : Env) (hie : Bool) (s : Runtime) (name : Str) (σ : Array Val) (v : Val) (vars' : Var)
    (htr : s.tron = false) (hop : s.program.link.ops[s.pc]? = some (.pop name))
    (hst : s.stack = σ.push v) (hstore : s.vars.store name v = .ok vars') :
    ((step env hie).run).run s = (.ok .continue, { s with pc := s.pc + 1, stack := σ, vars := vars' }) := by
  rw [run_step_pop env hie s name σ v htr hop hst, hstore]
  rfl

/-- wrong number of arguments: ILLEGAL FUNCTION CALL "WRONG NUMBER OF ARGUMENTS" -/
theorem doFn_wrong_arity (s : Runtime) (σ : Array Val) (args : List Val) (k : Int16) (name : Str)
    (arity addr : Nat)
    (hst : s.stack = (σ ++ args.toArray).push (.int k)) (hk : k.toInt = args.length)
    (hfn : s.functions.lookup name = some (arity, addr)) (hne : arity ≠ args.length) :
    ((doFn name).run).run s =
      (.error ((Error.mk' Code.illegalFunctionCall).withMsg "WRONG NUMBER OF ARGUMENTS"), { s with stack := σ }) := by
  unfold doFn
  simp only [run_bind, run_popVec s σ args k hst hk, run_get, hfn, hne, if_false, run_throw]

/-- a function that has not been defined (no `def` executed since the last CLEAR/RUN): UNDEFINED USER FUNCTION -/
theorem doFn_undefined (s : Runtime) (σ : Array Val) (args : List Val) (k : Int16) (name : Str)
    (hst : s.stack = (σ ++ args.toArray).push (.int k)) (hk : k.toInt = args.length)
    (hfn : s.functions.lookup name = none) :
    ((doFn name).run).run s = (.error (Error.mk' Code.undefinedUserFunction), { s with stack := σ }) ∧
    Code.undefinedUserFunction = 18 :=
  ⟨run_doFn_undefined s σ args k name hst hk hfn, rfl⟩

/-- CLEAR (hence RUN) forgets all functions: they are defined by *executing* DEF -/
theorem doClear_forgets_functions (env : Env) (s : Runtime) : (doClear env s).functions = [] := rfl

/-- the return: with the body's value `v` on top of the return address, RETURN leaves `σ, v` and
    resumes after the call — call and return together replace `a₁ … aₖ, k` by `v` -/
theorem fn_return (s : Runtime) (σ : Array Val) (a : Nat) (v : Val) (hv : isValue v = true)
    (hst : s.stack = (σ.push (.ret a)).push v) (hb : s.stack.size ≤ 65535) :
    (doReturn.run).run s = (.ok (), { s with stack := σ.push v, pc := a }) :=
  run_doReturn_value s σ a v hv hst (by rw [hst, Array.size_push, Array.size_push] at hb; exact Nat.le_of_succ_le hb)

/-- runaway recursion: every nested call pushes a return address; with the stack full the call fails
    with OUT OF MEMORY "STACK OVERFLOW" (never a fault) -/
theorem doFn_overflow (s : Runtime) (σ : Array Val) (args : List Val) (k : Int16) (name : Str) (addr : Nat)
    (hst : s.stack = (σ ++ args.toArray).push (.int k)) (hk : k.toInt = args.length)
    (hfn : s.functions.lookup name = some (args.length, addr))
    (hfull : σ.size ≥ 65535) :
    (((doFn name).run).run s).1 = .error stackOverflow :=
  run_doFn_overflow s σ args k name addr hst hk hfn (by simp only [Gen.stackMaxLen]; omega)

/-- the mangled parameter name `FNx.p` contains a '.'.  The lexer's identifiers are letters and digits with a
    type suffix, so parameter slots are disjoint from program variables — that fact about the lexer is used
    in the wording of the theorems below ("program variable" = name without '.'), it is not proved -/
theorem mangled_names_local (f p : TIdent) : '.' ∈ (Parse.mangle f p).name := by
  unfold Parse.mangle
  cases p <;> simp [TIdent.name]

/-- … and the name is exactly `⟨function⟩.⟨parameter⟩`, typed like the parameter -/
theorem mangle_name (f p : TIdent) : (Parse.mangle f p).name = f.name ++ '.' :: p.name := by
  unfold Parse.mangle
  cases p <;> rfl

/-- on an empty fragment, when nothing overflows, `pushDefFn` emits
    `k, def name, jump→L, pop p₁ … pop pₖ, ⟨body⟩, return, L:` -/
theorem pushDefFn_shape (g : Codegen.GState) (c : Col) (name : Str) (vars : List Str) (body : Link)
    (hcur : g.cur = {}) (hv : vars.length ≤ 32767)
    (ho : 3 + vars.length + body.ops.size + 1 ≤ 65535) (hdd : body.data.size ≤ 65535) :
    ∃ g', ((Codegen.pushDefFn c name vars body).run).run g = (.ok (), g') ∧
      g'.cur.ops = #[.literal (.int (Int16.ofNat vars.length)), .def name, .jump 0] ++ (vars.map Opcode.pop).toArray
        ++ body.ops ++ #[.return] ∧
      g'.cur.unlinked.lookup 2 = some (c, -1) ∧
      g'.cur.symbols.lookup (-1) = some (g'.cur.ops.size, body.data.size) ∧
      g'.cur.data = body.data := by
  obtain ⟨v, ex, st, cur⟩ := g
  dsimp only at hcur
  subst hcur
  refine ⟨_, (Codegen.pushDefFn_clean v ex st {} c name vars body hv).run ⟨?_, ?_, rfl⟩, ?_, ?_, ?_, ?_⟩
  · rw [Codegen.defFnLink_ops]; simp [Gen.stackMaxLen]; omega
  · rw [Codegen.defFnLink_data]; simpa [Gen.stackMaxLen] using hdd
  · rw [Codegen.defFnLink_ops]; simp
  · exact (Codegen.defFnLink_skip {} c name vars body).1
  · simpa using (Codegen.defFnLink_skip {} c name vars body).2
  · rw [Codegen.defFnLink_data]; simp

def exDef : Runtime := { stack := #[.int 2], pc := 5, entryAddress := 100 }
def exCall : Runtime :=
  { stack := #[.str ['x'], .int 5, .int 2, .int 2], pc := 40, entryAddress := 100,
    functions := [("FNA".toList, (2, 7))] }

example : (((doDef "FNA".toList).run).run exDef).2.functions = [("FNA".toList, (2, 6))] := by decide +kernel
example : (((doDef "FNA".toList).run).run { exDef with entryAddress := 0 }).1 = .error (Error.mk' 12) := by decide +kernel
example : (((doFn "FNA".toList).run).run exCall).2.stack = #[.str ['x'], .ret 40, .int 2, .int 5] := by decide +kernel
example : (((doFn "FNA".toList).run).run exCall).2.pc = 7 := by decide +kernel
example : (((doFn "FNB".toList).run).run exCall).1 = .error (Error.mk' 18) := by decide +kernel
example : (((doFn "FNA".toList).run).run { exCall with functions := [("FNA".toList, (1, 7))] }).1 =
    .error ((Error.mk' 5).withMsg "WRONG NUMBER OF ARGUMENTS") := by decide
example : (Parse.mangle (.plain "FNA".toList) (.integer "X".toList)) = .integer "FNA.X".toList := by decide

/-! ### user functions, end to end: DEF records, a call binds, evaluates at call time, returns

  The mechanisms above, composed (`Lemmas/FnCall.lean`).  The arguments and the body are trees of the
  fragment `Spec.Pure` of `Spec/Eval.lean` (literals, scalar variables, operators, the 22
  one-argument built-ins); the body reads its parameters through their slots `FNx.p` — that is the
  tree the parser builds (`Parse.defStmt` replaces each parameter by `Parse.mangle`) — and may read
  any program variable.  `Spec.evalCall vars slots body args` is the hand-written meaning of the
  call: evaluate `args` left to right in `vars`, store value i into slot i (`Var.store`: conversion
  to the slot's type), evaluate `body` in the resulting store. -/

section endToEnd
open Basic.Spec Basic.Lemmas.ExprCompile Basic.Lemmas.FnCall
open Basic.Lemmas.OpsTypes (toInt_ofNat_len)

/-- the parameter slots of `DEF f(p₁..pₖ)`, in the order of the parameter list -/
def slots (f : TIdent) (ps : List TIdent) : List Str := ps.map fun p => (Parse.mangle f p).name

/-- a name without '.' (every name the lexer produces) is not a parameter slot -/
theorem plain_not_slot (f : TIdent) (ps : List TIdent) {x : Str} (hx : '.' ∉ x) : x ∉ slots f ps := by
  intro h
  obtain ⟨p, _, hp⟩ := List.mem_map.1 h
  exact hx (hp ▸ mangled_names_local f p)

/-- two stores that agree outside the slots agree on every program variable -/
theorem agree_on_program_variables {f : TIdent} {ps : List TIdent} {v v' : Var} (h : AgreeOff (slots f ps) v v') :
    ∀ x : Str, '.' ∉ x → v'.fetch x = v.fetch x :=
  fun x hx => h x (plain_not_slot f ps hx)

/-- **the code of DEF.**  `DEF f(p₁..pₖ)=body` as the parser builds it (parameters mangled, body
    over the mangled parameters and program variables) compiles to one statement fragment, nothing
    reported, whose code is
    `k, def f, jump →L, pop f.p₁ … pop f.pₖ, ⟨body⟩, return, L:` (`defCode`; the jump is the op at
    index 2, its label is defined at the end of the fragment), without data -/
theorem def_compiles {body : Expr} (hp : Pure body) (c fc : Col) (f : TIdent) (ps : List (Col × TIdent))
    (s : Codegen.VState) (hk : ps.length ≤ 32767) (hlen : 3 + ps.length + (flat body).length + 1 ≤ 65535) :
    ∃ frag : Link,
      Codegen.acceptStmt (.def c (.unary fc f) (ps.map fun p => Variable.unary p.1 (Parse.mangle f p.2)) body) s =
        { s with g := { s.g with stmt := s.g.stmt.push (c, frag) } } ∧
      frag.ops = (defCode f.name (slots f (ps.map (·.2))) body 0).toArray ∧
      defCode f.name (slots f (ps.map (·.2))) body 0 =
        [.literal (.int (Int16.ofNat ps.length)), .def f.name, .jump 0] ++
          (slots f (ps.map (·.2))).map Opcode.pop ++ flat body ++ [.return] ∧
      frag.unlinked.lookup 2 = some (c, -1) ∧ frag.symbols.lookup (-1) = some (frag.ops.size, 0) ∧
      frag.data = #[] := by
  have h := def_codegen_shape hp c fc f (ps.map fun p => (p.1, Parse.mangle f p.2)) s (by simpa using hk)
    (by simp only [List.length_map, Gen.stackMaxLen]; exact hlen)
  simp only [List.map_map] at h
  obtain ⟨frag, h1, h2, h3, h4, h5⟩ := h
  refine ⟨frag, h1, ?_, ?_, h3, h4, h5⟩
  · rw [h2]; simp [slots, Function.comp_def]
  · simp [defCode, fnCode, slots]

/-- **the code of a call.**  `f(a₁..aₖ)` (`f` starts with FN) compiles to one expression
    fragment, nothing reported: the arguments' codes in the order written, the literal `k`, `fn f` -/
theorem call_compiles (c : Col) (f : TIdent) (args : List Expr) (hf : Parse.isUserFunction f = true)
    (hp : ∀ a ∈ args, Pure a) (hk : args.length ≤ 32767) (s : Codegen.VState)
    (hlen : (args.flatMap flat).length + 2 ≤ 65535) :
    Codegen.acceptExpr (.var (.array c f args)) s =
      { s with g := { s.g with expr := s.g.expr.push (c, ({ ops := (callCode f.name args).toArray } : Link)) } } ∧
    callCode f.name args =
      args.flatMap flat ++ [.literal (.int (Int16.ofNat args.length)), .fn f.name] :=
  ⟨acceptExpr_call_shape c f args hf hp hk s (by rw [callCode_length]; exact hlen), rfl⟩

/-- **a call is correct**, all outcomes.  In a machine state `s` whose function table maps `f` to
    `(k, entry)`, with the function's code `pop f.p₁ … pop f.pₖ, ⟨body⟩, return` at `entry`, the
    call's code at `s.pc`, trace off, room on the stack, variables holding numbers and strings
    (`CallSite`), and `k` arguments: running the call and the function
    * if `Spec.evalCall` gives `(v, vars')`: ends after the call's code with `v` pushed on the stack
      as it was before the call, the variables `vars'`, and every other component of the machine as
      in `s`; `vars'` reads like `s.vars` at every name without a '.', i.e. at every program variable
      — one named like a parameter included;
    * else stops with the error `Spec.evalCall` gives (the first failing argument, else the first
      parameter slot refusing its argument, else the body), the program variables again untouched. -/
theorem call_correct (env : Env) (hie : Bool) {s : Runtime} {f : TIdent} {ps : List TIdent} {body : Expr}
    {args : List Expr} {entry : Nat} (hs : CallSite s f.name (slots f ps) body args entry)
    (harity : ps.length = args.length) :
    match evalCall s.vars (slots f ps) body args with
    | .ok (v, vars') =>
      runSteps env hie ((callCode f.name args).length + (fnCode (slots f ps) body).length) s =
        (.ok .continue, { s with pc := s.pc + (callCode f.name args).length, stack := s.stack.push v, vars := vars' }) ∧
      ∀ x : Str, '.' ∉ x → vars'.fetch x = s.vars.fetch x
    | .error err => ∃ s'',
      runSteps env hie ((callCode f.name args).length + (fnCode (slots f ps) body).length) s = (.error err, s'') ∧
      ∀ x : Str, '.' ∉ x → s''.vars.fetch x = s.vars.fetch x := by
  have h := call_run env hie hs (by simpa [slots] using harity)
  cases hr : evalCall s.vars (slots f ps) body args with
  | ok r =>
    obtain ⟨v, vars'⟩ := r
    rw [hr] at h
    exact ⟨h.1, agree_on_program_variables h.2⟩
  | error err =>
    rw [hr] at h
    obtain ⟨s'', h1, h2⟩ := h
    exact ⟨s'', h1, agree_on_program_variables h2⟩

/-- … the value is the body's value in the caller's variables *at the time of the call* with slot i
    holding argument i converted to the slot's type; the arguments are evaluated in the caller's
    variables, left to right -/
theorem evalCall_meaning {vars : Var} {slots : List Str} {body : Expr} {args : List Expr} {v : Val} {vars' : Var}
    (h : evalCall vars slots body args = .ok (v, vars')) :
    ∃ vs, evalArgs vars args = .ok vs ∧ bindParams vars slots vs = .ok vars' ∧ eval vars' body = .ok v :=
  evalCall_ok h

/-- a failing argument: the error is raised by an instruction of the arguments' code — before the
    argument count is pushed, before `fn` is executed, so the function is not entered — and the state
    differs from `s` in `pc` and `stack` only -/
theorem call_argument_error (env : Env) (hie : Bool) {s : Runtime} {f : TIdent} {ps : List TIdent} {body : Expr}
    {args : List Expr} {entry : Nat} (hs : CallSite s f.name (slots f ps) body args entry) {err : Error}
    (h : evalArgs s.vars args = .error err) :
    ∃ (k : Nat) (stk : Array Val), k < (args.flatMap flat).length ∧
      ∀ n, k < n → runSteps env hie n s = (.error err, { s with pc := s.pc + k + 1, stack := stk }) :=
  call_run_arg_error env hie hs h

/-- a failing body: the error is the body's (`Spec.eval` in the bound variables) -/
theorem call_body_error (env : Env) (hie : Bool) {s : Runtime} {f : TIdent} {ps : List TIdent} {body : Expr}
    {args : List Expr} {entry : Nat} (hs : CallSite s f.name (slots f ps) body args entry)
    (harity : ps.length = args.length) {vs : List Val} {vars' : Var} {err : Error}
    (h1 : evalArgs s.vars args = .ok vs) (h2 : bindParams s.vars (slots f ps) vs = .ok vars')
    (h3 : eval vars' body = .error err) :
    ∃ s'', runSteps env hie ((callCode f.name args).length + (fnCode (slots f ps) body).length) s = (.error err, s'') ∧
      s''.vars = vars' :=
  call_run_body_error env hie hs (by simpa [slots] using harity) h1 h2 h3

/-- wrong number of arguments: the arguments are evaluated, then ILLEGAL FUNCTION CALL "WRONG NUMBER OF
    ARGUMENTS"; the function is not entered; stack and variables are as before the call -/
theorem call_wrong_arity_error (env : Env) (hie : Bool) (s : Runtime) (name : Str) (args : List Expr) (vs : List Val)
    (arity entry : Nat) (hargs : ∀ a ∈ args, Pure a)
    (hcall : CodeAt s.program.link.ops s.pc (callCode name args)) (htr : s.tron = false)
    (hfn : s.functions.lookup name = some (arity, entry)) (hne : arity ≠ args.length) (hk : args.length ≤ 32767)
    (hroom : s.stack.size + (args.flatMap flat).length + 1 ≤ 65535)
    (hv : evalArgs s.vars args = .ok vs) :
    runSteps env hie (callCode name args).length s =
      (.error ((Error.mk' Code.illegalFunctionCall).withMsg "WRONG NUMBER OF ARGUMENTS"),
        { s with pc := s.pc + (callCode name args).length }) ∧ Code.illegalFunctionCall = 5 := by
  have hlen := evalArgs_length hv
  rw [call_fn_step env hie s name args vs hargs hcall htr hroom hv,
    doFn_wrong_arity
      { s with pc := s.pc + (callCode name args).length,
               stack := (s.stack ++ vs.toArray).push (.int (Int16.ofNat args.length)) }
      s.stack vs (Int16.ofNat args.length) name arity entry rfl (by rw [toInt_ofNat_len hk, hlen]) hfn
      (by rw [hlen]; exact hne)]
  exact ⟨rfl, rfl⟩

/-- unknown function: UNDEFINED USER FUNCTION, stack and variables as before the call -/
theorem call_undefined_error (env : Env) (hie : Bool) (s : Runtime) (name : Str) (args : List Expr) (vs : List Val)
    (hargs : ∀ a ∈ args, Pure a)
    (hcall : CodeAt s.program.link.ops s.pc (callCode name args)) (htr : s.tron = false)
    (hfn : s.functions.lookup name = none) (hk : args.length ≤ 32767)
    (hroom : s.stack.size + (args.flatMap flat).length + 1 ≤ 65535)
    (hv : evalArgs s.vars args = .ok vs) :
    runSteps env hie (callCode name args).length s =
      (.error (Error.mk' Code.undefinedUserFunction), { s with pc := s.pc + (callCode name args).length }) ∧
    Code.undefinedUserFunction = 18 := by
  rw [call_fn_step env hie s name args vs hargs hcall htr hroom hv,
    run_doFn_undefined
      { s with pc := s.pc + (callCode name args).length,
               stack := (s.stack ++ vs.toArray).push (.int (Int16.ofNat args.length)) }
      s.stack vs (Int16.ofNat args.length) name rfl (by rw [toInt_ofNat_len hk, evalArgs_length hv]) hfn]
  exact ⟨rfl, rfl⟩

/-- **DEF, then the call**: from a state at a DEF statement in a program without compile errors
    (`hie = false`), the call's code following the function: DEF records the function, jumps over it,
    and the call returns `Spec.evalCall` in the variables of that moment -/
theorem def_then_call (env : Env) (s : Runtime) (f : TIdent) (ps : List TIdent) (body : Expr)
    (args : List Expr) (hargs : ∀ a ∈ args, Pure a) (hbody : Pure body) (harity : ps.length = args.length)
    (hdef : CodeAt s.program.link.ops s.pc
      (defCode f.name (slots f ps) body (s.pc + (defCode f.name (slots f ps) body 0).length)))
    (hcall : CodeAt s.program.link.ops (s.pc + (defCode f.name (slots f ps) body 0).length) (callCode f.name args))
    (htr : s.tron = false) (hpc : s.pc + 2 < s.entryAddress) (hk : args.length ≤ 32767)
    (hroom : s.stack.size + (args.flatMap flat).length + 1 ≤ 65535)
    (hroomb : s.stack.size + 1 + (flat body).length ≤ 65535)
    (hvals : ValueStore s.vars) {v : Val} {vars' : Var}
    (h : evalCall s.vars (slots f ps) body args = .ok (v, vars')) :
    runSteps env false (3 + ((callCode f.name args).length + (fnCode (slots f ps) body).length)) s =
      (.ok .continue,
        { s with pc := s.pc + (defCode f.name (slots f ps) body 0).length + (callCode f.name args).length,
                 stack := s.stack.push v, vars := vars',
                 functions := (f.name, (ps.length, s.pc + 3)) :: s.functions.filter (·.1 ≠ f.name) }) ∧
    ∀ x : Str, '.' ∉ x → vars'.fetch x = s.vars.fetch x := by
  have hl : (slots f ps).length = ps.length := by simp [slots]
  have hd := def_run env false s f.name (Int16.ofNat ps.length) (s.pc + (defCode f.name (slots f ps) body 0).length)
    (by rw [← hl]; exact CodeAt.left (b := fnCode (slots f ps) body) hdef) htr hpc (.inl rfl)
    (by show _ ≤ 65535; omega)
  rw [toInt_ofNat_len (by omega), Int.toNat_natCast] at hd
  have hsite : CallSite
      { s with pc := s.pc + (defCode f.name (slots f ps) body 0).length,
               functions := (f.name, (ps.length, s.pc + 3)) :: s.functions.filter (·.1 ≠ f.name) }
      f.name (slots f ps) body args (s.pc + 3) :=
    { pureArgs := hargs, pureBody := hbody, fn := by simp [hl], call := hcall
      code := CodeAt.right (a := [.literal (.int (Int16.ofNat (slots f ps).length)), .def f.name, .jump _]) hdef
      tron := htr, count := hk, room := hroom, roomBody := hroomb, values := hvals }
  obtain ⟨_, _, h2, _⟩ := evalCall_ok h
  refine ⟨?_, agree_on_program_variables (bindParams_agree _ _ _ _ h2)⟩
  rw [runSteps_ok_add hd]
  exact call_run_ok env false hsite (by rw [hl]; exact harity) h

/-- **evaluation at call time.**  The same call site run from two states that differ in the
    variables only (say, in a program variable the body reads) returns the body's value in the
    respective variables: nothing of the variable state at DEF time is frozen into the function -/
theorem call_evaluates_at_call_time (env : Env) (hie : Bool) {s : Runtime} {f : TIdent} {ps : List TIdent}
    {body : Expr} {args : List Expr} {entry : Nat} (hs : CallSite s f.name (slots f ps) body args entry)
    (harity : ps.length = args.length) (vars2 : Var) (hvals2 : ValueStore vars2)
    {v1 v2 : Val} {w1 w2 : Var}
    (h1 : evalCall s.vars (slots f ps) body args = .ok (v1, w1))
    (h2 : evalCall vars2 (slots f ps) body args = .ok (v2, w2)) :
    runSteps env hie ((callCode f.name args).length + (fnCode (slots f ps) body).length) s =
      (.ok .continue, { s with pc := s.pc + (callCode f.name args).length, stack := s.stack.push v1, vars := w1 }) ∧
    runSteps env hie ((callCode f.name args).length + (fnCode (slots f ps) body).length) { s with vars := vars2 } =
      (.ok .continue, { s with pc := s.pc + (callCode f.name args).length, stack := s.stack.push v2, vars := w2 }) := by
  have hl : (slots f ps).length = args.length := by simpa [slots] using harity
  have hs2 : CallSite { s with vars := vars2 } f.name (slots f ps) body args entry :=
    { pureArgs := hs.pureArgs, pureBody := hs.pureBody, fn := hs.fn, call := hs.call, code := hs.code
      tron := hs.tron, count := hs.count, room := hs.room, roomBody := hs.roomBody, values := hvals2 }
  exact ⟨call_run_ok env hie hs hl h1, call_run_ok env hie hs2 hl h2⟩

/-- the hypothesis `ValueStore` of `CallSite` holds in every state whose variables satisfy the
    invariant of the variable store (C06), in particular after CLEAR/RUN, and is kept by stores -/
theorem valueStore_reachable : ValueStore Var.new ∧ (∀ v, Thm.C06.Typed v → ValueStore v) ∧
    (∀ v v' n x, ValueStore v → v.store n x = .ok v' → ValueStore v') :=
  ⟨valueStore_new, fun _ h => valueStore_of_typed h, fun _ _ _ _ hv h => store_valueStore hv h⟩

end endToEnd

/-! ### end to end: non-vacuity

  `DEF FNA(X%)=X%*2+1` compiled by hand, the program variable `X% = 20`, the call `FNA(3)`.
  (Integer names and literals: single-precision arithmetic is opaque to the kernel.) -/

section endToEndExamples
open Basic.Spec Basic.Lemmas.ExprCompile Basic.Lemmas.FnCall

def exEnv : Env := { lex := fun _ => default, lineRenum := fun _ l => l }

def exF : TIdent := .plain "FNA".toList
def exP : TIdent := .integer "X%".toList

/-- `X%*2+1` as the parser builds it inside `DEF FNA(X%)`: the parameter is the slot `FNA.X%` -/
def exBody : Expr :=
  .bin .add (11, 17) (.bin .multiply (11, 15) (.var (.unary (11, 13) (Parse.mangle exF exP))) (.integer (14, 15) 2))
    (.integer (16, 17) 1)

/-- the argument list `(3)` -/
def exArgs : List Expr := [.integer (4, 5) 3]

example : slots exF [exP] = ["FNA.X%".toList] := by decide
example : Pure exBody ∧ (∀ a ∈ exArgs, Pure a) ∧ Parse.isUserFunction exF = true := by decide
example : fnCode (slots exF [exP]) exBody =
    [.pop "FNA.X%".toList, .push "FNA.X%".toList, .literal (.int 2), .mul, .literal (.int 1), .add, .return] := by
  decide
example : callCode exF.name exArgs = [.literal (.int 3), .literal (.int 1), .fn "FNA".toList] := by decide

/-- the shape theorems at work: the statement `DEF FNA(X%)=X%*2+1` … -/
example : ∃ frag : Link,
    Codegen.acceptStmt (.def (0, 17) (.unary (4, 7) exF) [.unary (8, 10) (Parse.mangle exF exP)] exBody) {} =
      { g := { stmt := #[((0, 17), frag)] } } ∧
    frag.ops = #[.literal (.int 1), .def "FNA".toList, .jump 0, .pop "FNA.X%".toList, .push "FNA.X%".toList,
      .literal (.int 2), .mul, .literal (.int 1), .add, .return] := by
  obtain ⟨frag, h1, h2, _⟩ := def_compiles (body := exBody) (by decide) (0, 17) (4, 7) exF [((8, 10), exP)] {}
    (by decide) (by decide)
  exact ⟨frag, h1, by rw [h2]; decide⟩
/-- … and the expression `FNA(3)` -/
example : Codegen.acceptExpr (.var (.array (0, 6) exF exArgs)) {} =
    { g := { expr := #[((0, 6), { ops := #[.literal (.int 3), .literal (.int 1), .fn "FNA".toList] })] } } :=
  (call_compiles (0, 6) exF exArgs (by decide) (by decide) (by decide) {} (by decide)).1

/-- a program that has reached `DEF FNA(X%)=X%*2+1` at address 2 (function at 5..11), followed by the
    call `FNA(3)` at address 12; `X% = 20`; one value on the stack -/
def exM : Runtime :=
  { program := { link := { ops := #[.end, .end] ++ (defCode exF.name (slots exF [exP]) exBody 12).toArray ++
      (callCode exF.name exArgs).toArray ++ #[.end] } },
    pc := 2, entryAddress := 100, stack := #[.str ['x']], vars := { vars := [("X%".toList, .int 20)] } }

theorem exM_values : ValueStore exM.vars := by
  unfold ValueStore
  decide

/-- the meaning of the call: 7, the slot `FNA.X%` holds 3, `X%` still holds 20 -/
theorem exM_evalCall : evalCall exM.vars (slots exF [exP]) exBody exArgs =
    .ok (.int 7, { vars := [("FNA.X%".toList, .int 3), ("X%".toList, .int 20)] }) := by rfl

/-- `def_then_call` applied: all its hypotheses hold of this machine; 13 steps (3 for DEF, 3 for the
    call sequence, 7 in the function) end after the call with 7 pushed, `FNA` recorded (arity 1,
    entry 5), `X%` untouched -/
example : runSteps exEnv false 13 exM =
    (.ok .continue, { exM with pc := 15, stack := #[.str ['x'], .int 7],
                               vars := { vars := [("FNA.X%".toList, .int 3), ("X%".toList, .int 20)] },
                               functions := [("FNA".toList, (1, 5))] }) :=
  (def_then_call exEnv exM exF [exP] exBody exArgs (by decide) (by decide) rfl (by decide) (by decide) (by decide)
    (by decide) (by decide) (by decide) (by decide) exM_values exM_evalCall).1

def isContinue (r : Except Error Step × Runtime) : Bool :=
  match r.1 with
  | .ok .continue => true
  | _ => false
def errorOf (r : Except Error Step × Runtime) : Option Error :=
  match r.1 with
  | .error e => some e
  | .ok _ => none

/-- … and the machine does that, computed independently of the proof -/
example : isContinue (runSteps exEnv false 13 exM) = true := by decide +kernel
example : (runSteps exEnv false 13 exM).2.stack = #[.str ['x'], .int 7] := by decide +kernel
example : (runSteps exEnv false 13 exM).2.pc = 15 := by decide +kernel
example : (runSteps exEnv false 13 exM).2.vars.fetch "X%".toList = .ok (.int 20) := by decide +kernel
example : (runSteps exEnv false 13 exM).2.vars.vars = [("FNA.X%".toList, .int 3), ("X%".toList, .int 20)] := by
  decide +kernel
example : (runSteps exEnv false 13 exM).2.functions = [("FNA".toList, (1, 5))] := by decide +kernel
/-- after DEF alone (3 steps) control is past the function, nothing of it has been executed -/
example : (runSteps exEnv false 3 exM).2.pc = 12 ∧ (runSteps exEnv false 3 exM).2.stack = #[.str ['x']] ∧
    (runSteps exEnv false 3 exM).2.vars.vars = [("X%".toList, .int 20)] := by decide +kernel

/-! evaluation at call time: `DEF FNA(X%)=X%+Y%`, called as `FNA(3)` with `Y% = 1`, then with `Y% = 2` -/

/-- `X%+Y%` inside `DEF FNA(X%)`: the slot `FNA.X%` and the program variable `Y%` -/
def exBodyY : Expr :=
  .bin .add (11, 16) (.var (.unary (11, 13) (Parse.mangle exF exP))) (.var (.unary (14, 16) (.integer "Y%".toList)))

/-- a machine in which `FNA` has been defined (function at 3..7) and that is at the call `FNA(3)`
    (address 8), with `Y% = y` -/
def exMY (y : Int16) : Runtime :=
  { program := { link := { ops := #[.end, .end, .end] ++ (fnCode (slots exF [exP]) exBodyY).toArray ++
      (callCode exF.name exArgs).toArray ++ #[.end] } },
    pc := 8, entryAddress := 100, functions := [("FNA".toList, (1, 3))],
    vars := { vars := [("Y%".toList, .int y)] } }

theorem exMY_site : CallSite (exMY 1) exF.name (slots exF [exP]) exBodyY exArgs 3 :=
  { pureArgs := by decide, pureBody := by decide, fn := by decide, call := by decide, code := by decide
    tron := rfl, count := by decide, room := by decide, roomBody := by decide
    values := by unfold ValueStore; decide }

/-- the same function, the same argument: 4 when `Y% = 1`, 5 when `Y% = 2` (theorem applied) -/
example :
    runSteps exEnv false 8 (exMY 1) =
      (.ok .continue, { exMY 1 with pc := 11, stack := #[.int 4],
                                    vars := { vars := [("FNA.X%".toList, .int 3), ("Y%".toList, .int 1)] } }) ∧
    runSteps exEnv false 8 (exMY 2) =
      (.ok .continue, { exMY 1 with pc := 11, stack := #[.int 5],
                                    vars := { vars := [("FNA.X%".toList, .int 3), ("Y%".toList, .int 2)] } }) :=
  call_evaluates_at_call_time exEnv false exMY_site rfl (exMY 2).vars
    (by unfold ValueStore; decide)
    (v1 := .int 4) (v2 := .int 5) (by rfl) (by rfl)
/-- … and computed -/
example : (runSteps exEnv false 8 (exMY 1)).2.stack = #[.int 4] ∧ (runSteps exEnv false 8 (exMY 2)).2.stack = #[.int 5] ∧
    (runSteps exEnv false 8 (exMY 2)).2.vars.fetch "Y%".toList = .ok (.int 2) := by decide +kernel

/-- `FNA(3, 3)`: wrong number of arguments -/
def exMArity : Runtime :=
  { program := { link := { ops := #[.end, .end, .end] ++ (fnCode (slots exF [exP]) exBodyY).toArray ++
      (callCode exF.name (exArgs ++ exArgs)).toArray ++ #[.end] } },
    pc := 8, entryAddress := 100, functions := [("FNA".toList, (1, 3))], stack := #[.str ['x']],
    vars := { vars := [("Y%".toList, .int 1)] } }

example : runSteps exEnv false 4 exMArity =
    (.error ((Error.mk' 5).withMsg "WRONG NUMBER OF ARGUMENTS"), { exMArity with pc := 12 }) :=
  (call_wrong_arity_error exEnv false exMArity exF.name (exArgs ++ exArgs) [.int 3, .int 3] 1 3 (by decide) (by decide)
    rfl (by decide) (by decide) (by decide) (by decide) (by rfl)).1
example : errorOf (runSteps exEnv false 4 exMArity) = some ((Error.mk' 5).withMsg "WRONG NUMBER OF ARGUMENTS") ∧
    (runSteps exEnv false 4 exMArity).2.stack = #[.str ['x']] ∧
    (runSteps exEnv false 4 exMArity).2.vars.vars = [("Y%".toList, .int 1)] := by decide +kernel
/-- the same call when no DEF has been executed: UNDEFINED USER FUNCTION -/
example : errorOf (runSteps exEnv false 4 { exMArity with functions := [] }) = some (Error.mk' 18) := by
  decide +kernel
/-- a failing argument (`FNA(Y% \ 0)`): DIVISION BY ZERO from the argument's code; the function is not
    entered (`pc` is still in the call's code, no parameter slot is bound) -/
def exMArg : Runtime :=
  { program := { link := { ops := #[.end, .end, .end] ++ (fnCode (slots exF [exP]) exBodyY).toArray ++
      (callCode exF.name [.bin .divideInt (0, 6) (.var (.unary (0, 2) (.integer "Y%".toList))) (.integer (5, 6) 0)]).toArray
        ++ #[.end] } },
    pc := 8, entryAddress := 100, functions := [("FNA".toList, (1, 3))],
    vars := { vars := [("Y%".toList, .int 1)] } }
example : errorOf (runSteps exEnv false 12 exMArg) = some (Error.mk' Code.divisionByZero) ∧
    (runSteps exEnv false 12 exMArg).2.pc = 11 ∧
    (runSteps exEnv false 12 exMArg).2.vars.vars = [("Y%".toList, .int 1)] := by decide +kernel
/-- a failing body (`X%+Y%` with `Y% = 32767`, argument 3): OVERFLOW raised in the function, the slot
    bound, `Y%` untouched -/
example : errorOf (runSteps exEnv false 8 (exMY 32767)) = some (Error.mk' Code.overflow) ∧
    (runSteps exEnv false 8 (exMY 32767)).2.vars.vars = [("FNA.X%".toList, .int 3), ("Y%".toList, .int 32767)] := by
  decide +kernel

end endToEndExamples

end Thm.C10
end Basic

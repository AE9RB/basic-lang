import BasicModel.Lemmas.Link
import BasicModel.Lemmas.LinkPass
/-
  C20 — Branches resolve by line number, independent of program layout.

  The compiler builds every statement as a relocatable fragment and `Link.append`s it to the
  program; line numbers are symbols `≥ 0`, compiler-generated labels are symbols `< 0`.  This file
  states what `append` does to every component (code, data, symbol table, pending references,
  WHILE/WEND marks), that local labels of different fragments never collide, and that the linker
  patches a reference with the table entry *of its symbol* — so a branch target is a function of
  the line number, not of where the referring code was placed.

  (The whole-program statement `layout_invariance` of DESIGN.md is proved in `Thm/C20Layout.lean`,
  on top of `Runtime.Sim`.)
-/
namespace Basic
namespace Thm.C20
open Link

/-- code after `append`: plain concatenation -/
theorem append_ops {a b : Link} (h : (a.append b).2 = .ok ()) : (a.append b).1.ops = a.ops ++ b.ops :=
  Link.append_ops h

/-- data after `append`: plain concatenation -/
theorem append_data {a b : Link} (h : (a.append b).2 = .ok ()) : (a.append b).1.data = a.data ++ b.data :=
  Link.append_data h

/-- the complete shape of a successful `append` (`Link.appended` spells out every field), and the
    size bounds success implies -/
theorem append_offsets {a b : Link} (h : (a.append b).2 = .ok ()) :
    (a.append b).1 = Link.appended a b ∧
    a.ops.size + b.ops.size ≤ 65535 ∧ a.data.size + b.data.size ≤ 65535 :=
  ⟨Link.append_ok h, (append_ok_cases h).1, (append_ok_cases h).2.1⟩

/-- label counter: the fragments' counters add up (both are `≤ 0`) -/
theorem append_currentSymbol {a b : Link} (h : (a.append b).2 = .ok ()) :
    (a.append b).1.currentSymbol = a.currentSymbol + b.currentSymbol := by
  rw [Link.append_ok h]; rfl

/-- the read cursor and the direct-mode mark are the receiver's -/
theorem append_keeps_cursor {a b : Link} (h : (a.append b).2 = .ok ()) :
    (a.append b).1.dataPos = a.dataPos ∧ (a.append b).1.directSet = a.directSet := by
  rw [Link.append_ok h]; exact ⟨rfl, rfl⟩

/-- WHILE/WEND marks: `a`'s, then `b`'s with address moved by `|a.ops|` and label by `a.currentSymbol` -/
theorem append_whiles {a b : Link} (h : (a.append b).2 = .ok ()) :
    (a.append b).1.whiles =
      a.whiles ++ b.whiles.map (fun p => (p.1, p.2.1, p.2.2.1 + a.ops.size, p.2.2.2 + a.currentSymbol)) := by
  rw [Link.append_ok h]; rfl

/-- symbol table, line numbers: the entry of `b` re-based by (`|a.ops|`, `|a.data|`) wins, else `a`'s entry -/
theorem append_symbols_lookup_line {a b : Link} (h : (a.append b).2 = .ok ())
    (hb : SymSorted b.symbols) (ha : a.currentSymbol ≤ 0) (n : Symbol) (hn : 0 ≤ n) :
    (a.append b).1.symbols.lookup n =
      match b.symbols.lookup n with
      | some (o, d) => some (o + a.ops.size, d + a.data.size)
      | none => a.symbols.lookup n := by
  rw [Link.append_ok h]
  apply appendSymbols_lookup_of_key hb
  intro s
  unfold rebase
  simp only [Symbol] at *
  split <;> omega

/-- symbol table, local labels of `b`: label `s` is found at `s + a.currentSymbol`, addresses re-based -/
theorem append_symbols_lookup_local_right {a b : Link} (h : (a.append b).2 = .ok ())
    (hb : SymSorted b.symbols) (ha : a.currentSymbol ≤ 0) (s : Symbol) (hs : s < 0)
    (hin : (b.symbols.lookup s).isSome) :
    (a.append b).1.symbols.lookup (s + a.currentSymbol) =
      (b.symbols.lookup s).map (fun v => (v.1 + a.ops.size, v.2 + a.data.size)) := by
  rw [Link.append_ok h]; exact appendSymbols_lookup_local_right hb ha s hs hin

/-- symbol table, local labels of `a`: unchanged -/
theorem append_symbols_lookup_local_left {a b : Link} (h : (a.append b).2 = .ok ())
    (ha : LocalOk a) (hb : LocalOk b) (s : Symbol) (hs : s < 0) (hsa : a.currentSymbol ≤ s) :
    (a.append b).1.symbols.lookup s = a.symbols.lookup s := by
  rw [Link.append_ok h]
  apply appendSymbols_lookup_left
  intro q hq e
  unfold rebase at e
  have hca := ha.cur
  split at e
  · rename_i hq0
    have := hb.symbols q hq hq0
    have := hb.cur
    simp only [Symbol] at *; omega
  · simp only [Symbol] at *; omega

/-- every entry of the merged table comes from `a` or is a re-based entry of `b` -/
theorem append_symbols_mem {a b : Link} (h : (a.append b).2 = .ok ()) {p : Symbol × (Nat × Nat)}
    (hp : p ∈ (a.append b).1.symbols) :
    p ∈ a.symbols ∨ ∃ q ∈ b.symbols, p = (rebase a.currentSymbol q.1, (q.2.1 + a.ops.size, q.2.2 + a.data.size)) := by
  rw [Link.append_ok h] at hp; exact mem_appendSymbols hp

/-- the merged table stays sorted (it is the `BTreeMap`) -/
theorem append_symbols_sorted {a b : Link} (h : (a.append b).2 = .ok ()) (ha : SymSorted a.symbols) :
    SymSorted (a.append b).1.symbols := by
  rw [Link.append_ok h]; exact appendSymbols_sorted ha

/-- pending references of `b`: the one at address `y` is found at `y + |a.ops|` with its symbol re-based -/
theorem append_unlinked_lookup_right {a b : Link} (h : (a.append b).2 = .ok ()) (y : Nat) :
    (a.append b).1.unlinked.lookup (y + a.ops.size) =
      match b.unlinked.lookup y with
      | some (c, s) => some (c, rebase a.currentSymbol s)
      | none => a.unlinked.lookup (y + a.ops.size) := by
  rw [Link.append_ok h]; exact appendUnlinked_lookup_right a b y

/-- pending references of `a` (addresses inside `a`'s code): unchanged -/
theorem append_unlinked_lookup_left {a b : Link} (h : (a.append b).2 = .ok ()) (x : Nat) (hx : x < a.ops.size) :
    (a.append b).1.unlinked.lookup x = a.unlinked.lookup x := by
  rw [Link.append_ok h]; exact appendUnlinked_lookup_left a b x hx

theorem append_unlinked_mem {a b : Link} (h : (a.append b).2 = .ok ()) {p : Nat × (Col × Symbol)}
    (hp : p ∈ (a.append b).1.unlinked) :
    p ∈ a.unlinked ∨ ∃ q ∈ b.unlinked, p = (q.1 + a.ops.size, (q.2.1, rebase a.currentSymbol q.2.2)) := by
  rw [Link.append_ok h] at hp; exact mem_appendUnlinked hp

/-- a line-number symbol is never touched by re-basing; a local one moves by the receiver's counter -/
theorem rebase_line (so : Int) (n : Symbol) (hn : 0 ≤ n) : rebase so n = n :=
  Link.rebase_line so n hn

theorem rebase_local (so : Int) (s : Symbol) (hs : s < 0) : rebase so s = s + so :=
  Link.rebase_local so s hs

/-- appending is associative on code and data -/
theorem append_assoc_ops_data {a b c : Link}
    (h1 : (a.append b).2 = .ok ()) (h2 : ((a.append b).1.append c).2 = .ok ())
    (h3 : (b.append c).2 = .ok ()) (h4 : (a.append (b.append c).1).2 = .ok ()) :
    ((a.append b).1.append c).1.ops = (a.append (b.append c).1).1.ops ∧
    ((a.append b).1.append c).1.data = (a.append (b.append c).1).1.data := by
  rw [append_ops h2, append_ops h1, append_ops h4, append_ops h3,
      append_data h2, append_data h1, append_data h4, append_data h3]
  exact ⟨Array.append_assoc .., Array.append_assoc ..⟩

/-- the empty fragment is neutral -/
theorem append_empty (a : Link) : (a.append {}).1 = a :=
  append_ind (P := (· = a)) a {} rfl fun _ => ⟨appended_empty a, by rw [appended_empty]⟩

theorem append_empty_ok (a : Link) (ho : a.ops.size ≤ 65535) (hd : a.data.size ≤ 65535) :
    a.append {} = (a, .ok ()) := by
  rw [append_eq, appended_empty, if_neg (by simp), if_neg (by simp [Gen.stackMaxLen]; omega),
    if_neg (by simp [Gen.stackMaxLen]; omega)]

/-- the invariant is established by the empty fragment and kept by every operation codegen uses -/
theorem localOk_preserved :
    LocalOk {} ∧
    (∀ l op, LocalOk l → LocalOk (l.push op).1) ∧
    (∀ l v, LocalOk l → LocalOk (l.pushData v).1) ∧
    (∀ l, LocalOk l → LocalOk l.nextSymbol.1 ∧ l.nextSymbol.1.currentSymbol ≤ l.nextSymbol.2 ∧ l.nextSymbol.2 < 0) ∧
    (∀ l sym, LocalOk l → (0 ≤ sym ∨ l.currentSymbol ≤ sym) → LocalOk (l.pushSymbol sym)) ∧
    (∀ l c sym, LocalOk l → (0 ≤ sym ∨ l.currentSymbol ≤ sym) → LocalOk (l.addUnlinked c sym)) ∧
    (∀ a b, LocalOk a → LocalOk b → (a.append b).2 = .ok () → LocalOk (a.append b).1) := by
  refine ⟨LocalOk.empty, fun _ op h => h.push op, fun _ v h => h.pushData v,
    fun _ h => ⟨h.nextSymbol.1, Int.le_refl _, h.nextSymbol.2.2.1⟩,
    fun _ sym h hs => h.pushSymbol sym hs, fun _ c sym h hs => h.addUnlinked c sym hs,
    fun _ _ ha hb h => ha.append hb h⟩

/-- a label handed out by `nextSymbol` is mentioned nowhere in the link yet -/
theorem nextSymbol_fresh {l : Link} (h : LocalOk l) :
    (∀ p ∈ l.symbols, p.1 ≠ l.nextSymbol.2) ∧ (∀ p ∈ l.unlinked, p.2.2 ≠ l.nextSymbol.2) ∧
    (∀ p ∈ l.whiles, p.2.2.2 ≠ l.nextSymbol.2) := by
  have hc := h.cur
  have hn : l.nextSymbol.2 = l.currentSymbol - 1 := rfl
  refine ⟨fun p hp e => ?_, fun p hp e => ?_, fun p hp e => ?_⟩
  · have := h.symbols p hp
    simp only [Symbol] at *; omega
  · have := h.unlinked p hp
    simp only [Symbol] at *; omega
  · have := h.whiles p hp
    simp only [Symbol] at *; omega

/-- local labels of different fragments never collide after `append` -/
theorem local_symbols_disjoint {a b : Link} (ha : LocalOk a) (hb : LocalOk b) :
    (∀ p ∈ a.symbols, p.1 < 0 → ∀ q ∈ b.symbols, q.1 < 0 → p.1 ≠ rebase a.currentSymbol q.1) ∧
    (∀ p ∈ a.unlinked, p.2.2 < 0 → ∀ q ∈ b.symbols, q.1 < 0 → p.2.2 ≠ rebase a.currentSymbol q.1) ∧
    (∀ p ∈ a.symbols, p.1 < 0 → ∀ q ∈ b.unlinked, q.2.2 < 0 → p.1 ≠ rebase a.currentSymbol q.2.2) ∧
    (∀ p ∈ a.whiles, ∀ q ∈ b.symbols, q.1 < 0 → p.2.2.2 ≠ rebase a.currentSymbol q.1) ∧
    (∀ p ∈ a.symbols, p.1 < 0 → ∀ q ∈ b.whiles, p.1 ≠ q.2.2.2 + a.currentSymbol) :=
  Link.local_symbols_disjoint ha hb

theorem symInsert_sorted (k : Symbol) (v : Nat × Nat) {m : List (Symbol × (Nat × Nat))}
    (h : SymSorted m) : SymSorted (symInsert k v m) := Link.symInsert_sorted k v h

/-- `lineNumberFor a` is the greatest line whose code address is `≤ a` -/
theorem lineNumberFor_greatest {l : Link} (hs : SymSorted l.symbols) (a n : Nat) (hn : n ≤ 65529) :
    l.lineNumberFor a = some n ↔
      (∃ o d, ((n : Int), (o, d)) ∈ l.symbols ∧ o ≤ a) ∧
      (∀ p ∈ l.symbols, 0 ≤ p.1 → p.2.1 ≤ a → p.1 ≤ (n : Int)) :=
  (Link.lineNumberFor_eq_some_iff hs a n).trans (and_iff_right hn)

/-- … and with non-decreasing line addresses the lines up to it are exactly those starting at or before `a` -/
theorem lineNumberFor_monotone {l : Link} (hs : SymSorted l.symbols) (a n : Nat) (hn : n ≤ 65529)
    (hmono : ∀ p ∈ l.symbols, ∀ q ∈ l.symbols, 0 ≤ p.1 → p.1 ≤ q.1 → p.2.1 ≤ q.2.1)
    (h : l.lineNumberFor a = some n) :
    ∀ p ∈ l.symbols, 0 ≤ p.1 → (p.2.1 ≤ a ↔ p.1 ≤ (n : Int)) := by
  obtain ⟨⟨o, d, hmem, hoa⟩, hmax⟩ := (lineNumberFor_greatest hs a n hn).1 h
  exact fun p hp h0 => ⟨hmax p hp h0, fun hle => Nat.le_trans (hmono p hp _ hmem h0 hle) hoa⟩

/-- a reference to a defined symbol is patched with that symbol's table entry — the code address for
    `jump`/`ifNot`/`ret`/`nxt`, the data address for `restore` — whatever the position `a` of the
    referring op; every other op is untouched -/
theorem linkOne_resolves {l : Link} {a : Nat} {c : Col} {sym : Symbol} {o d : Nat} {op op' : Opcode}
    (hsym : l.symbols.lookup sym = some (o, d)) (hop : l.ops[a]? = some op) (hp : patched op o d = some op') :
    (l.linkOne a c sym).1.ops[a]? = some op' ∧ (l.linkOne a c sym).2 = none ∧
    (∀ j, j ≠ a → (l.linkOne a c sym).1.ops[j]? = l.ops[j]?) ∧
    (l.linkOne a c sym).1.ops.size = l.ops.size :=
  Link.linkOne_resolves_get hsym hop hp

/-- the patched op for each kind of reference -/
theorem patched_cases (o d x : Nat) :
    patched (.jump x) o d = some (.jump o) ∧ patched (.ifNot x) o d = some (.ifNot o) ∧
    patched (.literal (.ret x)) o d = some (.literal (.ret o)) ∧
    patched (.literal (.nxt x)) o d = some (.literal (.nxt o)) ∧
    patched (.restore x) o d = some (.restore d) := ⟨rfl, rfl, rfl, rfl, rfl⟩

/-- a reference to a line that does not exist: UNDEFINED LINE at the column of the reference, in the
    line the reference occurs in; code unchanged -/
theorem linkOne_undefined_line {l : Link} {a : Nat} {c : Col} {n : Symbol}
    (hsym : l.symbols.lookup n = none) (h0 : 0 ≤ n) :
    (l.linkOne a c n).1 = l ∧
    ∃ e, (l.linkOne a c n).2 = some e ∧ e.code = Code.undefinedLine ∧ e.line = l.lineNumberFor a ∧
      e.colStart = c.1 ∧ e.colEnd = c.2 := by
  rw [Link.linkOne_undefined hsym h0]
  exact ⟨rfl, _, rfl, rfl, rfl, rfl, rfl⟩

/-- layout independence of one reference: two links that agree on the entry of line `n` patch a
    `jump` to `n` identically, wherever the jump sits and whatever else the tables contain -/
theorem jump_target_depends_on_line_only {l₁ l₂ : Link} {a₁ a₂ x₁ x₂ : Nat} {c₁ c₂ : Col} {n : Symbol} {o d₁ d₂ : Nat}
    (h₁ : l₁.symbols.lookup n = some (o, d₁)) (h₂ : l₂.symbols.lookup n = some (o, d₂))
    (hop₁ : l₁.ops[a₁]? = some (.jump x₁)) (hop₂ : l₂.ops[a₂]? = some (.jump x₂)) :
    (l₁.linkOne a₁ c₁ n).1.ops[a₁]? = some (.jump o) ∧ (l₂.linkOne a₂ c₂ n).1.ops[a₂]? = some (.jump o) :=
  ⟨(Link.linkOne_resolves_get h₁ hop₁ rfl).1, (Link.linkOne_resolves_get h₂ hop₂ rfl).1⟩

/-- the whole linker pass — every pending reference to a defined symbol (WHILE/WEND
    references included) ends up carrying that symbol's address, wherever the reference sits -/
theorem link_resolves (l : Link) (hd : KeysDistinct l.unlinked) (a : Nat) (c : Col) (sym : Symbol)
    (hmem : (a, (c, sym)) ∈ l.linkWhiles.1.unlinked)
    {o d : Nat} {op op' : Opcode} (hsym : l.symbols.lookup sym = some (o, d))
    (hop : l.ops[a]? = some op) (hp : patched op o d = some op') :
    l.link.1.ops[a]? = some op' :=
  Link.link_resolves l hd a c sym hmem hsym hop hp

/-- every reference to a missing line is reported as UNDEFINED LINE -/
theorem link_reports_undefined (l : Link) (a : Nat) (c : Col) (n : Symbol)
    (hmem : (a, (c, n)) ∈ l.linkWhiles.1.unlinked)
    (hsym : l.symbols.lookup n = none) (h0 : 0 ≤ n) :
    mkErr Code.undefinedLine (l.lineNumberFor a) c ∈ l.link.2 :=
  Link.link_reports_undefined l a c n (pend_eq_linkWhiles l ▸ hmem) hsym h0

/-- after linking, only line numbers remain in the table, the label counter is reset and the code
    has kept its size (references are patched in place) -/
theorem link_cleans (l : Link) :
    (∀ p ∈ l.link.1.symbols, 0 ≤ p.1) ∧ l.link.1.currentSymbol = 0 ∧ l.link.1.ops.size = l.ops.size :=
  Link.link_cleans l

/-- the pending references stay a map (distinct addresses) under everything codegen does -/
theorem keysDistinct_preserved :
    KeysDistinct ([] : List (Nat × (Col × Symbol))) ∧
    (∀ (l : Link) c s, KeysDistinct l.unlinked → KeysDistinct (l.addUnlinked c s).unlinked) ∧
    (∀ (a b : Link), KeysDistinct a.unlinked → (a.append b).2 = .ok () → KeysDistinct (a.append b).1.unlinked) ∧
    (∀ (l : Link), KeysDistinct l.unlinked → KeysDistinct l.linkWhiles.1.unlinked) := by
  refine ⟨List.Pairwise.nil, fun l c s h => addUnlinked_distinct c s h, ?_, fun l h => linkWhiles_distinct h⟩
  intro a b ha h
  rw [Link.append_ok h]
  exact appendUnlinked_distinct ha

/-- WHILE/WEND are paired as brackets in code order -/
theorem linkWhiles_matches (l : Link) :
    l.linkWhiles =
      ({ l with whiles := [], unlinked := (Spec.bracketMatch l.whiles).1.foldl pairRefs l.unlinked },
       (Spec.bracketMatch l.whiles).2.1.map (fun e => mkErr Code.wendWithoutWhile (l.lineNumberFor e.2.1) e.1) ++
       (Spec.bracketMatch l.whiles).2.2.map (fun w => mkErr Code.whileWithoutWend (l.lineNumberFor w.2.1) w.1)) :=
  Link.linkWhiles_matches l

/-- fragment `a`: line 10 = `jump →L1; L1:` (one local label), one data item -/
def exA : Link :=
  { currentSymbol := -1, ops := #[.jump 0], data := #[.int 1],
    symbols := [(-1, (1, 0)), (10, (0, 0))], unlinked := [(0, ((3, 4), -1))] }
/-- fragment `b`: line 20 = `ifNot →L1; end; L1:` with its own label `-1`, and a WHILE mark -/
def exB : Link :=
  { currentSymbol := -1, ops := #[.ifNot 0, .end], data := #[.int 2],
    symbols := [(-1, (2, 0)), (20, (0, 0))], unlinked := [(0, ((5, 6), -1))],
    whiles := [(true, (0, 5), 0, -1)] }

example : (exA.append exB).2 = .ok () := by decide
example : (exA.append exB).1.ops = #[.jump 0, .ifNot 0, .end] := by decide
example : (exA.append exB).1.data = #[.int 1, .int 2] := by decide
-- `b`'s label -1 became -2, its addresses moved by (1, 1); `a`'s label -1 is intact
example : (exA.append exB).1.symbols = [(-2, (3, 1)), (-1, (1, 0)), (10, (0, 0)), (20, (1, 1))] := by decide
example : (exA.append exB).1.unlinked.lookup 1 = some ((5, 6), -2) := by decide
example : (exA.append exB).1.unlinked.lookup 0 = some ((3, 4), -1) := by decide
example : (exA.append exB).1.whiles = [(true, (0, 5), 1, -2)] := by decide
example : (exA.append exB).1.currentSymbol = -2 := by decide
example : LocalOk exA := ⟨by decide, by decide, by decide, by decide⟩
-- linking a reference to line 20 yields the address of line 20; to line 30: UNDEFINED LINE in 10
example : ((exA.append exB).1.linkOne 0 (3, 4) 20).1.ops[0]? = some (.jump 1) := by decide
example : ((exA.append exB).1.linkOne 0 (3, 4) 30).2 =
    some { code := Code.undefinedLine, line := some 10, colStart := 3, colEnd := 4 } := by decide
-- the whole pass on the two-line program: both local jumps resolved, labels gone
example : (exA.append exB).1.link.1.ops = #[.jump 1, .ifNot 3, .end] := by decide
example : (exA.append exB).1.link.1.symbols = [(10, (0, 0)), (20, (1, 1))] := by decide
example : (exA.append exB).1.link.2.map (·.code) = [Code.whileWithoutWend] := by decide
example : (exA.append exB).1.lineNumberFor 2 = some 20 := by decide
example : (exA.append exB).1.lineNumberFor 0 = some 10 := by decide

end Thm.C20
end Basic

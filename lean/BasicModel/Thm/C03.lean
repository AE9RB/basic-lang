import BasicModel.Gen.Limits
import BasicModel.Lemmas.Resume
import BasicModel.Lemmas.Enter
/-
  C03 — no input can crash or wedge the interpreter (the part that lives in the runtime model).

  * a slice of `n` instructions executes at most `n` instructions and returns;
  * one interrupt suffices: `stopped` within two calls of `execute`, `Event.stopped` (the
    interpreter waiting at READY) within four;
  * the prompt is a fixed point of `execute`; the banner state `intro` is left by the first call
    and not entered again;
  * a push onto a stack of 65 535 values is OUT OF MEMORY (`push_bounded`; the bound over whole slices is
    `Runtime.executeLoop_bnd`),
    and every underflow is an `InternalError` value, not a fault;
  * an over-long line is refused with LINE BUFFER OVERFLOW and changes nothing.

  Not in the model (and so not here): native stack overflow, allocation failure, wall-clock time.

  `Call`, `Call.apply`, `Call.ok` (a history of API calls) are declared in `Lemmas/Enter.lean`, with `SessionInv`;
  `C13.execN` and `C13.breakReport` in `Lemmas/Resume.lean`.
-/
namespace Basic
namespace Thm.C03
open Basic.Runtime

/-- `executeLoop env n` is `slice env n`, and `slice` counts the calls of `step`: at most `n` -/
theorem executeLoop_bounded (env : Env) (n : Nat) (s : Runtime) :
    (executeLoop env n).run.run s = (toEvent (slice env n s).1, (slice env n s).2.1) ∧
    (slice env n s).2.2 ≤ n :=
  ⟨executeLoop_run env n s, sliceRun_steps_le env _ n s⟩

/-- the quantum is used up exactly when the slice reports "still running, no event" -/
theorem executeLoop_exhausted (env : Env) (n : Nat) (s : Runtime)
    (h : (slice env n s).1 = .ok none) : (slice env n s).2.2 = n :=
  (sliceRun_none env _ n s h).1

theorem executeLoop_zero (env : Env) (s : Runtime) :
    (executeLoop env 0).run.run s = (.ok .running, s) := rfl

/-- NEXT and RETURN unwind with fuel `stack size + 2` / `+ 1`: their loops pop at least one value
    per iteration, so the fuel is never the reason they stop on a stack of that size; whatever
    they do, they terminate (structural recursion on the fuel) and are `Quiet` -/
theorem unwinding_quiet (name : Str) : Frame Quiet (doNext name) ∧ Frame Quiet doReturn :=
  ⟨Frame.quiet_of_eff fun _ => Acts.frame (by decide), Frame.quiet_of_eff fun _ => Acts.frame (by decide)⟩

/-- (also C13) after `interrupt`, at most two calls of `execute` — with any quantum — reach `stopped` -/
theorem interrupt_reaches_stopped (env : Env) (n : Nat) (s : Runtime) :
    ∃ k, 1 ≤ k ∧ k ≤ 2 ∧ (C13.execN env n k (interrupt s)).state = .stopped := by
  have hb := C13.break_report env n (interrupt s) (interrupt_state s)
  unfold C13.breakReport at hb
  by_cases hc : (interrupt s).printCol > 0
  · rw [if_pos hc] at hb
    exact ⟨2, by omega, by omega, congrArg Runtime.state hb⟩
  · rw [if_neg hc] at hb
    exact ⟨1, by omega, by omega, congrArg Runtime.state hb⟩

/-- from `stopped`, at most two more calls return `Event.stopped`: READY is printed if it has
    not been, then the interpreter waits -/
theorem stopped_reaches_prompt (env : Env) (n : Nat) (s : Runtime) (hs : s.state = .stopped) :
    (execute env s n).2 = .stopped ∨
    (execute env (execute env s n).1 n) = ({ s with entryAddress := 0, printCol := 0 }, .stopped) := by
  by_cases he : s.entryAddress = 0
  · exact .inl (by rw [execute_stopped env s n hs he])
  · refine .inr ?_
    rw [execute_stopped_prompt env s n hs he]
    exact execute_stopped env _ n hs rfl

/-- so after an interrupt `Event.stopped` is returned by the 2nd, 3rd or 4th call at the latest -/
theorem interrupt_reaches_prompt (env : Env) (n : Nat) (s : Runtime) :
    ∃ j, j ≤ 3 ∧ (execute env (C13.execN env n j (interrupt s)) n).2 = .stopped := by
  obtain ⟨k, _, h2, hk⟩ := interrupt_reaches_stopped env n s
  rcases stopped_reaches_prompt env n _ hk with h | h
  · exact ⟨k, by omega, h⟩
  · exact ⟨k + 1, by omega, by rw [C13.execN_succ, h]⟩

/-- at the prompt the interpreter waits: `Event.stopped`, state unchanged -/
theorem stopped_is_fixed (env : Env) (s : Runtime) (n : Nat)
    (hs : s.state = .stopped) (he : s.entryAddress = 0) :
    execute env s n = (s, .stopped) :=
  execute_stopped env s n hs he

/-- the banner is printed by the call that finds `state = intro`, which leaves `stopped` -/
theorem execute_intro_once (env : Env) (s : Runtime) (n : Nat) (hs : s.state = .intro) :
    execute env s n = ({ s with state := .stopped }, .print introText) :=
  execute_intro env s n hs

/-- a fresh interpreter: after the first call neither `state` nor `cont` is `intro` … -/
theorem first_execute_noIntro (env : Env) (n : Nat) : NoIntro (execute env ({} : Runtime) n).1 := by
  rw [execute_intro_once env _ n rfl]; exact ⟨nofun, nofun⟩

/-- … and every call of the API keeps it so: the banner state is never entered twice -/
theorem session_noIntro (env : Env) (calls : List Call) (s : Runtime) (h : NoIntro s) :
    NoIntro (calls.foldl (Call.apply env) s) :=
  (noIntro_session env).reachable calls s (fun c _ => c.ok_true) h

/-- observation (model = implementation, `interrupt` swaps `state` into `cont` unconditionally):
    an interrupt delivered *before the first* `execute` records `cont = intro`; after the BREAK
    report, CONT puts `intro` back into `state` and the banner is printed a second time.  This is
    why `NoIntro` is a hypothesis above and is established by the first `execute`. -/
theorem early_interrupt_cont_reenters_intro (env : Env) (n : Nat) :
    (doCont.run.run { C13.breakReport env n (interrupt ({} : Runtime)) with state := .running }).2.state
      = .intro := by
  rw [C13.break_report env n _ (interrupt_state _)]
  rfl

theorem push_bounded (v : Val) (s t : Runtime) (h : (push v).run.run s = (.ok (), t)) :
    t.stack.size ≤ 65535 ∧ t.stack = s.stack.push v := by
  rw [run_push] at h
  split at h
  · cases h
  · rename_i hle
    cases h
    exact ⟨by simp only [Gen.stackMaxLen, Array.size_push] at hle ⊢; omega, rfl⟩

/-- a failing `push` is OUT OF MEMORY (code 7); the value has been pushed (as in the Rust code,
    which tests the length after the push) -/
theorem push_overflow (v : Val) (s t : Runtime) (e : Error) (h : (push v).run.run s = (.error e, t)) :
    e.code = 7 ∧ e = stackOverflow ∧ t.stack.size = s.stack.size + 1 ∧ s.stack.size ≥ 65535 := by
  rw [run_push] at h
  split at h
  · rename_i hgt
    cases h
    exact ⟨rfl, rfl, by simp, by simp only [Gen.stackMaxLen] at hgt; omega⟩
  · cases h

theorem push_overflow_size (v : Val) (s t : Runtime) (e : Error) (hs : s.stack.size ≤ 65535)
    (h : (push v).run.run s = (.error e, t)) : t.stack.size = 65536 := by
  have := push_overflow v s t e h; omega

/-- popping an empty stack is the error value `InternalError "UNDERFLOW"`, not a fault -/
theorem pop_underflow_is_error (s : Runtime) (h : s.stack = #[]) :
    pop.run.run s = (.error underflow, s) ∧ underflow.code = Code.internalError ∧
    underflow.isFault = false := by
  refine ⟨?_, rfl, by decide⟩
  rw [run_pop, h]; rfl

theorem popN_underflow_is_error (n : Nat) (s : Runtime) (h : n > s.stack.size) :
    (popN n).run.run s = (.error underflow, s) := by
  rw [run_popN, if_pos h]

/-- a negative count on the stack is an error, never a huge allocation -/
theorem popVec_negative_is_error (s : Runtime) (n : Int16) (hb : s.stack.back? = some (.int n))
    (hn : n.toInt < 0) :
    popVec.run.run s = (.error underflow, { s with stack := s.stack.pop }) := by
  unfold popVec
  rw [run_bind, run_pop, hb]
  dsimp only
  rw [if_pos hn]
  rfl

theorem popVec_short_is_error (s : Runtime) (n : Int16) (hb : s.stack.back? = some (.int n))
    (hn : ¬ n.toInt < 0) (hs : n.toInt.toNat > s.stack.pop.size) :
    popVec.run.run s = (.error underflow, { s with stack := s.stack.pop }) := by
  unfold popVec
  rw [run_bind, run_pop, hb]
  dsimp only
  rw [if_neg hn, run_popN, if_pos hs]

/-- at the prompt (any state but `input` / `inkey`) a line of more than 1024 bytes is refused:
    `state = runtimeError LINE BUFFER OVERFLOW`, nothing else changes, the lexer is not run -/
theorem enter_too_long_rejected (env : Env) (s : Runtime) (line : Str)
    (h1 : s.state ≠ .input) (h2 : s.state ≠ .inkey) (hl : RStd.utf8Len line > 1024) :
    enter env s line = { s with state := .runtimeError (Error.mk' Code.lineBufferOverflow) } := by
  rw [enter_prompt env s line h1 h2, if_pos (show RStd.utf8Len line > Gen.maxLineLen from hl)]

/-- an over-long reply to INPUT is `?REDO FROM START` -/
theorem enter_too_long_input (env : Env) (s : Runtime) (line : Str)
    (h1 : s.state = .input) (hl : RStd.utf8Len line > 1024) :
    enter env s line = { s with state := .inputRedo, printCol := 0 } :=
  enter_input_too_long env s line h1 hl

def env0 : Env := { lex := fun _ => ⟨none, []⟩, lineRenum := fun _ l => l }

example : (pop.run.run ({} : Runtime)).1 = .error underflow := by decide
example : ((push (.int 1)).run.run ({} : Runtime)).2.stack = #[.int 1] := by decide
example : (popVec.run.run { ({} : Runtime) with stack := #[.int 3, .int (-1)] }).1 = .error underflow := by
  decide
/-- a fresh interpreter, interrupted before its first `execute`: `cont` records `intro`, so
    `NoIntro` really is a hypothesis (see `early_interrupt_cont_reenters_intro`) -/
example : (interrupt ({} : Runtime)).cont = .intro := by decide
example : (execute env0 { ({} : Runtime) with state := .stopped, entryAddress := 0 } 5).1.state = .stopped := by
  rw [stopped_is_fixed env0 _ 5 rfl rfl]
theorem utf8Len_replicate (n : Nat) : RStd.utf8Len (List.replicate n 'A') = n := by
  induction n with
  | zero => rfl
  | succ k ih =>
    have : RStd.utf8Len (List.replicate (k + 1) 'A') = 1 + RStd.utf8Len (List.replicate k 'A') := by
      simp only [RStd.utf8Len, List.replicate_succ, List.map_cons, List.sum_cons]; rfl
    omega
/-- 1025 letters at the prompt -/
example : (enter env0 { ({} : Runtime) with state := .stopped } (List.replicate 1025 'A')).state =
    .runtimeError (Error.mk' Code.lineBufferOverflow) := by
  rw [enter_too_long_rejected env0 _ _ (by decide) (by decide) (by rw [utf8Len_replicate]; omega)]

/-- the line buffer and stack limits of mach/mod.rs and stack.rs: `Gen/Limits.lean` is generated
    from /repo/src on every run, so editing one of these constants in the Rust source breaks this
    obligation -/
theorem generated_limits_documented : Gen.maxLineLen = 1024 ∧ Gen.stackMaxLen = 65535 := by decide

end Thm.C03
end Basic

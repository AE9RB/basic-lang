import BasicModel.Lemmas.Control
import BasicModel.Lemmas.Execute
import BasicModel.Lemmas.Inspect
import BasicModel.Lemmas.LinkedInv
import BasicModel.Lemmas.ParseLines
import BasicModel.Thm.C03
/-
  C13 — Interrupt, STOP and END are transparent under CONT; slicing does not matter.

  * Quantum independence.  `executeLoop env n` runs at most `n` instructions.  It returns
    `Event.running` both when the quantum is exhausted and when CONT / INPUT / LIST return that
    event, so additivity and independence are proved over `slice` (`Lemmas/Slice.lean`), which keeps
    the two apart (`none` = exhausted): `slice_add`, `quantum_split`.  The driver's loops over
    `executeLoop` and over `execute` compute what `runQuanta` computes — for a running program the two
    readings of `Event.running` are told apart by the state (`runLoops_eq`, `runExecutes_eq`) —, so
    their independence is that of `slice`.
  * Interrupt.  `interrupt` records `(state, pc)` in `(cont, contPc)`; the BREAK report takes at
    most two calls of `execute` and touches only `state` and `printCol` (`break_report`, with `breakReport`
    and `execN` in `Lemmas/Resume.lean`; `C03.interrupt_reaches_stopped`); `doCont` (the CONT
    statement) puts `(cont, contPc)` back.  The composition is the identity on everything a
    program can observe except `printCol := 0` (`interrupt_cont_identity`).
  * STOP and END inside the program record the continue point behind themselves (`stop_saves`,
    `doEnd_cont`), so CONT after them resumes at the next instruction (`end_cont_identity`).
  * End to end at the session API, under the standing hypotheses `Resumable` (declared in `Lemmas/Resume.lean`)
    and `LexCont` (second half of the file); the hypotheses are checked on the concrete machine `s0` at the end.
-/
namespace Basic
namespace Thm.C13
open Basic.Runtime

theorem executeLoop_eq_slice (env : Env) (n : Nat) (s : Runtime) :
    (executeLoop env n).run.run s = (toEvent (slice env n s).1, (slice env n s).2.1) :=
  executeLoop_run env n s

/-- additivity: a slice of `m + n` instructions is a slice of `m` followed, if the quantum was
    exhausted, by a slice of `n`; the instruction counts add up -/
theorem slice_add (env : Env) (m n : Nat) (s : Runtime) :
    slice env (m + n) s =
      match slice env m s with
      | (.ok none, s', c) => let r := slice env n s'; (r.1, r.2.1, c + r.2.2)
      | r => r := by
  -- the flag read at the start of the second slice is the one read at the start of the first,
  -- because no step that returns `continue` touches the listing
  unfold slice
  rw [sliceRun_add]
  rcases hk : sliceRun env (hasIndirectErrors s) m s with ⟨r, t, c⟩
  rcases r with e | o
  · rfl
  · cases o with
    | some e => rfl
    | none =>
      have hc := (sliceRun_none env (hasIndirectErrors s) m s (by rw [hk])).2
      rw [hk] at hc
      have : hasIndirectErrors t = hasIndirectErrors s := by
        unfold hasIndirectErrors; rw [hc.listing]
      dsimp only
      rw [this]

theorem executeLoop_add (env : Env) (m n : Nat) (s : Runtime) :
    (executeLoop env (m + n)).run.run s =
      match slice env m s with
      | (.ok none, s', _) => (executeLoop env n).run.run s'
      | (.ok (some e), s', _) => (.ok e, s')
      | (.error e, s', _) => (.error e, s') := by
  rw [executeLoop_run, slice_add]
  rcases slice env m s with ⟨r, s', c⟩
  rcases r with e | o
  · rfl
  · cases o with
    | some e => rfl
    | none => dsimp only; rw [executeLoop_run]

/-- an event other than `running`, or an error, ends both runs alike -/
theorem executeLoop_add_event (env : Env) (m n : Nat) (s s' : Runtime) (r : Except Error Event)
    (h : (executeLoop env m).run.run s = (r, s')) (hr : r ≠ .ok .running) :
    (executeLoop env (m + n)).run.run s = (r, s') := by
  rw [executeLoop_add]
  rw [executeLoop_run] at h
  rcases hsl : slice env m s with ⟨q, t, c⟩
  rw [hsl] at h
  rcases q with e | o
  · exact h
  · cases o with
    | some e => exact h
    | none =>
      have : r = .ok .running := by
        have := congrArg Prod.fst h; exact this.symm
      exact absurd this hr

/-- run a list of quanta, one slice after the other, while the quantum is exhausted -/
def runQuanta (env : Env) : List Nat → Runtime → Except Error (Option Event) × Runtime × Nat
  | [], s => (.ok none, s, 0)
  | q :: qs, s =>
    match slice env q s with
    | (.ok none, s', c) => let r := runQuanta env qs s'; (r.1, r.2.1, c + r.2.2)
    | r => r

/-- quantum independence: any way of cutting the run into slices gives the first event (or
    error, or "still running"), the final state and the number of instructions of the single
    slice with the total quantum -/
theorem quantum_split (env : Env) (qs : List Nat) (s : Runtime) :
    runQuanta env qs s = slice env qs.sum s := by
  induction qs generalizing s with
  | nil => rfl
  | cons q qs ih =>
    rw [List.sum_cons, slice_add, runQuanta]
    rcases slice env q s with ⟨r, s', c⟩
    rcases r with e | o
    · rfl
    · cases o with
      | some e => rfl
      | none => dsimp only; rw [ih]

theorem quantum_independent (env : Env) (qs qs' : List Nat) (s : Runtime) (h : qs.sum = qs'.sum) :
    runQuanta env qs s = runQuanta env qs' s := by
  rw [quantum_split, quantum_split, h]

/-- the driver's view: call `executeLoop` again while it reports `running` in state `running` -/
def runLoops (env : Env) : List Nat → Runtime → Except Error Event × Runtime
  | [], s => (.ok .running, s)
  | q :: qs, s =>
    match (executeLoop env q).run.run s with
    | (.ok .running, s') => if s'.state = .running then runLoops env qs s' else (.ok .running, s')
    | r => r

/-- the driver's loop over `executeLoop` runs the quanta as `runQuanta` does: for a running program
    `Event.running` with the state still `running` is the exhausted quantum, and only that -/
theorem runLoops_eq (env : Env) (qs : List Nat) (s : Runtime) (hs : s.state = .running) :
    runLoops env qs s = (toEvent (runQuanta env qs s).1, (runQuanta env qs s).2.1) := by
  induction qs generalizing s with
  | nil => rfl
  | cons q qs ih =>
    rw [runLoops, runQuanta, executeLoop_run]
    have hcalm := slice_none_calm env q s
    have hrun : (slice env q s).1 = .ok (some .running) → (slice env q s).2.1.state ≠ .running :=
      sliceRun_running_state env (hasIndirectErrors s) q s
    generalize slice env q s = x at hcalm hrun ⊢
    rcases x with ⟨r, s', c⟩
    rcases r with e | o
    · rfl
    · cases o with
      | none =>
        have h1 : s'.state = .running := (hcalm rfl).state.elim (·.trans hs) id
        show (if s'.state = .running then _ else _) = _
        rw [if_pos h1, ih s' h1]
      | some e =>
        cases e with
        | running => exact if_neg (hrun rfl)
        | _ => rfl

theorem quantum_split_loops (env : Env) (qs : List Nat) (s : Runtime) (hs : s.state = .running) :
    runLoops env qs s = (executeLoop env qs.sum).run.run s := by
  rw [runLoops_eq env qs s hs, quantum_split, executeLoop_run]

theorem quantum_independent_loops (env : Env) (qs qs' : List Nat) (s : Runtime)
    (hs : s.state = .running) (h : qs.sum = qs'.sum) : runLoops env qs s = runLoops env qs' s := by
  rw [quantum_split_loops env qs s hs, quantum_split_loops env qs' s hs, h]

/-- either the quantum is used up — `running` in state `running`, listing untouched — or the call
    reports something else -/
theorem execute_exhausted_or (env : Env) (n : Nat) (s : Runtime)
    (hs : s.state = .running) (hd : s.listing.directErrors = []) :
    ((slice env n s).1 = .ok none ∧ execute env s n = ((slice env n s).2.1, .running) ∧
      (slice env n s).2.1.state = .running ∧ (slice env n s).2.1.listing = s.listing) ∨
    ((slice env n s).1 ≠ .ok none ∧
      ¬ ((execute env s n).2 = .running ∧ (execute env s n).1.state = .running)) := by
  rw [execute_running env s n hs hd, executeLoop_run]
  have hex := slice_exhausted_of_running env n s
  have hcalm := slice_none_calm env n s
  generalize slice env n s = x at hex hcalm ⊢
  rcases x with ⟨r, s', c⟩
  dsimp only at hex hcalm ⊢
  rcases r with e | o
  · exact .inr ⟨nofun, fun h => (finishLoop_error_state e s').2 h.2⟩
  · cases o with
    | none =>
      have hst : s'.state = .running := (hcalm rfl).state.elim (fun h => h.trans hs) id
      exact .inl ⟨rfl, finishLoop_ok_running s', hst, (hcalm rfl).listing⟩
    | some ev =>
      refine .inr ⟨nofun, ?_⟩
      by_cases hev : ev = .running
      · subst hev
        show ¬ ((finishLoop (.ok .running) s').2 = _ ∧ (finishLoop (.ok .running) s').1.state = _)
        rw [finishLoop_ok_running]
        exact fun h => nomatch hex rfl h.2
      · exact fun h => finishLoop_event_ne_running ev s' hev h.1

/-- the driver's loop: call `execute` with the next quantum while it reports `running` in state
    `running` -/
def runExecutes (env : Env) : Nat → List Nat → Runtime → Runtime × Event
  | q, [], s => execute env s q
  | q, q' :: qs, s =>
    match execute env s q with
    | (s', .running) => if s'.state = .running then runExecutes env q' qs s' else (s', .running)
    | r => r

/-- the driver's loop over `execute` runs the quanta as `runQuanta` does; what `execute` does with the
    result of a slice (`finishLoop`) happens once, at the end -/
theorem runExecutes_eq (env : Env) (q : Nat) (qs : List Nat) (s : Runtime)
    (hs : s.state = .running) (hd : s.listing.directErrors = []) :
    runExecutes env q qs s =
      finishLoop (toEvent (runQuanta env (q :: qs) s).1) (runQuanta env (q :: qs) s).2.1 := by
  induction qs generalizing q s with
  | nil =>
    rw [runExecutes, execute_running env s q hs hd, executeLoop_run, quantum_split env [q] s]
    rfl
  | cons q' qs ih =>
    have hq : execute env s q = finishLoop (toEvent (slice env q s).1) (slice env q s).2.1 := by
      rw [execute_running env s q hs hd, executeLoop_run]
    rw [runExecutes, runQuanta]
    rcases execute_exhausted_or env q s hs hd with ⟨h1, h2, h3, h4⟩ | ⟨h1, h2⟩
    · rw [h2]
      show (if _ then _ else _) = _
      rw [if_pos h3, ih q' _ h3 (by rw [h4]; exact hd)]
      rcases hsl : slice env q s with ⟨r, s', c⟩
      rw [hsl] at h1
      dsimp only at h1
      subst h1
      rfl
    · -- the loop stops with what this call returns, and so does `runQuanta`
      have hr : ∀ r : Runtime × Event, ¬ (r.2 = .running ∧ r.1.state = .running) →
          (match r with
            | (s', .running) => if s'.state = .running then runExecutes env q' qs s' else (s', .running)
            | r => r) = r := fun ⟨t, ev⟩ h => by
        cases ev with
        | running => exact if_neg fun h' => h ⟨rfl, h'⟩
        | _ => rfl
      rw [hr _ h2, hq]
      rcases hsl : slice env q s with ⟨r, s', c⟩
      rw [hsl] at h1
      rcases r with e | o
      · rfl
      · cases o with
        | none => exact absurd rfl h1
        | some ev => rfl

/-- quantum independence at the API: however the driver cuts the run of a program into slices,
    the state and the event it ends up with are those of one call with the total quantum -/
theorem quantum_split_execute (env : Env) (q : Nat) (qs : List Nat) (s : Runtime)
    (hs : s.state = .running) (hd : s.listing.directErrors = []) :
    runExecutes env q qs s = execute env s (q + qs.sum) := by
  rw [runExecutes_eq env q qs s hs hd, quantum_split, List.sum_cons, execute_running env s _ hs hd, executeLoop_run]

theorem quantum_independent_execute (env : Env) (q q' : Nat) (qs qs' : List Nat) (s : Runtime)
    (hs : s.state = .running) (hd : s.listing.directErrors = [])
    (h : q + qs.sum = q' + qs'.sum) : runExecutes env q qs s = runExecutes env q' qs' s := by
  rw [quantum_split_execute env q qs s hs hd, quantum_split_execute env q' qs' s hs hd, h]

/-- an interrupt inside the program saves `(state, pc)` and changes nothing else -/
theorem interrupt_saves (s : Runtime) (h : s.pc < s.entryAddress) :
    interrupt s = { s with state := .interrupt, cont := s.state, contPc := s.pc } := by
  rw [interrupt_eq, if_neg (by omega), if_neg (by omega)]

theorem interrupt_saves_fields (s : Runtime) (h : s.pc < s.entryAddress) :
    (interrupt s).state = .interrupt ∧ (interrupt s).cont = s.state ∧ (interrupt s).contPc = s.pc ∧
    (interrupt s).stack = s.stack ∧ (interrupt s).vars = s.vars ∧ (interrupt s).pc = s.pc ∧
    (interrupt s).program = s.program ∧ (interrupt s).listing = s.listing ∧
    (interrupt s).functions = s.functions ∧ (interrupt s).tron = s.tron ∧
    (interrupt s).printCol = s.printCol := by
  rw [interrupt_saves s h]
  exact ⟨rfl, rfl, rfl, rfl, rfl, rfl, rfl, rfl, rfl, rfl, rfl⟩

/-- an interrupt in direct code (at or beyond `entryAddress`) leaves nothing to continue -/
theorem interrupt_direct (s : Runtime) (h : s.pc ≥ s.entryAddress) :
    interrupt s = { s with state := .interrupt, cont := .stopped, contPc := s.pc, stack := #[] } := by
  rw [interrupt_eq, if_pos h, if_pos h]

/-- the events of the report (`breakReport`, `Lemmas/Resume.lean`): an optional line break, then `?BREAK IN line` -/
theorem break_report_events (env : Env) (n : Nat) (s : Runtime) (hs : s.state = .interrupt) :
    (s.printCol > 0 →
      (execute env s n).2 = .print ['\n'] ∧
      (execute env (execute env s n).1 n).2 = .errors [breakError s]) ∧
    (s.printCol = 0 → (execute env s n).2 = .errors [breakError s]) := by
  constructor
  · intro hc
    rw [execute_interrupt env s n hs, execute_runtimeError_col env _ n _ (by rfl) (by exact hc)]
    refine ⟨rfl, ?_⟩
    rw [execute_runtimeError_nocol env _ n (breakError s) rfl rfl]
  · intro hc
    rw [execute_interrupt env s n hs, execute_runtimeError_nocol env _ n _ (by rfl) (by exact hc)]

/-- the intermediate state when a line break is due: `runtimeError BREAK`, column 0 -/
theorem break_report_first (env : Env) (n : Nat) (s : Runtime) (hs : s.state = .interrupt)
    (hc : s.printCol > 0) :
    (execute env s n).1 = { s with state := .runtimeError (breakError s), printCol := 0 } := by
  rw [execute_interrupt env s n hs, execute_runtimeError_col env _ n _ (by rfl) (by exact hc)]

/-- one interrupt suffices: at most two calls of `execute` later the state is `stopped`,
    whatever the state was and whatever quantum the driver uses -/
theorem interrupt_reaches_stopped (env : Env) (n : Nat) (s : Runtime) :
    ∃ k, 1 ≤ k ∧ k ≤ 2 ∧ (execN env n k (interrupt s)).state = .stopped :=
  C03.interrupt_reaches_stopped env n s

/-- CONT: `(cont, contPc)` go back to `(state, pc)`; `true` (the slice ends with
    `Event.running`) iff the restored state is not `running` -/
theorem doCont_restores (s : Runtime) (hs : s.state = .running) (hc : s.cont ≠ .stopped) :
    doCont.run.run s =
      (.ok (s.cont != .running), { s with state := s.cont, cont := .stopped, pc := s.contPc }) := by
  rw [run_doCont, if_neg hc, if_pos hs]

/-- CONT with nothing to continue: CAN'T CONTINUE, state untouched -/
theorem doCont_refuses (s : Runtime) (hc : s.cont = .stopped) :
    doCont.run.run s = (.error (Error.mk' Code.cantContinue), s) :=
  doCont_refused s hc

theorem doCont_running (t : Runtime) (pc : Nat) (ht : t.state = .running) (hc : t.cont = .running)
    (hp : t.contPc = pc) :
    doCont.run.run t = (.ok false, { t with state := .running, cont := .stopped, pc := pc }) := by
  rw [doCont_restores t ht (by rw [hc]; nofun), hc, hp]
  rfl

/-- interrupt ∘ report ∘ CONT as one equation: CONT puts back the state and the `pc` of the interrupted `s`, whatever
    else the state `t` in which it executes holds -/
theorem interrupt_cont (env : Env) (n : Nat) (s t : Runtime)
    (hs : s.state ≠ .stopped) (hpc : s.pc < s.entryAddress) (ht : t.state = .running)
    (hcont : t.cont = (breakReport env n (interrupt s)).cont)
    (hcontPc : t.contPc = (breakReport env n (interrupt s)).contPc) :
    doCont.run.run t = (.ok (s.state != .running), { t with state := s.state, cont := .stopped, pc := s.pc }) := by
  rw [break_report env n (interrupt s) (interrupt_state s), interrupt_saves s hpc] at hcont hcontPc
  rw [doCont_restores t ht (by rw [hcont]; exact hs), hcont, hcontPc]

/-- interrupt ∘ report ∘ CONT = identity up to `printCol := 0`, from any state of a program in
    progress (`running`, `input`, `inputRunning`, `listing`, …: anything but `stopped`).  `t` is the
    state in which the CONT statement executes: the state after the report with `state = running`
    and whatever `pc`, `entryAddress`, `tr` and (direct-code) program compiling the line `CONT`
    gave.  The slice goes on (`false`) exactly when the interrupted state was `running`. -/
theorem interrupt_cont_identity (env : Env) (n : Nat) (s t : Runtime)
    (hs : s.state ≠ .stopped) (hpc : s.pc < s.entryAddress)
    (ht : t.state = .running)
    (hcont : t.cont = (breakReport env n (interrupt s)).cont)
    (hcontPc : t.contPc = (breakReport env n (interrupt s)).contPc)
    (hstack : t.stack = (breakReport env n (interrupt s)).stack)
    (hvars : t.vars = (breakReport env n (interrupt s)).vars)
    (hfns : t.functions = (breakReport env n (interrupt s)).functions)
    (hdata : t.program.link.dataPos = (breakReport env n (interrupt s)).program.link.dataPos)
    (htron : t.tron = (breakReport env n (interrupt s)).tron)
    (hcol : t.printCol = (breakReport env n (interrupt s)).printCol) :
    (doCont.run.run t).1 = .ok (s.state != .running) ∧
    (doCont.run.run t).2.pc = s.pc ∧
    (doCont.run.run t).2.state = s.state ∧
    (doCont.run.run t).2.cont = .stopped ∧
    (doCont.run.run t).2.stack = s.stack ∧
    (doCont.run.run t).2.vars = s.vars ∧
    (doCont.run.run t).2.functions = s.functions ∧
    (doCont.run.run t).2.program.link.dataPos = s.program.link.dataPos ∧
    (doCont.run.run t).2.tron = s.tron ∧
    (doCont.run.run t).2.printCol = 0 := by
  -- the last six conjuncts are the hypotheses on `t`: the report and the interrupt leave those fields alone
  rw [interrupt_cont env n s t hs hpc ht hcont hcontPc]
  rw [break_report env n (interrupt s) (interrupt_state s), interrupt_saves s hpc] at hstack hvars hfns hdata htron hcol
  exact ⟨rfl, rfl, rfl, rfl, hstack, hvars, hfns, hdata, htron, hcol⟩

/-- the case the property speaks of: a `running` program goes on running -/
theorem interrupt_cont_running (env : Env) (n : Nat) (s t : Runtime)
    (hs : s.state = .running) (hpc : s.pc < s.entryAddress) (ht : t.state = .running)
    (hcont : t.cont = (breakReport env n (interrupt s)).cont)
    (hcontPc : t.contPc = (breakReport env n (interrupt s)).contPc) :
    doCont.run.run t = (.ok false, { t with state := .running, cont := .stopped, pc := s.pc }) := by
  rw [interrupt_cont env n s t (by rw [hs]; nofun) hpc ht hcont hcontPc, hs]
  rfl

/-- END / STOP-like termination inside the program records where to continue … -/
theorem doEnd_cont (s : Runtime) (h : s.pc < s.entryAddress) :
    doEnd s = { s with cont := s.state, contPc := s.pc, state := .stopped } := by
  simp only [doEnd_eq, h, if_true]

/-- … at `pc = entryAddress` (the END that closes a direct line) nothing is left to continue … -/
theorem doEnd_direct (s : Runtime) (h : s.pc = s.entryAddress) :
    doEnd s = { s with cont := .stopped, state := .stopped } := by
  simp only [doEnd_eq, h, Nat.lt_irrefl, if_true, if_false]

/-- … and beyond it `cont` is left as it is -/
theorem doEnd_beyond (s : Runtime) (h : s.pc > s.entryAddress) :
    doEnd s = { s with state := .stopped } := by
  simp only [doEnd_eq, Nat.not_lt_of_gt h, Nat.ne_of_gt h, if_false]

/-- END then CONT: execution resumes after the END, state `running` -/
theorem end_cont_identity (s t : Runtime) (hs : s.state = .running) (hpc : s.pc < s.entryAddress)
    (ht : t.state = .running) (hcont : t.cont = (doEnd s).cont) (hcontPc : t.contPc = (doEnd s).contPc) :
    doCont.run.run t = (.ok false, { t with state := .running, cont := .stopped, pc := s.pc }) := by
  rw [doEnd_cont s hpc] at hcont hcontPc
  exact doCont_running t s.pc ht (hcont.trans hs) hcontPc

def env0 : Env := { lex := fun _ => ⟨none, []⟩, lineRenum := fun _ l => l }

/-- a program `10 A=A+1 : GOTO 10` in the middle of its loop, column 3 -/
def looping : Runtime :=
  { state := .running, pc := 2, entryAddress := 5, printCol := 3, stack := #[.int 4, .int 1],
    program := { link := { ops := #[.push "A".toList, .literal (.int 1), .add, .pop "A".toList, .jump 0, .cont, .end],
                           symbols := [(10, (0, 0))] } } }

example : (interrupt looping).state = .interrupt ∧ (interrupt looping).cont = .running ∧
    (interrupt looping).contPc = 2 ∧ (interrupt looping).stack = #[.int 4, .int 1] := by decide
example : (interrupt { looping with pc := 5 }).cont = .stopped ∧
    (interrupt { looping with pc := 5 }).stack = #[] := by decide
example : (breakReport env0 100 (interrupt looping)).state = .stopped ∧
    (breakReport env0 100 (interrupt looping)).printCol = 0 ∧
    (breakReport env0 100 (interrupt looping)).cont = .running := by
  rw [break_report env0 100 _ (interrupt_state _)]; decide
/-- CONT typed after the report: direct code at 5, `pc = 5`, `entryAddress = 5` -/
example : (doCont.run.run { interrupt looping with state := .running, pc := 6, printCol := 0 }).2.pc = 2 := by
  decide
example : (doEnd looping).cont = .running ∧ (doEnd looping).contPc = 2 ∧
    (doEnd { looping with pc := 5 }).cont = .stopped := by decide
/-- STOP at address 2 of a three-instruction program -/
def stopping : Runtime := { looping with program := { link := { ops := #[.stop, .stop, .stop] } } }
example : (execute env0 stopping 10).1.contPc = 3 ∧ (execute env0 stopping 10).1.cont = .running := by
  rw [stop_saves env0 9 stopping rfl rfl rfl rfl (by decide) (by decide)]; exact ⟨rfl, rfl⟩
/-- three instructions in one slice or in three -/
example : runExecutes env0 1 [1, 1] looping = execute env0 looping 3 :=
  quantum_split_execute env0 1 [1, 1] looping rfl rfl
example : runQuanta env0 [1, 1, 1] looping = slice env0 3 looping := quantum_split env0 [1, 1, 1] looping
example : (slice env0 3 looping).2.2 = 3 ∧ (slice env0 3 looping).2.1.pc = 0 := by decide

/-! C13 end to end at the session API.

  The driver's calls, in order: `interrupt`; `execute` once or twice (the report: a line break if
  the column is not 0, then `?BREAK IN line`); `execute` any number of times at the prompt (the
  first prints READY, the others report `stopped`); `enter "CONT"`; `execute`.  The quanta of
  the calls before CONT are arbitrary (no instruction runs).  Hypotheses on the interrupted state
  `s`, all of them established by the direct line (RUN, GOTO …) that started the program and kept
  by every instruction that does not edit the listing:

  * `s.entryAddress = s.program.directAddress`, `s.listing.directErrors = []`,
    `s.listing.indirectErrors = s.program.indirectErrors`, `s.dirty = false` (`enterDirect_eq`);
  * `Program.Linked s.program` (`linked_is_invariant`);
  * `tron = false`; two size bounds far below the limits (`directAddress + 3 ≤ 65535`, the DATA
    segment within its limit) so that compiling `CONT` cannot overflow.

  They are the structure `Resumable` (`Lemmas/Resume.lean`).  `LexCont env` says that the lexer (a separate
  model) reads `CONT` as the statement word. -/

/-- interrupt → report → prompt → CONT → the instruction `Cont`: the events are the line break
    (iff the column was not 0), `?BREAK IN line`, READY and `stopped`s, then `running`; the state
    is `resumed s` — `s` itself up to `printCol = 0`, `cont = stopped`, `contPc`, `tr = none`
    and the direct code (`resumed_fields`, `resumed_sim`); with a larger quantum the last call of
    `execute` goes on from there. -/
theorem interrupt_break_cont_transparent (env : Env) (hlex : LexCont env) (s : Runtime)
    (q₁ q₂ : Nat) (qs : List Nat) (hr : Resumable s) (hpc : s.pc < s.entryAddress) :
    let r₁ := execList env (reportQuanta s q₁ q₂) (interrupt s)
    let r₂ := execList env qs r₁.1
    let v := enter env r₂.1 "CONT".toList
    r₁.2 = (if s.printCol > 0 then [.print ['\n']] else []) ++ [.errors [breakError s]] ∧
    r₂.2 = (match qs with
            | [] => []
            | _ :: rest => .print (promptLine s) :: List.replicate rest.length .stopped) ∧
    execute env v 1 = (resumed s, .running) ∧
    (∀ m, execute env v (m + 1) = execute env (resumed s) m) := by
  intro r₁ r₂ v
  have he : s.entryAddress ≠ 0 := by rw [hr.entry]; exact hr.linked.direct
  have h1 : r₁ = (broken s s.entryAddress,
      (if s.printCol > 0 then [.print ['\n']] else []) ++ [.errors [breakError s]]) := by
    show execList env (reportQuanta s q₁ q₂) (interrupt s) = _
    rw [interrupt_saves s hpc]
    have := report_interrupt env q₁ q₂ { s with state := .interrupt, cont := s.state, contPc := s.pc } rfl
    rw [show reportQuanta s q₁ q₂ =
      reportQuanta { s with state := .interrupt, cont := s.state, contPc := s.pc } q₁ q₂ from rfl, this, hr.running]
    rfl
  have h2 := congrArg Prod.snd (prompt_after_report env s qs he)
  have h3 := hr.cont_resumes env hlex s.entryAddress qs
  rw [← show r₁.1 = broken s s.entryAddress from congrArg Prod.fst h1] at h2 h3
  exact ⟨congrArg Prod.snd h1, h2, h3⟩

/-- what `resumed s` is, field by field: the program goes on exactly where it was -/
theorem resumed_fields (s : Runtime) :
    (resumed s).pc = s.pc ∧ (resumed s).state = s.state ∧ (resumed s).stack = s.stack ∧
    (resumed s).vars = s.vars ∧ (resumed s).functions = s.functions ∧ (resumed s).rand = s.rand ∧
    (resumed s).listing = s.listing ∧ (resumed s).entryAddress = s.entryAddress ∧
    (resumed s).tron = s.tron ∧ (resumed s).dirty = s.dirty ∧ (resumed s).prompt = s.prompt ∧
    (resumed s).printCol = 0 ∧ (resumed s).cont = .stopped ∧ (resumed s).contPc = s.pc ∧
    (resumed s).tr = none ∧ (resumed s).program = contProgram s.program :=
  ⟨rfl, rfl, rfl, rfl, rfl, rfl, rfl, rfl, rfl, rfl, rfl, rfl, rfl, rfl, rfl, rfl⟩

/-- … and it simulates `s`: `s ≈ resumed s` (`Sim`: equal on all fields except `cont`, `contPc`,
    `tr`, the code from `directAddress` on and the compile-time fields of the program; the print
    columns agree — `col` — iff the program was interrupted at column 0) -/
theorem resumed_sim (s : Runtime) (hr : Resumable s) (col : Bool) (hcol : col = true → s.printCol = 0) :
    Sim col s (resumed s) := by
  rw [← contStart_broken s 0 hr.entry hr.noDirectErrors hr.indirectErrors hr.running]
  exact contStart_sim s _ col hcol hr (brokenLike_broken s 0 hr.clean hr.troff hr.linked)
    (.of_directOf (directOf_contProgram s.program hr.linked hr.codeRoom hr.dataRoom))

/-- The resumed run coincides with the uninterrupted one.  From `s` and `resumed s`, `n` further
    instructions give the same result — the same event or error, or both quanta exhausted —
    after the same number of instructions, in states that are again `≈`; and so does the call
    `execute … n` at the API, up to the READY prompt printed when the program ends, which starts
    with a line break iff the column is not 0.

    `_partial`, the restriction being `StaysInProg`: as long as the slice goes on, the next
    instruction of the uninterrupted run lies below `directAddress` (the program proper, not the
    direct code, which differs) and is not `Cont` (a CONT statement *inside* the program reads the
    continuation, which the break has consumed) nor — unless `col`, i.e. unless the break
    happened at column 0 — `Tab` or `Pos` (TAB( and POS( read the print column, which the
    `?BREAK` report resets: the "line break it forces"). -/
theorem resumed_run_coincides_partial (env : Env) (s : Runtime) (hr : Resumable s) (col : Bool)
    (hcol : col = true → s.printCol = 0) (n : Nat)
    (hstay : StaysInProg col env (hasIndirectErrors s) n s) :
    (slice env n (resumed s)).1 = (slice env n s).1 ∧
    (slice env n (resumed s)).2.2 = (slice env n s).2.2 ∧
    Sim col (slice env n s).2.1 (slice env n (resumed s)).2.1 ∧
    Sim col (execute env s n).1 (execute env (resumed s) n).1 ∧
    ((col = true ∨ (slice env n s).1 ≠ .ok (some .stopped)) →
      (execute env (resumed s) n).2 = (execute env s n).2) := by
  have hsim := resumed_sim s hr col hcol
  have h1 := sliceRun_sim env (hasIndirectErrors s) n hsim hstay
  have h2 := execute_sim env n hsim hr.running hr.noDirectErrors hstay
  unfold slice
  rw [hasIndirectErrors_sim hsim]
  exact ⟨h1.1, h1.2.1, h1.2.2, h2.1, h2.2⟩

/-- The two together, at the API: after interrupt, report, prompt and `CONT`, the call
    `execute … (m + 1)` (one instruction for `Cont`, `m` for the program) ends in a state `≈` the
    one the uninterrupted `execute … m` ends in, with the same event — under the restriction of
    `resumed_run_coincides_partial`. -/
theorem interrupted_run_coincides_partial (env : Env) (hlex : LexCont env) (s : Runtime)
    (q₁ q₂ : Nat) (qs : List Nat) (m : Nat) (col : Bool) (hr : Resumable s) (hpc : s.pc < s.entryAddress)
    (hcol : col = true → s.printCol = 0)
    (hstay : StaysInProg col env (hasIndirectErrors s) m s) :
    let v := enter env (execList env qs (execList env (reportQuanta s q₁ q₂) (interrupt s)).1).1 "CONT".toList
    Sim col (execute env s m).1 (execute env v (m + 1)).1 ∧
    ((col = true ∨ (slice env m s).1 ≠ .ok (some .stopped)) →
      (execute env v (m + 1)).2 = (execute env s m).2) := by
  intro v
  have h1 := (interrupt_break_cont_transparent env hlex s q₁ q₂ qs hr hpc).2.2.2 m
  have h2 := resumed_run_coincides_partial env s hr col hcol m hstay
  show Sim col (execute env s m).1 (execute env v (m + 1)).1 ∧ _
  rw [show execute env v (m + 1) = execute env (resumed s) m from h1]
  exact ⟨h2.2.2.2.1, h2.2.2.2.2⟩

theorem step_coincides (env : Env) (h : Bool) (col : Bool) (s t : Runtime) (hst : Sim col s t)
    (hin : InProg col s) :
    ((step env h).run.run t).1 = ((step env h).run.run s).1 ∧
    Sim col ((step env h).run.run s).2 ((step env h).run.run t).2 :=
  step_sim env h hst hin

/-- STOP as the next instruction of a running program, then report → prompt → CONT → `Cont`:
    the state is the one in which the STOP was skipped (`pc` after it), up to the same fields. -/
theorem stop_cont_transparent (env : Env) (hlex : LexCont env) (s : Runtime)
    (n q₁ q₂ : Nat) (qs : List Nat) (hr : Resumable s)
    (hop : s.program.link.ops[s.pc]? = some .stop)
    (hpc : s.pc + 1 < s.entryAddress) (hfull : isFull s = false) :
    let r₀ := execute env s (n + 1)
    let r₁ := execList env (reportQuanta s q₁ q₂) r₀.1
    let r₂ := execList env qs r₁.1
    let v := enter env r₂.1 "CONT".toList
    r₀.2 = .running ∧
    r₁.2 = (if s.printCol > 0 then [.print ['\n']] else []) ++
      [.errors [(Error.mk' Code.break).inLine (lineNumber { s with pc := s.pc + 1 })]] ∧
    r₂.2 = (match qs with
            | [] => []
            | _ :: rest => .print (promptLine s) :: List.replicate rest.length .stopped) ∧
    execute env v 1 = (resumed { s with pc := s.pc + 1 }, .running) ∧
    (∀ m, execute env v (m + 1) = execute env (resumed { s with pc := s.pc + 1 }) m) := by
  intro r₀ r₁ r₂ v
  have he : s.entryAddress ≠ 0 := by rw [hr.entry]; exact hr.linked.direct
  have h0 : r₀ = _ := stop_saves env n s hr.running hr.noDirectErrors hr.troff hop hpc hfull
  have h1 : r₁ = (broken { s with pc := s.pc + 1 } s.entryAddress,
      (if s.printCol > 0 then [.print ['\n']] else []) ++
        [.errors [(Error.mk' Code.break).inLine (lineNumber { s with pc := s.pc + 1 })]]) := by
    show execList env (reportQuanta s q₁ q₂) r₀.1 = _
    rw [h0]
    exact report_runtimeError env q₁ q₂
      { s with pc := s.pc + 1, cont := .running, contPc := s.pc + 1,
               state := .runtimeError ((Error.mk' Code.break).inLine (lineNumber { s with pc := s.pc + 1 })) }
      _ rfl
  have h2 := congrArg Prod.snd (prompt_after_report env { s with pc := s.pc + 1 } qs he)
  have h3 := (hr.at_pc (s.pc + 1)).cont_resumes env hlex s.entryAddress qs
  rw [← show r₁.1 = broken { s with pc := s.pc + 1 } s.entryAddress from congrArg Prod.fst h1] at h2 h3
  exact ⟨congrArg Prod.snd h0, congrArg Prod.snd h1, h2, h3⟩

/-- END in the middle of a program (more code follows), then prompt → CONT → `Cont`: READY is
    printed by the same call of `execute`; CONT resumes at the next instruction. -/
theorem end_cont_transparent (env : Env) (hlex : LexCont env) (s : Runtime)
    (n : Nat) (qs : List Nat) (hr : Resumable s)
    (hop : s.program.link.ops[s.pc]? = some .end) (hpc : s.pc + 1 < s.entryAddress) :
    let r₀ := execute env s (n + 1)
    let r₂ := execList env qs r₀.1
    let v := enter env r₂.1 "CONT".toList
    r₀.2 = .print ((if s.printCol > 0 then ['\n'] else []) ++ promptLine s) ∧
    r₂.2 = List.replicate qs.length .stopped ∧
    execute env v 1 = (resumed { s with pc := s.pc + 1 }, .running) ∧
    (∀ m, execute env v (m + 1) = execute env (resumed { s with pc := s.pc + 1 }) m) := by
  intro r₀ r₂ v
  have h0 : r₀ = (broken { s with pc := s.pc + 1 } 0,
      .print ((if s.printCol > 0 then ['\n'] else []) ++ promptLine s)) := by
    show execute env s (n + 1) = _
    rw [end_saves env n s hr.running hr.noDirectErrors hr.troff hop hpc]
    rfl
  have h2 := congrArg Prod.snd (execList_at_prompt env qs (broken { s with pc := s.pc + 1 } 0) rfl rfl)
  have h3 := (hr.at_pc (s.pc + 1)).cont_resumes env hlex 0 qs
  rw [← show r₀.1 = broken { s with pc := s.pc + 1 } 0 from congrArg Prod.fst h0] at h2 h3
  exact ⟨congrArg Prod.snd h0, h2, h3⟩

/-- Inspecting variables between the break and CONT does not disturb the continuation.  After the
    report of a break of `s` (state `broken s ea`, whether or not READY was printed), a direct
    line `str` is entered whose code consists of harmless instructions (a PRINT of expressions
    over simple variables: literals, fetches, arithmetic, side-effect-free built-ins, `Print`)
    and is balanced (never reaches below its own operands, leaves none behind — `Balanced`, a
    decidable check of the code), and the driver calls `execute` any number of times.  Unless
    one of these calls ended in a runtime error (the report of an error in direct mode clears
    the continuation), the continuation, the variables, the function table and the DATA cursor
    are untouched, and once the prompt is back the stack is the one the line found and CONT
    resumes the program in a state `t ≈ s`. -/
theorem inspect_between_harmless (env : Env) (hlex : LexCont env) (s : Runtime) (ea : Nat)
    (str : Str) (line : Line) (code : Array Opcode) (qs : List Nat) (col : Bool)
    (hr : Resumable s) (hcol : col = true → s.printCol = 0)
    (hlen : RStd.utf8Len str ≤ Gen.maxLineLen) (hline : env.lex str = line)
    (hne : line.tokens.isEmpty = false) (hp : Program.PlainLine line code)
    (hharm : ∀ (i : Nat) (op : Opcode), code[i]? = some op → harmless op = true)
    (hbal : Balanced code)
    (hsize : s.program.directAddress + code.size + 2 ≤ Gen.stackMaxLen) :
    let u := enter env (broken s ea) str
    let w := (execList env qs u).1
    (∀ k, k ≤ qs.length → ¬ Failed (execList env (qs.take k) u).1) →
    (w.state = .running ∨ w.state = .stopped) ∧
    w.cont = .running ∧ w.contPc = s.pc ∧ w.vars = s.vars ∧ w.functions = s.functions ∧
    w.program.link.dataPos = s.program.link.dataPos ∧
    (w.state = .stopped →
      w.stack = s.stack ∧
      ∃ t, execute env (enter env w "CONT".toList) 1 = (t, .running) ∧
        (∀ m, execute env (enter env w "CONT".toList) (m + 1) = execute env t m) ∧ Sim col s t) := by
  intro u w hnf
  obtain ⟨hk, hst⟩ := inspect_keeps_brokenLike env s (broken s ea) str line code qs hr
    (brokenLike_broken s ea hr.clean hr.troff hr.linked) hlen hline hne hp hharm hbal hsize hnf
  have e := enterDirect_eq (broken s ea) line
  refine ⟨hst.imp_right (·.state), hk.cont.trans (congrArg (·.cont) e), hk.contPc.trans (congrArg (·.contPc) e),
    hk.vars.trans (congrArg (·.vars) e), hk.functions.trans (congrArg (·.functions) e),
    by rw [hk.program]; exact enterDirect_dataPos _ _, fun hstop => ?_⟩
  have hbl : BrokenLike s w := hst.resolve_left (by rw [hstop]; nofun)
  exact ⟨hbl.stack, contStart w, cont_from_brokenLike env hlex s w col hcol hr hbl⟩

set_option linter.unusedVariables false in
/-- where `Program.Linked` comes from: every direct line entered at a linked program that was not
    edited leaves a linked program with the same `directAddress`; and a direct line compiled
    onto any program whose direct code (if marked at all) lies within the code leaves a linked
    one — in particular the first direct line of a session -/
theorem linked_is_invariant (s : Runtime) (line : Line) (hn : line.number = none) (hd : s.dirty = false)
    (hl : Program.Linked s.program) :
    Program.Linked (enterDirect s line).program ∧
    (enterDirect s line).program.directAddress = s.program.directAddress := by
  rw [enterDirect_eq_clean s line hd]
  have := Program.linked_codegenLine s.program line hl.inside
  exact ⟨this.1, this.2 hl.direct⟩

set_option linter.unusedVariables false in
theorem linked_first_direct_line (line : Line) (hn : line.number = none) :
    Program.Linked (({} : Program).codegenLine line).linkProg :=
  (Program.linked_codegenLine {} line (Nat.le_refl _)).1

/-! Non-vacuity of the end-to-end theorems.

  The parser model cannot be evaluated by the kernel on lines with line-number operands (RUN,
  GOTO: `Float32.ofNat` is opaque), so the running state is written down as the compiler leaves
  it — program `10 A=B / 20 STOP / 30 A=B / 40 END / 50 A=B`, started by RUN — and the
  hypotheses of the theorems are checked on it by evaluation.  The lines typed at the prompt
  (`CONT`, `PRINT A`) do go through `enter`, with the hand-written lexer `env1`. -/

/-- the tokens of the direct line `PRINT A` -/
def printLine : Line := ⟨none, [.word .print, .whitespace 1, .ident (.plain "A".toList)]⟩

def env1 : Env :=
  { lex := fun str =>
      if str = "CONT".toList then contLine else if str = "PRINT A".toList then printLine else ⟨none, []⟩,
    lineRenum := fun _ l => l }

theorem lexCont_env1 : LexCont env1 := rfl

def prog0 : Program :=
  { directAddress := 9,
    link := { ops := #[.push "B".toList, .pop "A".toList, .stop, .push "B".toList, .pop "A".toList, .end,
                       .push "B".toList, .pop "A".toList, .end, .clear, .jump 0, .end],
              directSet := true,
              symbols := [(10, (0, 0)), (20, (2, 0)), (30, (3, 0)), (40, (5, 0)), (50, (6, 0)), (65530, (9, 0))] } }

/-- in line 10, between the fetch of `B` and the store to `A`, at column 3 -/
def s0 : Runtime :=
  { state := .running, pc := 1, entryAddress := 9, printCol := 3, stack := #[.int 5],
    vars := { vars := [("B".toList, .int 5)] }, program := prog0 }

theorem resumable_s0 : Resumable s0 :=
  ⟨rfl, rfl, rfl, rfl, rfl, rfl, ⟨rfl, rfl, by decide, by decide⟩, by decide, by decide⟩

/-- the events of the report: a line break (column 3), then `?BREAK IN 10` -/
example : (execList env1 (reportQuanta s0 7 7) (interrupt s0)).2 =
    [.print ['\n'], .errors [(Error.mk' Code.break).inLine (some 10)]] :=
  (interrupt_break_cont_transparent env1 lexCont_env1 s0 7 7 [7, 7] resumable_s0 (by decide)).1

/-- two calls at the prompt: READY, `stopped` -/
example : (execList env1 [7, 7] (execList env1 (reportQuanta s0 7 7) (interrupt s0)).1).2 =
    [.print "READY.\n".toList, .stopped] :=
  (interrupt_break_cont_transparent env1 lexCont_env1 s0 7 7 [7, 7] resumable_s0 (by decide)).2.1

/-- CONT: the program is back where it was -/
example : execute env1 (enter env1 (execList env1 [7, 7]
      (execList env1 (reportQuanta s0 7 7) (interrupt s0)).1).1 "CONT".toList) 1 = (resumed s0, .running) :=
  (interrupt_break_cont_transparent env1 lexCont_env1 s0 7 7 [7, 7] resumable_s0 (by decide)).2.2.1

example : (resumed s0).pc = 1 ∧ (resumed s0).stack = #[.int 5] ∧ (resumed s0).printCol = 0 ∧
    (resumed s0).state = .running ∧ (resumed s0).entryAddress = 9 := ⟨rfl, rfl, rfl, rfl, rfl⟩

theorem inProg_of (col : Bool) (s : Runtime) (op : Opcode) (h1 : s.pc < s.program.directAddress)
    (h2 : s.program.link.ops[s.pc]? = some op) (h3 : simOk col op = true) : InProg col s :=
  ⟨h1, fun op' h => by rw [h2] at h; cases h; exact h3⟩

/-- the next two instructions (`Pop A`, then the STOP of line 20) are in the program proper -/
theorem stays_s0 : StaysInProg false env1 (hasIndirectErrors s0) 2 s0 := by
  intro k hk _
  match k, hk with
  | 0, _ => exact inProg_of false _ (.pop "A".toList) (by decide) (by decide) rfl
  | 1, _ => exact inProg_of false _ .stop (by decide) (by decide) rfl

/-- the resumed run and the uninterrupted one: both end with the BREAK of line 20 after two
    instructions -/
example : (slice env1 2 (resumed s0)).1 = (slice env1 2 s0).1 ∧
    (slice env1 2 (resumed s0)).2.2 = (slice env1 2 s0).2.2 :=
  let h := resumed_run_coincides_partial env1 s0 resumable_s0 false (fun h => by cases h) 2 stays_s0
  ⟨h.1, h.2.1⟩
example : (slice env1 2 s0).1 = .error (Error.mk' Code.break) ∧ (slice env1 2 s0).2.2 = 2 ∧
    (slice env1 2 s0).2.1.vars.vars = [("A".toList, .sng 0x40a00000), ("B".toList, .int 5)] := ⟨rfl, rfl, rfl⟩

/-- … and at the API: the call after CONT (quantum 3) reports what the uninterrupted call
    (quantum 2) reports -/
example : (execute env1 (enter env1 (execList env1 [7, 7]
      (execList env1 (reportQuanta s0 7 7) (interrupt s0)).1).1 "CONT".toList) 3).2 = (execute env1 s0 2).2 :=
  (interrupted_run_coincides_partial env1 lexCont_env1 s0 7 7 [7, 7] 2 false resumable_s0 (by decide)
    (fun h => by cases h) stays_s0).2
    (.inr (by rw [show (slice env1 2 s0).1 = .error (Error.mk' Code.break) from rfl]; nofun))

/-- at the STOP of line 20 -/
def s1 : Runtime := { s0 with pc := 2, stack := #[], printCol := 0 }
theorem resumable_s1 : Resumable s1 := resumable_s0.congr rfl rfl rfl rfl rfl rfl
example : execute env1 (enter env1 (execList env1 [7]
      (execList env1 (reportQuanta s1 7 7) (execute env1 s1 4).1).1).1 "CONT".toList) 1 =
    (resumed { s1 with pc := 3 }, .running) :=
  (stop_cont_transparent env1 lexCont_env1 s1 3 7 7 [7] resumable_s1 rfl (by decide) rfl).2.2.2.1

/-- at the END of line 40 -/
def s2 : Runtime := { s0 with pc := 5, stack := #[], printCol := 0 }
theorem resumable_s2 : Resumable s2 := resumable_s0.congr rfl rfl rfl rfl rfl rfl
example : execute env1 (enter env1 (execList env1 [7] (execute env1 s2 4).1).1 "CONT".toList) 1 =
    (resumed { s2 with pc := 6 }, .running) :=
  (end_cont_transparent env1 lexCont_env1 s2 3 [7] resumable_s2 rfl (by decide)).2.2.1

/-- the direct line `PRINT A` is plain, harmless and balanced -/
theorem parse_printLine : Parse.parse none printLine.tokens =
    .ok [.print (0, 5) [.var (.unary (6, 7) (.plain "A".toList)), .string (7, 7) ['\n']]] := by
  -- the widths of the three tokens (unfolding `Word.text` would ask for the equations of its whole table)
  have t1 : (Token.word .print).text.length = 5 := rfl
  have t2 : (Token.whitespace 1).text.length = 1 := rfl
  have t3 : (Token.ident (.plain ['A'])).text.length = 1 := rfl
  simp [parse_eval, printLine, t1, t2, t3, List.lookup, List.isPrefixOf]

def printCode : Array Opcode := #[.push "A".toList, .print, .literal (.str ['\n']), .print]

theorem plainLine_print : Program.PlainLine printLine printCode :=
  Program.plainLine_of_check printLine printCode _ rfl parse_printLine
    (by decide +kernel) (by decide +kernel) (by decide +kernel)

theorem harmless_printCode : ∀ (i : Nat) (op : Opcode), printCode[i]? = some op → harmless op = true := by
  intro i op h
  match i, h with
  | 0, h => cases h; rfl
  | 1, h => cases h; rfl
  | 2, h => cases h; rfl
  | 3, h => cases h; rfl
  | _ + 4, h => cases h

theorem balanced_printCode : Balanced printCode := by decide

/-- `inspect_between_harmless` on `s0`, READY not yet printed, the line `PRINT A`, five calls of
    `execute`: every hypothesis but "no call ended in a runtime error" holds by evaluation -/
example (hnf : ∀ k, k ≤ 5 →
      ¬ Failed (execList env1 ([9, 9, 9, 9, 9].take k) (enter env1 (broken s0 9) "PRINT A".toList)).1)
    (hdone : (execList env1 [9, 9, 9, 9, 9] (enter env1 (broken s0 9) "PRINT A".toList)).1.state = .stopped) :
    (execList env1 [9, 9, 9, 9, 9] (enter env1 (broken s0 9) "PRINT A".toList)).1.stack = s0.stack :=
  ((inspect_between_harmless env1 lexCont_env1 s0 9 "PRINT A".toList printLine printCode [9, 9, 9, 9, 9] false
    resumable_s0 (fun h => by cases h) (by decide) rfl rfl plainLine_print harmless_printCode
    balanced_printCode (by decide) hnf).2.2.2.2.2.2 hdone).1

/-- … and on the state the line `PRINT A` compiles to (written down, as `s0` is), the calls do
    not fail (A is not yet assigned: ` 0 `, line break, READY, `stopped`); continuation, stack and
    variables as before -/
def u0 : Runtime :=
  { broken s0 9 with
    state := .running, pc := 9,
    program := { prog0 with link := { prog0.link with
      ops := #[.push "B".toList, .pop "A".toList, .stop, .push "B".toList, .pop "A".toList, .end,
               .push "B".toList, .pop "A".toList, .end,
               .push "A".toList, .print, .literal (.str ['\n']), .print, .end] } } }

example : (execList env1 [9, 9, 9, 9, 9] u0).1.state = .stopped ∧
    (execList env1 [9, 9, 9, 9, 9] u0).1.cont = .running ∧
    (execList env1 [9, 9, 9, 9, 9] u0).1.contPc = 1 ∧ (execList env1 [9, 9, 9, 9, 9] u0).1.stack = #[.int 5] ∧
    (execList env1 [9, 9, 9, 9, 9] u0).1.vars.vars = [("B".toList, .int 5)] := ⟨rfl, rfl, rfl, rfl, rfl⟩

end Thm.C13
end Basic

import BasicModel.Lemmas.DataProgram
import BasicModel.Lemmas.DataLits
import BasicModel.Lemmas.ParseLines
/-
  C09 — READ consumes DATA in source order; RESTORE and RUN reposition the cursor.

  Continuation of `Thm/C09.lean`: whole programs, compiled, linked and run.  Assumed of a listing:
  `ListingClean {} ls` — every line of `ls`, compiled in its turn, either does not parse or compiles
  without a report; in particular (`listingClean_of_compile_clean`) every listing with
  `(compile ls).indirectErrors = []`.
-/
namespace Basic
namespace Thm.C09
open Link Program DataOrder
open _root_.Basic.Runtime

/-- **the symbol of a line records the number of constants before it.**  In the compiled and linked
    program of an ascending listing each of whose lines, compiled in its turn, either does not parse
    or compiles without a report (`ListingClean`), the entry of line `m` is (end of the code of the lines
    before `m`, `|dataOf (lines before m)|`): its data address is the index of the first constant at
    or after line `m`. -/
theorem line_symbol_data_addr (pre tl : List Line) (hd : Line) (m : Nat) (hl : Listed (pre ++ hd :: tl))
    (hm : hd.number = some m) (hok : ListingClean {} (pre ++ hd :: tl)) :
    (compile (pre ++ hd :: tl)).link.symbols.lookup (m : Int) = some ((endOf pre).1, (dataOf pre).length) := by
  rw [hl.compile_lookup hm, ← endOf_data pre (hl.split hm).preNum (listingClean_prefix pre _ _ hok)]

/-- a `restore` anywhere in the code: a `restore` of the compile state that waits for the
    symbol of line `n` is patched with the data address recorded for line `n` -/
theorem restore_anywhere_linked (ls : List Line) (hnum : Program.Numbered ls) (a y : Nat) (c : Col) (n o d : Nat)
    (hp : PendingAt (({} : Program).codegenLines ls).link a (.restore y) (some (c, (n : Int))))
    (hsym : (({} : Program).codegenLines ls).link.symbols.lookup (n : Int) = some (o, d)) :
    (compile ls).link.ops[a]? = some (.restore d) := by
  have hw := codegenLines_whilesOps ls {} hnum WhilesOps.empty
  have hk := codegenLines_keysDistinct ls {} hnum List.Pairwise.nil
  obtain ⟨e1, e2, -⟩ := ensureEnd_symbols (({} : Program).codegenLines ls)
  unfold compile
  rw [linkProg_ops_eq]
  exact link_restore_resolves _ (by rw [e2]; exact hk) (whilesOps_ensureEnd hw) a y c (n : Int) o d
    (pendingAt_ensureEnd hp) (by rw [e1]; exact hsym)

/-- **`RESTORE n`, compiled and linked**, for a RESTORE at the head of its line (`hparse`: what the
    parser returns for the line; `ht`: the operand is the line number `n`; `hsplit`/`hn`: line `n` is
    in the listing, after the lines `pre'`): the first instruction of the line is `restore k`, `k` the
    number of constants on the lines strictly before line `n`, i.e. the index of the first constant
    at or after line `n`.  With no constant at or after line `n`, `k = |data|` and the next READ is
    OUT OF DATA (`readData_out_of_data`). -/
theorem restore_n_linked (pre tl : List Line) (hd : Line) (m : Nat) (hl : Listed (pre ++ hd :: tl))
    (hm : hd.number = some m) (hok : ListingClean {} (pre ++ hd :: tl))
    (c c2 : Col) (bits : UInt32) (rest : List Stmt)
    (hparse : Parse.parse hd.number hd.tokens = .ok (.restore c (.single c2 bits) :: rest))
    (n : Nat) (ht : restoreTarget bits = some n)
    (pre' tl' : List Line) (hd' : Line) (hsplit : pre ++ hd :: tl = pre' ++ hd' :: tl') (hn : hd'.number = some n) :
    (compile (pre ++ hd :: tl)).link.ops[(endOf pre).1]? = some (.restore (dataOf pre').length) := by
  have h3 := restore_head_pending pre tl hd m hl hm hok c c2 bits rest hparse
  rw [ht] at h3
  rw [hsplit] at hl hok h3 ⊢
  rw [restore_anywhere_linked _ hl.isNumbered (endOf pre).1 0 c2 n (endOf pre').1 (endOf pre').2 h3 (hl.lookup hn),
    endOf_data pre' (hl.split hn).preNum (listingClean_prefix pre' _ _ hok)]

/-- **plain `RESTORE`** at the head of a line is `restore 0` after linking: it rewinds to the first
    constant (`ht`: the operand the parser supplies, −1, is not a line number) -/
theorem restore_plain_linked (pre tl : List Line) (hd : Line) (m : Nat) (hl : Listed (pre ++ hd :: tl))
    (hm : hd.number = some m) (hok : ListingClean {} (pre ++ hd :: tl))
    (c c2 : Col) (bits : UInt32) (rest : List Stmt)
    (hparse : Parse.parse hd.number hd.tokens = .ok (.restore c (.single c2 bits) :: rest))
    (ht : restoreTarget bits = none) :
    (compile (pre ++ hd :: tl)).link.ops[(endOf pre).1]? = some (.restore 0) := by
  have h3 := restore_head_pending pre tl hd m hl hm hok c c2 bits rest hparse
  rw [ht] at h3
  exact unreferenced_linked _ hl.isNumbered _ _ (by rintro (h | h) <;> cases h) h3

/-- what `restore a` does when executed: the cursor is `a`, nothing else in the program changes -/
theorem restore_sets_cursor (env : Env) (h : Bool) (s : Runtime) (a : Nat)
    (hop : s.program.link.ops[s.pc]? = some (.restore a)) (htr : s.tron = false) :
    (step env h).run.run s = (.ok .continue, { s with pc := s.pc + 1, program := s.program.withDP a }) := by
  rw [run_step env h s _ htr hop]
  simp only [execOp]
  rw [run_bind_ok (run_modify _ _)]
  rfl

/-- **the frame lemma**: every instruction other than `read`, `restore`, `clear`, `new` (`isCursorOp`)
    leaves the compiled program — code, data segment, symbols, DATA cursor — exactly as it was,
    whether it succeeds, throws, or returns an event … -/
theorem only_cursor_ops_move_the_cursor (env : Env) (h : Bool) (op : Opcode) (hop : isCursorOp op = false)
    (s : Runtime) : ((execOp env h op).run.run s).2.program = s.program :=
  ((execOp_keepProg env h op hop).run s).prog

/-- … and so does a whole `step` at such an instruction: its trace part touches only `tr` and the print
    column -/
theorem step_keeps_cursor (env : Env) (h : Bool) (s : Runtime)
    (hop : ∀ op, s.program.link.ops[s.pc]? = some op → isCursorOp op = false) :
    ((step env h).run.run s).2.program = s.program :=
  ((step_eff env h s (K := (· ≠ .data)) nofun nofun fun op hq k hk e => by
      subst e; exact absurd hk.2 (by rw [hop op hq]; nofun)).to KeepProg.of_prim).prog

/-- a `step` at a `read` either leaves program and stack alone (a trace print came first, or OUT OF
    DATA) or pushes the constant under the cursor and advances the cursor by one -/
theorem step_at_read (env : Env) (h : Bool) (s : Runtime) (hop : s.program.link.ops[s.pc]? = some .read) :
    (((step env h).run.run s).2.program = s.program ∧ ((step env h).run.run s).2.stack = s.stack) ∨
    (∃ (hlt : s.program.link.dataPos < s.program.link.data.size),
      ((step env h).run.run s).2.program = s.program.withDP (s.program.link.dataPos + 1) ∧
      ((step env h).run.run s).2.stack = s.stack.push s.program.link.data[s.program.link.dataPos]) :=
  step_read_cases env h s hop

/-- **headline**: in any execution — any interleaving of READs with arbitrary other code, of any
    length, with any outcomes — that executes no RESTORE / CLEAR / NEW (`Reads`), the values the
    `read`s deliver are consecutive constants of the data segment starting at the cursor: the `i`-th
    value read is `data[p + i]`; the data segment is untouched and the cursor ends `|vs|` further -/
theorem reads_consume_data_in_order {env : Env} {h : Bool} {s u : Runtime} {vs : List Val}
    (hr : Reads env h s vs u) :
    vs = (s.program.link.data.toList.drop s.program.link.dataPos).take vs.length ∧
    u.program = s.program.withDP (s.program.link.dataPos + vs.length) := by
  induction hr with
  | done s => exact ⟨by simp, rfl⟩
  | @other s u vs hop _ ih =>
    rw [step_keeps_cursor env h s hop] at ih
    exact ih
  | @read s u vs hop _ ih =>
    rcases delivered_cases env h s hop with ⟨hd, e1⟩ | ⟨hlt, hd, e1⟩
    · rw [hd, List.nil_append]
      rw [e1] at ih
      exact ih
    · rw [hd]
      rw [e1] at ih
      obtain ⟨i1, i2⟩ := ih
      have hlt' : s.program.link.dataPos < s.program.link.data.toList.length := by simpa using hlt
      refine ⟨?_, ?_⟩
      · show _ :: vs = _
        rw [List.drop_eq_getElem_cons hlt', List.singleton_append, List.length_cons, List.take_succ_cons]
        congr 1
      · rw [i2]
        show (s.program.withDP _).withDP _ = _
        simp only [List.singleton_append, List.length_cons]
        unfold Program.withDP Link.withDP
        simp only [Nat.add_assoc, Nat.add_comm 1]

/-- … with the cursor at 0 and a program compiled from `lines`: **the `i`-th value read is the `i`-th
    element of `dataOf lines`** -/
theorem reads_are_dataOf {env : Env} {h : Bool} {s u : Runtime} {vs : List Val} (lines : List Line)
    (hdata : s.program.link.data.toList = dataOf lines) (h0 : s.program.link.dataPos = 0)
    (hr : Reads env h s vs u) (i : Nat) (hi : i < vs.length) :
    (dataOf lines)[i]? = some vs[i] := by
  obtain ⟨h1, -⟩ := reads_consume_data_in_order hr
  rw [hdata, h0, List.drop_zero] at h1
  have : vs[i]? = ((dataOf lines).take vs.length)[i]? := by rw [← h1]
  rw [List.getElem?_take, if_pos hi, List.getElem?_eq_getElem hi] at this
  exact this.symm

/-- **RUN rewinds and the program then reads `dataOf` from index 0.**  From every state satisfying
    the interpreter invariant (`Runtime.Inv`: every reachable state) with tracing off, the direct line `RUN` / `RUN n`
    entered over a listing that compiles as required (`ListingClean`): execution starts at a `clear`
    (`Runtime.enterDirect_run_starts_with_clear`); the data segment in memory is `dataOf` of the
    listing; after that `clear` the cursor is 0 (`doClear_rewinds`) -/
theorem run_rewinds_cursor (env : Env) (hie : Bool) (s : Runtime) (line : Line) (hn : line.number = none)
    (hi : Runtime.Inv s) (c c2 : Col) (bits : UInt32)
    (hparse : Parse.parse none line.tokens = .ok [.run c (.single c2 bits)])
    (hnum : Program.Numbered s.listing.lines) (hok : ListingClean {} s.listing.lines) (htr : s.tron = false) :
    (enterDirect s line).program.link.ops[(enterDirect s line).pc]? = some .clear ∧
    (enterDirect s line).program.link.data.toList = dataOf s.listing.lines ∧
    ((step env hie).run.run (enterDirect s line)).1 = .ok .continue ∧
    ((step env hie).run.run (enterDirect s line)).2.program.link.dataPos = 0 ∧
    ((step env hie).run.run (enterDirect s line)).2.program.link.data.toList = dataOf s.listing.lines := by
  have hclr := enterDirect_run_starts_with_clear s line hn hi c c2 bits hparse
  obtain ⟨d, hp⟩ := enterDirect_program_inv s line hn hi
  have hdata : (enterDirect s line).program.link.data.toList = dataOf s.listing.lines := by
    rw [hp, show ∀ p : Program, (p.withDP d).link.data = p.link.data from fun _ => rfl,
      runProg_data _ _ hn, compile_data _ hnum hok]
  have htr' := (enterDirect_fields s line).2.2.2.2.trans htr
  -- from here on the state entered is any state: its definition is not looked into again
  generalize enterDirect s line = t at hclr hdata htr' ⊢
  obtain ⟨h1, h2⟩ := step_at_clear env hie t hclr htr'
  rw [h1, h2]
  exact ⟨hclr, hdata, rfl, rfl, hdata⟩

/-- **the first READs after RUN**: in any execution after the `clear` of RUN that contains no
    RESTORE / CLEAR / NEW, the values read are the first `|vs|` constants of the listing, in order -/
theorem first_reads_after_run (env : Env) (hie : Bool) (s : Runtime) (line : Line) (hn : line.number = none)
    (hi : Runtime.Inv s) (c c2 : Col) (bits : UInt32)
    (hparse : Parse.parse none line.tokens = .ok [.run c (.single c2 bits)])
    (hnum : Program.Numbered s.listing.lines) (hok : ListingClean {} s.listing.lines) (htr : s.tron = false)
    (vs : List Val) (u : Runtime) (hr : Reads env hie ((step env hie).run.run (enterDirect s line)).2 vs u) :
    vs = (dataOf s.listing.lines).take vs.length ∧ u.program.link.dataPos = vs.length := by
  obtain ⟨-, -, -, h4, h5⟩ := run_rewinds_cursor env hie s line hn hi c c2 bits hparse hnum hok htr
  obtain ⟨i1, i2⟩ := reads_consume_data_in_order hr
  rw [h4, h5, List.drop_zero] at i1
  refine ⟨i1, ?_⟩
  rw [i2, h4, Nat.zero_add]
  rfl

/-- the same for a listing that compiles without errors — the condition under which RUN executes the
    program at all -/
theorem first_reads_after_run_of_clean_compile (env : Env) (hie : Bool) (s : Runtime) (line : Line)
    (hn : line.number = none) (hi : Runtime.Inv s) (c c2 : Col) (bits : UInt32)
    (hparse : Parse.parse none line.tokens = .ok [.run c (.single c2 bits)])
    (hnum : Program.Numbered s.listing.lines) (hclean : (compile s.listing.lines).indirectErrors = [])
    (htr : s.tron = false)
    (vs : List Val) (u : Runtime) (hr : Reads env hie ((step env hie).run.run (enterDirect s line)).2 vs u) :
    vs = (dataOf s.listing.lines).take vs.length ∧ u.program.link.dataPos = vs.length :=
  first_reads_after_run env hie s line hn hi c c2 bits hparse hnum
    (listingClean_of_compile_clean _ hnum hclean).1 htr vs u hr

/-- CLEAR as a statement does the same: the cursor is 0 afterwards, code and data unchanged -/
theorem clear_rewinds_cursor (env : Env) (h : Bool) (s : Runtime)
    (hop : s.program.link.ops[s.pc]? = some .clear) (htr : s.tron = false) :
    ((step env h).run.run s).2.program = s.program.withDP 0 := by
  obtain ⟨h1, h2⟩ := step_at_clear env h s hop htr
  rw [h1, h2]

/-! Non-vacuity:
  `10 RESTORE 30` / `20 DATA 7,-8` / `30 DATA "X"`.  The kernel does not evaluate the parser, and the
  operand of `RESTORE 30` goes through the opaque `Float32.ofNat`; so the DATA lines are concrete
  (their parses are in `Lemmas/ParseLines.lean`), while line 10 is any line with number 10 for which
  the parser returns `RESTORE <bits>` with `restoreTarget bits = some 30` — for the tokens of
  `RESTORE 30` the parser returns `[.restore (8, 10) (lineExpr (8, 10) 30)]` (`#eval`). -/

def exD20 : Line := ⟨some 20, [.word .data, .whitespace 1, .literal (.integer ['7']), .comma, .operator .minus,
  .literal (.integer ['8'])]⟩
def exD30 : Line := ⟨some 30, [.word .data, .whitespace 1, .literal (.string ['X'])]⟩

/-- the compile state after `10 RESTORE 30` -/
def exAfter10 : Program :=
  { lineNumber := some 10,
    link := { ops := #[.restore 0], symbols := [(10, (0, 0))], unlinked := [(0, ((8, 10), 30))] } }

section
set_option linter.unusedSectionVars false
variable (hd : Line) (hm : hd.number = some 10) (bits : UInt32)
  (hparse : Parse.parse hd.number hd.tokens = .ok [.restore (8, 10) (.single (8, 10) bits)])
  (ht : restoreTarget bits = some 30)
include hm hparse ht

theorem ex_after10 : ({} : Program).codegenLine hd = exAfter10 := by
  rw [Program.codegenLine_numbered {} hd 10 hm, Program.genNumbered_ok (hm ▸ hparse)]
  unfold Program.genAst Program.startLine Codegen.codegen
  rw [Codegen.acceptStmts, Codegen.acceptStmts, acceptStmt_restore, ht]
  rfl

theorem ex_ok : ListingClean {} [hd, exD20, exD30] := by
  refine ⟨?_, ?_⟩
  · intro n ast hn hp
    rw [hm] at hn
    cases hn
    rw [hparse] at hp
    cases hp
    unfold Codegen.codegen
    rw [Codegen.acceptStmts, Codegen.acceptStmts, acceptStmt_restore, ht]
    rfl
  · rw [ex_after10 hd hm bits hparse ht]
    exact listingClean_of_check _ [_, _] _ (.cons (Parse.parse_data_7_m8 _) (.cons (Parse.parse_data_x _) .nil)) (by decide +kernel)

theorem ex_listed : Listed ([] ++ hd :: [exD20, exD30]) := listed_cons_of_check _ hm (by decide) (by decide)

/-- the constants before line 30: those of lines 10 and 20 -/
theorem ex_dataOf : dataOf [hd, exD20] = [.int 7, .int (-8)] := by
  rw [dataOf_of_parses [hd, exD20] _ (.cons hparse (.cons (Parse.parse_data_7_m8 _) .nil))]
  rfl

/-- **`RESTORE 30` is linked to `restore 2`**: two constants precede line 30 -/
example : (compile ([] ++ hd :: [exD20, exD30])).link.ops[0]? = some (.restore 2) := by
  have h := restore_n_linked [] [exD20, exD30] hd 10 (ex_listed hd hm bits hparse ht) hm
    (ex_ok hd hm bits hparse ht) (8, 10) (8, 10) bits [] hparse 30 ht [hd, exD20] [] exD30 rfl rfl
  rw [ex_dataOf hd hm bits hparse ht] at h
  exact h

/-- **the symbol of line 30 records 2 constants before it** (and code address 1) -/
example : (compile ([hd, exD20] ++ exD30 :: [])).link.symbols.lookup 30 =
    some ((endOf [hd, exD20]).1, 2) := by
  have h := line_symbol_data_addr [hd, exD20] [] exD30 30 (ex_listed hd hm bits hparse ht) rfl
    (ex_ok hd hm bits hparse ht)
  rw [ex_dataOf hd hm bits hparse ht] at h
  exact h

/-- the data segment of the example -/
example : (compile [hd, exD20, exD30]).link.data.toList = [.int 7, .int (-8), .str ['X']] := by
  have h := compile_data [hd, exD20, exD30] (ex_listed hd hm bits hparse ht).isNumbered (ex_ok hd hm bits hparse ht)
  rw [dataOf_of_parses [hd, exD20, exD30] _ (.cons hparse (.cons (Parse.parse_data_7_m8 _) (.cons (Parse.parse_data_x _) .nil)))] at h
  exact h

end

def exR25 : Line := ⟨some 25, [.word .restore]⟩

theorem exPlainParses : Parses [exD20, exR25, exD30]
    [[.data (9, 9) [.integer (5, 6) 7, .neg (7, 8) (.integer (8, 9) 8)]],
     [.restore (7, 7) (.single (7, 7) 0xbf800000)], [.data (8, 8) [.string (5, 8) ['X']]]] :=
  .cons (Parse.parse_data_7_m8 _) (.cons (Parse.parse_restore _) (.cons (Parse.parse_data_x _) .nil))

/-- `20 DATA 7,-8` / `25 RESTORE` / `30 DATA "X"`: the RESTORE is linked to `restore 0` -/
example : (compile ([exD20] ++ exR25 :: [exD30])).link.ops[(endOf [exD20]).1]? = some (.restore 0) :=
  restore_plain_linked [exD20] [exD30] exR25 25 (listed_of_check _ (by decide)) rfl
    (listingClean_of_check _ _ _ exPlainParses (by decide +kernel)) (7, 7) (7, 7)
    0xbf800000 []
    (Parse.parse_restore _) (by decide +kernel)

/-- the frame lemma applies to, e.g., `pop`, `print`, `jump`, `end`; not to the four cursor instructions -/
example : isCursorOp (.pop ['A']) = false ∧ isCursorOp .print = false ∧ isCursorOp (.jump 3) = false ∧
    isCursorOp .end = false ∧ isCursorOp .read = true ∧ isCursorOp (.restore 2) = true ∧
    isCursorOp .clear = true ∧ isCursorOp .new = true := by decide

/-- an execution `read; pop A%; read` on the data `7, "X"`: the values delivered are `7, "X"` -/
def exRt : Runtime :=
  { program := { link := { ops := #[.read, .pop ['A', '%'], .read, .end], data := #[.int 7, .str ['X']] } } }

def env0 : Env := { lex := fun _ => ⟨none, []⟩, lineRenum := fun _ l => l }

def exRt1 : Runtime := ((step env0 false).run.run exRt).2
def exRt2 : Runtime := ((step env0 false).run.run exRt1).2
def exRt3 : Runtime := ((step env0 false).run.run exRt2).2

/-- three steps: a `read`, a store, a `read` -/
theorem exReads : Reads env0 false exRt (delivered env0 false exRt ++ (delivered env0 false exRt2 ++ [])) exRt3 :=
  .read (by decide +kernel) (.other (s := exRt1) (by decide +kernel)
    (.read (s := exRt2) (by decide +kernel) (.done exRt3)))

example : delivered env0 false exRt ++ (delivered env0 false exRt2 ++ []) = [.int 7, .str ['X']] := by decide +kernel

/-- … as `reads_consume_data_in_order` says: the data from the cursor on, and the cursor ends at 2 -/
example : exRt3.program.link.dataPos = 2 := by
  have := (reads_consume_data_in_order exReads).2
  rw [this]
  decide +kernel

end Thm.C09
end Basic

import BasicModel.Thm.C05
import BasicModel.Thm.Tables
import BasicModel.Spec.PrecSpec
import BasicModel.Lemmas.ParseExpr
import BasicModel.Lemmas.ParseFuel
import BasicModel.Gen.Builtins
import BasicModel.Model.Runtime
import BasicModel.Lemmas.VmDispatch
import BasicModel.Lemmas.OpsTypes
import BasicModel.Lemmas.LiteralTy
import BasicModel.Lemmas.LiteralValue
import BasicModel.Lemmas.NumFunc
import BasicModel.Lemmas.NumFuncAssign
/-
  C02 — expressions evaluate per documented precedence, promotion and result types.

  (a) The precedence tables GENERATED from `parse.rs` are the manual's 13-level table
      (`Spec.documentedPrec`, written by hand), the generated AST-node → opcode table and the VM's
      dispatch compose to the documented meaning of every operator, and the parser gives back every
      tree of unary minus / NOT / the 18 binary operators over Integer literals from its rendering
      with exactly the parentheses the documented table requires (`parse_render`) or any superset
      of them (`parse_renders`); left associativity and the two-operator precedence law for all
      18 × 18 pairs are corollaries.  Architecture of DESIGN Appendix A (the induction is
      `Lemmas.ParseExpr.G_renders`); "succeeds" is taken as "for all sufficiently large fuel", which composes by
      maxima, and monotonicity in the fuel is proved separately (`descend_mono`).
  (b) Result types: Integer → Single → Double promotion, the `/` quirk, `\` MOD and the logical
      operators on 16-bit Integers, relational operators exactly 0 or −1; a string with a number is
      TYPE MISMATCH.  Floats are opaque bit patterns here: the theorems are about constructors.
  (c) Literal typing: the manual's rule over the SPELLING of a constant (`Spec.literalTy`), the rule as
      built (`Spec.literalTyAsBuilt`), their agreement outside one class of spellings (`Spec.LongE`, a
      finding), every well-formed numeral lexed to one token and parsed to a node of that type, with
      its value (Integers and radix constants exactly; floats as `Fmt.roundDecimal` of the digits).
      The documented one-argument functions: result type per argument type over the whole table,
      exact Integer values, TYPE MISMATCH for an argument of the wrong kind.  Assignment: `LET v = e`
      compiled and run stores `Spec.assignConv` of the value — a value of the TARGET's type — or stops
      in OVERFLOW / TYPE MISMATCH / STRING TOO LONG with the variables unchanged.
-/
namespace Basic
namespace Thm.C02
open Parse Spec
open Lemmas.ParseExpr (Good view Plain)
open Lemmas.VmDispatch (vmBinary vmUnary)
open Lemmas.OpsTypes

/-- the generated binary precedence table is the manual's -/
theorem prec_table_documented : ∀ op, Gen.binaryPrec op = Spec.documentedPrec op :=
  Lemmas.ParseExpr.binaryPrec_documented

/-- the generated unary precedence table is the manual's (unary ± 12, NOT 6) -/
theorem unary_prec_table_documented : ∀ op, Gen.unaryPrec op = Spec.documentedUnaryPrec op :=
  Lemmas.ParseExpr.unaryPrec_documented

theorem ofOperator_eq_none_iff (op : Operator) : BinOp.ofOperator op = none ↔ op = .not := by
  cases op <;> simp [BinOp.ofOperator]

/-- exactly the operator tokens of binary precedence 0 are not binary operators -/
theorem binary_prec_zero_iff (op : Operator) : Gen.binaryPrec op = 0 ↔ BinOp.ofOperator op = none := by
  cases op <;> simp [Gen.binaryPrec, BinOp.ofOperator]

/-- for every binary operator token, the opcode generated for its AST node is one whose dispatch in
    `Runtime.step` (`vmBinary`, proved to be what `step` does in `step_dispatch_binary`) applies the
    documented function -/
theorem operator_chain_documented : ∀ op b, BinOp.ofOperator op = some b →
    vmBinary (Gen.opcodeOfBinOp b) = some (Spec.meaningOf b) := by
  intro op b _; cases b <;> rfl

/-- the token → node step is the documented spelling: `^`↦power, `*`↦multiply, … -/
theorem ofOperator_documented : ∀ op b, BinOp.ofOperator op = some b ↔ Spec.operatorOf b = op := by
  intro op b
  constructor
  · intro h
    cases op <;> cases h <;> rfl
  · rintro rfl
    exact Lemmas.ParseExpr.ofOperator_operatorOf b

theorem unary_chain_documented :
    vmUnary Gen.opcodeOfNegation = some Ops.negate ∧ vmUnary Gen.opcodeOfNot = some Ops.not :=
  ⟨rfl, rfl⟩

/-- `Runtime.step` on any of the 18 binary operator opcodes is `pop2Push` of the `vmBinary` entry -/
theorem step_dispatch_binary (env : Env) (hie : Bool) (s : Runtime) (oc : Opcode)
    (f : Val → Val → Res Val) (htr : s.tron = false)
    (hop : s.program.link.ops[s.pc]? = some oc) (hf : vmBinary oc = some f) :
    (Runtime.step env hie).run.run s =
      ((do Runtime.pop2Push f; pure Runtime.Step.continue : Runtime.RM Runtime.Step).run.run
        { s with pc := s.pc + 1 }) := by
  rw [Runtime.run_step env hie s oc htr hop, Runtime.execOp_bin env hie (Lemmas.VmDispatch.binFn_of_vmBinary hf)]

/-- end to end: executing the opcode compiled for `a op b` with `a`, `b` on the stack (`b` on top)
    leaves the documented value `meaningOf op a b`, or raises its error -/
theorem step_binop_documented (env : Env) (hie : Bool) (s : Runtime) (b : BinOp)
    (st : Array Val) (x y : Val) (htr : s.tron = false)
    (hop : s.program.link.ops[s.pc]? = some (Gen.opcodeOfBinOp b))
    (hst : s.stack = (st.push x).push y) (hroom : st.size + 1 ≤ Gen.stackMaxLen) :
    (Runtime.step env hie).run.run s =
      match Spec.meaningOf b x y with
      | .ok v => (.ok .continue, { s with pc := s.pc + 1, stack := st.push v })
      | .error e => (.error e, { s with pc := s.pc + 1, stack := st }) :=
  Lemmas.VmDispatch.step_binary_stack env hie s _ _ st x y htr hop
    (Lemmas.VmDispatch.binFn_of_vmBinary (operator_chain_documented _ b (Lemmas.ParseExpr.ofOperator_operatorOf b))) hst
    hroom

/-- the same for unary minus and NOT -/
theorem step_negation_documented (env : Env) (hie : Bool) (s : Runtime)
    (st : Array Val) (x : Val) (htr : s.tron = false)
    (hop : s.program.link.ops[s.pc]? = some Gen.opcodeOfNegation)
    (hst : s.stack = st.push x) (hroom : st.size + 1 ≤ Gen.stackMaxLen) :
    (Runtime.step env hie).run.run s =
      match Ops.negate x with
      | .ok v => (.ok .continue, { s with pc := s.pc + 1, stack := st.push v })
      | .error e => (.error e, { s with pc := s.pc + 1, stack := st }) :=
  Lemmas.VmDispatch.step_unary_stack env hie s _ _ st x htr hop rfl hst hroom

theorem step_not_documented (env : Env) (hie : Bool) (s : Runtime)
    (st : Array Val) (x : Val) (htr : s.tron = false)
    (hop : s.program.link.ops[s.pc]? = some Gen.opcodeOfNot)
    (hst : s.stack = st.push x) (hroom : st.size + 1 ≤ Gen.stackMaxLen) :
    (Runtime.step env hie).run.run s =
      match Ops.not x with
      | .ok v => (.ok .continue, { s with pc := s.pc + 1, stack := st.push v })
      | .error e => (.error e, { s with pc := s.pc + 1, stack := st }) :=
  Lemmas.VmDispatch.step_unary_stack env hie s _ _ st x htr hop rfl hst hroom

/-- the text `lit n` of an Integer literal reads back as `n` -/
abbrev LitOk (lit : Int16 → Str) (n : Int16) : Prop := Fmt.parseI16 (numText (lit n)) = some n

theorem plain_operator (o : Operator) : Plain (.operator o) := ⟨fun _ h => (nomatch h), rfl⟩

theorem plain_paren {l : List Token} (hl : ∀ t ∈ l, Plain t) (b : Bool) :
    ∀ t ∈ (if b then Token.lparen :: l ++ [Token.rparen] else l), Plain t := by
  cases b with
  | false => exact hl
  | true =>
    exact List.forall_mem_cons.2 ⟨⟨fun _ h => (nomatch h), rfl⟩,
      List.forall_mem_append.2 ⟨hl, List.forall_mem_singleton.2 ⟨fun _ h => (nomatch h), rfl⟩⟩⟩

theorem render_plain (lit : Int16 → Str) (e : Expr) : ∀ t ∈ render lit e, Plain t := by
  fun_induction render lit e with
  | case1 c n => exact List.forall_mem_singleton.2 ⟨fun _ h => (nomatch h), rfl⟩
  | case2 c x ih => exact List.forall_mem_cons.2 ⟨plain_operator _, plain_paren ih _⟩
  | case3 c x ih => exact List.forall_mem_cons.2 ⟨plain_operator _, plain_paren ih _⟩
  | case4 op c l r ihl ihr =>
    exact List.forall_mem_append.2
      ⟨plain_paren ihl _, List.forall_mem_cons.2 ⟨plain_operator _, plain_paren ihr _⟩⟩
  | case5 => exact fun t ht => nomatch ht

theorem renders_plain {lit : Int16 → Str} {ok : Int16 → Prop} {e : Expr} {ts : List Token}
    {lv plv : Nat} (h : Renders lit ok e ts lv plv) : ∀ t ∈ ts, Plain t := by
  induction h with
  | int c n _ => exact List.forall_mem_singleton.2 ⟨fun _ h => (nomatch h), rfl⟩
  | paren _ ih => exact plain_paren ih true
  | neg c _ _ ih => exact List.forall_mem_cons.2 ⟨plain_operator _, ih⟩
  | not c _ _ ih => exact List.forall_mem_cons.2 ⟨plain_operator _, ih⟩
  | bin op c _ _ _ _ ihl ihr =>
    exact List.forall_mem_append.2 ⟨ihl, List.forall_mem_cons.2 ⟨plain_operator _, ihr⟩⟩

/-- the minimal rendering `Spec.render` is one of the legal listings -/
theorem render_is_legal (lit : Int16 → Str) (ok : Int16 → Prop) (e : Expr) (hf : Frag ok e) :
    Renders lit ok e (render lit e) (level e) (plevel e) :=
  Lemmas.ParseExpr.render_renders lit hf

/-- **parse ∘ (any legal listing) = id** (up to columns), general form: from any parser state whose
    pending tokens are a listing `ts` of `e` — with the parentheses the documented table requires *or
    any superset of them* (`Spec.Renders`) — followed by `t'`, where `t'` does not begin with a binary
    operator, `descend` at precedence 0 returns — for every sufficiently large fuel — a tree of the
    shape of `e` and leaves exactly `t'` pending. -/
theorem parse_renders_then (vm : VarMap) (lit : Int16 → Str) {e : Expr} {ts : List Token} {lv plv : Nat}
    (hr : Renders lit (LitOk lit) e ts lv plv) (st : PState) (t' : List Token) (hg : Good st)
    (hv : view st = ts ++ t') (ht : Lemmas.ParseExpr.stops 0 t') :
    ∃ N e' st', (∀ fuel, N ≤ fuel → (descend fuel vm 0).run st = .ok (e', st')) ∧
      e'.shape = e.shape ∧ Good st' ∧ view st' = t' := by
  obtain ⟨e', st1, hsh, hg1, hv1, hD⟩ :=
    Lemmas.ParseExpr.G_renders vm lit hr 0 st t' hg hv (Lemmas.ParseExpr.renders_levels hr).2
      (Lemmas.ParseExpr.stops_mono ht (Nat.zero_le _))
  obtain ⟨st2, hg2, hv2, hL⟩ := Lemmas.ParseExpr.loops_stop (vm := vm) (p := 0) (lhs := e') hg1
    (by rw [hv1]; exact ht)
  obtain ⟨N, hN⟩ := hD _ hL
  exact ⟨N, e', st2, hN, hsh, hg2, hv2.trans hv1⟩

theorem parse_render_then (vm : VarMap) (lit : Int16 → Str) (e : Expr) (hf : Frag (LitOk lit) e)
    (st : PState) (t' : List Token) (hg : Good st) (hv : view st = render lit e ++ t')
    (ht : Lemmas.ParseExpr.stops 0 t') :
    ∃ N e' st', (∀ fuel, N ≤ fuel → (descend fuel vm 0).run st = .ok (e', st')) ∧
      e'.shape = e.shape ∧ Good st' ∧ view st' = t' :=
  parse_renders_then vm lit (render_is_legal lit _ e hf) st t' hg hv ht

/-- … in particular from the listing alone, which is then consumed entirely -/
theorem parse_renders (lit : Int16 → Str) (e : Expr) (ts : List Token) (lv plv : Nat)
    (hr : Renders lit (LitOk lit) e ts lv plv) :
    ∃ N e' st', (∀ fuel, N ≤ fuel → (descend fuel [] 0).run { toks := ts } = .ok (e', st')) ∧
      e'.shape = e.shape ∧ st'.toks = [] ∧ st'.peeked = none := by
  obtain ⟨N, e', st', hN, hsh, _, hv⟩ :=
    parse_renders_then [] lit hr { toks := ts } [] ⟨rfl, renders_plain hr⟩ (by simp [view]) trivial
  exact ⟨N, e', st', hN, hsh, Lemmas.ParseExpr.view_nil hv⟩

/-- **parse ∘ render = id** (up to columns), for every sufficiently large fuel -/
theorem parse_render_fuel (lit : Int16 → Str) (e : Expr) (hf : Frag (LitOk lit) e) :
    ∃ N e' st', (∀ fuel, N ≤ fuel →
        (descend fuel [] 0).run { toks := render lit e } = .ok (e', st')) ∧
      e'.shape = e.shape ∧ st'.toks = [] ∧ st'.peeked = none :=
  parse_renders lit e _ _ _ (render_is_legal lit _ e hf)

/-- **parse ∘ render = id** (up to columns): for every tree `e` of the fragment there is fuel such
    that `descend fuel [] 0` run on the rendered tokens returns a tree of the same shape and
    consumes all tokens. -/
theorem parse_render (lit : Int16 → Str) (e : Expr) (hf : Frag (LitOk lit) e) :
    ∃ fuel e' st', (descend fuel [] 0).run { toks := render lit e } = .ok (e', st') ∧
      e'.shape = e.shape ∧ st'.toks = [] ∧ st'.peeked = none := by
  obtain ⟨N, e', st', hN, h⟩ := parse_render_fuel lit e hf
  exact ⟨N, e', st', hN N (Nat.le_refl _), h⟩

/-- success of `descend` is monotone in the fuel: more fuel, same result -/
theorem descend_mono {f f' : Nat} (h : f ≤ f') (vm : VarMap) (p : Nat) (st : PState)
    (r : Expr × PState) (hr : (descend f vm p).run st = .ok r) : (descend f' vm p).run st = .ok r :=
  (Lemmas.ParseFuel.mono_le h).1 vm p st r hr

theorem binLoop_mono {f f' : Nat} (h : f ≤ f') (vm : VarMap) (p : Nat) (lhs : Expr) (st : PState)
    (r : Expr × PState) (hr : (binLoop f vm p lhs).run st = .ok r) :
    (binLoop f' vm p lhs).run st = .ok r :=
  (Lemmas.ParseFuel.mono_le h).2.1 vm p lhs st r hr

theorem exprList_mono {f f' : Nat} (h : f ≤ f') (vm : VarMap) (st : PState)
    (r : List Expr × PState) (hr : (exprList f vm).run st = .ok r) :
    (exprList f' vm).run st = .ok r :=
  (Lemmas.ParseFuel.mono_le h).2.2 vm st r hr

/-- hence the result of a successful expression parse does not depend on the fuel -/
theorem descend_fuel_irrelevant (f f' : Nat) (vm : VarMap) (p : Nat) (st : PState)
    (r r' : Expr × PState) (hr : (descend f vm p).run st = .ok r)
    (hr' : (descend f' vm p).run st = .ok r') : r = r' := by
  have h1 := descend_mono (Nat.le_max_left f f') vm p st r hr
  have h2 := descend_mono (Nat.le_max_right f f') vm p st r' hr'
  rw [h1] at h2
  exact Except.ok.inj h2

section corollaries
variable (lit : Int16 → Str)

def L (n : Int16) : Expr := .integer (0, 0) n
def T (lit : Int16 → Str) (n : Int16) : Token := .literal (.integer (lit n))

/-- `a op1 b op2 c` with `op2` binding tighter than `op1` is `a op1 (b op2 c)`; otherwise (same
    level: left associativity; lower level) it is `(a op1 b) op2 c` -/
theorem two_operator_law (op1 op2 : BinOp) (a b c : Int16)
    (ha : LitOk lit a) (hb : LitOk lit b) (hc : LitOk lit c) :
    ∃ fuel e' st',
      (descend fuel [] 0).run { toks := [T lit a, .operator (operatorOf op1), T lit b,
                                          .operator (operatorOf op2), T lit c] } = .ok (e', st') ∧
      e'.shape = (if precOf op1 < precOf op2
                  then Expr.bin op1 (0, 0) (L a) (.bin op2 (0, 0) (L b) (L c))
                  else Expr.bin op2 (0, 0) (.bin op1 (0, 0) (L a) (L b)) (L c)) ∧
      st'.toks = [] ∧ st'.peeked = none := by
  -- the five tokens are a legal listing of either tree: no operand needs parentheses
  have h100 := Lemmas.ParseExpr.precOf_lt_100
  by_cases h : precOf op1 < precOf op2
  · obtain ⟨N, e', st', h1, h2, h3⟩ := parse_renders lit _ _ _ _
      (.bin op1 (0, 0) (.int (0, 0) a ha)
        (.bin op2 (0, 0) (.int (0, 0) b hb) (.int (0, 0) c hc) (Nat.le_of_lt (h100 _)) (h100 _))
        (Nat.le_of_lt (h100 _)) h)
    exact ⟨N, e', st', h1 N (Nat.le_refl _), by rw [h2, if_pos h]; rfl, h3⟩
  · obtain ⟨N, e', st', h1, h2, h3⟩ := parse_renders lit _ _ _ _
      (.bin op2 (0, 0)
        (.bin op1 (0, 0) (.int (0, 0) a ha) (.int (0, 0) b hb) (Nat.le_of_lt (h100 _)) (h100 _))
        (.int (0, 0) c hc) (Nat.le_of_not_lt h) (h100 _))
    exact ⟨N, e', st', h1 N (Nat.le_refl _), by rw [h2, if_neg h]; rfl, h3⟩

/-- binary operators of the same level associate to the left: `a op1 b op2 c = (a op1 b) op2 c` -/
theorem left_associative (op1 op2 : BinOp) (hlev : precOf op1 = precOf op2) (a b c : Int16)
    (ha : LitOk lit a) (hb : LitOk lit b) (hc : LitOk lit c) :
    ∃ fuel e' st',
      (descend fuel [] 0).run { toks := [T lit a, .operator (operatorOf op1), T lit b,
                                          .operator (operatorOf op2), T lit c] } = .ok (e', st') ∧
      e'.shape = Expr.bin op2 (0, 0) (.bin op1 (0, 0) (L a) (L b)) (L c) := by
  obtain ⟨fuel, e', st', h1, h2, _⟩ := two_operator_law lit op1 op2 a b c ha hb hc
  exact ⟨fuel, e', st', h1, by rw [h2, if_neg (by omega)]⟩

end corollaries

/-- relational operators return exactly 0 or −1 — for all operands, strings included -/
theorem relational_zero_or_minus_one (op : BinOp) (hop : classOf op = .relational) (a b v : Val)
    (h : meaningOf op a b = .ok v) : v = .int 0 ∨ v = .int (-1) :=
  relational_class_cases op hop h

/-- **result types**: for every binary operator and every pair of numeric operands, a successful
    result has the documented type `Spec.resultTy` -/
theorem binop_result_type (op : BinOp) (a b v : Val) (ha : a.isNumeric) (_hb : b.isNumeric)
    (h : meaningOf op a b = .ok v) : v.ty = resultTy op a.ty b.ty (expNonneg b) := by
  rcases meaningOf_ty op h with ⟨ht, -⟩ | ⟨-, hs, -, -⟩
  · exact ht
  · cases a <;> first | (cases hs; done) | cases ha

/-- Integer op Integer is an Integer for `+ - * \\ MOD` -/
theorem int_int_integer (op : BinOp)
    (hop : op = .add ∨ op = .subtract ∨ op = .multiply ∨ op = .divideInt ∨ op = .modulo)
    (a b : Int16) (v : Val) (h : meaningOf op (.int a) (.int b) = .ok v) : v.ty = .int := by
  have := binop_result_type op (.int a) (.int b) v rfl rfl h
  rcases hop with rfl | rfl | rfl | rfl | rfl <;> exact this

/-- Integer ^ non-negative Integer is an Integer; with a negative exponent it is a Single -/
theorem int_pow_int (a b : Int16) (v : Val) (h : Ops.power (.int a) (.int b) = .ok v) :
    v.ty = if 0 ≤ b.toInt then .int else .sng := by
  have := binop_result_type .power (.int a) (.int b) v rfl rfl h
  by_cases hb : 0 ≤ b.toInt <;> simpa [resultTy, classOf, expNonneg, Val.ty, hb] using this

/-- `/` on two Integers is carried out in Single -/
theorem int_div_int_single (a b : Int16) : ∃ x, Ops.divide (.int a) (.int b) = .ok (.sng x) :=
  ⟨_, rfl⟩

theorem resultTy_promote {op : BinOp} (hop : classOf op = .arith ∨ classOf op = .divide ∨ classOf op = .power)
    {ta tb : Ty} (h : ¬ (ta = .int ∧ tb = .int)) (e : Bool) : resultTy op ta tb e = promote ta tb := by
  rcases hop with hc | hc | hc <;> simp only [resultTy, hc, if_neg h]

/-- anything with a Double is a Double, for `+ - * / ^` -/
theorem double_absorbs (op : BinOp) (hop : classOf op = .arith ∨ classOf op = .divide ∨ classOf op = .power)
    (a b v : Val) (ha : a.isNumeric) (hb : b.isNumeric) (hd : a.ty = .dbl ∨ b.ty = .dbl)
    (h : meaningOf op a b = .ok v) : v.ty = .dbl := by
  rw [binop_result_type op a b v ha hb h, resultTy_promote hop]
  · rcases hd with hd | hd <;> rw [hd]
    · cases b.ty <;> rfl
    · cases a.ty <;> rfl
  · rintro ⟨h1, h2⟩
    rcases hd with hd | hd
    · rw [h1] at hd; cases hd
    · rw [h2] at hd; cases hd

/-- a Single with an Integer or a Single is a Single, for `+ - * / ^` -/
theorem single_with_int_or_single (op : BinOp)
    (hop : classOf op = .arith ∨ classOf op = .divide ∨ classOf op = .power)
    (a b v : Val) (ha : a.ty = .sng ∨ a.ty = .int) (hb : b.ty = .sng ∨ b.ty = .int)
    (hs : a.ty = .sng ∨ b.ty = .sng) (h : meaningOf op a b = .ok v) : v.ty = .sng := by
  have han : a.isNumeric := by cases a <;> simp [Val.ty] at ha <;> rfl
  have hbn : b.isNumeric := by cases b <;> simp [Val.ty] at hb <;> rfl
  rw [binop_result_type op a b v han hbn h, resultTy_promote hop]
  · rcases hs with hs | hs <;> rw [hs]
    · rcases hb with hb | hb <;> rw [hb] <;> rfl
    · rcases ha with ha | ha <;> rw [ha] <;> rfl
  · rintro ⟨h1, h2⟩
    rcases hs with hs | hs
    · rw [h1] at hs; cases hs
    · rw [h2] at hs; cases hs

/-- NOT always returns an Integer; unary minus keeps the type of its operand -/
theorem not_result_integer (a v : Val) (h : Ops.not a = .ok v) : v.ty = .int := by
  obtain ⟨n, rfl⟩ := not_int h; rfl

theorem negate_keeps_type (a v : Val) (h : Ops.negate a = .ok v) : v.ty = a.ty := by
  cases a with
  | int n => exact ofChecked_ty (o := RStd.checkedNeg n) h
  | sng b => cases h; rfl
  | dbl b => cases h; rfl
  | str s => cases h
  | ret x => cases h
  | nxt x => cases h

theorem and_int (a b : Int16) : Ops.and (.int a) (.int b) = .ok (.int (a &&& b)) := rfl
theorem or_int (a b : Int16) : Ops.or (.int a) (.int b) = .ok (.int (a ||| b)) := rfl
theorem xor_int (a b : Int16) : Ops.xor (.int a) (.int b) = .ok (.int (a ^^^ b)) := rfl
theorem imp_int (a b : Int16) : Ops.imp (.int a) (.int b) = .ok (.int (~~~a ||| b)) := rfl
theorem eqv_int (a b : Int16) : Ops.eqv (.int a) (.int b) = .ok (.int (~~~(a ^^^ b))) := rfl
theorem not_int_bits (a : Int16) : Ops.not (.int a) = .ok (.int (~~~a)) := rfl
theorem not_eq_neg_sub_one (a : Int16) : Ops.not (.int a) = .ok (.int (-a - 1)) := by
  rw [← Int16.not_eq_neg_sub]; rfl

/-- `logical_bitwise`: on Integers, AND OR XOR IMP EQV NOT are `&&& ||| ^^^ (~~~·|||·) ~~~(·^^^·) ~~~` -/
theorem logical_bitwise (a b : Int16) :
    Ops.and (.int a) (.int b) = .ok (.int (a &&& b)) ∧
    Ops.or (.int a) (.int b) = .ok (.int (a ||| b)) ∧
    Ops.xor (.int a) (.int b) = .ok (.int (a ^^^ b)) ∧
    Ops.imp (.int a) (.int b) = .ok (.int (~~~a ||| b)) ∧
    Ops.eqv (.int a) (.int b) = .ok (.int (~~~(a ^^^ b))) ∧
    Ops.not (.int a) = .ok (.int (~~~a)) :=
  ⟨rfl, rfl, rfl, rfl, rfl, rfl⟩

def bit (a : Int16) (i : Nat) : Bool := a.toBitVec.getLsbD i

/-- the six truth tables of the manual, for each of the 16 bits -/
theorem truth_tables (a b : Int16) (i : Nat) (hi : i < 16) :
    bit (~~~a) i = !bit a i ∧
    bit (a &&& b) i = (bit a i && bit b i) ∧
    bit (a ||| b) i = (bit a i || bit b i) ∧
    bit (a ^^^ b) i = (bit a i != bit b i) ∧
    bit (~~~a ||| b) i = (!bit a i || bit b i) ∧
    bit (~~~(a ^^^ b)) i = (bit a i == bit b i) := by
  simp [bit, hi]
  cases a.toBitVec.getLsbD i <;> cases b.toBitVec.getLsbD i <;> rfl

theorem mismatch_arith {fi fs fd} (s : Str) (v : Val) (hv : v.isNumeric) :
    Ops.arith fi fs fd (.str s) v = err Code.typeMismatch ∧ Ops.arith fi fs fd v (.str s) = err Code.typeMismatch := by
  cases v <;> simp [Val.isNumeric] at hv <;> exact ⟨rfl, rfl⟩

/-- `+ - * / ^` and the six relational operators on one string and one number, in either order -/
theorem string_number_mismatch (op : BinOp) (hop : classOf op ≠ .integer) (s : Str) (v : Val)
    (hv : v.isNumeric) :
    meaningOf op (.str s) v = err Code.typeMismatch ∧ meaningOf op v (.str s) = err Code.typeMismatch := by
  cases op <;> simp [classOf] at hop <;> cases v <;> simp [Val.isNumeric] at hv <;> exact ⟨rfl, rfl⟩

/-- `\\ MOD AND OR XOR IMP EQV` convert the left operand to an Integer first: a string on the left is
    TYPE MISMATCH; a string on the right is TYPE MISMATCH when the left number converts (every
    Integer does), otherwise the conversion's own error (OVERFLOW for a float outside
    −32768..32767) comes first — e.g. `1E10 MOD "A"` is OVERFLOW -/
theorem string_number_mismatch_integer_ops (op : BinOp) (hop : classOf op = .integer) (s : Str) (v : Val) :
    meaningOf op (.str s) v = err Code.typeMismatch ∧
    (∀ n, v.toI16 = .ok n → meaningOf op v (.str s) = err Code.typeMismatch) ∧
    (∀ e, v.toI16 = .error e → meaningOf op v (.str s) = .error e) := by
  have hs : (Val.str s).toI16 = err Code.typeMismatch := rfl
  cases op <;> simp [classOf] at hop <;>
  · refine ⟨rfl, fun n h => ?_, fun e h => ?_⟩ <;>
      simp [meaningOf, Ops.divint, Ops.remainder, Ops.and, Ops.or, Ops.xor, Ops.imp, Ops.eqv,
        Ops.logic2, h, hs, bind, Except.bind, err]

theorem negate_string (s : Str) : Ops.negate (.str s) = err Code.typeMismatch := rfl
theorem not_string (s : Str) : Ops.not (.str s) = err Code.typeMismatch := rfl

example : Gen.binaryPrec .caret = 13 ∧ Gen.binaryPrec .eqv = 1 ∧ Gen.unaryPrec .not = 6 := by decide

section
-- the three parses below are evaluated by `rfl`; unfolding the mutual recursion on the fuel through
-- its smart-unfolding lemmas is some hundred times slower to check than unfolding it directly
set_option smartUnfolding false

example : ((descend 10 [] 0).run { toks := [.literal (.integer ['1']), .operator .plus,
      .literal (.integer ['2']), .operator .multiply, .literal (.integer ['3'])] }
    |>.toOption.map (·.1.shape)) =
    some (.bin .add (0, 0) (L 1) (.bin .multiply (0, 0) (L 2) (L 3))) := by rfl

/-- `NOT 1 = 2` is `NOT (1 = 2)`; `- 1 ^ 2` is `-(1 ^ 2)` -/
example : ((descend 10 [] 0).run { toks := [.operator .not, .literal (.integer ['1']),
      .operator .equal, .literal (.integer ['2'])] }
    |>.toOption.map (·.1.shape)) = some (.not (0, 0) (.bin .equal (0, 0) (L 1) (L 2))) := by rfl
example : ((descend 10 [] 0).run { toks := [.operator .minus, .literal (.integer ['1']),
      .operator .caret, .literal (.integer ['2'])] }
    |>.toOption.map (·.1.shape)) = some (.neg (0, 0) (.bin .power (0, 0) (L 1) (L 2))) := by rfl

end

/-- a literal table for which the hypothesis of `parse_render` holds at 1, 2, 3 -/
def demoLit (n : Int16) : Str := if n = 1 then ['1'] else if n = 2 then ['2'] else ['3']

example : LitOk demoLit 1 ∧ LitOk demoLit 2 ∧ LitOk demoLit 3 := by decide

/-- `(1 + 2) * 3` keeps its parentheses, `1 + 2 * 3` and `1 - 2 - 3` have none, `1 - (2 - 3)` has -/
example : render demoLit (.bin .multiply (0, 0) (.bin .add (0, 0) (L 1) (L 2)) (L 3)) =
    [.lparen, T demoLit 1, .operator .plus, T demoLit 2, .rparen, .operator .multiply, T demoLit 3] := by
  decide
example : render demoLit (.bin .subtract (0, 0) (.bin .subtract (0, 0) (L 1) (L 2)) (L 3)) =
    [T demoLit 1, .operator .minus, T demoLit 2, .operator .minus, T demoLit 3] := by decide
example : render demoLit (.bin .subtract (0, 0) (L 1) (.bin .subtract (0, 0) (L 2) (L 3))) =
    [T demoLit 1, .operator .minus, .lparen, T demoLit 2, .operator .minus, T demoLit 3, .rparen] := by
  decide

example : ∃ fuel e' st', (descend fuel [] 0).run
      { toks := render demoLit (.bin .multiply (0, 0) (.bin .add (0, 0) (L 1) (L 2)) (.neg (0, 0) (L 3))) }
      = .ok (e', st') ∧
    e'.shape = .bin .multiply (0, 0) (.bin .add (0, 0) (L 1) (L 2)) (.neg (0, 0) (L 3)) ∧
    st'.toks = [] ∧ st'.peeked = none :=
  parse_render demoLit _ (.bin _ _ _ _ (.bin _ _ _ _ (.int _ _ (by decide)) (.int _ _ (by decide)))
    (.neg _ _ (.int _ _ (by decide))))

/-- redundant parentheses are legal: `((1)) + (2 * 3)` is a listing of `1 + 2 * 3` -/
example : Renders demoLit (LitOk demoLit) (.bin .add (0, 0) (L 1) (.bin .multiply (0, 0) (L 2) (L 3)))
    [.lparen, .lparen, T demoLit 1, .rparen, .rparen, .operator .plus,
     .lparen, T demoLit 2, .operator .multiply, T demoLit 3, .rparen] 8 8 :=
  .bin .add _ (.paren (.paren (.int _ _ (by decide))))
    (.paren (.bin .multiply _ (.int _ _ (by decide)) (.int _ _ (by decide)) (by decide) (by decide)))
    (by decide) (by decide)

example : Ops.not (.int 5) = .ok (.int (-6)) := by decide
example : Ops.imp (.int 12) (.int 10) = .ok (.int (-5)) := by decide
example : Ops.less (.str ['A']) (.str ['B']) = .ok (.int (-1)) := by decide
example : Ops.sum (.str ['A']) (.int 1) = err Code.typeMismatch := by decide
example : Ops.power (.int 2) (.int 10) = .ok (.int 1024) := by decide
example : resultTy .divide .int .int = .sng ∧ resultTy .add .int .sng = .sng ∧
    resultTy .multiply .sng .dbl = .dbl ∧ resultTy .modulo .dbl .dbl = .int := by decide

/-- the runtime's opcode → `Operation::…` / `Function::…` dispatch, re-extracted from
    `runtime.rs` on every run, is the documented one (a `Sub` wired to `sum`, or a swapped pair of
    comparison arms, breaks this theorem) -/
theorem dispatch_documented : Gen.dispatch = Thm.Tables.documentedDispatch :=
  Thm.Tables.dispatch_documented

section literals
open Lex

/-- `Spec.literalTy` (the six bullets of chapter 1 in their order, after string / radix / suffixed
    constants) and `Spec.literalTyAsBuilt` (the same tests in the order of `lex.rs`) agree on every
    spelling outside `Spec.LongE` … -/
theorem literal_rule_agreement (s : Str) (h : ¬ LongE s) : literalTyAsBuilt s = literalTy s :=
  literalTyAsBuilt_eq s h

/-- … **FINDING**: an undecorated constant with an `E` exponent after more than 7 mantissa digits
    (`12345678E5`) is a Double in the code, a Single by the manual's first bullet -/
theorem literal_rule_disagreement (nm : Numeral) (h : nm.WF) (hl : LongE nm.text) :
    nm.token = .literal (.double nm.text) ∧ literalTy nm.text = some .sng := by
  obtain ⟨c, cs, e, hq, ha⟩ := text_head_plain nm h
  have hd := literalTy_longE c cs hq ha (e ▸ hl)
  rw [← e, literalTyAsBuilt_text nm h] at hd
  exact ⟨by rw [nm.token_eq h, Option.some.inj hd.1]; rfl, hd.2⟩

/-- **every well-formed numeral is one literal token of the kind the rule says**: `number()` — here
    through the token iterator, alone and after `X=` in a statement — returns one token, which
    carries the spelling unchanged and announces the type `Spec.literalTyAsBuilt` gives the spelling;
    outside `LongE` that is the type the manual's rule gives -/
theorem numeral_token_kind (nm : Numeral) (h : nm.WF) :
    ∃ l, rawTokens nm.text = [.literal l] ∧
      lex ('X' :: '=' :: nm.text) = (none, [.ident (.plain ['X']), .operator .equal, .literal l]) ∧
      l.text = nm.text ∧ literalTyAsBuilt nm.text = some (tokenTy l) ∧
      (¬ LongE nm.text → literalTy nm.text = some (tokenTy l)) := by
  obtain ⟨l, h1, h2, h3⟩ := numeral_kind_asBuilt nm h
  refine ⟨l, ?_, ?_, h2, h3, fun hn => ?_⟩
  · rw [← h1]; exact Thm.C05.numeral_roundtrip nm h
  · rw [← h1]; exact Thm.C05.numeral_roundtrip_in_statement nm h
  · rw [← literalTyAsBuilt_eq _ hn]; exact h3

/-- the node `Expression::literal` builds has the type the token announces (and the parser state is
    not touched) — for every literal token -/
theorem literal_node_type (c : Col) (l : Literal) (st st' : PState) (e : Expr)
    (h : (Parse.literal c l).run st = .ok (e, st')) : nodeTy e = some (tokenTy l) ∧ st' = st := by
  cases l <;> simp only [Parse.literal] at h
  all_goals
    split at h
    all_goals first
      | (cases h; exact ⟨rfl, rfl⟩)
      | (rw [Lemmas.RangeForms.fail_run] at h; cases h)

/-- a literal node evaluates to a value of its type -/
theorem literal_node_value (vars : Var) (e : Expr) (t : Ty) (h : nodeTy e = some t) :
    ∃ v, Spec.eval vars e = .ok v ∧ v.ty = t := by
  cases e <;> simp only [nodeTy, Option.some.injEq, reduceCtorEq] at h <;> subst h <;> exact ⟨_, rfl, rfl⟩

/-- **a Single constant** is the binary32 float nearest (ties to even) to `m · 10^e`, `m` the mantissa
    digits read as a natural number, `e` the written exponent minus the number of fraction digits
    (`Fmt.roundDecimal`: the model's decimal → float conversion; the float stays a bit pattern) -/
theorem single_literal_value (nm : Numeral) (h : nm.WF) (hd : nm.mantDigits ≠ []) (c : Col) :
    Parse.literal c (.single nm.text) = pure (.single c
      (UInt32.ofNat (Fmt.roundDecimal Ieee.fp32 false nm.mantValue nm.exp10 nm.mantDigits.length))) := by
  simp only [Parse.literal, parseF32_numeral nm h hd]

/-- **a Double constant** likewise, to binary64 -/
theorem double_literal_value (nm : Numeral) (h : nm.WF) (hd : nm.mantDigits ≠ []) (c : Col) :
    Parse.literal c (.double nm.text) = pure (.double c
      (UInt64.ofNat (Fmt.roundDecimal Ieee.fp64 false nm.mantValue nm.exp10 nm.mantDigits.length))) := by
  simp only [Parse.literal, parseF64_numeral nm h hd]

/-- **an Integer constant** (undecorated, or decorated with `%`) is the number its digits denote when
    that is at most 32767; a `%` constant that is bigger (`40000%`) or has a fraction or an exponent
    (`1.5%`) is TYPE MISMATCH — not OVERFLOW, and not rounded -/
theorem integer_literal_value (nm : Numeral) (h : nm.WF) (c : Col) :
    Parse.literal c (.integer nm.text) =
      if nm.frac = none ∧ nm.expo = none ∧ decimalValue nm.int ≤ 32767
      then pure (.integer c (Int16.ofNat (decimalValue nm.int))) else Parse.fail Code.typeMismatch c "" := by
  simp only [Parse.literal, parseI16_readText nm h]
  by_cases hc : nm.frac = none ∧ nm.expo = none ∧ decimalValue nm.int ≤ 32767
  · rw [if_pos hc, if_pos hc]
  · rw [if_neg hc, if_neg hc]

/-- … and its value as a mathematical integer is that number -/
theorem integer_literal_toInt (n : Nat) (h : n ≤ 32767) : (Int16.ofNat n).toInt = n :=
  toInt_ofNat_len h

/-- a constant without a mantissa digit (`.`, `.E5`) is TYPE MISMATCH -/
theorem pointless_literal (nm : Numeral) (h : nm.WF) (hd : nm.mantDigits = []) (c : Col) :
    Parse.literal c (.single nm.text) = Parse.fail Code.typeMismatch c "" ∧
    Parse.literal c (.double nm.text) = Parse.fail Code.typeMismatch c "" := by
  have hp := parseDecimal_no_digit nm h hd
  constructor <;>
    simp only [Parse.literal, Fmt.parseF32, Fmt.parseF64, Fmt.parseFloat, numText_text nm h, hp] <;> rfl

/-- **every well-formed numeral becomes an expression node of the type the rule says.**  A numeral
    with at least one mantissa digit — and, when decorated with `%`, a plain digit string denoting at
    most 32767 — lexes to one literal token which `Expression::literal` turns into a literal node
    whose type is `Spec.literalTyAsBuilt` of the spelling: the manual's `Spec.literalTy` outside `LongE` -/
theorem numeral_expression (nm : Numeral) (h : nm.WF) (hd : nm.mantDigits ≠ [])
    (hpct : nm.sfx = some '%' → nm.frac = none ∧ nm.expo = none ∧ decimalValue nm.int ≤ 32767) (c : Col) :
    ∃ l e, rawTokens nm.text = [.literal l] ∧ l.text = nm.text ∧ Parse.literal c l = pure e ∧
      nodeTy e = some (tokenTy l) ∧ literalTyAsBuilt nm.text = nodeTy e ∧
      (¬ LongE nm.text → literalTy nm.text = nodeTy e) := by
  obtain ⟨l, h1, -, h2, h3, h4⟩ := numeral_token_kind nm h
  have key : ∃ e, Parse.literal c l = pure e ∧ nodeTy e = some (tokenTy l) := by
    have hr := Thm.C05.numeral_roundtrip nm h
    rw [h1] at hr
    rcases numeral_token_shape nm h with hs | hs | ⟨hs, hcase⟩ <;> rw [hs] at hr <;>
      simp only [List.cons.injEq, Token.literal.injEq, and_true] at hr <;> subst hr
    · exact ⟨_, single_literal_value nm h hd c, rfl⟩
    · exact ⟨_, double_literal_value nm h hd c, rfl⟩
    · have hfit : nm.frac = none ∧ nm.expo = none ∧ decimalValue nm.int ≤ 32767 := by
        rcases hcase with hp | ⟨-, hp⟩
        · exact hpct hp
        · exact hp
      exact ⟨_, by rw [integer_literal_value nm h c, if_pos hfit], rfl⟩
  obtain ⟨e, he, hn⟩ := key
  exact ⟨l, e, h1, h2, he, hn, by rw [hn]; exact h3, fun hl => by rw [hn]; exact h4 hl⟩

theorem radix_literal (isHex : Bool) (ds : List Char) (h : ∀ c ∈ ds, isRadixDigit isHex c = true) (c : Col) :
    Parse.literal c (if isHex then .hex ds else .octal ds) =
      if ds ≠ [] ∧ radixValue (radixOf isHex) ds ≤ 32767
      then pure (.integer c (Int16.ofNat (radixValue (radixOf isHex) ds)))
      else Parse.fail Code.overflow c "" := by
  have hp : Parse.literal c (if isHex then .hex ds else .octal ds) =
      match Fmt.parseI16Radix ds (radixOf isHex) with
      | some n => pure (.integer c n)
      | none => Parse.fail Code.overflow c "" := by cases isHex <;> rfl
  rw [hp, parseI16Radix_digits isHex ds h]
  by_cases hc : ds ≠ [] ∧ radixValue (radixOf isHex) ds ≤ 32767
  · rw [if_pos hc, if_pos hc]
  · rw [if_neg hc, if_neg hc]

/-- **`&H…`**: one token; an Integer node holding the value of the digits when that is at most 32767
    (`&H7FFF`).  **FINDING**: from `&H8000` on — `&HFFFF`, the text `HEX$(-1)` prints, included —
    and for `&H` without digits the constant is OVERFLOW; there is no two's-complement reading. -/
theorem hex_literal (ds : List Char) (h : ∀ c ∈ ds, isRadixDigit true c = true) (c : Col) :
    lex (Token.literal (.hex ds)).text = (none, [.literal (.hex ds)]) ∧
    literalTy (Token.literal (.hex ds)).text = some .int ∧
    Parse.literal c (.hex ds) =
      if ds ≠ [] ∧ radixValue 16 ds ≤ 32767 then pure (.integer c (Int16.ofNat (radixValue 16 ds)))
      else Parse.fail Code.overflow c "" :=
  ⟨Thm.C05.hex_roundtrip ds h, rfl, radix_literal true ds h c⟩

/-- **`&…`** (octal) likewise -/
theorem octal_literal (ds : List Char) (h : ∀ c ∈ ds, isRadixDigit false c = true) (c : Col) :
    lex (Token.literal (.octal ds)).text = (none, [.literal (.octal ds)]) ∧
    literalTy (Token.literal (.octal ds)).text = some .int ∧
    Parse.literal c (.octal ds) =
      if ds ≠ [] ∧ radixValue 8 ds ≤ 32767 then pure (.integer c (Int16.ofNat (radixValue 8 ds)))
      else Parse.fail Code.overflow c "" :=
  ⟨Thm.C05.octal_roundtrip ds h, rfl, radix_literal false ds h c⟩

/-- a radix constant denoting 32768 or more is OVERFLOW -/
theorem radix_literal_overflow (isHex : Bool) (ds : List Char) (h : ∀ c ∈ ds, isRadixDigit isHex c = true)
    (hv : 32768 ≤ radixValue (radixOf isHex) ds) (c : Col) :
    Parse.literal c (if isHex then .hex ds else .octal ds) = Parse.fail Code.overflow c "" :=
  (radix_literal isHex ds h c).trans (if_neg (by omega))

/-- **string constants**: one token, a string node with the characters between the quotes; more than
    255 characters are STRING TOO LONG -/
theorem string_literal (s : Str) (h : '"' ∉ s) (c : Col) :
    lex (Token.literal (.string s)).text = (none, [.literal (.string s)]) ∧
    literalTy (Token.literal (.string s)).text = some .str ∧
    Parse.literal c (.string s) =
      if s.length > 255 then Parse.fail Code.stringTooLong c "MAXIMUM LITERAL LENGTH IS 255"
      else pure (.string c s) :=
  ⟨Thm.C05.string_roundtrip s h, rfl, rfl⟩

end literals

section functions
open Lemmas.NumFunc

/-- a call `F(e)` of a function of the table evaluates the argument, then applies the function -/
theorem call_eval {name : String} {f : Val → Res Val} (hm : (name, f) ∈ builtin1Table)
    (vars : Var) (c : Col) (i : TIdent) (hi : i.name = name.toList) (e : Expr) :
    Spec.eval vars (.var (.array c i [e])) = Spec.eval vars e >>= f := by
  -- the names of the table are distinct, so looking a row's name up finds that row: evaluated row by row
  have table : ∀ p ∈ builtin1Table, builtin1 p.1.toList = some p.2 := by
    simp only [builtin1Table, List.forall_mem_cons, List.not_mem_nil, false_imp_iff, implies_true, and_true]
    exact ⟨rfl, rfl, rfl, rfl, rfl, rfl, rfl, rfl, rfl, rfl, rfl, rfl, rfl, rfl, rfl, rfl, rfl, rfl, rfl, rfl,
      rfl, rfl⟩
  simp only [Spec.eval, hi, table _ hm]

/-- **result types**: a successful call of a function of the table returns a value of the type
    `Spec.funcTy` documents for the function's name and the argument's type — ABS, INT, FIX: the
    argument's; SGN, CINT, LEN: Integer; CSNG: Single; CDBL: Double; SQR, ATN, COS, EXP, LOG, SIN, TAN:
    Single, Double for a Double argument; CHR$, HEX$, OCT$, SPC, STR$: string -/
theorem function_result_type {name : String} {f : Val → Res Val} (hm : (name, f) ∈ builtin1Table)
    {v r : Val} {t : Ty} (h : f v = .ok r) (ht : funcTy name v.ty = some t) : r.ty = t :=
  builtin1_result_type hm h ht

/-- ASC and VAL, whose type depends on the value: ASC is an Integer (code up to 32767) or a Single;
    VAL is an Integer (radix text) or a Double -/
theorem asc_val_result_type {v r : Val} :
    (Func.asc v = .ok r → r.ty = .int ∨ r.ty = .sng) ∧ (Func.val v = .ok r → r.ty = .int ∨ r.ty = .dbl) :=
  ⟨asc_ty, val_ty⟩

/-- **TYPE MISMATCH**: a string argument to a numeric function, a numeric argument to a string
    function (ASC, LEN, VAL) — for every function of the table -/
theorem function_type_mismatch {name : String} {f : Val → Res Val} (hm : (name, f) ∈ builtin1Table) :
    (takesString name = false → ∀ s : Str, f (.str s) = err Code.typeMismatch) ∧
    (takesString name = true → ∀ v : Val, v.isNumeric = true → f v = err Code.typeMismatch) :=
  builtin1_type_mismatch hm

/-- **ABS**: the type is kept; on Integers exactly |n|, with OVERFLOW for −32768 and only there -/
theorem abs_documented (v r : Val) (n : Int16) :
    (Func.abs v = .ok r → r.ty = v.ty) ∧
    (n.toInt ≠ -32768 → ∃ m, Func.abs (.int n) = .ok (.int m) ∧ m.toInt = n.toInt.natAbs) ∧
    (n.toInt = -32768 → Func.abs (.int n) = err Code.overflow) :=
  ⟨abs_ty, (abs_int n).1, (abs_int n).2⟩

/-- **SGN**: an Integer −1, 0 or 1; on Integers the mathematical sign -/
theorem sgn_documented (v r : Val) (n : Int16) :
    (Func.sgn v = .ok r → r = .int (-1) ∨ r = .int 0 ∨ r = .int 1) ∧
    (∃ m, Func.sgn (.int n) = .ok (.int m) ∧ m.toInt = n.toInt.sign) :=
  ⟨sgn_values, sgn_int_sign n⟩

/-- **INT and FIX**: the argument's type is kept, an Integer is returned unchanged; on a float INT is
    the floor and FIX the truncation towards zero (ceiling of a negative number, floor otherwise) -/
theorem int_fix_documented (v r : Val) (n : Int16) (b : UInt32) :
    (Func.int v = .ok r → r.ty = v.ty) ∧ (Func.fix v = .ok r → r.ty = v.ty) ∧
    Func.int (.int n) = .ok (.int n) ∧ Func.fix (.int n) = .ok (.int n) ∧
    Func.int (.sng b) = .ok (.sng (F.b32 (F.f32 b).floor)) ∧
    Func.fix (.sng b) = .ok (.sng (F.b32 (if F.f32 b < 0 then (F.f32 b).ceil else (F.f32 b).floor))) :=
  ⟨int_ty, fix_ty, rfl, rfl, rfl, rfl⟩

/-- **CINT**: an Integer unchanged; of a float the FLOOR when it lies in −32768..32767, OVERFLOW
    otherwise (`Thm.C08.float_to_int`: NaN and the infinities included) -/
theorem cint_documented (v : Val) (hv : v.ty = .sng ∨ v.ty = .dbl) (n : Int16) :
    Func.cint (.int n) = .ok (.int n) ∧
    Func.cint v = (match v.floorZ with
      | some z => if Thm.C08.InRange z then .ok (.int (Int16.ofInt z)) else err Code.overflow
      | none => err Code.overflow) ∧
    (Func.cint v = .ok (.int n) → v.floorZ = some n.toInt) :=
  ⟨rfl, cint_float v hv, cint_float_exact v hv n⟩

/-- **CSNG, CDBL**: the result is a Single / a Double; a value of that type is returned unchanged;
    no number makes them fail (a Double beyond the Single range becomes an infinity) -/
theorem csng_cdbl_documented (v r : Val) (b : UInt32) (d : UInt64) :
    (Func.csng v = .ok r → r.ty = .sng) ∧ (Func.cdbl v = .ok r → r.ty = .dbl) ∧
    Func.csng (.sng b) = .ok (.sng b) ∧ Func.cdbl (.dbl d) = .ok (.dbl d) ∧
    (v.isNumeric = true → (∃ x, Func.csng v = .ok (.sng x)) ∧ ∃ x, Func.cdbl v = .ok (.dbl x)) :=
  ⟨csng_ty, cdbl_ty, rfl, rfl, fun h => ⟨csng_total v h, cdbl_total v h⟩⟩

/-- **SQR**: Single for an Integer or Single argument, Double for a Double.  The model (and the
    interpreter) raise NO error for a negative argument: `SQR(-1)` is the IEEE square root, a NaN — not
    ILLEGAL FUNCTION CALL -/
theorem sqr_documented (v r : Val) :
    (Func.sqr v = .ok r → r.ty = floatTy v.ty) ∧ (v.isNumeric = true → ∃ x, Func.sqr v = .ok x) :=
  ⟨sqr_ty, sqr_no_error v⟩

/-- **LEN**: the number of characters as an Integer; **ASC**: the code of the first character, ILLEGAL
    FUNCTION CALL for the empty string -/
theorem len_asc_documented (s : Str) (c : Char) (hs : s.length ≤ 32767) (hc : c.toNat ≤ 32767) :
    Func.len (.str s) = .ok (.int (Int16.ofNat s.length)) ∧
    Func.asc (.str (c :: s)) = .ok (.int (Int16.ofNat c.toNat)) ∧
    Func.asc (.str []) = err Code.illegalFunctionCall := by
  refine ⟨by rw [len_str, if_pos hs], by rw [asc_str, if_pos hc], rfl⟩

end functions

section assignment
open Lemmas.ExprCompile Lemmas.Assign

/-- **the conversion on assignment** (`Spec.assignConv`, written from the manual): the result has the
    TARGET's type; a value of that type is stored unchanged; Integer ← float is the floor or OVERFLOW
    (`Thm.C08`); Single ← Double is the IEEE rounding `f64 as f32` and never an error (beyond the
    Single range the value becomes an infinity: `A! = 1D39` stores `inf`); Double ← Single / Integer is
    the exact widening; string ↔ number is TYPE MISMATCH; a string of more than 255 characters is
    STRING TOO LONG -/
theorem assignment_conversion (t : VarTy) (x y : Val) :
    (assignConv t x = .ok y → y.ty = t.toTy) ∧
    (x.ty = t.toTy → (∀ s, x = .str s → s.length ≤ 255) → assignConv t x = .ok x) ∧
    (x.ty = .sng ∨ x.ty = .dbl → assignConv .integer x = .ok y →
        ∃ n, y = .int n ∧ x.floorZ = some n.toInt) ∧
    (x.ty = .sng ∨ x.ty = .dbl → (∀ z, x.floorZ = some z → ¬ Thm.C08.InRange z) →
        assignConv .integer x = err Code.overflow) ∧
    (∀ b, assignConv .single (.dbl b) = .ok (.sng (F.b32 (F.d2s (F.f64 b))))) ∧
    (∀ b, assignConv .double (.sng b) = .ok (.dbl (F.b64 (F.s2d (F.f32 b))))) ∧
    (t = .string → x.isNumeric = true → assignConv t x = err Code.typeMismatch) ∧
    (t ≠ .string → ∀ s, x = .str s → assignConv t x = err Code.typeMismatch) ∧
    (∀ s : Str, 255 < s.length →
        assignConv .string (.str s) = errMsg Code.stringTooLong "MAXIMUM STRING LENGTH IS 255") :=
  ⟨assignConv_ty, assignConv_same, fun hx h => assignConv_integer_floor x hx y h,
    assignConv_integer_overflow x, fun _ => rfl, fun _ => rfl, (assignConv_mismatch t x).1,
    (assignConv_mismatch t x).2, assignConv_string_too_long⟩

/-- `Var.store` IS that conversion: after the pool test (OUT OF MEMORY for a full pool and a name it does
    not hold yet, D23) the type of the name — its suffix, else the DEFtype of its first letter — selects the
    conversion, and the converted value is written under the name -/
theorem store_is_conversion (v : Var) (n : Str) (x : Val) (t : VarTy) (ht : v.tyOf n = .ok (some t)) :
    v.store n x =
      if v.vars.length > 65535 ∧ AL.contains n v.vars = false then err Code.outOfMemory
      else match assignConv t x with
        | .ok y => .ok (v.updateVal n y)
        | .error e => .error e :=
  store_eq v n x t ht

/-- the type of the target: the suffix decides; without one, the DEFtype of the first letter (Single
    until a DEFtype statement says otherwise) -/
theorem target_type (v : Var) (base : Str) (c : Char) (cs : Str) (hc : 65 ≤ c.toNat ∧ c.toNat ≤ 90)
    (hs : Var.suffixTy (c :: cs) = none) :
    v.tyOf (base ++ ['%']) = .ok (some .integer) ∧ v.tyOf (base ++ ['!']) = .ok (some .single) ∧
    v.tyOf (base ++ ['#']) = .ok (some .double) ∧ v.tyOf (base ++ ['$']) = .ok (some .string) ∧
    v.tyOf (c :: cs) = .ok (some (v.types (c.toNat - 65))) ∧ Var.new.types (c.toNat - 65) = .single :=
  ⟨(tyOf_suffix v base).1, (tyOf_suffix v base).2.1, (tyOf_suffix v base).2.2.1, (tyOf_suffix v base).2.2.2,
    tyOf_letter v c cs hc hs, rfl⟩

/-- **`LET v = e`, compiled and run** (`e` in the fragment `Spec.Pure`, `v` a scalar).  The statement
    compiles to one fragment `flat e ++ [pop v]` and reports nothing.  Run from ANY machine state `s`
    holding that code at `pc` (trace off, room on the stack, the pool not full), with `t` the type of `v`:

    * `e` evaluates to `x` and `x` converts to `y`: the run ends normally in `s` with `pc` past the code
      and `vars' = updateVal v y` — `y` has the target's type, `v` afterwards READS as a value of the
      target's type (`y`, or the type's default when `y` is one), every other variable reads as before:
      a value of another type is never stored;
    * `x` does not convert (OVERFLOW, TYPE MISMATCH, STRING TOO LONG): the run stops in that error,
      the variables unchanged;
    * `e` itself fails: the run stops in that error, the variables unchanged. -/
theorem let_statement (env : Env) (hie : Bool) {e : Expr} (hp : Pure e) (c cv : Col) (i : TIdent)
    (hz : isZeroArg i.name = false) (vs : Codegen.VState) (hlen : (flat e).length + 1 ≤ 65535) :
    ∃ (col : Col) (frag : Link),
      (Codegen.acceptStmt (.let c (.unary cv i) e) vs).g.stmt = vs.g.stmt.push (col, frag) ∧
      (Codegen.acceptStmt (.let c (.unary cv i) e) vs).errors = vs.errors ∧
      frag.ops.toList = flat e ++ [Opcode.pop i.name] ∧
      ∀ (s : Runtime), CodeAt s.program.link.ops s.pc frag.ops.toList → s.tron = false →
        s.stack.size + frag.ops.size ≤ 65535 →
        ∀ (t : VarTy), s.vars.tyOf i.name = .ok (some t) → s.vars.vars.length ≤ 65535 →
        match Spec.eval s.vars e with
        | .ok x =>
          (match assignConv t x with
          | .ok y =>
            runOps env hie frag.ops.toList s =
              (.ok .continue, { s with pc := s.pc + frag.ops.size, vars := s.vars.updateVal i.name y }) ∧
            y.ty = t.toTy ∧
            (∃ z, (s.vars.updateVal i.name y).fetch i.name = .ok z ∧ z.ty = t.toTy) ∧
            (∀ k, k ≠ i.name → (s.vars.updateVal i.name y).fetch k = s.vars.fetch k)
          | .error err =>
            runOps env hie frag.ops.toList s = (.error err, { s with pc := s.pc + frag.ops.size }))
        | .error err =>
          ∃ s', runOps env hie frag.ops.toList s = (.error err, s') ∧ s'.vars = s.vars := by
  obtain ⟨col, h⟩ := let_codegen_shape hp c cv i hz vs hlen
  refine ⟨col, plain (flat e ++ [Opcode.pop i.name]).toArray, by rw [h], by rw [h], rfl, ?_⟩
  intro s hcode htr hroom t ht hpool
  simp only [plain, List.toList_toArray, List.size_toArray, List.length_append, List.length_singleton]
    at hcode hroom ⊢
  cases hx : Spec.eval s.vars e with
  | error err => exact let_assign_eval_error env hie hp i.name s hcode htr (by omega) err hx
  | ok x =>
    dsimp only
    cases hy : assignConv t x with
    | error err => exact let_assign_conv_error env hie hp i.name s hcode htr (by omega) t ht hpool x err hx hy
    | ok y =>
      obtain ⟨h1, h2, -, h4, h5⟩ := let_assign_ok env hie hp i.name s hcode htr (by omega) t ht hpool x y hx hy
      exact ⟨h1, h2, h4, h5⟩

end assignment

section examples
open Lex

/-- the rule on spellings: `1E5` Single, `1D5` Double, 7 digits Single (too big for an Integer),
    8 digits Double, 32767 Integer, 32768 Single, a point Single — with more than 7 digits Double
    (the leading zero of `0.1234567` counts) —, suffixes, radix and string constants -/
example : literalTy "1E5".toList = some .sng ∧ literalTy "1D5".toList = some .dbl ∧
    literalTy "1234567".toList = some .sng ∧ literalTy "12345678".toList = some .dbl ∧
    literalTy "32767".toList = some .int ∧ literalTy "32768".toList = some .sng ∧
    literalTy "1.5".toList = some .sng ∧ literalTy "1.2345678".toList = some .dbl ∧
    literalTy "0.1234567".toList = some .dbl ∧ literalTy "00000001".toList = some .dbl ∧
    literalTy "5%".toList = some .int ∧ literalTy "5!".toList = some .sng ∧
    literalTy "12345678!".toList = some .sng ∧ literalTy "5#".toList = some .dbl ∧
    literalTy "&HFF".toList = some .int ∧ literalTy "&17".toList = some .int ∧
    literalTy "\"A\"".toList = some .str := by decide

/-- the one disagreement: `12345678E5` — Single by the manual, Double as built (and on the interpreter:
    `PRINT 12345678E5` prints 1234567800000) -/
example : LongE "12345678E5".toList ∧ literalTy "12345678E5".toList = some .sng ∧
    literalTyAsBuilt "12345678E5".toList = some .dbl ∧ ¬ LongE "1234567E5".toList := by decide

def n1E5 : Numeral := ⟨"1".toList, none, some ⟨'E', [], "5".toList⟩, none⟩
def n1D5 : Numeral := ⟨"1".toList, none, some ⟨'D', [], "5".toList⟩, none⟩
def n12345678 : Numeral := ⟨"12345678".toList, none, none, none⟩
def n32767 : Numeral := ⟨"32767".toList, none, none, none⟩
def n2p5 : Numeral := ⟨"2".toList, some "5".toList, none, none⟩
def nLongE : Numeral := ⟨"12345678".toList, none, some ⟨'E', [], "5".toList⟩, none⟩

example : n1E5.WF ∧ n1D5.WF ∧ n12345678.WF ∧ n32767.WF ∧ n2p5.WF ∧ nLongE.WF := by
  decide

/-- `1E5` is one Single token and the Single nearest to 1·10^5; `1D5` a Double likewise -/
example : rawTokens "1E5".toList = [.literal (.single "1E5".toList)] ∧
    Parse.literal (0, 3) (.single "1E5".toList) =
      pure (.single (0, 3) (UInt32.ofNat (Fmt.roundDecimal Ieee.fp32 false 1 5 1))) :=
  ⟨Thm.C05.numeral_roundtrip n1E5 (by decide),
   single_literal_value n1E5 (by decide) (by decide) (0, 3)⟩

example : rawTokens "1D5".toList = [.literal (.double "1D5".toList)] ∧
    Parse.literal (0, 3) (.double "1D5".toList) =
      pure (.double (0, 3) (UInt64.ofNat (Fmt.roundDecimal Ieee.fp64 false 1 5 1))) :=
  ⟨Thm.C05.numeral_roundtrip n1D5 (by decide),
   double_literal_value n1D5 (by decide) (by decide) (0, 3)⟩

/-- the exponent letter may be typed in lower case: the lexer folds it -/
example : rawTokens "1e5".toList = [.literal (.single "1E5".toList)] ∧
    rawTokens "1d5".toList = [.literal (.double "1D5".toList)] := by decide

/-- the conversion is exact integer / rational arithmetic, so it can be evaluated: `1E5` is the bit
    pattern 0x47C35000 (100000.0), `2.5` is 0x40200000 -/
example : Fmt.roundDecimal Ieee.fp32 false 1 5 1 = 0x47C35000 ∧
    Fmt.roundDecimal Ieee.fp32 false 25 (-1) 2 = 0x40200000 := by decide +kernel

/-- 8 digits make a Double; 32767 is an Integer with that value; `2.5` is a Single -/
example : rawTokens "12345678".toList = [.literal (.double "12345678".toList)] :=
  Thm.C05.numeral_roundtrip n12345678 (by decide)

example : rawTokens "32767".toList = [.literal (.integer "32767".toList)] ∧
    Parse.literal (0, 5) (.integer "32767".toList) = pure (.integer (0, 5) 32767) := by
  refine ⟨Thm.C05.numeral_roundtrip n32767 (by decide), ?_⟩
  have := integer_literal_value n32767 (by decide) (0, 5)
  rw [if_pos (by decide)] at this
  exact this

example : ∃ l e, rawTokens "2.5".toList = [.literal l] ∧ Parse.literal (0, 3) l = pure e ∧
    nodeTy e = some .sng ∧ literalTy "2.5".toList = nodeTy e := by
  obtain ⟨l, e, h1, -, h3, h4, h5, h6⟩ :=
    numeral_expression n2p5 (by decide) (by decide)
      (by intro h; cases h) (0, 3)
  have h7 : literalTy "2.5".toList = nodeTy e := h6 (by decide)
  exact ⟨l, e, h1, h3, by rw [← h7]; decide, h7⟩

/-- the finding, through the lexer: `12345678E5` is a Double token -/
example : rawTokens "12345678E5".toList = [.literal (.double "12345678E5".toList)] := by
  have h : nLongE.WF := by decide
  have h2 := Thm.C05.numeral_roundtrip nLongE h
  rw [(literal_rule_disagreement nLongE h (by decide)).1] at h2
  exact h2

/-- Integer readings: values on both sides of every guard -/
example : Fmt.parseI16 "32767".toList = some 32767 ∧ Fmt.parseI16 "32768".toList = none ∧
    Fmt.parseI16 "007".toList = some 7 ∧ Fmt.parseI16 "1.5".toList = none ∧
    Fmt.parseI16 (Parse.numText "40000%".toList) = none := by decide

/-- radix constants: `&H7FFF` is 32767; `&H8000`, `&HFFFF`, `&H10000`, `&H` are OVERFLOW (no wrap);
    `&77777` is 32767, `&100000` OVERFLOW -/
example : Fmt.parseI16Radix "7FFF".toList 16 = some 32767 ∧ Fmt.parseI16Radix "8000".toList 16 = none ∧
    Fmt.parseI16Radix "FFFF".toList 16 = none ∧ Fmt.parseI16Radix "10000".toList 16 = none ∧
    Fmt.parseI16Radix [] 16 = none ∧ Fmt.parseI16Radix "77777".toList 8 = some 32767 ∧
    Fmt.parseI16Radix "100000".toList 8 = none ∧ Fmt.parseI16Radix "0D".toList 16 = some 13 := by decide

example (c : Col) : Parse.literal c (.hex "FFFF".toList) = Parse.fail Code.overflow c "" :=
  radix_literal_overflow true "FFFF".toList (by decide) (by decide) c

example (c : Col) : Parse.literal c (.hex "7FFF".toList) = pure (.integer c 32767) := by
  have := (hex_literal "7FFF".toList (by decide) c).2.2
  rw [if_pos (by decide)] at this
  exact this

/-- functions -/
example : Func.abs (.int (-5)) = .ok (.int 5) ∧ Func.abs (.int (-32768)) = err Code.overflow ∧
    Func.sgn (.int (-5)) = .ok (.int (-1)) ∧ Func.sgn (.int 0) = .ok (.int 0) ∧
    Func.int (.int 7) = .ok (.int 7) ∧ Func.fix (.int (-7)) = .ok (.int (-7)) ∧
    Func.cint (.int 9) = .ok (.int 9) ∧
    Func.cint (.sng 0xC11E6666) = .ok (.int (-10)) ∧       -- CINT(-9.9) = -10: the floor
    Func.cint (.sng 0x40200000) = .ok (.int 2) ∧           -- CINT(2.5) = 2: not rounded
    Func.cint (.sng 0x47000000) = err Code.overflow ∧      -- CINT(32768)
    Func.len (.str "ABC".toList) = .ok (.int 3) ∧ Func.asc (.str "A".toList) = .ok (.int 65) ∧
    Func.asc (.str []) = err Code.illegalFunctionCall ∧
    Func.sqr (.str "4".toList) = err Code.typeMismatch ∧ Func.len (.int 4) = err Code.typeMismatch := by
  decide

/-- symbolic, for floats: SQR of ANY Single is a Single (a negative one included), CDBL of it a Double -/
example (b : UInt32) : ∃ x y, Func.sqr (.sng b) = .ok (.sng x) ∧ Func.cdbl (.sng b) = .ok (.dbl y) :=
  ⟨_, _, rfl, rfl⟩

example : funcTy "SQR" .int = some .sng ∧ funcTy "SQR" .dbl = some .dbl ∧ funcTy "ABS" .dbl = some .dbl ∧
    funcTy "CINT" .sng = some .int ∧ funcTy "VAL" .str = none ∧ takesString "LEN" = true ∧
    takesString "SQR" = false := by decide

/-- assignment -/
example : assignConv .integer (.sng 0x40200000) = .ok (.int 2) ∧           -- A% = 2.5
    assignConv .integer (.sng 0xC11E6666) = .ok (.int (-10)) ∧             -- A% = -9.9
    assignConv .integer (.sng 0x47000000) = err Code.overflow ∧            -- A% = 32768
    assignConv .integer (.dbl 0x7ff8000000000000) = err Code.overflow ∧    -- A% = NaN
    assignConv .integer (.str ['X']) = err Code.typeMismatch ∧
    assignConv .string (.int 1) = err Code.typeMismatch ∧
    assignConv .single (.str ['X']) = err Code.typeMismatch ∧
    assignConv .string (.str ['X']) = .ok (.str ['X']) := by decide

example : assignConv .string (.str (List.replicate 256 'X')) =
    errMsg Code.stringTooLong "MAXIMUM STRING LENGTH IS 255" :=
  Lemmas.Assign.assignConv_string_too_long _ (by rw [List.length_replicate]; omega)

/-- symbolic: a Double assigned to a Single variable is `f64 as f32` of it, whatever the Double -/
example (b : UInt64) : ∃ y, assignConv .single (.dbl b) = .ok y ∧ y.ty = .sng := ⟨_, rfl, rfl⟩

example : (Var.new.store "A%".toList (.sng 0x40200000)).toOption.bind (fun v => (v.fetch "A%".toList).toOption) =
    some (.int 2) := by decide

end examples

end Thm.C02
end Basic

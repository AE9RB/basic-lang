import BasicModel.Gen.Keywords
import BasicModel.Gen.Dispatch
import BasicModel.Model.Lex
import BasicModel.Lemmas.VmDispatch
/-
  The model's hand-written tables equal the tables re-extracted from the Rust source on every run.
-/
namespace Basic
namespace Thm.Tables

/-- the reserved-word table of the lexer model is the one in `token.rs`, entry for entry, in order -/
theorem keywords_generated : Lex.keywords = Gen.keywords := by decide

/-- `match_minutia`: the model agrees with the generated table on every entry -/
theorem minutia_generated : ∀ p ∈ Gen.minutia, Lex.matchMinutia p.1 = some p.2 := by decide

/-- `Display for Word` / `Display for Operator`: the model's listed texts are the generated ones -/
theorem word_text_generated : ∀ p ∈ Gen.wordText, Word.text p.1 = p.2.toList := by decide
theorem operator_text_generated : ∀ p ∈ Gen.operatorText, Operator.text p.1 = p.2.toList := by decide
theorem word_text_complete : Gen.wordText.length = 43 ∧ Gen.operatorText.length = 19 := by decide

/-- the documented meaning of every dispatch arm of the VM (`Opcode::X => pop_N_push(&Module::f)`),
    written by hand from the manual / DESIGN §7; a swapped arm in runtime.rs changes `Gen.dispatch` -/
def documentedDispatch : List (Opcode × Nat × String × String) := [
  (.neg, 1, "Operation", "negate"), (.pow, 2, "Operation", "power"), (.mul, 2, "Operation", "multiply"),
  (.div, 2, "Operation", "divide"), (.divInt, 2, "Operation", "divint"), (.mod, 2, "Operation", "remainder"),
  (.add, 2, "Operation", "sum"), (.sub, 2, "Operation", "subtract"), (.eq, 2, "Operation", "equal"),
  (.notEq, 2, "Operation", "not_equal"), (.lt, 2, "Operation", "less"), (.ltEq, 2, "Operation", "less_equal"),
  (.gt, 2, "Operation", "greater"), (.gtEq, 2, "Operation", "greater_equal"), (.not, 1, "Operation", "not"),
  (.and, 2, "Operation", "and"), (.or, 2, "Operation", "or"), (.xor, 2, "Operation", "xor"),
  (.imp, 2, "Operation", "imp"), (.eqv, 2, "Operation", "eqv"),
  (.abs, 1, "Function", "abs"), (.asc, 1, "Function", "asc"), (.atn, 1, "Function", "atn"),
  (.cdbl, 1, "Function", "cdbl"), (.chr, 1, "Function", "chr"), (.cint, 1, "Function", "cint"),
  (.cos, 1, "Function", "cos"), (.csng, 1, "Function", "csng"), (.exp, 1, "Function", "exp"),
  (.fix, 1, "Function", "fix"), (.hex, 1, "Function", "hex"), (.int, 1, "Function", "int"),
  (.left, 2, "Function", "left"), (.len, 1, "Function", "len"), (.log, 1, "Function", "log"),
  (.oct, 1, "Function", "oct"), (.right, 2, "Function", "right"), (.spc, 1, "Function", "spc"),
  (.sgn, 1, "Function", "sgn"), (.sin, 1, "Function", "sin"), (.sqr, 1, "Function", "sqr"),
  (.str, 1, "Function", "str"), (.string, 2, "Function", "string"), (.tan, 1, "Function", "tan"),
  (.val, 1, "Function", "val")]

theorem dispatch_documented : Gen.dispatch = documentedDispatch := by decide

end Thm.Tables
end Basic

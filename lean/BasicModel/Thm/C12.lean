import BasicModel.Lemmas.Step
import BasicModel.Lemmas.Inv
import BasicModel.Lemmas.RunClear
import BasicModel.Lemmas.DataCursor
/-
  C12 — RUN, CLEAR and NEW reset state completely.

  `doClear` is the model of `r#clear`; `doNew` of `r#new_`.  The *core* of a runtime is everything a
  program can leave behind for the next one: the operand stack (GOSUB/FOR frames), the variable
  store with its array dimensions and DEFtype table, the DEF FN table, the CONT point and the
  DATA cursor.  After CLEAR the core is that of `Runtime::default()`, whatever happened earlier;
  RUN is compiled as `Clear; Jump`, i.e. RUN = CLEAR followed by GOTO.
  Under the invariant `Runtime.Inv` (every reachable state) a RUN behaves, event and state, as in a
  fresh interpreter holding the same listing: `run_identical_to_fresh_run`.
-/
namespace Basic
namespace Thm.C12
open Basic.Runtime

/-- everything one program run can leave behind for the next -/
structure Core where
  stack : Array Val
  vars : Var
  functions : List (Str × (Nat × Nat))
  cont : RState
  dataPos : Nat

def core (s : Runtime) : Core :=
  { stack := s.stack, vars := s.vars, functions := s.functions, cont := s.cont,
    dataPos := s.program.link.dataPos }

/-- `Var.clear` gives the store of `Var::default()`: no variables, no dimensions, every letter
    single precision -/
theorem var_clear (v : Var) : v.clear = ({} : Var) := rfl

/-- CLEAR: the core is reset, the random generator reseeded from the entropy input, and nothing
    else changes (in particular not the listing, the compiled code, `pc`, TRON, the print column) -/
theorem clear_resets (env : Env) (s : Runtime) :
    (doClear env s).stack = #[] ∧
    (doClear env s).vars = ({} : Var) ∧
    (doClear env s).functions = [] ∧
    (doClear env s).cont = .stopped ∧
    (doClear env s).program.link.dataPos = 0 ∧
    (doClear env s).rand = env.entropy ∧
    (doClear env s).listing = s.listing ∧
    (doClear env s).program = { s.program with link := { s.program.link with dataPos := 0 } } ∧
    (doClear env s).program.link.ops = s.program.link.ops ∧
    (doClear env s).program.link.data = s.program.link.data ∧
    (doClear env s).program.link.symbols = s.program.link.symbols ∧
    (doClear env s).pc = s.pc ∧
    (doClear env s).tron = s.tron ∧
    (doClear env s).tr = s.tr ∧
    (doClear env s).printCol = s.printCol ∧
    (doClear env s).dirty = s.dirty ∧
    (doClear env s).state = s.state ∧
    (doClear env s).entryAddress = s.entryAddress ∧
    (doClear env s).contPc = s.contPc ∧
    (doClear env s).prompt = s.prompt :=
  ⟨rfl, rfl, rfl, rfl, rfl, rfl, rfl, rfl, rfl, rfl, rfl, rfl, rfl, rfl, rfl, rfl, rfl, rfl, rfl, rfl⟩

/-- the state after CLEAR, written out: only these six fields are assigned -/
theorem clear_eq (env : Env) (s : Runtime) :
    doClear env s =
      { s with stack := #[], vars := {}, functions := [], cont := .stopped, rand := env.entropy,
               program := { s.program with link := { s.program.link with dataPos := 0 } } } := rfl

/-- whatever happened earlier, after CLEAR the core is that of a fresh interpreter -/
theorem clear_core_eq_fresh (env : Env) (s : Runtime) :
    core (doClear env s) = core ({} : Runtime) := rfl

theorem clear_core_independent (env : Env) (s₁ s₂ : Runtime) :
    core (doClear env s₁) = core (doClear env s₂) := rfl

/-- NEW: the cleared core, an empty listing without diagnostics, `dirty`, TROFF, `stopped` -/
theorem new_resets (env : Env) (s : Runtime) :
    core (doNew env s) = core ({} : Runtime) ∧
    (doNew env s).listing.source = [] ∧
    (doNew env s).listing.indirectErrors = [] ∧
    (doNew env s).listing.directErrors = [] ∧
    (doNew env s).listing = ({} : Listing) ∧
    (doNew env s).dirty = true ∧
    (doNew env s).tron = false ∧
    (doNew env s).state = .stopped ∧
    (doNew env s).rand = env.entropy :=
  ⟨rfl, rfl, rfl, rfl, rfl, rfl, rfl, rfl, rfl⟩

theorem new_eq (env : Env) (s : Runtime) :
    doNew env s = { doClear env s with listing := {}, dirty := true, state := .stopped, tron := false } := rfl

theorem clear_idempotent (env : Env) (s : Runtime) : doClear env (doClear env s) = doClear env s := rfl

/-- the entropy input is the only thing a second CLEAR can change -/
theorem clear_clear (env env' : Env) (s : Runtime) :
    doClear env' (doClear env s) = doClear env' s := rfl

theorem new_then_clear (env : Env) (s : Runtime) : doClear env (doNew env s) = doNew env s := rfl

theorem new_idempotent (env : Env) (s : Runtime) : doNew env (doNew env s) = doNew env s := rfl

/-- the generator's state after running `m` on the empty fragment -/
def gen (m : Codegen.GM Unit) : Except Error Unit × Codegen.GState := (m.run).run {}

/-- `RUN` (no operand): exactly `Clear; Jump 0`, nothing to link — the jump goes to address 0,
    the start of the program -/
theorem run_compiles_to_clear_jump (c : Col) :
    (gen (Codegen.pushRun c none)).1 = .ok () ∧
    (gen (Codegen.pushRun c none)).2.cur.ops = #[.clear, .jump 0] ∧
    (gen (Codegen.pushRun c none)).2.cur.unlinked = [] :=
  ⟨rfl, rfl, rfl⟩

/-- `RUN n`: `Clear; Jump _` with one pending reference, at the jump (address 1), to line `n` -/
theorem run_line_compiles_to_clear_jump (c : Col) (n : Nat) :
    (gen (Codegen.pushRun c (some n))).1 = .ok () ∧
    (gen (Codegen.pushRun c (some n))).2.cur.ops = #[.clear, .jump 0] ∧
    (gen (Codegen.pushRun c (some n))).2.cur.unlinked = [(1, (c, (n : Int)))] :=
  ⟨rfl, rfl, rfl⟩

/-- `GOTO n` generates the same jump with the same pending reference (at its own address 0):
    RUN n is CLEAR followed by GOTO n -/
theorem goto_compiles_to_jump (c : Col) (n : Nat) :
    (gen (Codegen.pushGoto c (some n))).1 = .ok () ∧
    (gen (Codegen.pushGoto c (some n))).2.cur.ops = #[.jump 0] ∧
    (gen (Codegen.pushGoto c (some n))).2.cur.unlinked = [(0, (c, (n : Int)))] :=
  ⟨rfl, rfl, rfl⟩

theorem step_clear_core (env : Env) (h : Bool) (s : Runtime) (htr : s.tron = false)
    (hop : s.program.link.ops[s.pc]? = some .clear) :
    core ((step env h).run.run s).2 = core ({} : Runtime) := by
  rw [(step_at_clear env h s hop htr).1]; rfl

/-- a runtime with something in every core field -/
def used : Runtime :=
  { stack := #[.int 1, .ret 7], vars := { vars := [("A".toList, .int 5)], dims := [("B".toList, [3])] },
    functions := [("FNA".toList, (1, 4))], cont := .running, contPc := 9, pc := 3, tron := true,
    printCol := 5, dirty := false, state := .running,
    program := { link := { ops := #[.clear, .jump 0, .end], dataPos := 2, data := #[.int 1, .int 2] } } }

def env0 : Env := { lex := fun _ => ⟨none, []⟩, lineRenum := fun _ l => l, entropy := (7, 8, 9) }

example : (doClear env0 used).stack = #[] ∧ (doClear env0 used).functions = [] ∧
    (doClear env0 used).cont = .stopped ∧ (doClear env0 used).program.link.dataPos = 0 ∧
    (doClear env0 used).rand = (7, 8, 9) ∧ (doClear env0 used).pc = 3 ∧
    (doClear env0 used).tron = true ∧ (doClear env0 used).printCol = 5 := by decide
example : (doClear env0 used).vars.vars = [] ∧ (doClear env0 used).vars.dims = [] := by decide
example : used.stack ≠ #[] ∧ used.program.link.dataPos ≠ 0 ∧ used.cont ≠ .stopped := by decide
example : (doNew env0 used).tron = false ∧ (doNew env0 used).dirty = true ∧
    (doNew env0 used).listing.source = [] := by decide
/-- `step` on `Clear` at `pc = 0` of a three-instruction program -/
example : ((step env0 false).run.run { used with tron := false, pc := 0 }).2.pc = 1 ∧
    ((step env0 false).run.run { used with tron := false, pc := 0 }).2.stack = #[] := by
  rw [(step_at_clear env0 false _ rfl rfl).1]; decide

/-! RUN in any state of any history runs exactly as in a fresh interpreter: a corollary of the invariant
  `Runtime.Inv` (Lemmas/Inv.lean and Thm/C04.lean: `inv_reachable`, `run_eq_fresh`). -/

/-- the state right after RUN's CLEAR — core, program, listing, everything — is the one a fresh
    interpreter holding the same listing (and prompt / TRON / column) is in -/
theorem run_clear_state_eq_fresh (env : Env) (s : Runtime) (line : Line) (hn : line.number = none)
    (hi : Inv s) :
    doClear env (enterDirect s line) = doClear env (enterDirect (freshLike s) line) ∧
    core (doClear env (enterDirect s line)) = core ({} : Runtime) :=
  ⟨run_state_eq_freshLike env s line hn hi, rfl⟩

/-- CLEAR keeps everything else the first step looks at: a call that begins with `Clear` depends
    on the state only through what CLEAR makes of it -/
theorem execute_clear_congr (env : Env) (a b : Runtime) (e : doClear env a = doClear env b)
    (hs : a.state = .running) (htr : a.tron = false) (hde : a.listing.directErrors = [])
    (hop : a.program.link.ops[a.pc]? = some .clear) (k : Nat) :
    execute env a (k + 1) = execute env b (k + 1) := by
  have hpc : a.pc = b.pc := congrArg (fun t => t.pc) e
  have hl : a.listing = b.listing := congrArg (fun t => t.listing) e
  have hops : a.program.link.ops = b.program.link.ops := congrArg (fun t => t.program.link.ops) e
  have hs' : b.state = .running := (congrArg (fun t => t.state) e).symm.trans hs
  have htr' : b.tron = false := (congrArg (fun t => t.tron) e).symm.trans htr
  have hst : doClear env { a with pc := a.pc + 1 } = doClear env { b with pc := b.pc + 1 } := by
    show ({ doClear env a with pc := a.pc + 1 } : Runtime) = { doClear env b with pc := b.pc + 1 }
    rw [e, hpc]
  rw [execute_running env a _ hs hde, execute_running env b _ hs' (hl ▸ hde), executeLoop_run, executeLoop_run]
  unfold slice hasIndirectErrors
  rw [sliceRun_succ, sliceRun_succ, (step_at_clear env _ a hop htr).1,
    (step_at_clear env _ b (by rw [← hops, ← hpc]; exact hop) htr').1, hst, hl]

/-- **the first quantum of a RUN, and therefore everything after it, is identical to a fresh
    run.**  `s`: any state satisfying the invariant (every reachable state), TROFF; `line`: a
    direct line whose code starts with `Clear` (RUN / RUN n: `run_compiles_to_clear_jump`) and
    that compiled without direct-mode errors.  Then `execute` with any quantum `k + 1` returns the
    same event *and the same state* as in the fresh interpreter `freshLike s`; from equal states
    all later API calls coincide by determinism. -/
theorem run_identical_to_fresh_run (env : Env) (s : Runtime) (line : Line) (hn : line.number = none)
    (hi : Inv s) (htr : s.tron = false)
    (hde : (enterDirect s line).listing.directErrors = [])
    (hop : (enterDirect s line).program.link.ops[(enterDirect s line).pc]? = some .clear) (k : Nat) :
    execute env (enterDirect s line) (k + 1) = execute env (enterDirect (freshLike s) line) (k + 1) := by
  obtain ⟨f1, _, _, _, f5⟩ := enterDirect_fields s line
  exact execute_clear_congr env _ _ (run_state_eq_freshLike env s line hn hi) f1 (f5.trans htr) hde hop k

/-- the same with the hypothesis "the direct code starts with `Clear`" discharged: it suffices
    that the parser returns, for the direct line, what it returns for `RUN` (`bits` = -1.0) and
    `RUN n` (`lineExpr`): `[.run c (.single c2 bits)]`.  (The parser's answer is a hypothesis: the parser recurses on fuel and does not
    reduce by `decide`; for a concrete line it is computed with the simp set `parse_eval`, as `parse_contLine` of
    `Lemmas/ContParse` does for CONT.  Generator, `append`, `push End`
    and `link` are covered by `enterDirect_run_starts_with_clear`.) -/
theorem run_identical_to_fresh_run_of_parse (env : Env) (s : Runtime) (line : Line) (hn : line.number = none)
    (hi : Inv s) (htr : s.tron = false) (c c2 : Col) (bits : UInt32)
    (hparse : Parse.parse none line.tokens = .ok [.run c (.single c2 bits)])
    (hde : (enterDirect s line).listing.directErrors = []) (k : Nat) :
    execute env (enterDirect s line) (k + 1) = execute env (enterDirect (freshLike s) line) (k + 1) :=
  run_identical_to_fresh_run env s line hn hi htr hde
    (enterDirect_run_starts_with_clear s line hn hi c c2 bits hparse) k

/-- the invariant holds in the initial state and after CLEAR / NEW (they touch only the DATA
    cursor of the program; NEW sets `dirty`) -/
theorem inv_clear_new (env : Env) (s : Runtime) (hi : Inv s) : Inv (doClear env s) ∧ Inv (doNew env s) :=
  ⟨(inv_session env).prim (.clear s) hi, (inv_session env).eff (doNew_eff env s) hi⟩

/-- non-vacuity: the initial state satisfies the invariant, so RUN typed first thing is covered -/
example (env : Env) (line : Line) (hn : line.number = none) :
    doClear env (enterDirect ({} : Runtime) line) = doClear env (enterDirect (freshLike {}) line) :=
  (run_clear_state_eq_fresh env {} line hn inv_init).1

end Thm.C12
end Basic

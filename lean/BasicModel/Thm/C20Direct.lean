import BasicModel.Thm.C20Layout
/-
  C20 (continuation) — the direct statement's code is addressed by a symbol that can
  never be a program line number.

  What the model (= `link.rs` / `program.rs`) does: the first `linkProg` after the numbered lines
  (`markDirect`) records where the direct segment starts as `directAddress` AND as an entry of the
  symbol table under the key `maxLineNumber + 1 = 65530` (`Link.setStartOfDirect`).  Line numbers
  are `≤ 65529`, so that entry never replaces (and is never found instead of) a line's entry: a
  reference of the direct line to a line `m` of the listing — 65529 included — resolves to the address of
  that line's code, strictly below `directAddress` (`direct_branch_resolves`).
-/
namespace Basic
namespace Thm.C20
open Link Program

/-- the key under which the start of the direct segment is recorded -/
def directKey : Symbol := (Gen.maxLineNumber : Int) + 1

theorem directKey_eq : directKey = 65530 := by decide

/-- **no line number is the key of the direct segment** -/
theorem direct_mark_not_a_line (n : Nat) (hn : n ≤ Gen.maxLineNumber) : (n : Symbol) ≠ directKey :=
  natCast_ne_mark hn

theorem direct_mark (ls : List Line) (hnum : Numbered ls) :
    (compile ls).link.symbols.lookup directKey =
      some ((compile ls).directAddress, (compile ls).link.data.size) := by
  rw [compile_symbols ls hnum, symInsert_lookup]
  exact if_pos rfl

/-- the state whose symbol table resolves the references of the direct line `d` entered over the
    listing `ls`: lines compiled, `d` compiled, `End` ensured (stage 1 of `linkProg`) -/
def directLinkState (ls : List Line) (d : Line) : Program :=
  ensureEnd ((({} : Program).codegenLines ls).codegenLine d)

theorem runProg_eq (ls : List Line) (d : Line) :
    runProg ls d = markDirect (resolve (directLinkState ls d)) := linkProg_eq _

/-- the table the direct line is linked with is, on the keys `≥ 0` (line numbers and the mark),
    the table of the compiled listing; `directAddress` is the listing's -/
theorem direct_line_table (ls : List Line) (d : Line) (hd : d.number = none) :
    (directLinkState ls d).link.symbols.filter (fun p => p.1 ≥ 0) = (compile ls).link.symbols ∧
    (directLinkState ls d).directAddress = (compile ls).directAddress := by
  have hb := based_compile ls
  unfold directLinkState
  rw [codegenLine_direct _ d hd]
  have h := (POver.directGen hb d).ensureEnd
  rw [h.link.symbols, h.directAddress]
  exact ⟨base_symbols _, (progSim_base _).directAddress⟩

theorem direct_line_lookup (ls : List Line) (d : Line) (hd : d.number = none) (x : Symbol) (hx : 0 ≤ x) :
    (directLinkState ls d).link.symbols.lookup x = (compile ls).link.symbols.lookup x := by
  rw [← (direct_line_table ls d hd).1]
  exact (List.lookup_filter x _ (fun p _ e => by rw [e]; simpa using hx)).symm

/-- the linked program the interpreter runs after the direct line: table and `directAddress` are
    the listing's -/
theorem runProg_symbols (ls : List Line) (d : Line) (hd : d.number = none) :
    (runProg ls d).link.symbols = (compile ls).link.symbols ∧
    (runProg ls d).directAddress = (compile ls).directAddress := by
  have hb := based_compile ls
  unfold runProg
  rw [codegenLine_direct _ d hd]
  obtain ⟨h1, h2⟩ := (POver.directGen hb d).linkProg hb
  have e := h1.link.symbols
  rw [List.filter_eq_self.2 fun p hp => by simpa using h2.symbols p hp] at e
  rw [e, h1.directAddress]
  exact ⟨base_symbols _, (progSim_base _).directAddress⟩

/-- **a reference to line `m` in the direct statement finds that program line** — address
    `endOf pre` (the code and data compiled before it), strictly below `directAddress`: never the
    direct code itself.  `m` is any line of a well-formed listing, `65529` included. -/
theorem direct_branch_resolves (pre tl : List Line) (hdl : Line) (m : Nat) (d : Line)
    (hl : Listed (pre ++ hdl :: tl)) (hm : hdl.number = some m) (hd : d.number = none) :
    (directLinkState (pre ++ hdl :: tl) d).link.symbols.lookup (m : Symbol) = some (endOf pre) ∧
    (endOf pre).1 < (directLinkState (pre ++ hdl :: tl) d).directAddress ∧
    (endOf pre).1 < (runProg (pre ++ hdl :: tl) d).directAddress ∧
    (directLinkState (pre ++ hdl :: tl) d).link.symbols.lookup directKey =
      some ((runProg (pre ++ hdl :: tl) d).directAddress, (compile (pre ++ hdl :: tl)).link.data.size) ∧
    (m : Symbol) ≠ directKey := by
  have hnum := hl.isNumbered
  have hlook := hl.compile_lookup hm
  have hkey := direct_mark_not_a_line m (hl.split hm).le
  have hbelow : (endOf pre).1 < (compile (pre ++ hdl :: tl)).directAddress :=
    line_addresses_inside_program _ hnum ((m : Symbol), endOf pre) (List.mem_of_lookup hlook) hkey
  have hda := (direct_line_table (pre ++ hdl :: tl) d hd).2
  have hda' := (runProg_symbols (pre ++ hdl :: tl) d hd).2
  refine ⟨?_, ?_, ?_, ?_, hkey⟩
  · rw [direct_line_lookup _ d hd _ (Int.natCast_nonneg m)]; exact hlook
  · rw [hda]; exact hbelow
  · rw [hda']; exact hbelow
  · rw [direct_line_lookup _ d hd _ (by decide), direct_mark _ hnum, hda']

/-- the linker's step on such a reference: a `Jump` (GOTO / GOSUB / THEN / RUN n) is patched with
    the address the table holds — no error, and the table stays as it is -/
theorem direct_jump_patched (l : Link) (a : Nat) (c : Col) (sym : Symbol) (o dd x : Nat)
    (hs : l.symbols.lookup sym = some (o, dd)) (hop : l.ops[a]? = some (.jump x)) :
    (l.linkOne a c sym).2 = none ∧ (l.linkOne a c sym).1.ops[a]? = some (.jump o) ∧
    (l.linkOne a c sym).1.symbols = l.symbols := by
  exact ⟨(linkOne_resolves_get hs hop rfl).2.1, (linkOne_resolves_get hs hop rfl).1, linkOne_symbols ..⟩

/-- put together for `GOTO m` typed as a direct statement: the pending `Jump` at address `a` of
    the direct code, linked with the direct line's table, becomes a jump to line `m`'s code, below
    `directAddress` -/
theorem direct_goto_lands_in_program (pre tl : List Line) (hdl : Line) (m : Nat) (d : Line)
    (hl : Listed (pre ++ hdl :: tl)) (hm : hdl.number = some m) (hd : d.number = none)
    (a x : Nat) (c : Col)
    (hop : (directLinkState (pre ++ hdl :: tl) d).link.ops[a]? = some (.jump x)) :
    ∃ o, ((directLinkState (pre ++ hdl :: tl) d).link.linkOne a c (m : Symbol)).1.ops[a]? = some (.jump o) ∧
      o < (runProg (pre ++ hdl :: tl) d).directAddress ∧
      ((directLinkState (pre ++ hdl :: tl) d).link.linkOne a c (m : Symbol)).2 = none := by
  obtain ⟨h1, _, h3, _, _⟩ := direct_branch_resolves pre tl hdl m d hl hm hd
  obtain ⟨k1, k2, _⟩ := direct_jump_patched _ a c (m : Symbol) (endOf pre).1 (endOf pre).2 x h1 hop
  exact ⟨(endOf pre).1, k2, h3, k1⟩

/-! ### non-vacuity: `65529 END`, and `GOTO 65529` typed as a direct statement -/

def exLast : Line := ⟨some 65529, [.word .end]⟩
def exGoto : Line := ⟨none, [.word .goto, .whitespace 1, .literal (.integer "65529".toList)]⟩

theorem exLast_listed : Listed ([] ++ exLast :: []) := listed_of_check _ (by decide)

/-- the hypotheses of `direct_branch_resolves` hold for it, so line 65529 is found at address 0,
    the direct segment starts above it, and the mark sits under 65530 -/
example : (directLinkState [exLast] exGoto).link.symbols.lookup (65529 : Symbol) = some (0, 0) ∧
    0 < (runProg [exLast] exGoto).directAddress :=
  have h := direct_branch_resolves [] [] exLast 65529 exGoto exLast_listed rfl rfl
  ⟨h.1, h.2.2.1⟩

end Thm.C20
end Basic

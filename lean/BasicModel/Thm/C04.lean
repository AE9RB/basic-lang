import BasicModel.Lemmas.Program
import BasicModel.Lemmas.Execute
import BasicModel.Lemmas.Inv
import BasicModel.Lemmas.Control
/-
  C04 — what runs is always the program that LIST shows.

  * An edit (a numbered line) cancels everything resumable — CONT point, operand stack (pending
    RETURN / NEXT frames), DEF FN table — whatever the line; it marks the compiled program stale
    (`dirty`) unless the listing is as before: a bare number for a line that does not exist.
  * The next direct line recompiles from the *current* listing before it runs; compiling into the
    cleared old program and compiling in a fresh interpreter give the same program up to the DATA
    cursor, which RUN's CLEAR resets: RUN after any edit history = RUN in a fresh interpreter
    holding the same listing (`run_after_edit_eq_fresh`, an equality of states).
  * Only DELETE, RENUM and NEW (and numbered lines, `set_listing`) change the listing.
  * `Runtime.Inv` (the program in memory is the compile of the listing whenever `dirty = false`)
    holds after every list of API calls (`inv_reachable`); under it the same equality holds for
    every direct line, edited or not (`run_eq_fresh`).
-/
namespace Basic
namespace Thm.C04
open Basic.Runtime

theorem enterIndirect_cancels (s : Runtime) (line : Line) :
    (enterIndirect s line).cont = .stopped ∧
    (enterIndirect s line).stack = #[] ∧
    (enterIndirect s line).functions = [] := by
  rw [enterIndirect_eq]
  exact ⟨rfl, rfl, rfl⟩

theorem enterIndirect_insert (s : Runtime) (line : Line) (h : line.tokens.isEmpty = false) :
    (enterIndirect s line).listing = s.listing.insert line ∧ (enterIndirect s line).dirty = true := by
  rw [enterIndirect_eq, Listing.enterLine_insert _ h]
  exact ⟨rfl, Bool.or_true _⟩

theorem enterIndirect_delete (s : Runtime) (line : Line) (h : line.tokens.isEmpty = true)
    (hr : (s.listing.remove line.number).2 = true) :
    (enterIndirect s line).listing = (s.listing.remove line.number).1 ∧
    (enterIndirect s line).dirty = true := by
  rw [enterIndirect_eq, Listing.enterLine_remove _ h, hr]
  simp

theorem enterIndirect_absent (s : Runtime) (line : Line) (h : line.tokens.isEmpty = true)
    (hr : (s.listing.remove line.number).2 = false) :
    (enterIndirect s line).listing = s.listing ∧ (enterIndirect s line).dirty = s.dirty := by
  rw [enterIndirect_eq, Listing.enterLine_remove _ h, hr]
  simp

/-- … and an absent line really is absent: `remove` reports `false` only when it changed nothing -/
theorem remove_absent (l : Listing) (n : Option Nat) (h : (l.remove n).2 = false) :
    (l.remove n).1 = l := by
  unfold Listing.remove at h ⊢
  cases n with
  | none => rfl
  | some k =>
    dsimp only at h ⊢
    have : l.source.filter (fun p => p.1 != k) = l.source := by
      rw [List.filter_eq_self]
      intro p hp
      have := List.any_eq_false.1 h p hp
      simpa using this
    rw [this]

/-- whatever the edit: if the listing changed, the program is marked stale -/
theorem enterIndirect_dirty_of_changed (s : Runtime) (line : Line)
    (h : (enterIndirect s line).listing ≠ s.listing) : (enterIndirect s line).dirty = true := by
  cases ht : line.tokens.isEmpty with
  | false => exact (enterIndirect_insert s line ht).2
  | true =>
    cases hr : (s.listing.remove line.number).2 with
    | true => exact (enterIndirect_delete s line ht hr).2
    | false => exact absurd (enterIndirect_absent s line ht hr).1 h

theorem enterDirect_recompiles (s : Runtime) (line : Line) (hd : s.dirty = true) :
    (enterDirect s line).program =
      (((s.program.clear).codegenLines s.listing.lines).codegenLine line).linkProg ∧
    (enterDirect s line).dirty = false := by
  rw [enterDirect_eq]
  exact ⟨(directProgram_eq s line).trans (by rw [recompiled_dirty hd]), rfl⟩

/-- when nothing was edited only the direct line is compiled, onto the program in memory -/
theorem enterDirect_clean (s : Runtime) (line : Line) (hd : s.dirty = false) :
    (enterDirect s line).program = (s.program.codegenLine line).linkProg ∧
    (enterDirect s line).dirty = false := by
  rw [enterDirect_eq]
  exact ⟨(directProgram_eq s line).trans (by rw [recompiled_clean hd]), rfl⟩

/-- a direct line never changes the stored lines (it replaces the diagnostics) -/
theorem enterDirect_source (s : Runtime) (line : Line) :
    (enterDirect s line).listing.source = s.listing.source := by
  rw [enterDirect_eq]

/-- `Program.clear` does not reset the data cursor (and `Link.clear` not the WHILE list, which is
    empty after every `linkProg`): up to the cursor the recompiled program is the one a fresh
    interpreter compiles from the same lines (`Program.clear_codegenLines`).  Field by field:
    everything agrees except `link.dataPos`.  The hypothesis `p.link.whiles = []` is an invariant
    (`enterDirect_whiles`), not a restriction on the listing or the history. -/
theorem clear_codegen_eq_compile_partial (p : Program) (hw : p.link.whiles = []) (ls : List Line) :
    let a := (p.clear).codegenLines ls
    let b := ({} : Program).codegenLines ls
    a.errors = b.errors ∧ a.indirectErrors = b.indirectErrors ∧ a.directAddress = b.directAddress ∧
    a.lineNumber = b.lineNumber ∧ a.link.ops = b.link.ops ∧ a.link.data = b.link.data ∧
    a.link.symbols = b.link.symbols ∧ a.link.unlinked = b.link.unlinked ∧
    a.link.currentSymbol = b.link.currentSymbol ∧ a.link.directSet = b.link.directSet ∧
    a.link.whiles = b.link.whiles ∧ a.link.dataPos = p.link.dataPos ∧ b.link.dataPos = 0 := by
  intro a b
  have h : a = b.withDP p.link.dataPos := Program.clear_codegenLines p hw ls
  rw [h]
  exact ⟨rfl, rfl, rfl, rfl, rfl, rfl, rfl, rfl, rfl, rfl, rfl, rfl,
    Program.fresh_dataPos ls⟩

/-- the hypothesis holds for whatever `enterDirect` has left in memory -/
theorem enterDirect_whiles (s : Runtime) (line : Line) : (enterDirect s line).program.link.whiles = [] := by
  rw [enterDirect_eq]
  show (directProgram s line).link.whiles = []
  rw [directProgram_eq]
  exact Program.linkProg_whiles _

/-- the program a fresh interpreter holding `listing` compiles for the direct line `line` -/
def freshProgram (listing : Listing) (line : Line) : Program :=
  ((({} : Program).codegenLines listing.lines).codegenLine line).linkProg

/-- after an edit the direct line is compiled onto the listing compiled anew: up to the DATA cursor, the
    program of the fresh interpreter -/
theorem directProgram_dirty (s : Runtime) (line : Line) (hd : s.dirty = true) (hw : s.program.link.whiles = []) :
    directProgram s line = (freshProgram s.listing line).withDP s.program.link.dataPos := by
  rw [directProgram_eq, recompiled_dirty hd, Program.clear_codegenLines _ hw, Program.codegenLine_withDP,
    Program.linkProg_withDP]
  rfl

/-- a fresh interpreter (`Runtime::default()`) given the listing (`set_listing` marks it dirty) -/
def fresh (listing : Listing) : Runtime := { listing := listing, dirty := true }

/-- `freshLike s` is `fresh s.listing` with four fields of `s` carried over, which a direct line and CLEAR pass on -/
theorem clear_freshLike (env : Env) (s : Runtime) (line : Line) :
    doClear env (enterDirect (freshLike s) line) =
      { doClear env (enterDirect (fresh s.listing) line) with
        prompt := s.prompt, tron := s.tron, printCol := s.printCol, contPc := s.contPc } := by
  rw [enterDirect_eq (freshLike s) line, enterDirect_eq (fresh s.listing) line, directProgram_freshLike,
    show directProgram (fresh s.listing) line = Program.runProg s.listing.lines line from directProgram_eq _ _]
  generalize Program.runProg s.listing.lines line = p
  rfl

/-- RUN (or any direct line) after an edit, followed by the CLEAR that RUN starts with: the state
    is the one a fresh interpreter reaches, except for the fields an edit history may legitimately
    leave behind — the prompt text, TRON, the print column and the dead `contPc` -/
theorem run_after_edit_eq_fresh (env : Env) (s : Runtime) (line : Line) (hd : s.dirty = true)
    (hw : s.program.link.whiles = []) :
    doClear env (enterDirect s line) =
      { doClear env (enterDirect (fresh s.listing) line) with
        prompt := s.prompt, tron := s.tron, printCol := s.printCol, contPc := s.contPc } :=
  (clear_enterDirect_eq_freshLike env s line _ (directProgram_dirty s line hd hw)).trans (clear_freshLike env s line)

theorem editsListing_false_iff (op : Opcode) :
    editsListing op = false ↔ op ≠ .delete ∧ op ≠ .renum ∧ op ≠ .new := by
  cases op <;> simp [editsListing]

/-- one instruction: unless it is DELETE, RENUM or NEW the whole listing (lines and
    diagnostics) is unchanged — whether the instruction succeeds, throws or returns an event -/
theorem listing_frame (env : Env) (h : Bool) (s : Runtime)
    (hop : ∀ op, s.program.link.ops[s.pc]? = some op → op ≠ .delete ∧ op ≠ .renum ∧ op ≠ .new) :
    ((step env h).run.run s).2.listing = s.listing :=
  step_keepListing env h s fun op hq => (editsListing_false_iff op).2 (hop op hq)

/-- contrapositive: a step that changed the listing executed DELETE, RENUM or NEW -/
theorem listing_changed_only_by_edit (env : Env) (h : Bool) (s : Runtime)
    (hc : ((step env h).run.run s).2.listing ≠ s.listing) :
    s.program.link.ops[s.pc]? = some .delete ∨ s.program.link.ops[s.pc]? = some .renum ∨
    s.program.link.ops[s.pc]? = some .new :=
  Classical.byContradiction fun hn =>
    hc (listing_frame env h s fun _ hq =>
      ⟨fun e => hn (.inl (e ▸ hq)), fun e => hn (.inr (.inl (e ▸ hq))), fun e => hn (.inr (.inr (e ▸ hq)))⟩)

/-- the listing is as it was, or on the way a state that still had it stood at DELETE, RENUM or NEW -/
def UntilEdit (s t : Runtime) : Prop :=
  t.listing = s.listing ∨
  ∃ (u : Runtime) (op : Opcode), u.listing = s.listing ∧ u.program.link.ops[u.pc]? = some op ∧ editsListing op = true

instance : FrameRel UntilEdit where
  refl _ := .inl rfl
  trans h1 h2 := by
    rcases h1 with h1 | h1
    · rcases h2 with h2 | ⟨u, op, hu, h⟩
      · exact .inl (h2.trans h1)
      · exact .inr ⟨u, op, hu.trans h1, h⟩
    · exact .inr h1

theorem step_untilEdit (env : Env) (h : Bool) (s : Runtime) : UntilEdit s ((step env h).run.run s).2 := by
  by_cases hop : ∃ op, s.program.link.ops[s.pc]? = some op ∧ editsListing op = true
  · obtain ⟨op, hq, hb⟩ := hop
    exact .inr ⟨s, op, rfl, hq, hb⟩
  · exact .inl (step_keepListing env h s fun op hq => Bool.eq_false_iff.2 fun hb => hop ⟨op, hq, hb⟩)

/-- the API call: `execute` changes the listing only by executing DELETE, RENUM or NEW -/
theorem execute_listing_frame (env : Env) (s : Runtime) (n : Nat) :
    (execute env s n).1.listing = s.listing ∨
    ∃ (t : Runtime) (op : Opcode), t.listing = s.listing ∧ t.program.link.ops[t.pc]? = some op ∧ editsListing op = true :=
  -- outside the slice nothing of kind `listing` is touched
  execute_frame (R := UntilEdit) (K := (· ≠ .listing)) nofun nofun nofun
    (fun e => .inl (e.to KeepListing.of_prim).eq) (step_untilEdit env) s n

/-- the stored lines never change while the quantum is merely used up -/
theorem slice_exhausted_listing (env : Env) (n : Nat) (s : Runtime)
    (h : (slice env n s).1 = .ok none) : (slice env n s).2.1.listing = s.listing :=
  (slice_none_calm env n s h).listing

def line10 : Line := ⟨some 10, [.word .end]⟩
def bare10 : Line := ⟨some 10, []⟩
def bare20 : Line := ⟨some 20, []⟩

/-- stopped inside a subroutine, with a CONT point and a DEF FN -/
def mid : Runtime :=
  { state := .stopped, cont := .running, contPc := 3, stack := #[.ret 7], functions := [("FNA".toList, (1, 4))],
    listing := { source := [(10, line10)] }, dirty := false }

example : (enterIndirect mid line10).stack = #[] ∧ (enterIndirect mid line10).cont = .stopped ∧
    (enterIndirect mid line10).functions = [] ∧ (enterIndirect mid line10).dirty = true := by decide
example : (enterIndirect mid bare10).listing.source = [] ∧ (enterIndirect mid bare10).dirty = true := by decide
/-- the absent line: listing and `dirty` as before, but the resumable state is gone all the same -/
example : (enterIndirect mid bare20).listing.source = [(10, line10)] ∧ (enterIndirect mid bare20).dirty = false ∧
    (enterIndirect mid bare20).stack = #[] := by decide
example : (mid.listing.remove (some 20)).2 = false ∧ (mid.listing.remove (some 10)).2 = true := by decide
/-- `Program.clear` keeps the cursor: the two compiles differ exactly there -/
example : (Program.clear { link := { dataPos := 5 } }).link.dataPos = 5 := rfl
example : editsListing .delete = true ∧ editsListing .print = false ∧ editsListing (.jump 3) = false := by decide

/-! The invariant over ALL histories (DESIGN.md Appendix E, clause 4).

  `Runtime.Inv` is defined and explained in `Lemmas/Inv.lean`.  It is stable under compiling a further
  direct line because the generator defines local labels only (`Program.base_directGen`, which rests on
  `Codegen.fragments_negSyms`): no line symbol, no code below `directAddress` and — `Link.append`
  refuses DATA in direct mode — no DATA item ever changes. -/

/-- every API call of the session protocol preserves the invariant -/
theorem inv_preserved (env : Env) (s : Runtime) (hi : Inv s) :
    (∀ line, Inv (enter env s line)) ∧ (∀ n, Inv (execute env s n).1) ∧ Inv (interrupt s) ∧
    (∀ l run, Inv (setListing env s l run)) :=
  ⟨fun line => (inv_session env).enter s line hi, fun n => (inv_session env).execute s n hi,
   (inv_session env).interrupt s hi, fun l run => (inv_session env).setListing s l run trivial hi⟩

/-- the invariant spelled out field by field: when nothing has been edited since the last compile,
    the program in memory, once linked (which compiling the next direct line starts with; for a
    program that is linked already this adds at most an `End` above `directAddress`), agrees with
    `Program.compile` of the current listing on `indirectErrors`, on `directAddress`, on the DATA
    segment, on the symbol table (line symbols and the start-of-direct mark), and on the code below
    `directAddress`; LIST shows the diagnostics of that compile -/
theorem inv_spelled_out (s : Runtime) (hi : Inv s) (hd : s.dirty = false) :
    s.program.linkProg.indirectErrors = (Program.compile s.listing.lines).indirectErrors ∧
    s.program.linkProg.directAddress = (Program.compile s.listing.lines).directAddress ∧
    s.program.linkProg.link.data = (Program.compile s.listing.lines).link.data ∧
    s.program.linkProg.link.symbols = (Program.compile s.listing.lines).link.symbols ∧
    s.program.linkProg.link.ops.extract 0 s.program.linkProg.directAddress =
      (Program.compile s.listing.lines).link.ops.extract 0 (Program.compile s.listing.lines).directAddress ∧
    s.listing.indirectErrors = (Program.compile s.listing.lines).indirectErrors := by
  obtain ⟨⟨d, hb⟩, he⟩ := hi.compiled hd
  -- the equation between the two images, read component by component
  simp only [freshBase, Program.base, Program.withDP, Link.withDP, Program.mk.injEq, Link.mk.injEq] at hb
  unfold Program.compile at he ⊢
  obtain ⟨-, h1, h2, -, -, h5, h3, -, -, h4, -, -⟩ := hb
  exact ⟨h1, h2, h3, h4, h5, he⟩

/-- no instruction changes the compiled program except for the DATA cursor -/
theorem step_program_code_frame (env : Env) (h : Bool) (s : Runtime) :
    ∃ d, ((step env h).run.run s).2.program = s.program.withDP d :=
  (step_keep env h s).prog

/-- … nor does a whole `execute`; and it changes the listing only with `dirty` set -/
theorem execute_program_frame (env : Env) (s : Runtime) (n : Nat) :
    (∃ d, (execute env s n).1.program = s.program.withDP d) ∧
    (((execute env s n).1.listing = s.listing ∧ (execute env s n).1.dirty = s.dirty) ∨
      (execute env s n).1.dirty = true) :=
  ⟨(execute_keep env s n).prog, (execute_keep env s n).edit⟩

/-- **`Inv` holds after any finite list of API calls from `Runtime::default()`** — whatever the
    lexer, the RENUM rewriter and the entropy are, and whatever listings `set_listing` is given -/
theorem inv_reachable (env : Env) (calls : List C03.Call) :
    Inv (calls.foldl (C03.Call.apply env) ({} : Runtime)) :=
  (inv_session env).reachable calls _ (fun c _ => c.ok_true) inv_init

/-- under the invariant — edited or not — the direct line runs the program a fresh interpreter
    would compile from the current listing, up to the DATA cursor -/
theorem enterDirect_program_eq_fresh_inv (s : Runtime) (line : Line) (hn : line.number = none) (hi : Inv s) :
    ∃ d, (enterDirect s line).program = (freshProgram s.listing line).withDP d :=
  enterDirect_program_inv s line hn hi

/-- **`run_after_edit_eq_fresh` for ALL states**: for a state satisfying the invariant (no
    hypothesis on `dirty`) and a direct line (`RUN`, `RUN n`, or any other), the state right after
    RUN's CLEAR is the state a fresh interpreter holding the same listing reaches, except for the
    prompt text, TRON, the print column and the dead `contPc` -/
theorem run_eq_fresh (env : Env) (s : Runtime) (line : Line) (hn : line.number = none) (hi : Inv s) :
    doClear env (enterDirect s line) =
      { doClear env (enterDirect (fresh s.listing) line) with
        prompt := s.prompt, tron := s.tron, printCol := s.printCol, contPc := s.contPc } :=
  (run_state_eq_freshLike env s line hn hi).trans (clear_freshLike env s line)

/-- … in particular in every reachable state -/
theorem run_eq_fresh_reachable (env : Env) (calls : List C03.Call) (line : Line) (hn : line.number = none) :
    doClear env (enterDirect (calls.foldl (C03.Call.apply env) {}) line) =
      { doClear env (enterDirect (fresh (calls.foldl (C03.Call.apply env) {}).listing) line) with
        prompt := (calls.foldl (C03.Call.apply env) {}).prompt,
        tron := (calls.foldl (C03.Call.apply env) {}).tron,
        printCol := (calls.foldl (C03.Call.apply env) {}).printCol,
        contPc := (calls.foldl (C03.Call.apply env) {}).contPc } :=
  run_eq_fresh env _ line hn (inv_reachable env calls)

/-- the events and the final state of a sequence of further API calls -/
def session (env : Env) : List C03.Call → Runtime → List Event × Runtime
  | [], s => ([], s)
  | .execute n :: cs, s =>
    let r := session env cs (execute env s n).1
    ((execute env s n).2 :: r.1, r.2)
  | c :: cs, s => session env cs (C03.Call.apply env s c)

/-- hence, by determinism of the API: after RUN's CLEAR every further sequence of calls produces
    the same events and ends in the same state as in the fresh interpreter -/
theorem run_then_same_session (env : Env) (s : Runtime) (line : Line) (hn : line.number = none)
    (hi : Inv s) (cs : List C03.Call) :
    session env cs (doClear env (enterDirect s line)) =
      session env cs (doClear env (enterDirect (freshLike s) line)) := by
  rw [run_state_eq_freshLike env s line hn hi]

theorem enterDirect_keeps_resumables (s : Runtime) (line : Line) :
    (enterDirect s line).cont = s.cont ∧ (enterDirect s line).stack = s.stack ∧
    (enterDirect s line).functions = s.functions := by
  rw [enterDirect_eq]
  exact ⟨rfl, rfl, rfl⟩

/-- a numbered line, then a direct line: the state in which the direct code starts has nothing
    to resume … -/
theorem edit_then_direct_nothing_resumable (s : Runtime) (numbered line : Line) :
    (enterDirect (enterIndirect s numbered) line).cont = .stopped ∧
    (enterDirect (enterIndirect s numbered) line).stack = #[] ∧
    (enterDirect (enterIndirect s numbered) line).functions = [] := by
  obtain ⟨h1, h2, h3⟩ := enterDirect_keeps_resumables (enterIndirect s numbered) line
  obtain ⟨k1, k2, k3⟩ := enterIndirect_cancels s numbered
  exact ⟨h1.trans k1, h2.trans k2, h3.trans k3⟩

/-- … so (for any state `t` with `cont = stopped`, an empty stack and an empty DEF FN table, such
    as the one above at any `pc`): CONT is CAN'T CONTINUE, RETURN is RETURN WITHOUT GOSUB, NEXT is
    NEXT WITHOUT FOR, and a call `FNx(…)` — whatever arguments the direct line has pushed by then
    (stack `st`) — is UNDEFINED USER FUNCTION -/
theorem edit_then_resume_refused (t : Runtime) (hc : t.cont = .stopped) (hs : t.stack = #[])
    (hf : t.functions = []) (name : Str) :
    doCont.run.run t = (.error (Error.mk' Code.cantContinue), t) ∧
    doReturn.run.run t = (.error (Error.mk' Code.returnWithoutGosub), t) ∧
    (doNext name).run.run t = (.error (Error.mk' Code.nextWithoutFor), t) ∧
    (∀ (st : Array Val) (v : Runtime) (args : List Val),
      popVec.run.run { t with stack := st } = (.ok args, v) →
      (doFn name).run.run { t with stack := st } = (.error (Error.mk' Code.undefinedUserFunction), v)) :=
  ⟨doCont_refused t hc, doReturn_refused t hs, doNext_refused name t hs,
   fun _ v args hv => doFn_refused name _ v args hf hv⟩

/-- the four refusals for the state a direct line starts in after an edit -/
theorem edit_then_resume_refused_enter (s : Runtime) (numbered line : Line) (name : Str) :
    let t := enterDirect (enterIndirect s numbered) line
    doCont.run.run t = (.error (Error.mk' Code.cantContinue), t) ∧
    doReturn.run.run t = (.error (Error.mk' Code.returnWithoutGosub), t) ∧
    (doNext name).run.run t = (.error (Error.mk' Code.nextWithoutFor), t) ∧
    (∀ (st : Array Val) (v : Runtime) (args : List Val),
      popVec.run.run { t with stack := st } = (.ok args, v) →
      (doFn name).run.run { t with stack := st } = (.error (Error.mk' Code.undefinedUserFunction), v)) := by
  intro t
  obtain ⟨h1, h2, h3⟩ := edit_then_direct_nothing_resumable s numbered line
  exact edit_then_resume_refused t h1 h2 h3 name

/-- a lexer that knows two lines -/
def envR : Env :=
  { lex := fun s => if s = "10 END".toList then ⟨some 10, [.word .end]⟩
                    else if s = "RUN".toList then ⟨none, [.word .run]⟩ else ⟨none, []⟩,
    lineRenum := fun _ l => l }

/-- a concrete two-call history: type a line, RUN -/
def hist2 : List C03.Call := [.enter "10 END".toList, .enter "RUN".toList]

/-- after it the program is *not* marked stale, so `Inv`'s clause is not vacuous there … -/
example : (hist2.foldl (C03.Call.apply envR) {}).dirty = false ∧
    (hist2.foldl (C03.Call.apply envR) {}).listing.source = [(10, ⟨some 10, [.word .end]⟩)] ∧
    (hist2.foldl (C03.Call.apply envR) {}).state = .running := by decide
/-- … after the edit alone it is -/
example : ([C03.Call.enter "10 END".toList].foldl (C03.Call.apply envR) {}).dirty = true := by decide
example : Inv (hist2.foldl (C03.Call.apply envR) {}) := inv_reachable envR hist2
/-- a second RUN in that (not dirty) state: covered by `run_eq_fresh`, not by `run_after_edit_eq_fresh` -/
example : doClear envR (enterDirect (hist2.foldl (C03.Call.apply envR) {}) ⟨none, [.word .run]⟩) =
    doClear envR (enterDirect (freshLike (hist2.foldl (C03.Call.apply envR) {})) ⟨none, [.word .run]⟩) :=
  run_state_eq_freshLike envR _ _ rfl (inv_reachable envR hist2)
/-- the initial state satisfies the invariant with `dirty = false` and an empty program -/
example : Inv ({} : Runtime) ∧ ({} : Runtime).dirty = false := ⟨inv_init, rfl⟩
/-- `mid` (stopped inside a subroutine, with a CONT point and a DEF FN), edited, then a direct line -/
example : (enterDirect (enterIndirect mid line10) ⟨none, [.word .cont]⟩).cont = .stopped ∧
    mid.cont = .running := ⟨(edit_then_direct_nothing_resumable mid line10 _).1, rfl⟩
example : (doReturn.run.run { mid with stack := #[] }).1 = .error (Error.mk' Code.returnWithoutGosub) := by
  rw [doReturn_refused _ rfl]

end Thm.C04
end Basic

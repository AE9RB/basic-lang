import BasicModel.Lemmas.C19
import BasicModel.Model.Runtime
import BasicModel.Lemmas.VmDispatch
import BasicModel.Lemmas.Codegen
import BasicModel.Lemmas.LinkMarks
import BasicModel.Lemmas.Slice
/-
  C19 — Diagnostics point into the listed line.

  The column range the parser attaches to a token is the token's character offset and width in the
  text `printTokens` produces for the line (whitespace counted, nothing after a remark word
  delivered); `Listing.errorColumn` shifts that range by the width of the `"<n> "` prefix that
  `printLine` puts in front, so the shifted range slices the same characters out of the listed
  line; an UNDEFINED LINE error carries exactly the range codegen stored with the pending
  reference (the digits of the operand); and a jump into a program that has compile errors stops
  with those errors instead of running a line.
-/
namespace Basic
namespace Thm.C19
open Parse Lemmas.C19 Lemmas.ParseRun

/-- On a remark-free token list, a delivered token sits after a run of blanks; its column range is
    `[ce + width of the blanks, … + width of the token)`. -/
theorem nextLoop_col_is_offset (ts : List Token) (hrem : ∀ t ∈ ts, Parse.isRem t = false)
    (cs ce : Nat) (t : Token) (rest : List Token) (rem : Bool) (cs' ce' : Nat)
    (h : Parse.nextLoop ts false cs ce = (some t, rest, rem, cs', ce')) :
    ∃ ws, ts = ws ++ t :: rest ∧ (∀ w ∈ ws, ∃ n, w = Token.whitespace n) ∧ rem = false ∧
      cs' = ce + (printTokens ws).length ∧ ce' = cs' + t.text.length := by
  rcases nextLoop_spec ts hrem cs ce with ⟨t', ws, rest', hts, hws, _, heq⟩ | ⟨_, heq⟩
  · rw [heq] at h
    simp only [Prod.mk.injEq, Option.some.injEq] at h
    obtain ⟨rfl, rfl, rfl, rfl, rfl⟩ := h
    exact ⟨ws, hts, hws, rfl, rfl, rfl⟩
  · rw [heq] at h
    simp at h

theorem nextLoop_token_not_whitespace (ts : List Token) (hrem : ∀ t ∈ ts, Parse.isRem t = false)
    (cs ce : Nat) (t : Token) (rest : List Token) (rem : Bool) (cs' ce' : Nat)
    (h : Parse.nextLoop ts false cs ce = (some t, rest, rem, cs', ce')) :
    ∀ n, t ≠ .whitespace n := by
  rcases nextLoop_spec ts hrem cs ce with ⟨t', ws, rest', _, _, hnw, heq⟩ | ⟨_, heq⟩
  · rw [heq] at h
    simp only [Prod.mk.injEq, Option.some.injEq] at h
    obtain ⟨rfl, -⟩ := h
    exact hnw
  · rw [heq] at h
    simp at h

/-- End of line: nothing but blanks was left, and both columns stand at the end of the text. -/
theorem nextLoop_none_is_end (ts : List Token) (hrem : ∀ t ∈ ts, Parse.isRem t = false)
    (cs ce : Nat) (rest : List Token) (rem : Bool) (cs' ce' : Nat)
    (h : Parse.nextLoop ts false cs ce = (none, rest, rem, cs', ce')) :
    (∀ w ∈ ts, ∃ n, w = Token.whitespace n) ∧ rest = [] ∧ rem = false ∧
      cs' = ce + (printTokens ts).length ∧ ce' = ce + (printTokens ts).length := by
  rcases nextLoop_spec ts hrem cs ce with ⟨t', ws, rest', _, _, _, heq⟩ | ⟨hws, heq⟩
  · rw [heq] at h
    simp at h
  · rw [heq] at h
    simp only [Prod.mk.injEq] at h
    obtain ⟨-, rfl, rfl, rfl, rfl⟩ := h
    exact ⟨hws, rfl, rfl, rfl, rfl⟩

/-- the text of a token sits, in the text of the line, at the offset of what precedes it -/
theorem token_slice (pre : List Token) (t : Token) (rest : List Token) (cs ce : Nat)
    (hcs : cs = (printTokens pre).length) (hce : ce - cs = t.text.length) :
    ((printTokens (pre ++ t :: rest)).drop cs).take (ce - cs) = t.text := by
  rw [printTokens_append, printTokens_cons, ← List.append_assoc]
  exact slice_mid _ _ _ _ _ hcs hce

/-- With `ce` at the offset of `ts` inside a longer text, the range slices the token out of it. -/
theorem nextLoop_col_slices (pre ts : List Token) (hrem : ∀ t ∈ ts, Parse.isRem t = false)
    (cs : Nat) (t : Token) (rest : List Token) (rem : Bool) (cs' ce' : Nat)
    (h : Parse.nextLoop ts false cs (printTokens pre).length = (some t, rest, rem, cs', ce')) :
    ((printTokens (pre ++ ts)).drop cs').take (ce' - cs') = t.text := by
  obtain ⟨ws, hts, _, _, hcs, hce⟩ := nextLoop_col_is_offset ts hrem cs _ t rest rem cs' ce' h
  rw [hts, ← List.append_assoc]
  exact token_slice (pre ++ ws) t rest cs' ce' (by rw [hcs, printTokens_length_append]) (by omega)

/-- `st` is a state reached while reading the line `all`: the tokens already taken (`consumed`)
    followed by the remaining ones make up the line, the end column is the width of the text of
    the consumed part, no remark was seen, and a token held in the look-ahead is the last consumed
    one with the start column at its offset. -/
def Inv (all : List Token) (st : PState) : Prop :=
  ∃ consumed, all = consumed ++ st.toks ∧ st.ce = (printTokens consumed).length ∧ st.rem = false ∧
    ∀ t, st.peeked = some t → ∃ pre, consumed = pre ++ [t] ∧ st.cs = (printTokens pre).length

/-- `[st.cs, st.ce)` is the place of `t` in the text of `all`, and `st.toks` is what follows -/
def At (all : List Token) (st : PState) (t : Token) : Prop :=
  ∃ pre, all = pre ++ t :: st.toks ∧ st.cs = (printTokens pre).length ∧
    st.ce = st.cs + t.text.length

/-- the parser starts in a state satisfying the invariant -/
theorem inv_init (ts : List Token) : Inv ts { toks := ts } :=
  ⟨[], rfl, rfl, rfl, by intro t h; cases h⟩

theorem at_slices {all : List Token} {st : PState} {t : Token} (h : At all st t) :
    ((printTokens all).drop st.cs).take (st.ce - st.cs) = t.text := by
  obtain ⟨pre, hall, hcs, hce⟩ := h
  rw [hall]
  exact token_slice pre t st.toks st.cs st.ce hcs (by omega)

theorem loop_step (all : List Token) (hrem : ∀ t ∈ all, Parse.isRem t = false) (st : PState)
    (hinv : Inv all st) :
    (∃ t ws rest consumed, all = consumed ++ st.toks ∧ st.toks = ws ++ t :: rest ∧
        st.ce = (printTokens consumed).length ∧
        nextLoop st.toks st.rem st.cs st.ce
          = (some t, rest, false, (printTokens (consumed ++ ws)).length,
             (printTokens (consumed ++ ws)).length + t.text.length)) ∨
    (nextLoop st.toks st.rem st.cs st.ce
        = (none, [], false, (printTokens all).length, (printTokens all).length)) := by
  obtain ⟨consumed, hall, hce, hr, _⟩ := hinv
  have hrem' : NoRem st.toks := by
    have : NoRem (consumed ++ st.toks) := hall ▸ hrem
    exact this.of_append_right
  rw [hr]
  rcases nextLoop_spec st.toks hrem' st.cs st.ce with ⟨t, ws, rest, hts, _, _, heq⟩ | ⟨_, heq⟩
  · left
    refine ⟨t, ws, rest, consumed, hall, hts, hce, ?_⟩
    rw [heq, printTokens_length_append, hce]
  · right
    rw [heq, hall, printTokens_length_append, hce]

theorem at_of_peeked {all : List Token} {st : PState} {t : Token} (hinv : Inv all st)
    (hp : st.peeked = some t) : At all st t := by
  obtain ⟨consumed, hall, hce, _, hpk⟩ := hinv
  obtain ⟨pre, hcons, hcs⟩ := hpk t hp
  refine ⟨pre, ?_, hcs, ?_⟩
  · rw [hall, hcons]; simp
  · rw [hce, hcs, hcons, printTokens_snoc, List.length_append]

/-- the token source keeps the invariant.  Behind the next token (`adv`) the look-ahead is empty
    and the token is at the column range the state holds; `none` means the whole line has been read. -/
theorem inv_adv (all : List Token) (hrem : ∀ t ∈ all, Parse.isRem t = false) (st : PState)
    (hinv : Inv all st) :
    Inv all (adv st) ∧ (adv st).peeked = none ∧ (∀ t, tok st = some t → At all (adv st) t) ∧
      (tok st = none → (adv st).toks = [] ∧ (adv st).ce = (printTokens all).length) := by
  cases hp : st.peeked with
  | some t =>
    have hat := at_of_peeked hinv hp
    obtain ⟨consumed, hall, hce, hr, _⟩ := hinv
    rw [tok_peeked hp, adv_peeked hp]
    exact ⟨⟨consumed, hall, hce, hr, nofun⟩, rfl, fun t' ht' => by cases ht'; exact hat, nofun⟩
  | none =>
    simp only [tok, adv, hp]
    rcases loop_step all hrem st hinv with ⟨t, ws, rest, consumed, hall, hts, hce, heq⟩ | heq
    · rw [heq]
      refine ⟨⟨consumed ++ ws ++ [t], ?_, ?_, rfl, nofun⟩, trivial, ?_, nofun⟩
      · show all = consumed ++ ws ++ [t] ++ rest
        rw [hall, hts]; simp
      · show (printTokens (consumed ++ ws)).length + t.text.length = _
        rw [printTokens_snoc, List.length_append]
      · intro t' ht'
        cases ht'
        refine ⟨consumed ++ ws, ?_, rfl, rfl⟩
        show all = consumed ++ ws ++ t :: rest
        rw [hall, hts]; simp
    · rw [heq]
      exact ⟨⟨all, by simp, rfl, rfl, nofun⟩, trivial, nofun, fun _ => ⟨rfl, rfl⟩⟩

/-- … and with the next token as look-ahead (`pk`) the token is at the column range as well -/
theorem inv_pk (all : List Token) (hrem : ∀ t ∈ all, Parse.isRem t = false) (st : PState)
    (hinv : Inv all st) :
    Inv all (pk st) ∧ ∀ t, tok st = some t → At all (pk st) t := by
  cases hp : st.peeked with
  | some t =>
    rw [pk_peeked hp, tok_peeked hp]
    exact ⟨hinv, fun t' ht' => by cases ht'; exact at_of_peeked hinv hp⟩
  | none =>
    -- `pk st` is `adv st` with the token kept in the look-ahead
    obtain ⟨hinv1, _, hat, _⟩ := inv_adv all hrem st hinv
    have hpk : pk st = { adv st with peeked := tok st } := by simp only [pk, hp]
    rw [hpk]
    refine ⟨?_, fun t ht => hat t ht⟩
    obtain ⟨consumed, hall, hce, hr, _⟩ := hinv1
    refine ⟨consumed, hall, hce, hr, fun t ht => ?_⟩
    obtain ⟨pre, hall', hcs, _⟩ := hat t ht
    exact ⟨pre, List.append_cancel_right ((hall.symm.trans hall').trans (List.append_cons pre t _)), hcs⟩

theorem next_preserves_inv (all : List Token) (hrem : ∀ t ∈ all, Parse.isRem t = false)
    (st st' : PState) (r : Option Token) (hinv : Inv all st)
    (h : Parse.next.run st = .ok (r, st')) : Inv all st' := by
  rw [next_run] at h
  cases h
  exact (inv_adv all hrem st hinv).1

theorem peek_preserves_inv (all : List Token) (hrem : ∀ t ∈ all, Parse.isRem t = false)
    (st st' : PState) (r : Option Token) (hinv : Inv all st)
    (h : Parse.peek.run st = .ok (r, st')) : Inv all st' := by
  rw [peek_run] at h
  cases h
  exact (inv_pk all hrem st hinv).1

/-- After `next` returns a token, the column range in the state slices exactly that token's text
    out of the listed text of the line. -/
theorem next_col_slices_token (all : List Token) (hrem : ∀ t ∈ all, Parse.isRem t = false)
    (st st' : PState) (t : Token) (hinv : Inv all st)
    (h : Parse.next.run st = .ok (some t, st')) :
    ((printTokens all).drop st'.cs).take (st'.ce - st'.cs) = t.text := by
  rw [next_run] at h
  obtain ⟨ht, rfl⟩ := Prod.mk.inj (Except.ok.inj h)
  exact at_slices ((inv_adv all hrem st hinv).2.2.1 t ht)

/-- The same for the token `peek` shows (this is the range `failHere` reports after a `peek`). -/
theorem peek_col_slices_token (all : List Token) (hrem : ∀ t ∈ all, Parse.isRem t = false)
    (st st' : PState) (t : Token) (hinv : Inv all st)
    (h : Parse.peek.run st = .ok (some t, st')) :
    ((printTokens all).drop st'.cs).take (st'.ce - st'.cs) = t.text := by
  rw [peek_run] at h
  obtain ⟨ht, rfl⟩ := Prod.mk.inj (Except.ok.inj h)
  exact at_slices ((inv_pk all hrem st hinv).2 t ht)

theorem col_run (st : PState) : Parse.col.run st = .ok ((st.cs, st.ce), st) := Lemmas.RangeForms.col_run st

/-- the pair `col` returns right after a successful `next` is the slice -/
theorem next_then_col_slices (all : List Token) (hrem : ∀ t ∈ all, Parse.isRem t = false)
    (st st' : PState) (t : Token) (c : Col) (hinv : Inv all st)
    (h : (do let r ← Parse.next; let c ← Parse.col; pure (r, c) : PM _).run st
          = .ok ((some t, c), st')) :
    ((printTokens all).drop c.1).take (c.2 - c.1) = t.text := by
  simp only [StateT.run_bind, next_run, col_run, Lemmas.RangeForms.ok_bind, StateT.run_pure] at h
  obtain ⟨⟨ht, rfl⟩, rfl⟩ := Prod.mk.inj (Except.ok.inj h) |>.imp Prod.mk.inj id
  exact at_slices ((inv_adv all hrem st hinv).2.2.1 t ht)

/-- With the remark flag set `nextLoop` delivers nothing and leaves `ce` where it was. -/
theorem remark_tail_ignored (ts : List Token) (cs ce : Nat) :
    Parse.nextLoop ts true cs ce = (none, [], true, ce, ce) :=
  nextLoop_rem ts cs ce


/-- The same after a run of blanks: the columns stop just before the remark word. -/
theorem remark_after_blanks_ignored (ws : List Token) (hws : ∀ w ∈ ws, ∃ n, w = Token.whitespace n)
    (t : Token) (ts : List Token) (cs ce : Nat) (h : Parse.isRem t = true) :
    Parse.nextLoop (ws ++ t :: ts) false cs ce
      = (none, [], true, ce + (printTokens ws).length, ce + (printTokens ws).length) := by
  rw [nextLoop_ws_append ws _ hws, nextLoop_rem_head t ts false _ _ h]

/-- Once the flag is set in the parser state, `next` reports end of line whatever is left. -/
theorem next_after_remark (st : PState) (hp : st.peeked = none) (hr : st.rem = true) :
    Parse.next.run st = .ok (none, { st with toks := [], cs := st.ce }) := by
  rw [next_run]
  simp only [tok, adv, hp, hr, remark_tail_ignored]

theorem printLine_some (n : Nat) (ts : List Token) :
    printLine (some n) ts = RStd.natDigits n ++ ' ' :: printTokens ts := rfl

theorem printLine_none (ts : List Token) : printLine none ts = printTokens ts := rfl

theorem errorColumn_some (e : Error) (n : Nat) (h : e.line = some n) :
    Listing.errorColumn e
      = (e.colStart + ((RStd.natDigits n).length + 1), e.colEnd + ((RStd.natDigits n).length + 1)) := by
  simp [Listing.errorColumn, h, natDigits_length]

theorem errorColumn_none (e : Error) (h : e.line = none) :
    Listing.errorColumn e = (e.colStart, e.colEnd) := by
  simp [Listing.errorColumn, h]

theorem errorColumn_width (e : Error) :
    (Listing.errorColumn e).2 - (Listing.errorColumn e).1 = e.colEnd - e.colStart := by
  cases h : e.line with
  | none => rw [errorColumn_none e h]
  | some n => rw [errorColumn_some e n h]; simp only; omega

/-- Dropping up to the shifted start column of the listed line is dropping up to the stored start
    column of the token text: the prefix `"<n> "` is exactly skipped. -/
theorem errorColumn_shift (e : Error) (n : Nat) (ts : List Token) (width : Nat) (h : e.line = some n) :
    ((printLine (some n) ts).drop (Listing.errorColumn e).1).take width
      = ((printTokens ts).drop e.colStart).take width := by
  rw [errorColumn_some e n h, printLine_some]
  have e1 : RStd.natDigits n ++ ' ' :: printTokens ts = (RStd.natDigits n ++ [' ']) ++ printTokens ts := by
    simp
  have hl : (RStd.natDigits n).length + 1 = (RStd.natDigits n ++ [' ']).length := by simp
  rw [e1]
  simp only [hl, drop_prefix_add]

/-- Both cases at once: the range `errorColumn` reports selects from the listed line what the
    stored range selects from the token text. -/
theorem errorColumn_slice (e : Error) (ts : List Token) :
    ((printLine e.line ts).drop (Listing.errorColumn e).1).take
        ((Listing.errorColumn e).2 - (Listing.errorColumn e).1)
      = ((printTokens ts).drop e.colStart).take (e.colEnd - e.colStart) := by
  rw [errorColumn_width]
  cases h : e.line with
  | none => rw [errorColumn_none e h, printLine_none]
  | some n => rw [← h, h, errorColumn_shift e n ts _ h]

/-- End to end for the parser: a diagnostic raised at the range left by `next` (what `failHere`
    does) on line `n` is shown, in the listed line `"<n> " ++ text`, exactly under the token. -/
theorem listed_range_slices_token (all : List Token) (hrem : ∀ t ∈ all, Parse.isRem t = false)
    (st st' : PState) (t : Token) (hinv : Inv all st)
    (h : Parse.next.run st = .ok (some t, st')) (e : Error)
    (hs : e.colStart = st'.cs) (he : e.colEnd = st'.ce) :
    ((printLine e.line all).drop (Listing.errorColumn e).1).take
        ((Listing.errorColumn e).2 - (Listing.errorColumn e).1) = t.text := by
  rw [errorColumn_slice, hs, he]
  exact next_col_slices_token all hrem st st' t hinv h

/-- A line-number reference (`sym ≥ 0`) with no symbol: UNDEFINED LINE at the stored range, on the
    line that contains the referring op; the link is not changed. -/
theorem undefined_line_col (l : Link) (opAddr : Nat) (c : Col) (sym : Symbol)
    (hlook : l.symbols.lookup sym = none) (hsym : sym ≥ 0) :
    ∃ e, Link.linkOne l opAddr c sym = (l, some e) ∧ e.code = Code.undefinedLine ∧
      e.colStart = c.1 ∧ e.colEnd = c.2 ∧ e.line = l.lineNumberFor opAddr :=
  ⟨_, Link.linkOne_undefined hlook hsym, rfl, rfl, rfl, rfl⟩

/-- Whatever error `linkOne` reports, it is at the stored range on the line of the referring op. -/
theorem linkOne_error_col (l l' : Link) (opAddr : Nat) (c : Col) (sym : Symbol) (e : Error)
    (h : Link.linkOne l opAddr c sym = (l', some e)) :
    l' = l ∧ e.colStart = c.1 ∧ e.colEnd = c.2 ∧ e.line = l.lineNumberFor opAddr := by
  -- both reports of `linkOne`, UNDEFINED LINE and LINK FAILURE, are built at `c` on that line
  have hf : ∀ b, (Link.linkOneErr (l.lineNumberFor opAddr) c b).colStart = c.1 ∧
      (Link.linkOneErr (l.lineNumberFor opAddr) c b).colEnd = c.2 ∧
      (Link.linkOneErr (l.lineNumberFor opAddr) c b).line = l.lineNumberFor opAddr := fun b => by
    cases b <;> exact ⟨rfl, rfl, rfl⟩
  rw [Link.linkOne_eq] at h
  split at h
  · cases h; exact ⟨rfl, hf _⟩
  · split at h
    · cases h
    · cases h; exact ⟨rfl, hf _⟩

/-- WHILE/WEND diagnostics are built by the same `mkErr`: the range is the one given. -/
theorem mkErr_col (code : Nat) (line : Option Nat) (c : Col) :
    (Link.mkErr code line c).code = code ∧ (Link.mkErr code line c).line = line ∧
      (Link.mkErr code line c).colStart = c.1 ∧ (Link.mkErr code line c).colEnd = c.2 :=
  ⟨rfl, rfl, rfl, rfl⟩

/-- a reference recorded just before the instruction that carries it is pushed: under the address of that
    instruction the pending table holds `(c, sym)` — whether or not the push overflows -/
theorem ref_then_push (c : Col) (sym : Symbol) (op : Opcode) (g : Codegen.GState) :
    ((Codegen.lpush op).run.run { g with cur := g.cur.addUnlinked c sym }).2.cur.unlinked.lookup g.cur.ops.size
        = some (c, sym) ∧
    ((Codegen.lpush op).run.run { g with cur := g.cur.addUnlinked c sym }).2.cur.ops[g.cur.ops.size]? = some op := by
  rw [Codegen.grun_lpush_eq]
  exact ⟨(Link.unlInsert_lookup _ _ _ _).trans (if_pos rfl), by simp [Link.push, Link.addUnlinked]⟩

/-- GOTO n: under the address of the `jump` it emits, the pending table holds `(c, n)` — whether
    or not the push overflows. -/
theorem pushGoto_stores_col (c : Col) (n : Nat) (g : Codegen.GState) :
    ((Codegen.pushGoto c (some n)).run.run g).2.cur.unlinked.lookup g.cur.ops.size
        = some (c, (n : Int)) ∧
    ((Codegen.pushGoto c (some n)).run.run g).2.cur.ops[g.cur.ops.size]? = some (.jump 0) :=
  ref_then_push c n (.jump 0) g

/-- RESTORE n: likewise for the `restore` op. -/
theorem pushRestore_stores_col (c : Col) (n : Nat) (g : Codegen.GState) :
    ((Codegen.pushRestore c (some n)).run.run g).2.cur.unlinked.lookup g.cur.ops.size
        = some (c, (n : Int)) ∧
    ((Codegen.pushRestore c (some n)).run.run g).2.cur.ops[g.cur.ops.size]? = some (.restore 0) :=
  ref_then_push c n (.restore 0) g

/-- RUN n: the reference is stored under the address of the `jump` after the `clear`.  (When the
    `clear` itself overflows the code segment, compilation of the statement stops before the
    reference is recorded — as in the Rust code — hence the size hypothesis.) -/
theorem pushRun_stores_col (c : Col) (n : Nat) (g : Codegen.GState)
    (h : g.cur.ops.size + 1 ≤ Gen.stackMaxLen) :
    ((Codegen.pushRun c (some n)).run.run g).2.cur.unlinked.lookup (g.cur.ops.size + 1)
        = some (c, (n : Int)) ∧
    ((Codegen.pushRun c (some n)).run.run g).2.cur.ops[g.cur.ops.size + 1]? = some (.jump 0) := by
  -- behind the `clear`, which fits, the statement goes on as GOTO n does
  have h2 : (Codegen.pushRun c (some n)).run.run g = _ := Codegen.grun_bind_ok (Codegen.grun_lpush_ok .clear g h)
  have hsz : g.cur.ops.size + 1 = (g.cur.push .clear).1.ops.size := by simp [Link.push]
  rw [h2, hsz]
  exact ref_then_push c n (.jump 0) { g with cur := (g.cur.push .clear).1 }

/-- Stored by codegen, reported by link: if line `n` does not exist, the UNDEFINED LINE error for
    the entry `pushGoto` stored has the range `c` handed to `pushGoto`. -/
theorem goto_undefined_reports_operand_col (c : Col) (n : Nat) (g : Codegen.GState) (l : Link)
    (hlook : l.symbols.lookup (n : Int) = none) :
    ∃ c' sym e, ((Codegen.pushGoto c (some n)).run.run g).2.cur.unlinked.lookup g.cur.ops.size
        = some (c', sym) ∧
      Link.linkOne l g.cur.ops.size c' sym = (l, some e) ∧ e.code = Code.undefinedLine ∧
      (e.colStart, e.colEnd) = c := by
  obtain ⟨e, h1, h2, h3, h4, _⟩ :=
    undefined_line_col l g.cur.ops.size c (n : Int) hlook (Int.natCast_nonneg n)
  exact ⟨c, n, e, (pushGoto_stores_col c n g).1, h1, h2, by rw [h3, h4]⟩

/-- WEND: the table of loop marks gets `(false, c, address of the jump, fresh symbol)`, whether or
    not the push overflows. -/
theorem pushWend_stores_col (c : Col) (g : Codegen.GState) :
    (false, c, g.cur.ops.size, g.cur.currentSymbol - 1)
      ∈ ((Codegen.pushWend c).run.run g).2.cur.whiles := by
  let g2 : Codegen.GState := { g with cur := { g.cur with
      currentSymbol := g.cur.currentSymbol - 1,
      whiles := g.cur.whiles ++ [(false, c, g.cur.ops.size, g.cur.currentSymbol - 1)] } }
  have h : (Codegen.pushWend c).run.run g
      = ((Codegen.lpush (.jump 0) >>= fun _ =>
            Codegen.lpushSymbol (g.cur.currentSymbol - 1)).run.run g2) := rfl
  rw [h, Codegen.grun_bind, Codegen.grun_lpush_eq]
  cases (g2.cur.push (.jump 0)).2 with
  | ok u => exact List.mem_append_right _ List.mem_cons_self
  | error e => exact List.mem_append_right _ List.mem_cons_self

/-- WHILE: once the condition has been appended, the mark `(true, c, address of the `ifNot`, fresh
    symbol)` is recorded, whether or not the push of the `ifNot` overflows. -/
theorem pushWhile_stores_col (c : Col) (expr : Link) (g g2 : Codegen.GState)
    (hok : (Codegen.lappend expr).run.run
      { g with cur := (g.cur.nextSymbol.1.pushSymbol g.cur.nextSymbol.2) } = (.ok (), g2)) :
    (true, c, g2.cur.ops.size, g.cur.currentSymbol - 1)
      ∈ ((Codegen.pushWhile c expr).run.run g).2.cur.whiles := by
  have h : (Codegen.pushWhile c expr).run.run g
      = ((Codegen.lappend expr >>= fun _ => (do
            modify fun s => { s with cur := { s.cur with
              whiles := s.cur.whiles ++ [(true, c, s.cur.ops.size, g.cur.currentSymbol - 1)] } }
            Codegen.lpush (.ifNot 0) : Codegen.GM Unit)).run.run
          { g with cur := (g.cur.nextSymbol.1.pushSymbol g.cur.nextSymbol.2) }) := rfl
  rw [h, Codegen.grun_bind, hok]
  show (true, c, g2.cur.ops.size, g.cur.currentSymbol - 1) ∈
    ((Codegen.lpush (.ifNot 0)).run.run { g2 with cur := { g2.cur with
      whiles := g2.cur.whiles ++ [(true, c, g2.cur.ops.size, g.cur.currentSymbol - 1)] } }).2.cur.whiles
  rw [Codegen.grun_lpush_eq]
  exact List.mem_append_right _ List.mem_cons_self

/-- a WHILE/WEND diagnostic `e` points at the keyword of an entry of the table `W` -/
def WhileErr (l : Link) (W : List (Bool × Col × Nat × Symbol)) (e : Error) : Prop :=
  ∃ k c a s, (k, c, a, s) ∈ W ∧ e.colStart = c.1 ∧ e.colEnd = c.2 ∧ e.line = l.lineNumberFor a ∧
    ((k = false ∧ e.code = Code.wendWithoutWhile) ∨ (k = true ∧ e.code = Code.whileWithoutWend))

/-- Every diagnostic of `linkWhiles` is WEND WITHOUT WHILE at the range of a WEND mark or WHILE
    WITHOUT WEND at the range of a WHILE mark, on the line containing that op. -/
theorem linkWhiles_error_col (l : Link) (e : Error) (h : e ∈ l.linkWhiles.2) :
    WhileErr l l.whiles e := by
  -- the reports are made of the leftovers of bracket matching, which are marks of the table
  obtain ⟨hwend, hwhile⟩ := Link.bracketAux_leftovers l.whiles []
  rw [Link.linkWhiles_matches] at h
  rcases List.mem_append.1 h with h | h
  · obtain ⟨⟨c, a, s⟩, hx, rfl⟩ := List.mem_map.1 h
    exact ⟨false, c, a, s, hwend _ hx, rfl, rfl, rfl, .inl ⟨rfl, rfl⟩⟩
  · obtain ⟨⟨c, a, s⟩, hx, rfl⟩ := List.mem_map.1 h
    exact ⟨true, c, a, s, (hwhile _ hx).resolve_left nofun, rfl, rfl, rfl, .inr ⟨rfl, rfl⟩⟩

/-- `step` on a `jump` when the trace has nothing new to print: the program counter moves, and with
    compile errors a target below the entry address (the stored program) stops the machine -/
theorem step_jump (env : Env) (b : Bool) (s : Runtime) (a : Nat)
    (htr : s.tron = true → s.program.link.lineNumberFor s.pc = s.tr)
    (hop : s.program.link.ops[s.pc]? = some (.jump a)) :
    (Runtime.step env b).run.run s =
      if b = true ∧ a < s.entryAddress then
        (.ok (.event (.errors s.listing.indirectErrors)),
         { s with pc := a, state := .stopped, cont := .stopped })
      else (.ok .continue, { s with pc := a }) := by
  rw [Runtime.step_run, if_neg (fun h => h.2 (htr h.1)), Runtime.run_fetchExec, hop]
  dsimp only
  rw [Runtime.execOp_jump_run]
  cases b <;> simp

/-- A `jump` to an address below the entry address (into the stored program, as RUN / GOTO from a
    direct statement do) while the listing has compile errors: the machine stops and reports those
    errors; no op of the program is executed. -/
theorem jump_gate (env : Env) (s : Runtime) (a : Nat) (htron : s.tron = false)
    (hop : s.program.link.ops[s.pc]? = some (.jump a)) (hlt : a < s.entryAddress) :
    (Runtime.step env true).run.run s
      = (.ok (.event (.errors s.listing.indirectErrors)),
         { s with pc := a, state := .stopped, cont := .stopped }) := by
  rw [step_jump env true s a (fun h => nomatch htron.symm.trans h) hop, if_pos ⟨rfl, hlt⟩]

/-- Without compile errors the same `jump` just moves the program counter. -/
theorem jump_no_gate (env : Env) (s : Runtime) (a : Nat) (htron : s.tron = false)
    (hop : s.program.link.ops[s.pc]? = some (.jump a)) :
    (Runtime.step env false).run.run s = (.ok .continue, { s with pc := a }) := by
  rw [step_jump env false s a (fun h => nomatch htron.symm.trans h) hop, if_neg (fun h => nomatch h.1)]

/-- A jump that stays at or above the entry address (inside the direct statement) is not gated. -/
theorem jump_no_gate_above_entry (env : Env) (b : Bool) (s : Runtime) (a : Nat)
    (htron : s.tron = false) (hop : s.program.link.ops[s.pc]? = some (.jump a))
    (hge : s.entryAddress ≤ a) :
    (Runtime.step env b).run.run s = (.ok .continue, { s with pc := a }) := by
  rw [step_jump env b s a (fun h => nomatch htron.symm.trans h) hop, if_neg (fun h => Nat.not_lt.2 hge h.2)]

/-- The gate also holds with tracing on, when the trace has nothing new to print. -/
theorem jump_gate_traced (env : Env) (s : Runtime) (a : Nat)
    (htr : s.program.link.lineNumberFor s.pc = s.tr)
    (hop : s.program.link.ops[s.pc]? = some (.jump a)) (hlt : a < s.entryAddress) :
    (Runtime.step env true).run.run s
      = (.ok (.event (.errors s.listing.indirectErrors)),
         { s with pc := a, state := .stopped, cont := .stopped }) := by
  rw [step_jump env true s a (fun _ => htr) hop, if_pos ⟨rfl, hlt⟩]

/-- at the level of `execute_loop`: when the listing has compile errors and the first instruction of
    the slice jumps into the program, the slice ends at once with those diagnostics — no later
    instruction of the slice is executed, whatever the quantum `n + 1` -/
theorem executeLoop_jump_gate (env : Env) (s : Runtime) (a n : Nat) (htron : s.tron = false)
    (hop : s.program.link.ops[s.pc]? = some (.jump a)) (hlt : a < s.entryAddress)
    (herr : s.listing.indirectErrors ≠ []) :
    (Runtime.executeLoop env (n + 1)).run.run s
      = (.ok (.errors s.listing.indirectErrors),
         { s with pc := a, state := .stopped, cont := .stopped }) := by
  have hb : (!s.listing.indirectErrors.isEmpty) = true := by
    cases h : s.listing.indirectErrors with
    | nil => exact absurd h herr
    | cons _ _ => rfl
  rw [Runtime.executeLoop_run]
  unfold Runtime.slice Runtime.hasIndirectErrors
  rw [hb, Runtime.sliceRun_succ, jump_gate env s a htron hop hlt]
  rfl

/-- `··GOTO·10` : GOTO is at columns 2..6 -/
example : Parse.nextLoop
      [.whitespace 2, .word .goto, .whitespace 1, .literal (.integer ['1', '0'])] false 0 0
    = (some (.word .goto), [.whitespace 1, .literal (.integer ['1', '0'])], false, 2, 6) := by
  decide

/-- … and the operand at columns 7..9 -/
example : Parse.nextLoop [.whitespace 1, .literal (.integer ['1', '0'])] false 2 6
    = (some (.literal (.integer ['1', '0'])), [], false, 7, 9) := by decide

example : ((printTokens [.whitespace 2, .word .goto, .whitespace 1,
      .literal (.integer ['1', '0'])]).drop 7).take (9 - 7) = ['1', '0'] := by decide

/-- a remark word after blanks: nothing delivered, columns stop in front of it -/
example : Parse.nextLoop [.whitespace 2, .word .rem2, .word .goto] false 0 0
    = (none, [], true, 2, 2) := by decide

example : Parse.nextLoop [.word .goto, .ident (.plain ['A'])] true 3 5 = (none, [], true, 5, 5) := by
  decide

/-- line 100: the shift is 4 -/
example : Listing.errorColumn
      { code := Code.undefinedLine, line := some 100, colStart := 7, colEnd := 9 } = (11, 13) := by
  decide

example : ((printLine (some 100) [.whitespace 2, .word .goto, .whitespace 1,
      .literal (.integer ['1', '0'])]).drop 11).take 2 = ['1', '0'] := by decide

example : Listing.errorColumn { code := Code.syntaxError, colStart := 7, colEnd := 9 } = (7, 9) := by
  decide

/-- the hypotheses of `Inv`-based theorems are satisfiable: the initial state, then one `next` -/
example : ∃ st', Parse.next.run { toks := [.whitespace 2, .word .goto] } = .ok (some (.word .goto), st')
    ∧ st'.cs = 2 ∧ st'.ce = 6 := ⟨_, rfl, rfl, rfl⟩

/-- UNDEFINED LINE on an empty symbol table -/
example : (Link.linkOne {} 0 (7, 9) 10).2.map (fun e => (e.code, e.colStart, e.colEnd))
    = some (Code.undefinedLine, 7, 9) := by decide

/-- the hypotheses of `jump_gate` are satisfiable -/
example : ∃ (s : Runtime) (a : Nat), s.tron = false ∧
    s.program.link.ops[s.pc]? = some (.jump a) ∧ a < s.entryAddress :=
  ⟨{ program := { link := { ops := #[.jump 0] } }, pc := 0, entryAddress := 1 }, 0, rfl, rfl,
    by decide⟩

end Thm.C19
end Basic

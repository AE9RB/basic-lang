import BasicModel.Lemmas.RangeForms
import BasicModel.Lemmas.ParseLines
/-
  C15 (continuation) — a bare DELETE is refused wherever the statement parser meets it.

  What the model (= `Statement::r#delete` of `parse.rs`, fix D17) does: after the word DELETE the
  statement parser looks at the next token (whitespace skipped, everything from a remark on
  dropped); if that look-ahead ends a statement — `isEnd`: end of the line, `:` or ELSE — it throws
  ILLEGAL FUNCTION CALL at the columns of the word, before the operand parser runs.  Nothing in
  that depends on how the parser got there: the theorems take the statement parser from any state
  in which DELETE is the next token, the statement-list parser whatever it has collected, and
  `IF <expr> THEN DELETE` for every condition the expression parser accepts.  Not covered: DELETE
  behind ELSE, and an arbitrary token prefix.
-/
namespace Basic
namespace Thm.C15
open Parse Lemmas.RangeForms Lemmas.C19 Lemmas.ParseRun

/-- token tails whose first token after any blanks ends a statement: nothing, `:`, ELSE, a remark -/
inductive EndTail : List Token → Prop
  | eol (ws : List Token) (hw : AllWs ws) : EndTail ws
  | colon (ws rest : List Token) (hw : AllWs ws) : EndTail (ws ++ .colon :: rest)
  | else_ (ws rest : List Token) (hw : AllWs ws) : EndTail (ws ++ .word .else :: rest)
  | rem (ws : List Token) (t : Token) (rest : List Token) (hw : AllWs ws) (ht : isRem t = true) :
      EndTail (ws ++ t :: rest)

/-- `StmtEnd` is, by definition, "the statement parser's `isEnd` peek holds", at every column -/
theorem stmtEnd_iff_isEnd (tl : List Token) :
    StmtEnd tl ↔ ∀ cs ce, isEnd (peekTok tl false cs ce) = true := Iff.rfl

/-- … and `peekTok` is what `peek` delivers from a state without look-ahead -/
theorem peek_delivers_peekTok (tl : List Token) (cs ce : Nat) :
    (peek.run (st0 tl cs ce)).toOption.map (·.1) = some (peekTok tl false cs ce) := by
  rw [peek_run]; rfl

theorem endTail_stmtEnd : ∀ {tl : List Token}, EndTail tl → StmtEnd tl
  | _, .eol ws hw => (lineEnd_ws ws hw).stmtEnd
  | _, .colon ws rest hw => stmtEnd_ws ws _ hw (stmtEnd_colon rest)
  | _, .else_ ws rest hw => stmtEnd_ws ws _ hw (stmtEnd_else rest)
  | _, .rem ws t rest hw ht => stmtEnd_ws ws _ hw (stmtEnd_rem t rest ht)

theorem bareDeleteErr_code (c1 c2 : Nat) : (bareDeleteErr c1 c2).code = Code.illegalFunctionCall := rfl
theorem bareDeleteErr_cols (c1 c2 : Nat) :
    (bareDeleteErr c1 c2).colStart = c1 ∧ (bareDeleteErr c1 c2).colEnd = c2 := ⟨rfl, rfl⟩

/-- **`DELETE` immediately followed by an end-of-statement token is ILLEGAL FUNCTION CALL** — from
    any parser state `st` (any column, any look-ahead, whatever was parsed before) in which DELETE
    is the next token and the tail `tl` behind it ends the statement -/
theorem parse_delete_bare (fuel : Nat) (st : PState) (tl : List Token) (c1 c2 : Nat)
    (hp : peek.run st = .ok (some (.word .delete), stPeeked (.word .delete) tl c1 c2))
    (htl : StmtEnd tl) :
    (statement (fuel + 1)).run st = .error (bareDeleteErr c1 c2) ∧
    (bareDeleteErr c1 c2).code = Code.illegalFunctionCall := by
  obtain ⟨ht, hs⟩ := of_peek_run hp
  rw [statement_delete_run fuel st ht, ← adv_pk, hs, adv_stPeeked, tok_st0, htl]
  exact ⟨rfl, rfl⟩

/-- the two shapes of such a state: DELETE still among the tokens (after blanks), or already
    peeked; the tail ranges over every `EndTail` -/
theorem parse_delete_bare_tokens (fuel : Nat) (ws tl : List Token) (hw : AllWs ws) (htl : EndTail tl)
    (cs ce : Nat) :
    (statement (fuel + 1)).run (st0 (ws ++ .word .delete :: tl) cs ce)
      = .error (bareDeleteErr (ce + width ws) (ce + width ws + 6)) ∧
    (statement (fuel + 1)).run (stPeeked (.word .delete) tl cs ce) = .error (bareDeleteErr cs ce) :=
  ⟨statement_delete_bare fuel ws tl hw (endTail_stmtEnd htl) cs ce,
   (parse_delete_bare fuel _ tl cs ce (peek_run _) (endTail_stmtEnd htl)).1⟩

theorem colon_solid : Solid .colon := ⟨fun n => by simp, rfl⟩

/-- the statement-list parser at DELETE + an end-of-statement tail, whatever it has collected:
    the bare DELETE is refused, no statement list is produced -/
theorem statements_delete_bare (fuel : Nat) (acc : List Stmt) (st : PState)
    (ht : tok st = some (.word .delete)) (htl : isEnd (tok (adv st)) = true) :
    (statements (fuel + 2) false acc).run st = .error (bareDeleteErr (adv st).cs (adv st).ce) := by
  rw [statements_run, ht]
  simp only [Bool.false_eq_true, if_false]
  rw [statement_delete_run _ _ ((tok_pk st).trans ht), adv_pk, if_pos htl]
  rfl

/-- … with DELETE still among the tokens, behind blanks -/
theorem statements_delete_bare_tokens (fuel : Nat) (acc : List Stmt) (ws tl : List Token) (hw : AllWs ws)
    (htl : StmtEnd tl) (cs ce : Nat) :
    (statements (fuel + 2) false acc).run (st0 (ws ++ .word .delete :: tl) cs ce) =
      .error (bareDeleteErr (ce + width ws) (ce + width ws + 6)) := by
  have hd := word_solid_delete
  rw [statements_delete_bare _ _ _ (tok_solid hw hd ..) (by rw [adv_solid hw hd, tok_st0, htl]), adv_solid hw hd]
  rfl

/-- **after any preceding statements**: the parser has collected `acc` (any list), stands anywhere
    in the line (`cs`, `ce`), expects a colon or not (`ec`), and the rest of the line is
    `: DELETE` + an end-of-statement tail — ILLEGAL FUNCTION CALL at DELETE's columns -/
theorem statements_colon_delete_bare (fuel : Nat) (ec : Bool) (acc : List Stmt) (ws ws1 tl : List Token)
    (hw : AllWs ws) (hw1 : AllWs ws1) (htl : StmtEnd tl) (cs ce : Nat) :
    (statements (fuel + 3) ec acc).run (st0 (ws ++ .colon :: (ws1 ++ .word .delete :: tl)) cs ce) =
      .error (bareDeleteErr (ce + width ws + 1 + width ws1) (ce + width ws + 1 + width ws1 + 6)) := by
  rw [statements_run, tok_solid hw colon_solid, adv_solid hw colon_solid]
  exact statements_delete_bare_tokens fuel acc ws1 tl hw1 htl _ _

/-- the same when the `:` is already the parser's look-ahead (expression and list parsers stop with
    the terminator peeked) -/
theorem statements_peeked_colon_delete_bare (fuel : Nat) (ec : Bool) (acc : List Stmt) (ws1 tl : List Token)
    (hw1 : AllWs ws1) (htl : StmtEnd tl) (c1 c2 : Nat) :
    (statements (fuel + 3) ec acc).run (stPeeked .colon (ws1 ++ .word .delete :: tl) c1 c2) =
      .error (bareDeleteErr (c2 + width ws1) (c2 + width ws1 + 6)) := by
  rw [statements_run, tok_stPeeked, adv_stPeeked]
  exact statements_delete_bare_tokens fuel acc ws1 tl hw1 htl _ _

theorem then_solid : Solid (.word .then) := ⟨fun n => by simp, rfl⟩
theorem if_solid : Solid (.word .if) := ⟨fun n => by simp, rfl⟩

/-- **`IF <expr> THEN DELETE` + end-of-statement tail (ELSE …, `: …`, end of line)**: for every
    condition the expression parser accepts (result `p`, leaving THEN as the next token), the IF
    statement is refused with ILLEGAL FUNCTION CALL at DELETE's columns -/
theorem if_then_delete_bare (fuel : Nat) (st st2 : PState) (p : Expr) (ws1 tl : List Token) (c1 c2 : Nat)
    (hexpr : (expression (fuel + 2)).run st = .ok (p, st2))
    (hthen : peek.run st2 =
      .ok (some (.word .then), stPeeked (.word .then) (ws1 ++ .word .delete :: tl) c1 c2))
    (hw1 : AllWs ws1) (htl : StmtEnd tl) :
    (ifStmt (fuel + 2)).run st = .error (bareDeleteErr (c2 + width ws1) (c2 + width ws1 + 6)) := by
  have hd := word_solid_delete
  obtain ⟨ht, hs⟩ := of_peek_run hthen
  unfold ifStmt
  -- no GOTO, THEN is there, no line number behind it: the THEN branch is a statement list
  simp only [StateT.run_bind, col_run, ok_bind, hexpr, maybe_run, expect_run, ht, hs,
    tok_stPeeked, adv_stPeeked, maybeLineNumber_other ws1 _ tl hw1 hd rfl, reduceCtorEq, Option.some.injEq,
    Token.word.injEq, if_false, if_true]
  rw [statements_delete_bare _ _ _ (tok_stPeeked ..) (by rw [adv_stPeeked, tok_st0, htl]), adv_stPeeked]
  rfl

/-- the whole statement: IF is the next token of any state -/
theorem statement_if_then_delete_bare (fuel : Nat) (st0' st2 : PState) (rest : List Token) (i1 i2 : Nat)
    (p : Expr) (ws1 tl : List Token) (c1 c2 : Nat)
    (hif : peek.run st0' = .ok (some (.word .if), stPeeked (.word .if) rest i1 i2))
    (hexpr : (expression (fuel + 2)).run (st0 rest i1 i2) = .ok (p, st2))
    (hthen : peek.run st2 =
      .ok (some (.word .then), stPeeked (.word .then) (ws1 ++ .word .delete :: tl) c1 c2))
    (hw1 : AllWs ws1) (htl : StmtEnd tl) :
    (statement (fuel + 3)).run st0' = .error (bareDeleteErr (c2 + width ws1) (c2 + width ws1 + 6)) := by
  obtain ⟨ht, hs⟩ := of_peek_run hif
  rw [statement]
  simp only [StateT.run_bind, peek_run, ht, ok_bind, next_run, adv_pk]
  rw [← adv_pk, hs, adv_stPeeked]
  exact if_then_delete_bare fuel _ st2 p ws1 tl c1 c2 hexpr hthen hw1 htl

/-- the four kinds of tail -/
example : EndTail [] ∧ EndTail [.whitespace 2, .colon, .word .end] ∧
    EndTail [.word .else, .word .end] ∧ EndTail [.whitespace 1, .word .rem2, .unknown "x".toList] :=
  ⟨.eol [] AllWs.nil, .colon [.whitespace 2] _ AllWs.nil.cons, .else_ [] _ AllWs.nil,
   .rem [.whitespace 1] _ _ AllWs.nil.cons rfl⟩

/-- the hypothesis of `parse_delete_bare` holds in a state in the middle of a line -/
example : peek.run (st0 [.whitespace 1, .word .delete, .colon] 4 7) =
    .ok (some (.word .delete), stPeeked (.word .delete) [.colon] 8 14) := by
  rw [peek_run]
  rfl

/-- the condition `A` of `IF A THEN DELETE ELSE`: the expression parser accepts it and stops with
    THEN peeked — the hypotheses `hexpr`, `hthen` of `if_then_delete_bare` -/
theorem exCond : ∃ p, (expression 4).run (st0 [.ident (.plain ['A']), .whitespace 1, .word .then,
      .whitespace 1, .word .delete, .word .else] 0 2) =
    .ok (p, stPeeked (.word .then) [.whitespace 1, .word .delete, .word .else] 4 8) :=
  ⟨_, rfl⟩

/-- `IF A THEN DELETE ELSE` (the tokens after IF, at column 2): refused at DELETE's columns 9–15 -/
example : (ifStmt 4).run (st0 [.ident (.plain ['A']), .whitespace 1, .word .then,
      .whitespace 1, .word .delete, .word .else] 0 2) = .error (bareDeleteErr 9 15) := by
  obtain ⟨p, hp⟩ := exCond
  exact if_then_delete_bare 2 _ _ p [.whitespace 1] [.word .else] 4 8 hp (peek_run _)
    AllWs.nil.cons (stmtEnd_else [])

/-- `CLS:DELETE` as a whole line: CLS is parsed and collected, then the bare DELETE is refused -/
example : ∃ e, parse (some 10) [.word .cls, .colon, .word .delete] = .error e ∧
    e.code = Code.illegalFunctionCall ∧ e.colStart = 4 ∧ e.colEnd = 10 := by
  refine ⟨(bareDeleteErr 4 10).inLine (some 10), ?_, rfl, rfl, rfl⟩
  simp [parse_eval, Token.text, bareDeleteErr, Error.inLine, Error.inCol, Error.mk', show Word.cls.text = "CLS".toList from rfl,
    show Word.delete.text = "DELETE".toList from rfl]

end Thm.C15
end Basic

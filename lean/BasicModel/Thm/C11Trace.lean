import BasicModel.Lemmas.KeyText
import BasicModel.Lemmas.Step
/-
  C11 — the TRON trace `[n]` ADVANCES the print column.

  What the model (= `execute_loop` of `runtime.rs`) does: with `tron` set, before fetching the
  instruction at `pc`, the line number `lineNumberFor pc` is compared with the remembered `tr`; if
  they differ `tr` is updated and, when the new value is `some n`, the step ends there with the event
  `Print("[n]")` and `printCol := printCol + len("[n]")` — the column is advanced by the width of
  the text, NOT reset, NOT left alone; the instruction itself is executed by the next step.

  Proved: such a step in closed form (`trace_step`: column `old + (2 + number of decimal digits of n)`, nothing else
  changes but `tr`), and no instruction other than PRINT touches the column (`execOp_keepCol`), so a step that changes
  the column returned a `Print` event — the trace's or PRINT's; with trace off it is PRINT's.
-/
namespace Basic
namespace Runtime

structure KeepCol (s t : Runtime) : Prop where
  col : t.printCol = s.printCol

instance : FrameRel KeepCol where
  refl _ := ⟨rfl⟩
  trans h1 h2 := ⟨h2.col.trans h1.col⟩

theorem KeepCol.of_prim {env : Env} {k : Kind} {s t : Runtime} (p : Prim env k s t) (hc : k ≠ .col)
    (hs : k ≠ .sched) : KeepCol s t := by
  cases p <;> first | exact ⟨rfl⟩ | exact absurd rfl hc | exact absurd rfl hs

/-- **no instruction other than PRINT touches the print column**, whether it succeeds, throws or
    returns an event -/
theorem execOp_keepCol (env : Env) (h : Bool) (op : Opcode) (hop : op ≠ .print) :
    Frame KeepCol (execOp env h op) :=
  (execOp_eff env h op).to fun p hk =>
    KeepCol.of_prim p (fun e => by subst e; exact hop hk) (fun e => by subst e; exact hk)

end Runtime

namespace Thm.C11
open Basic.Runtime RStd

/-- the number of decimal digits of `n` -/
def decimalDigits (n : Nat) : Nat := (Nat.toDigits 10 n).length

theorem traceText_eq (n : Nat) : traceText n = ("[" ++ toString n ++ "]").toList := by
  simp [traceText, natDigits]

theorem traceText_length (n : Nat) : (traceText n).length = 2 + decimalDigits n := by
  simp only [traceText, KeyText.natDigits_eq, decimalDigits, List.length_cons, List.length_append, List.length_nil]
  omega

/-- `decimalDigits` is the usual notion: at most `k` digits iff below `10 ^ k` -/
theorem decimalDigits_le_iff (n k : Nat) (hk : 0 < k) : decimalDigits n ≤ k ↔ n < 10 ^ k :=
  Nat.length_toDigits_le_iff (by decide) hk

theorem decimalDigits_pos (n : Nat) : 0 < decimalDigits n := Nat.length_toDigits_pos

/-- for line numbers (`≤ 65529`) the trace is 3 to 7 characters wide -/
theorem traceText_width_lineNumber (n : Nat) (hn : n ≤ 65529) :
    3 ≤ (traceText n).length ∧ (traceText n).length ≤ 7 := by
  rw [traceText_length]
  have h1 := decimalDigits_pos n
  have h2 : decimalDigits n ≤ 5 := (decimalDigits_le_iff n 5 (by decide)).2 (by omega)
  omega

/-- **a step that traces line `n`**: the event is `Print "[n]"`, the column is ADVANCED by the width
    of that text — `2 +` the number of decimal digits of `n` — and nothing else changes but `tr` -/
theorem trace_step (env : Env) (h : Bool) (s : Runtime) (n : Nat) (ht : s.tron = true)
    (hl : s.program.link.lineNumberFor s.pc = some n) (hne : s.tr ≠ some n) :
    (step env h).run.run s =
      (.ok (.event (.print ("[" ++ toString n ++ "]").toList)),
       { s with tr := some n, printCol := s.printCol + (2 + decimalDigits n) }) := by
  rw [step_run, if_pos ⟨ht, by rw [hl]; exact fun e => hne e.symm⟩, hl]
  dsimp only
  rw [traceText_length, traceText_eq]

/-- the column after a trace step, spelled out: never reset, never unchanged -/
theorem trace_step_column (env : Env) (h : Bool) (s : Runtime) (n : Nat) (ht : s.tron = true)
    (hl : s.program.link.lineNumberFor s.pc = some n) (hne : s.tr ≠ some n) :
    ((step env h).run.run s).2.printCol = s.printCol + 2 + decimalDigits n ∧
    ((step env h).run.run s).2.printCol > s.printCol + 2 := by
  rw [trace_step env h s n ht hl hne]
  have := decimalDigits_pos n
  exact ⟨by show s.printCol + (2 + decimalDigits n) = _; omega,
         by show s.printCol + (2 + decimalDigits n) > _; omega⟩

theorem execOp_print_cases (env : Env) (h : Bool) (s : Runtime) :
    ((execOp env h .print).run.run s).2.printCol = s.printCol ∨
    ∃ text, ((execOp env h .print).run.run s).1 = .ok (.event (.print text)) := by
  simp only [execOp, doPrint, run_bind, run_pop]
  cases s.stack.back? with
  | none => exact .inl rfl
  | some v => exact .inr ⟨_, rfl⟩

/-- **a step that changes the print column returned a `Print` event** (trace on or off) -/
theorem column_changes_only_with_print_event (env : Env) (h : Bool) (s : Runtime)
    (hc : ((step env h).run.run s).2.printCol ≠ s.printCol) :
    ∃ text, ((step env h).run.run s).1 = .ok (.event (.print text)) := by
  refine step_elim env h s (P := fun x => x.2.printCol ≠ s.printCol → ∃ text, x.1 = .ok (.event (.print text)))
    (fun _ _ _ _ => ⟨_, rfl⟩) (fun _ _ hc => (hc rfl).elim) (fun op tr _ hc => ?_) hc
  by_cases hp : op = .print
  · subst hp
    exact (execOp_print_cases env h { s with tr := tr, pc := s.pc + 1 }).resolve_left hc
  · exact (hc ((execOp_keepCol env h op hp).run _).col).elim

theorem troff_step_keeps_column (env : Env) (h : Bool) (s : Runtime) (ht : s.tron = false)
    (hop : s.program.link.ops[s.pc]? ≠ some .print) :
    ((step env h).run.run s).2.printCol = s.printCol := by
  rw [step_troff env h s ht, run_fetchExec]
  cases hq : s.program.link.ops[s.pc]? with
  | none => rfl
  | some op =>
    dsimp only
    exact ((execOp_keepCol env h op (fun e => hop (by rw [hq, e]))).run _).col

/-- with trace off a step never emits a trace: if it changed the column, the instruction at `pc`
    was PRINT and the event is its text -/
theorem troff_column_changes_only_by_print (env : Env) (h : Bool) (s : Runtime) (ht : s.tron = false)
    (hc : ((step env h).run.run s).2.printCol ≠ s.printCol) :
    s.program.link.ops[s.pc]? = some .print ∧
    ∃ text, ((step env h).run.run s).1 = .ok (.event (.print text)) := by
  refine ⟨?_, column_changes_only_with_print_event env h s hc⟩
  apply Classical.byContradiction
  intro hop
  exact hc (troff_step_keeps_column env h s ht hop)

/-- `10 CLS` compiled by hand: one instruction, line 10 at address 0; tracing on, column 5 -/
def traced : Runtime :=
  { program := { link := { ops := #[.cls, .end], symbols := [(10, (0, 0))] } },
    pc := 0, tron := true, tr := none, printCol := 5, entryAddress := 2, state := .running }

example : traced.tron = true ∧ traced.program.link.lineNumberFor traced.pc = some 10 ∧
    traced.tr ≠ some 10 := by decide

def envT : Env := { lex := fun _ => ⟨none, []⟩, lineRenum := fun _ l => l }

/-- the trace of line 10 from column 5: text `[10]`, column 9 -/
example : (step envT false).run.run traced =
    (.ok (.event (.print ['[', '1', '0', ']'])), { traced with tr := some 10, printCol := 9 }) := by
  rw [trace_step envT false traced 10 (by decide) (by decide) (by decide)]
  rfl

example : decimalDigits 10 = 2 ∧ decimalDigits 65529 = 5 ∧ decimalDigits 0 = 1 := by decide

/-- trace off, a non-PRINT instruction: `troff_step_keeps_column` applies -/
example : ({ traced with tron := false } : Runtime).program.link.ops[({ traced with tron := false } : Runtime).pc]?
    ≠ some .print := by decide

end Thm.C11
end Basic

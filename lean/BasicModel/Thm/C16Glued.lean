import BasicModel.Lemmas.GluedNumber
import BasicModel.Thm.C16
/-
  C16 — "blanks between a number and a following word are optional": `200ELSE`, `100EQV`, `5DIV`.

  `number()` (lex.rs) continues over an `E`/`D` after the mantissa only when the character after the
  letter is a sign or a digit (`startsExponent`); otherwise it un-reads the letter.  Without that
  test the first letter of `ELSE`, `EQV`, `END`, `DATA`, `DIM`, … would be swallowed as an exponent
  marker and the Integer literal in front of it become a Single.  Proved here, for ALL digit
  strings `ds` and ALL continuations:

  * `number_blank_optional` — on `ds ++ e :: pk :: tl` (`e` one of `E e D d`, `pk` neither a sign nor
    a digit) the scanner consumes exactly `ds` and makes the very token it makes of `ds` followed by
    a blank; `digitsToken_integer`: that token is the Integer literal when `ds` has at most 7
    digits and its value is at most 32767;
  * `number_glued_keyword` — every reserved word that begins with E or D qualifies (table fact
    `keywords_second_char`);
  * `lexFrom_blank_optional`, `glued_in_context`, `glued_listed_line` — raw tokens, and the
    significant tokens (`sig`, what the parser sees) of a whole line in any context;
  * the side condition is necessary: `exponent_taken` (digit, or sign + digits: the general
    statement), `exponent_examples`, and the FINDINGS `letter_at_end_swallowed` (`200E` at the end
    of the text is the Single `200E`, `200 E` is Integer 200 and the name E) and
    `sign_without_digit_swallowed` (`2E+B` is the Single `2E+` and the name B).
-/
namespace Basic
namespace Thm
namespace C16Glued
open Lex Spec

/-- **The number scanner in front of a word that begins with E or D.**  `ds`: a non-empty digit
    string; then a letter `E`/`e`/`D`/`d`; then a character that is neither a sign nor a digit (and
    anything after it).  Glued or separated by a blank, the scanner consumes exactly `ds` and
    produces the same token; the letter it had to look at is handed back (upper-cased). -/
theorem number_blank_optional (ds : Str) (hne : ds ≠ []) (hd : AllDigits ds) (e pk : Char) (tl : List Char)
    (he : isExpLetter e = true) (hpk : startsExponent pk = false) :
    number (ds ++ e :: pk :: tl) = (digitsToken ds, foldED e :: pk :: tl) ∧
    number (ds ++ ' ' :: e :: pk :: tl) = (digitsToken ds, ' ' :: e :: pk :: tl) :=
  ⟨number_glued ds hne hd e pk tl he hpk,
   number_digits_boundary ds hne hd _ (by intro c hc; simp at hc; subst hc; decide)⟩

/-- the token is the Integer literal with the text `ds` whenever `ds` is an Integer constant
    (at most 7 digits, value at most 32767) — not a Single -/
theorem digitsToken_integer (ds : Str) (h7 : ds.length ≤ 7) (hv : decimalValue ds ≤ 32767) :
    digitsToken ds = .literal (.integer ds) := by
  have : ¬ ds.length > 7 := by omega
  simp [digitsToken, this, hv]

/-- … the Single literal `ds` when the value is beyond 32767, the Double literal beyond 7 digits -/
theorem digitsToken_other (ds : Str) :
    (ds.length ≤ 7 → ¬ decimalValue ds ≤ 32767 → digitsToken ds = .literal (.single ds)) ∧
    (ds.length > 7 → digitsToken ds = .literal (.double ds)) := by
  constructor
  · intro h7 hv
    have : ¬ ds.length > 7 := by omega
    simp [digitsToken, this, hv]
  · intro h7; simp [digitsToken, h7]

theorem digitsToken_text (ds : Str) : (digitsToken ds).text = ds := by
  unfold digitsToken
  split
  · rfl
  · split <;> rfl

/-- table fact: the second character of every reserved word is a letter — neither a sign nor a digit -/
theorem keywords_second_char : ∀ p ∈ keywords,
    ∃ e pk tl, p.1 = e :: pk :: tl ∧ startsExponent pk = false ∧ foldED e = e := by
  have h : ∀ p ∈ keywords, (match p.1 with
      | e :: pk :: _ => !startsExponent pk && decide (foldED e = e)
      | _ => false) = true := by rw [keywords_eq]; decide +kernel
  intro p hp
  have := h p hp
  split at this
  · rename_i e pk tl heq
    simp only [Bool.and_eq_true, Bool.not_eq_true', decide_eq_true_eq] at this
    exact ⟨e, pk, tl, heq, this.1, this.2⟩
  · cases this

/-- **every reserved word that begins with E or D** (ELSE, END, EQV, ERASE, DATA, DEF, DEFDBL, DEFINT,
    DEFSNG, DEFSTR, DELETE, DIM) glued to a digit string: the scanner stops in front of the word -/
theorem number_glued_keyword (ds : Str) (hne : ds ≠ []) (hd : AllDigits ds) (p : Str × Token)
    (hp : p ∈ keywords) (he : ∀ c ∈ p.1.head?, isExpLetter c = true) (rest : List Char) :
    number (ds ++ (p.1 ++ rest)) = (digitsToken ds, p.1 ++ rest) := by
  obtain ⟨e, pk, tl, hw, hpk, hf⟩ := keywords_second_char p hp
  rw [hw] at he ⊢
  have := number_glued ds hne hd e pk (tl ++ rest) (he e (by simp)) hpk
  rw [hf] at this
  simpa using this

theorem keywords_with_E_or_D :
    (keywords.filter (fun p => p.1.head?.any isExpLetter)).map (·.1) =
      ["DEFDBL".toList, "DEFINT".toList, "DEFSNG".toList, "DEFSTR".toList, "DELETE".toList,
       "ERASE".toList, "DATA".toList, "ELSE".toList, "DEF".toList, "DIM".toList, "END".toList,
       "EQV".toList] := by rw [keywords_eq]; decide +kernel

/-- **raw tokens**: glued, the line continues with the tokens of the word; separated by a run of
    blanks, there is one blank token more and nothing else changes -/
theorem lexFrom_blank_optional (ds : Str) (hne : ds ≠ []) (hd : AllDigits ds) (sep : List Char)
    (hsep : ∀ c ∈ sep, isWs c = true) (hsne : sep ≠ []) (e pk : Char) (tl : List Char)
    (he : isExpLetter e = true) (hpk : startsExponent pk = false) :
    lexFrom (ds ++ e :: pk :: tl) false = digitsToken ds :: lexFrom (e :: pk :: tl) false ∧
    lexFrom (ds ++ (sep ++ e :: pk :: tl)) false =
      digitsToken ds :: .whitespace sep.length :: lexFrom (e :: pk :: tl) false :=
  ⟨lexFrom_glued ds hne hd e pk tl he hpk, lexFrom_spaced ds hne hd sep hsep hsne e (pk :: tl) he⟩

/-- glued to a reserved word in upper case that is followed by something that is not a letter: the
    numeral, the word's token, the rest -/
theorem lexFrom_glued_keyword (ds : Str) (hne : ds ≠ []) (hd : AllDigits ds) (p : Str × Token)
    (hp : p ∈ keywords) (he : ∀ c ∈ p.1.head?, isExpLetter c = true) (rest : List Char)
    (hb : ∀ c ∈ rest.head?, isAlpha c = false) :
    lexFrom (ds ++ (p.1 ++ rest)) false = digitsToken ds :: p.2 :: lexFrom rest (p.2 == .word .rem1) := by
  obtain ⟨e, pk, tl, hw, hpk, hf⟩ := keywords_second_char p hp
  have h1 := lexFrom_glued ds hne hd e pk (tl ++ rest) (he e (by simp [hw])) hpk
  have h2 := lexFrom_keyword' p hp rest hb
  rw [hw] at h2 ⊢
  simp only [List.cons_append] at h1 h2 ⊢
  rw [h1, h2]

/-- **in any context, after the post-passes**: `body` is the text in front of the number, a junction
    of the scanner (`Cut`); the significant tokens — all the parser looks at — of the glued spelling
    and of the spelling with blanks are the same -/
theorem glued_in_context (body : Str) (A : List Token) (ds : Str) (hne : ds ≠ []) (hd : AllDigits ds)
    (hcut : ∀ d ∈ ds.head?, Cut body A d) (sep : List Char) (hsep : ∀ c ∈ sep, isWs c = true)
    (e pk : Char) (tl : List Char) (he : isExpLetter e = true) (hpk : startsExponent pk = false) :
    sig (postPasses (lexFrom (body ++ (ds ++ (sep ++ e :: pk :: tl))) false)) =
      sig (postPasses (lexFrom (body ++ (ds ++ e :: pk :: tl)) false)) := by
  cases sep with
  | nil => rfl
  | cons w sep' =>
    obtain ⟨h1, h2⟩ := lexFrom_blank_optional ds hne hd (w :: sep') hsep (by simp) e pk tl he hpk
    obtain ⟨d, ds', rfl, -⟩ := digits_head ds hne hd
    have hc := hcut d (by simp)
    have c1 := hc (ds' ++ ((w :: sep') ++ e :: pk :: tl))
    have c2 := hc (ds' ++ e :: pk :: tl)
    simp only [List.cons_append] at c1 c2 h1 h2 ⊢
    rw [c1, c2, h1, h2]
    exact sig_postPasses_blank_after A _ _ _ (digitsToken_inert _).1 (digitsToken_inert _).2

theorem glued_listed_line (n : Nat) (hn : n ≤ 65529) (body : Str) (A : List Token) (ds : Str)
    (hne : ds ≠ []) (hd : AllDigits ds) (hcut : ∀ d ∈ ds.head?, Cut body A d) (sep : List Char)
    (hsep : ∀ c ∈ sep, isWs c = true) (e pk : Char) (tl : List Char) (he : isExpLetter e = true)
    (hpk : startsExponent pk = false) :
    (lex (RStd.natDigits n ++ ' ' :: (body ++ (ds ++ (sep ++ e :: pk :: tl))))).1 =
      (lex (RStd.natDigits n ++ ' ' :: (body ++ (ds ++ e :: pk :: tl)))).1 ∧
    sig (lex (RStd.natDigits n ++ ' ' :: (body ++ (ds ++ (sep ++ e :: pk :: tl))))).2 =
      sig (lex (RStd.natDigits n ++ ' ' :: (body ++ (ds ++ e :: pk :: tl)))).2 := by
  rw [lex_listed n hn, lex_listed n hn]
  dsimp only
  exact ⟨rfl, glued_in_context body A ds hne hd hcut sep hsep e pk tl he hpk⟩

/-- **letter, optional sign, at least one digit**: the exponent is part of the numeral, which is
    then never an Integer: a Double for the letter D (or more than 7 mantissa digits), else a Single -/
theorem exponent_taken (ds : Str) (hne : ds ≠ []) (hd : AllDigits ds) (e : Char) (he : isExpLetter e = true)
    (sign : List Char) (hsign : sign = [] ∨ sign = ['+'] ∨ sign = ['-'])
    (xs : Str) (hxne : xs ≠ []) (hx : AllDigits xs) (rest : List Char) (hb : NumBoundary rest) :
    number (ds ++ e :: (sign ++ (xs ++ rest))) =
      (if foldED e = 'D' ∨ ds.length > 7 then .literal (.double (ds ++ foldED e :: sign ++ xs))
       else .literal (.single (ds ++ foldED e :: sign ++ xs)), rest) := by
  have he' : e = 'E' ∨ e = 'D' ∨ e = 'e' ∨ e = 'd' := by
    simp only [isExpLetter, Bool.or_eq_true, decide_eq_true_eq] at he
    rcases he with ((h | h) | h) | h <;> simp [h]
  unfold number
  rw [numberLoop_digits ds hd hne, numberAfter_exponent e he' sign hsign xs hx hxne,
    numberAfter_boundary rest hb]
  rcases foldED_expLetter e he with h | h
  · by_cases h7 : ds.length > 7 <;> simp [h, h7, numberFinish]
  · simp [h, numberFinish]

/-- concrete instances: exponent taken (`1E5LSE` is `1E5` and the name LSE), not taken in front of a
    word -/
theorem exponent_examples :
    number ['1', 'E', '5', 'L', 'S', 'E'] = (.literal (.single ['1', 'E', '5']), ['L', 'S', 'E']) ∧
    number ['1', 'D', '-', '2'] = (.literal (.double ['1', 'D', '-', '2']), []) ∧
    number ['2', '0', '0', 'E', 'L', 'S', 'E'] = (.literal (.integer ['2', '0', '0']), ['E', 'L', 'S', 'E']) ∧
    number ['2', '0', '0', 'e', 'l', 's', 'e'] = (.literal (.integer ['2', '0', '0']), ['E', 'l', 's', 'e']) ∧
    number ['1', '0', '0', 'E', 'Q', 'V'] = (.literal (.integer ['1', '0', '0']), ['E', 'Q', 'V']) ∧
    number ['5', 'D', 'I', 'V'] = (.literal (.integer ['5']), ['D', 'I', 'V']) ∧
    number ['1', 'E', '.', '5'] = (.literal (.integer ['1']), ['E', '.', '5']) := by decide +kernel

/-- FINDING: an exponent letter that is the LAST character of the text is swallowed (there is no
    character to peek at): `200E` is the Single literal `200E`, `5D` the Double literal `5D`, while
    `200 E` is the Integer 200 and the name E.  The blank is NOT optional there. -/
theorem letter_at_end_swallowed :
    number ['2', '0', '0', 'E'] = (.literal (.single ['2', '0', '0', 'E']), []) ∧
    number ['5', 'd'] = (.literal (.double ['5', 'D']), []) ∧
    number ['2', '0', '0', ' ', 'E'] = (.literal (.integer ['2', '0', '0']), [' ', 'E']) ∧
    sig (lex ['1', '0', ' ', 'A', '=', '2', '0', '0', 'E']).2 ≠
      sig (lex ['1', '0', ' ', 'A', '=', '2', '0', '0', ' ', 'E']).2 := by
  simp only [lex_eval]; decide +kernel

/-- FINDING: after the letter a SIGN is enough, no digit is asked for: `2E+B` is the Single literal
    `2E+` followed by the name B (and `2 E+B` is `2`, `E`, `+`, `B`) -/
theorem sign_without_digit_swallowed :
    number ['2', 'E', '+', 'B'] = (.literal (.single ['2', 'E', '+']), ['B']) ∧
    number ['2', '0', '0', 'E', '-', 'X'] = (.literal (.single ['2', '0', '0', 'E', '-']), ['X']) ∧
    number ['1', 'E', '+'] = (.literal (.single ['1', 'E', '+']), []) := by decide +kernel

example : number ("200".toList ++ ("ELSE".toList ++ " 300".toList)) =
    (.literal (.integer "200".toList), "ELSE".toList ++ " 300".toList) := by
  rw [number_glued_keyword "200".toList (by decide) (by decide) ("ELSE".toList, .word .else) (by rw [keywords_eq]; decide +kernel)
    (by decide)]
  rw [digitsToken_integer _ (by decide) (by decide)]

example : lexFrom ['5', 'D', 'I', 'M', ' '] false = [.literal (.integer ['5']), .word .dim, .whitespace 1] := by
  have := lexFrom_glued_keyword ['5'] (by decide) (by decide) ("DIM".toList, .word .dim) (by rw [keywords_eq]; decide +kernel)
    (by decide) [' '] (by decide)
  rw [digitsToken_integer _ (by decide) (by decide)] at this
  exact this.trans (by decide +kernel)

theorem thenCtx_cut_digit : Cut "IF A THEN ".toList (C16.thenCtx.flatMap rawOf) '2' :=
  C16.thenCtx_cut_of '2' rfl

/-- `10 IF A THEN 200 ELSE…` and `10 IF A THEN 200ELSE…`, whatever follows `ELSE` -/
example (post : Str) :
    sig (lex (RStd.natDigits 10 ++ ' ' :: ("IF A THEN ".toList ++ ("200".toList ++ (" ".toList ++ 'E' :: 'L' :: ('S' :: 'E' :: post)))))).2 =
    sig (lex (RStd.natDigits 10 ++ ' ' :: ("IF A THEN ".toList ++ ("200".toList ++ 'E' :: 'L' :: ('S' :: 'E' :: post))))).2 :=
  (glued_listed_line 10 (by decide) "IF A THEN ".toList _ "200".toList (by decide) (by decide)
    (fun d hd => C16.thenCtx_cut_of d (by cases hd; rfl)) " ".toList (by decide)
    'E' 'L' ('S' :: 'E' :: post) (by decide) (by decide)).2

example : sig (lex "10 IF A THEN 200ELSE 300".toList).2 = sig (lex "10 IF A THEN 200 ELSE 300".toList).2 ∧
    sig (lex "10 IF A THEN 200ELSE 300".toList).2 =
      [.word .if, C16.nameA, .word .then, .literal (.integer "200".toList), .word .else,
       .literal (.integer "300".toList)] := by
  -- each line is evaluated against the written-out list: comparing two evaluated lists is much slower to check
  have h2 : sig (lex "10 IF A THEN 200 ELSE 300".toList).2 =
      [.word .if, C16.nameA, .word .then, .literal (.integer "200".toList), .word .else,
       .literal (.integer "300".toList)] := by simp only [lex_eval]; decide +kernel
  refine (fun h1 => ⟨h1.trans h2.symm, h1⟩) (by simp only [lex_eval]; decide +kernel)

example : sig (lex "10 x=100eqv y:z=5data".toList).2 = sig (lex "10 x=100 eqv y:z=5 data".toList).2 := by
  simp only [lex_eval]; decide +kernel

end C16Glued
end Thm
end Basic

import BasicModel.Gen.Limits
import BasicModel.Lemmas.SortedList
import BasicModel.Spec.MapSpec
import BasicModel.Lemmas.RangeForms
import BasicModel.Lemmas.LiteralTy
import BasicModel.Lemmas.RenumPlan
/-
  C15 — The program store is an ordered map with exact LIST / DELETE ranges.

  `abs` maps a `Listing` (sorted association list, `Model/Listing.lean`) to the specification's map
  `Nat → Option Line` (`Spec/MapSpec.lean`).  Every operation preserves the invariant `WF` (strictly
  ascending keys, keys ≤ 65529, every line stored under its own number) and refines the map
  operation; iterating `list_line` emits exactly `listSpec`.

  The last section (`Statements`) is the level above the store: the operand forms `n`, `n-`, `-n`,
  `a-b` and none of `Parse.lineNumberRange`, the refusal of a bare DELETE / an inverted range / a
  number above 65529 by the parser, and `Runtime.doDelete` / `doList` / the listing state of
  `Runtime.execute` tied to `removeRange_refines` and `list_emits_exactly`.
-/
namespace Basic
namespace Thm.C15
open Listing SortedList Spec

/-- abstraction function -/
def abs (l : Listing) : LMap := fun k => look k l.source

theorem abs_eq_get? (l : Listing) (k : Nat) : abs l k = l.get? k := rfl

/-- invariant of the program store -/
structure WF (l : Listing) : Prop where
  sorted : Sorted l.source
  bounded : ∀ p ∈ l.source, p.1 ≤ maxLineNumber
  coherent : ∀ p ∈ l.source, p.2.number = some p.1

theorem wf_empty : WF ({} : Listing) :=
  ⟨sorted_nil, (fun _ h => by cases h), (fun _ h => by cases h)⟩

theorem wf_clear (l : Listing) : WF l.clear := wf_empty

theorem abs_clear (l : Listing) : abs l.clear = LMap.empty := rfl

example : abs (Listing.clear { source := [(10, ⟨some 10, []⟩)] }) 10 = none := rfl

theorem wf_insert {l : Listing} (hl : WF l) (line : Line) (n : Nat) (hn : line.number = some n)
    (hb : n ≤ maxLineNumber) : WF (l.insert line) := by
  unfold Listing.insert
  rw [hn]
  refine ⟨sorted_insertSorted n line hl.sorted, ?_, ?_⟩
  · intro p hp
    rcases mem_insertSorted hp with rfl | hp
    · exact hb
    · exact hl.bounded p hp
  · intro p hp
    rcases mem_insertSorted hp with rfl | hp
    · exact hn
    · exact hl.coherent p hp

/-- `insert` is the map insert (replace or add), at the line's own number -/
theorem insert_refines (l : Listing) (line : Line) (n : Nat) (hn : line.number = some n) :
    abs (l.insert line) = (abs l).insert n line := by
  funext k
  unfold abs Listing.insert LMap.insert
  rw [hn]
  exact look_insertSorted n line k l.source

example : abs (({} : Listing).insert ⟨some 10, [.unknown "A".toList]⟩ |>.insert ⟨some 5, []⟩
    |>.insert ⟨some 10, []⟩) 10 = some ⟨some 10, []⟩ := by decide

theorem remove_source (l : Listing) (n : Nat) :
    (l.remove (some n)).1.source = l.source.filter (fun p => p.1 != n) := rfl

/-- the invariant looks at the stored lines only, and survives when some of them are dropped -/
theorem wf_filter {l l' : Listing} (hl : WF l) {f : Nat × Line → Bool} (h : l'.source = l.source.filter f) : WF l' :=
  ⟨h ▸ sorted_filter _ hl.sorted, fun p hp => hl.bounded p (List.mem_filter.1 (h ▸ hp)).1,
    fun p hp => hl.coherent p (List.mem_filter.1 (h ▸ hp)).1⟩

theorem wf_remove {l : Listing} (hl : WF l) (n : Option Nat) : WF (l.remove n).1 := by
  cases n with
  | none => exact hl
  | some n => exact wf_filter hl (remove_source l n)

/-- `remove` is the map delete; its flag says whether the line existed -/
theorem remove_refines (l : Listing) (n : Nat) :
    abs (l.remove (some n)).1 = (abs l).delete n ∧ (l.remove (some n)).2 = (abs l n).isSome := by
  constructor
  · funext k
    unfold abs LMap.delete
    rw [remove_source]
    refine (look_filter_key (fun k => k != n) k l.source).trans ?_
    by_cases hk : k = n
    · simp [hk]
    · simp [hk]
  · show l.source.any (fun p => (fun k => k == n) p.1) = (look n l.source).isSome
    rw [Bool.eq_iff_iff, any_key_iff (fun k => k == n) l.source]
    constructor
    · rintro ⟨k, hk, hl⟩
      rwa [← beq_iff_eq.1 hk]
    · exact fun h => ⟨n, beq_self_eq_true n, h⟩

/-- removing an absent line changes nothing (a bare number for an absent line is a no-op) -/
theorem remove_absent_noop (l : Listing) (n : Nat) (h : abs l n = none) :
    (l.remove (some n)).1 = l ∧ (l.remove (some n)).2 = false := by
  have h2 := (remove_refines l n).2
  rw [h] at h2
  refine ⟨?_, h2⟩
  have hall : ∀ p ∈ l.source, (p.1 != n) = true := fun p hp => by
    have := List.any_eq_false.1 (show l.source.any (fun p => p.1 == n) = false from h2) p hp
    simpa [bne] using this
  show { l with source := l.source.filter (fun p => p.1 != n) } = l
  rw [List.filter_eq_self.2 hall]

/-- `remove(None)`: there is no direct line in the store -/
theorem remove_none (l : Listing) : l.remove none = (l, false) := rfl

example : (({} : Listing).insert ⟨some 10, []⟩ |>.remove (some 10)).2 = true ∧
    (({} : Listing).insert ⟨some 10, []⟩ |>.remove (some 7)).2 = false := by decide

theorem inRange_some (a b k : Nat) : inRange (some a) (some b) k = true ↔ a ≤ k ∧ k ≤ b := by
  simp [inRange]

theorem removeRange_source (l : Listing) (lo hi : Option Nat) :
    (l.removeRange lo hi).1.source = l.source.filter (fun p => !inRange lo hi p.1) := by
  rw [removeRange_eq]

theorem wf_removeRange {l : Listing} (hl : WF l) (lo hi : Option Nat) : WF (l.removeRange lo hi).1 :=
  wf_filter hl (removeRange_source l lo hi)

/-- `remove_range` deletes exactly the lines whose numbers lie in the range and reports whether there
    was one (stated for the range of `LineNumber`s, `None` below every number) -/
theorem removeRange_exact (l : Listing) (lo hi : Option Nat) :
    abs (l.removeRange lo hi).1 = (fun k => if inRange lo hi k then none else abs l k) ∧
    ((l.removeRange lo hi).2 = true ↔ ∃ k, inRange lo hi k = true ∧ (abs l k).isSome = true) := by
  constructor
  · funext k
    unfold abs
    rw [removeRange_source]
    refine (look_filter_key (fun k => !inRange lo hi k) k l.source).trans ?_
    cases inRange lo hi k <;> rfl
  · rw [removeRange_eq]
    exact any_key_iff (fun k => inRange lo hi k) l.source

/-- … for a range `lo..hi` of numbers this is the specification's range delete -/
theorem removeRange_refines (l : Listing) (lo hi : Nat) :
    abs (l.removeRange (some lo) (some hi)).1 = (abs l).deleteRange lo hi := by
  rw [(removeRange_exact l (some lo) (some hi)).1]
  funext k
  unfold LMap.deleteRange
  by_cases h : lo ≤ k ∧ k ≤ hi
  · rw [if_pos h, if_pos ((inRange_some lo hi k).2 h)]
  · rw [if_neg h, if_neg (fun h' => h ((inRange_some lo hi k).1 h'))]

example : ((({} : Listing).insert ⟨some 10, []⟩ |>.insert ⟨some 20, []⟩ |>.insert ⟨some 30, []⟩
    |>.removeRange (some 10) (some 20)).1.source.map (·.1)) = [30] := by decide

/-- what `list_line` reports for a stored line: its text and the columns of its compile errors -/
def render (l : Listing) (p : Nat × Line) : Str × List (Nat × Nat) :=
  (printLine p.2.number p.2.tokens,
   l.indirectErrors.filterMap fun e => if e.line = some p.1 then some (errColumn p.1 e) else none)

/-- the range `list_line` continues with after emitting line `n` -/
def nextRange (hi : Option Nat) (n : Nat) : Option Nat × Option Nat :=
  match hi with
  | some b => if n < b then (some (n + 1), hi) else (some endMark, some endMark)
  | none => (some endMark, some endMark)

theorem listLine_eq (l : Listing) (lo hi : Option Nat) :
    l.listLine lo hi =
      (l.source.find? (fun p => inRange lo hi p.1)).map fun p => (render l p, nextRange hi p.1) := by
  unfold listLine
  cases l.source.find? (fun p => inRange lo hi p.1) with
  | none => rfl
  | some p => cases hi <;> rfl

/-- the driver loop of LIST: call `list_line` until it returns `None` (`none` = out of fuel) -/
def listIter (l : Listing) : Nat → Option Nat → Option Nat → Option (List (Str × List (Nat × Nat)))
  | 0, _, _ => none
  | fuel + 1, lo, hi =>
    match l.listLine lo hi with
    | none => some []
    | some (x, (lo', hi')) => (listIter l fuel lo' hi').map (x :: ·)

theorem inRange_next {lo hi : Option Nat} {x y : Nat} (hx : inRange lo hi x = true) (hxy : x < y)
    (hy : y ≤ maxLineNumber) :
    inRange (nextRange hi x).1 (nextRange hi x).2 y = inRange lo hi y := by
  cases hi with
  | none => simp [inRange] at hx
  | some b =>
    rw [Bool.eq_iff_iff]
    unfold nextRange
    cases lo <;> by_cases hlt : x < b
    all_goals
      simp only [hlt, if_true, if_false, inRange, endMark, maxLineNumber, Bool.and_eq_true,
        decide_eq_true_eq, Bool.true_and] at hx hy ⊢
      omega

theorem inRange_next_le {hi : Option Nat} {a x : Nat} (hxa : x ≤ a) (hx : x ≤ maxLineNumber) :
    inRange (nextRange hi a).1 (nextRange hi a).2 x = false := by
  rw [Bool.eq_false_iff]
  have he : ¬ inRange (some endMark) (some endMark) x = true := by
    intro h
    have := (inRange_some endMark endMark x).1 h
    simp only [endMark, maxLineNumber] at this hx
    omega
  unfold nextRange
  cases hi with
  | none => exact he
  | some b =>
    simp only
    split
    · intro h
      have := (inRange_some (a + 1) b x).1 h
      omega
    · exact he

/-- one step of LIST on a well-formed store: the first line in the range, then the rest of the range -/
theorem filter_next : ∀ {s : List (Nat × Line)}, Sorted s → (∀ p ∈ s, p.1 ≤ maxLineNumber) →
    ∀ (lo hi : Option Nat) (a : Nat × Line), s.find? (fun p => inRange lo hi p.1) = some a →
    s.filter (fun p => inRange lo hi p.1) =
      a :: s.filter (fun p => inRange (nextRange hi a.1).1 (nextRange hi a.1).2 p.1)
  | [], _, _, _, _, _, h => by simp at h
  | x :: r, hs, hb, lo, hi, a, h => by
    obtain ⟨hs1, hs2⟩ := sorted_cons.1 hs
    have hbr : ∀ p ∈ r, p.1 ≤ maxLineNumber := fun p hp => hb p (List.mem_cons_of_mem _ hp)
    rw [List.find?_cons] at h
    cases hx : inRange lo hi x.1 with
    | true =>
      rw [hx] at h
      cases h
      rw [List.filter_cons, if_pos hx, List.filter_cons,
        if_neg (by rw [inRange_next_le (Nat.le_refl _) (hb x List.mem_cons_self)]; simp)]
      congr 1
      apply List.filter_congr
      intro y hy
      exact (inRange_next hx (hs1 y hy) (hbr y hy)).symm
    | false =>
      rw [hx] at h
      simp only at h
      have ha : a ∈ r := List.mem_of_find?_eq_some h
      have hlt : x.1 < a.1 := hs1 a ha
      rw [List.filter_cons, if_neg (by simp [hx]), filter_next hs2 hbr lo hi a h, List.filter_cons,
        if_neg (by rw [inRange_next_le (Nat.le_of_lt hlt) (hb x List.mem_cons_self)]; simp)]

theorem listIter_eq (l : Listing) (hl : WF l) : ∀ (fuel : Nat) (lo hi : Option Nat),
    (l.source.filter (fun p => inRange lo hi p.1)).length < fuel →
    listIter l fuel lo hi = some ((l.source.filter (fun p => inRange lo hi p.1)).map (render l))
  | 0, _, _, h => by omega
  | fuel + 1, lo, hi, h => by
    unfold listIter
    rw [listLine_eq]
    cases hf : l.source.find? (fun p => inRange lo hi p.1) with
    | none =>
      rw [List.filter_eq_nil_iff.2 (List.find?_eq_none.1 hf)]
      rfl
    | some a =>
      have hn := filter_next hl.sorted hl.bounded lo hi a hf
      rw [hn] at h ⊢
      simp only [Option.map_some, List.length_cons] at h ⊢
      rw [listIter_eq l hl fuel _ _ (by omega)]
      rfl

theorem sorted_keys (m : LMap) (ks : List Nat) (hks : ks.Pairwise (· < ·)) :
    Sorted (ks.filterMap fun k => (m k).map fun x => (k, x)) := by
  unfold Sorted
  apply List.Pairwise.filterMap (R := fun a b => a < b) _ _ hks
  intro a a' haa b hb b' hb'
  simp only [Option.map_eq_some_iff] at hb hb'
  obtain ⟨_, _, rfl⟩ := hb
  obtain ⟨_, _, rfl⟩ := hb'
  exact haa

theorem mem_entries (m : LMap) (ks : List Nat) (k : Nat) (x : Line) :
    (k, x) ∈ ks.filterMap (fun k => (m k).map fun x => (k, x)) ↔ k ∈ ks ∧ m k = some x := by
  simp only [List.mem_filterMap, Option.map_eq_some_iff, Prod.mk.injEq]
  constructor
  · rintro ⟨k', hk', y, hy, rfl, rfl⟩
    exact ⟨hk', hy⟩
  · rintro ⟨hk, hx⟩
    exact ⟨k, hk, x, hx, rfl, rfl⟩

/-- the lines in the range, in ascending order, are the specification's `listSpec` -/
theorem filter_eq_listSpec (l : Listing) (hl : WF l) (lo hi : Nat) :
    l.source.filter (fun p => inRange (some lo) (some hi) p.1) = listSpec (abs l) lo hi := by
  apply sorted_ext (sorted_filter _ hl.sorted)
  · exact sorted_keys _ _ List.pairwise_lt_range'
  · rintro ⟨k, x⟩
    rw [List.mem_filter, inRange_some, mem_iff_look hl.sorted, listSpec, mem_entries, List.mem_range'_1]
    constructor
    · rintro ⟨h, h1, h2⟩
      exact ⟨by omega, h⟩
    · rintro ⟨h, hx⟩
      exact ⟨hx, by omega, by omega⟩

/-- LIST lo-hi: iterating `list_line` from the range `(lo, hi)` terminates (within one more call than
    there are lines) and emits exactly the stored lines with numbers in `[lo, hi]`, in ascending
    order, each as its listed text with its error columns -/
theorem list_emits_exactly (l : Listing) (hl : WF l) (lo hi : Nat) :
    listIter l (l.source.length + 1) (some lo) (some hi) =
      some ((listSpec (abs l) lo hi).map (render l)) := by
  rw [← filter_eq_listSpec l hl]
  apply listIter_eq l hl
  exact Nat.lt_succ_of_le (List.length_filter_le _ _)

/-- the open-start form (`LIST -hi` passes `None`, which lies below every number) -/
theorem list_emits_exactly_from_start (l : Listing) (hl : WF l) (hi : Nat) :
    listIter l (l.source.length + 1) none (some hi) =
      some ((listSpec (abs l) 0 hi).map (render l)) := by
  rw [← filter_eq_listSpec l hl]
  have : (fun p : Nat × Line => inRange none (some hi) p.1) = (fun p => inRange (some 0) (some hi) p.1) := by
    funext p; simp [inRange]
  rw [← this]
  apply listIter_eq l hl
  exact Nat.lt_succ_of_le (List.length_filter_le _ _)

example : listIter (({} : Listing).insert ⟨some 10, [.unknown "A".toList]⟩ |>.insert ⟨some 5, [.unknown "B".toList]⟩
    |>.insert ⟨some 30, []⟩) 4 (some 5) (some 10) = some [("5 B".toList, []), ("10 A".toList, [])] := by decide

/-- the column computation inside `list_line` is `Error::column()` of that error -/
theorem errColumn_eq (n : Nat) (e : Error) (h : e.line = some n) :
    Listing.errColumn n e = Listing.errorColumn e := by
  unfold Listing.errColumn Listing.errorColumn
  rw [h]
  simp [RStd.natDigits]
  rw [← Nat.toList_repr, String.length_toList]

example : Listing.errColumn 120 { code := 2, line := some 120, colStart := 3, colEnd := 5 } = (7, 9) ∧
    Listing.errorColumn { code := 2, line := some 120, colStart := 3, colEnd := 5 } = (7, 9) := by decide

/-- `line n` is the single-line case -/
theorem line_eq (l : Listing) (n : Nat) (hn : n ≤ maxLineNumber) :
    l.line n = (l.source.find? (fun p => inRange (some n) (some n) p.1)).map (render l) := by
  unfold Listing.line
  rw [if_neg (by omega), listLine_eq]
  cases l.source.find? (fun p => inRange (some n) (some n) p.1) <;> rfl

theorem mem_insKey {k p : Nat} : ∀ {s : List Nat}, p ∈ insKey k s ↔ p = k ∨ p ∈ s
  | [] => by simp [insKey]
  | a :: r => by
    unfold insKey
    split
    · simp
    · split
      · rename_i heq
        rw [heq, List.mem_cons, ← or_assoc, or_self]
      · rw [List.mem_cons, mem_insKey (s := r), List.mem_cons]
        exact or_left_comm

theorem pairwise_insKey (k : Nat) : ∀ {s : List Nat}, s.Pairwise (· < ·) → (insKey k s).Pairwise (· < ·)
  | [], _ => by simp [insKey]
  | a :: r, hs => by
    obtain ⟨h1, h2⟩ := List.pairwise_cons.1 hs
    unfold insKey
    split
    · rename_i hlt
      refine List.pairwise_cons.2 ⟨?_, hs⟩
      intro b hb
      rcases List.mem_cons.1 hb with rfl | hb
      · exact hlt
      · have := h1 b hb; omega
    · split
      · exact hs
      · refine List.pairwise_cons.2 ⟨?_, pairwise_insKey k h2⟩
        intro b hb
        rcases mem_insKey.1 hb with rfl | hb
        · omega
        · exact h1 b hb

theorem sortKeys_spec (cands : List Nat) :
    (sortKeys cands).Pairwise (· < ·) ∧ ∀ k, k ∈ sortKeys cands ↔ k ∈ cands := by
  unfold sortKeys
  have gen : ∀ (cs acc : List Nat), acc.Pairwise (· < ·) →
      (cs.foldl (fun acc k => insKey k acc) acc).Pairwise (· < ·) ∧
      ∀ k, k ∈ cs.foldl (fun acc k => insKey k acc) acc ↔ k ∈ acc ∨ k ∈ cs := by
    intro cs
    induction cs with
    | nil => intro acc h; simp [h]
    | cons c cs ih =>
      intro acc h
      simp only [List.foldl_cons]
      obtain ⟨i1, i2⟩ := ih (insKey c acc) (pairwise_insKey c h)
      refine ⟨i1, ?_⟩
      intro k
      rw [i2, mem_insKey, List.mem_cons, or_assoc]
      exact or_left_comm
  obtain ⟨g1, g2⟩ := gen cands [] List.Pairwise.nil
  exact ⟨g1, fun k => by rw [g2]; simp⟩

/-- computing the listing from a finite candidate set of keys gives `listSpec`, provided the
    candidates cover the keys of the map that lie in the range -/
theorem listSpecOn_eq_listSpec (cands : List Nat) (m : LMap) (lo hi : Nat)
    (hc : ∀ k, lo ≤ k → k ≤ hi → (m k).isSome = true → k ∈ cands) :
    listSpecOn cands m lo hi = listSpec m lo hi := by
  obtain ⟨hs, hm⟩ := sortKeys_spec cands
  apply sorted_ext
  · exact sorted_keys m _ (List.Pairwise.sublist List.filter_sublist hs)
  · exact sorted_keys m _ List.pairwise_lt_range'
  · rintro ⟨k, x⟩
    rw [listSpecOn, listSpec, mem_entries, mem_entries, List.mem_filter, List.mem_range'_1, hm k]
    constructor
    · rintro ⟨⟨_, hk⟩, hx⟩
      have : lo ≤ k ∧ k ≤ hi := by simpa using hk
      exact ⟨by omega, hx⟩
    · rintro ⟨hk, hx⟩
      exact ⟨⟨hc k (by omega) (by omega) (by rw [hx]; rfl), by simp; omega⟩, hx⟩

example : listSpecOn [30, 10, 20, 10] (LMap.empty.insert 10 ⟨some 10, []⟩ |>.insert 30 ⟨some 30, []⟩) 5 30
    = [(10, ⟨some 10, []⟩), (30, ⟨some 30, []⟩)] := by decide

theorem renumPlan_step_zero (keys : List Nat) (newStart oldStart : Nat) :
    renumPlan keys newStart oldStart 0 = err Code.illegalFunctionCall := by
  simp [renumPlan]

example : renumPlan [10, 20, 30, 45] 100 20 10 = .ok [(20, 100), (30, 110), (45, 120)] := by decide
example : renumPlan [10, 20, 30] 10 20 10 = err Code.illegalFunctionCall := by decide
example : renumPlan [10, 20, 30] 65520 0 10 = err Code.overflow := by decide

example : ∀ k ∈ [10, 20, 30, 45], k < 20 → ∀ c ∈ [(20, 100), (30, 110), (45, 120)], k < c.2 :=
  renumPlan_kept_below (ks := [10, 20, 30, 45]) (a := 100) (b := 20) (c := 10) (by decide) (by decide) (by decide) (by decide)

/-- `renum` (with any per-line rewriting function) yields a store with strictly ascending keys in
    which every line is stored under its own number; an error returns no new store at all -/
theorem renum_sorted (f : List (Nat × Nat) → Line → Line) (l l' : Listing) (a b c : Nat)
    (h : l.renum f a b c = .ok l') :
    Sorted l'.source ∧ ∀ p ∈ l'.source, p.2.number = some p.1 := by
  obtain ⟨ch, _, rfl⟩ := renum_ok h
  refine rebuild_ind (fun s => Sorted s ∧ ∀ p ∈ s, p.2.number = some p.1) _ ⟨sorted_nil, nofun⟩
    fun acc line n _ hn h => ⟨sorted_insertSorted n line h.1, fun p hp => ?_⟩
  rcases mem_insertSorted hp with rfl | hp
  · exact hn
  · exact h.2 p hp

example : ((({} : Listing).insert ⟨some 10, []⟩ |>.insert ⟨some 20, []⟩).renum renumNumberOnly 100 0 10).toOption.map
    (·.source.map (·.1)) = some [100, 110] := by decide

/-- RENUM (numbering part) keeps the whole invariant: new numbers are line numbers -/
theorem wf_renum {l l' : Listing} (hl : WF l) (a b c : Nat)
    (h : l.renum renumNumberOnly a b c = .ok l') : WF l' := by
  obtain ⟨s1, s2⟩ := renum_sorted _ l l' a b c h
  refine ⟨s1, ?_, s2⟩
  obtain ⟨ch, hp, rfl⟩ := renum_ok h
  intro p hpm
  refine rebuild_all (fun line => ∀ n, line.number = some n → n ≤ maxLineNumber) _ ?_ p hpm p.1 (s2 p hpm)
  intro x hx n hn
  obtain ⟨y, hy, rfl⟩ := List.mem_map.1 hx
  obtain ⟨q, hq, rfl⟩ := List.mem_map.1 hy
  rcases renumNumberOnly_number ch q.2 with e | ⟨c', hc', e⟩
  · rw [e, hl.coherent q hq] at hn
    cases hn
    exact hl.bounded q hq
  · rw [e] at hn
    cases hn
    exact renumPlan_le hp c' hc'

theorem wf_loadStr (lexFn : Str → Option Nat × List Token) (hlex : ∀ s n, (lexFn s).1 = some n → n ≤ maxLineNumber)
    {l l' : Listing} (hl : WF l) (s : Str) (h : l.loadStr lexFn s = .ok l') : WF l' := by
  unfold loadStr at h
  split at h
  · cases h
  · simp only at h
    split at h
    · cases h
    split at h
    · cases hn : (lexFn s).1 with
      | none => rw [hn] at h; cases h; exact hl
      | some n => rw [hn] at h; cases h; exact wf_remove hl (some n)
    · split at h
      · cases h
      · rename_i hnone
        cases h
        cases hn : (lexFn s).1 with
        | none => simp [hn] at hnone
        | some n => exact wf_insert hl _ n rfl (hlex s n hn)

example : ((({} : Listing).loadStr (fun _ => (some 10, [Token.unknown "X".toList])) "10 X".toList).toOption.map
    (·.source.map (·.1))) = some [10] ∧
    (match ({} : Listing).loadStr (fun _ => (none, [Token.unknown "X".toList])) "X".toList with
      | .error e => e.code | .ok _ => 0) = Code.directStatementInFile := by decide

/-- the operations of the program store (numbers are line numbers, 0..65529) -/
inductive Op where
  | ins (n : Fin 65530) (tokens : List Token)
  | del (n : Option Nat)
  | delRange (lo hi : Option Nat)
  | renum (newStart oldStart step : Nat)
  | clear

/-- state after an operation (an error leaves the store as it was) -/
def step (l : Listing) : Op → Listing
  | .ins n ts => l.insert { number := some n.val, tokens := ts }
  | .del n => (l.remove n).1
  | .delRange lo hi => (l.removeRange lo hi).1
  | .renum a b c => match l.renum renumNumberOnly a b c with
    | .ok l' => l'
    | .error _ => l
  | .clear => l.clear

/-- the invariant (keys ≤ 65529 included) holds after every history -/
theorem wf_run (ops : List Op) : WF (ops.foldl step {}) :=
  List.foldlRecOn ops _ wf_empty fun l h op _ => by
    cases op with
    | ins n ts =>
      exact wf_insert h { number := some n.val, tokens := ts } n.val rfl
        (by have := n.isLt; simp only [maxLineNumber]; omega)
    | del n => exact wf_remove h n
    | delRange lo hi => exact wf_removeRange h lo hi
    | renum a b c =>
      simp only [step]
      cases hr : l.renum renumNumberOnly a b c with
      | error e => exact h
      | ok l' => exact wf_renum h a b c hr
    | clear => exact wf_empty

/-- in particular strictly ascending keys and "stored under its own number" -/
theorem sorted_run (ops : List Op) :
    Sorted (ops.foldl step {}).source ∧ ∀ p ∈ (ops.foldl step {}).source, p.2.number = some p.1 :=
  ⟨(wf_run ops).sorted, (wf_run ops).coherent⟩

example : WF ([Op.ins ⟨10, by omega⟩ [], Op.ins ⟨5, by omega⟩ [], Op.delRange none (some 7),
    Op.renum 100 0 10].foldl step {}) := wf_run _

/-! ### the statements LIST and DELETE: operand forms, parser, runtime

  Parser states: `st0 ts cs ce` is the state with the
  tokens `ts` still to read, no look-ahead, no remark seen.  `lit a` is the token the lexer makes of
  the decimal numeral of `a` (`lit_is_lexed`).  Before every operand token an arbitrary run of
  `.whitespace _` tokens (`AllWs ws`) is allowed; `[]` gives the forms without whitespace.
  What follows the operand is constrained only as far as the parser looks: `StmtEnd tl` (end of the
  tokens, `:`, ELSE or a remark, after any whitespace) always suffices. -/

section Statements
open Parse Lemmas.RangeForms Lemmas.C19 Lemmas.ParseRun _root_.Basic.Runtime

/-- `n`: both ends of the range are `n` -/
theorem operand_n (ws tl : List Token) (a : Nat) (hw : AllWs ws) (ha : a ≤ 65529)
    (htl : NoMinusNext tl) (cs ce : Nat) :
    ∃ c₁ c₂ st', lineNumberRange.run (st0 (ws ++ lit a :: tl) cs ce)
      = .ok ((lineExpr c₁ a, lineExpr c₂ a), st') :=
  ⟨_, _, _, range_n ws a tl hw ha htl cs ce⟩

/-- `n-`: from `n` to 65529 -/
theorem operand_n_minus (ws ws1 tl : List Token) (a : Nat) (hw : AllWs ws) (hw1 : AllWs ws1)
    (ha : a ≤ 65529) (htl : NoNumNext tl) (cs ce : Nat) :
    ∃ c₁ c₂ st', lineNumberRange.run (st0 (ws ++ lit a :: (ws1 ++ .operator .minus :: tl)) cs ce)
      = .ok ((lineExpr c₁ a, lineExpr c₂ 65529), st') :=
  ⟨_, _, _, range_n_minus ws ws1 a tl hw hw1 ha htl cs ce⟩

/-- `-n`: from 0 to `n` (whatever follows) -/
theorem operand_minus_n (ws ws1 tl : List Token) (b : Nat) (hw : AllWs ws) (hw1 : AllWs ws1)
    (hb : b ≤ 65529) (cs ce : Nat) :
    ∃ c₁ c₂ st', lineNumberRange.run (st0 (ws ++ .operator .minus :: (ws1 ++ lit b :: tl)) cs ce)
      = .ok ((lineExpr c₁ 0, lineExpr c₂ b), st') :=
  ⟨_, _, _, range_minus_n ws ws1 b tl hw hw1 hb cs ce⟩

/-- `a-b` with `a ≤ b` (whatever follows) -/
theorem operand_a_minus_b (ws ws1 ws2 tl : List Token) (a b : Nat) (hw : AllWs ws) (hw1 : AllWs ws1)
    (hw2 : AllWs ws2) (hab : a ≤ b) (hb : b ≤ 65529) (cs ce : Nat) :
    ∃ c₁ c₂ st', lineNumberRange.run
        (st0 (ws ++ lit a :: (ws1 ++ .operator .minus :: (ws2 ++ lit b :: tl))) cs ce)
      = .ok ((lineExpr c₁ a, lineExpr c₂ b), st') :=
  ⟨_, _, _, (range_n_minus_n ws ws1 ws2 a b tl hw hw1 hw2 (Nat.le_trans hab hb) hb cs ce).trans
    (if_neg (Nat.not_lt.2 hab))⟩

/-- no operand: the full range 0 to 65529 -/
theorem operand_none (tl : List Token) (htl : StmtEnd tl) (cs ce : Nat) :
    ∃ c₁ c₂ st', lineNumberRange.run (st0 tl cs ce)
      = .ok ((lineExpr c₁ 0, lineExpr c₂ 65529), st') :=
  ⟨_, _, _, range_empty tl htl.noNum htl.noMinus cs ce⟩

/-- an inverted range is refused with UNDEFINED LINE; the result is an error value, so no statement
    is produced and nothing else happens -/
theorem operand_inverted (ws ws1 ws2 tl : List Token) (a b : Nat) (hw : AllWs ws) (hw1 : AllWs ws1)
    (hw2 : AllWs ws2) (hab : b < a) (ha : a ≤ 65529) (cs ce : Nat) :
    ∃ e, lineNumberRange.run
        (st0 (ws ++ lit a :: (ws1 ++ .operator .minus :: (ws2 ++ lit b :: tl))) cs ce) = .error e ∧
      e.code = Code.undefinedLine :=
  ⟨_, (range_n_minus_n ws ws1 ws2 a b tl hw hw1 hw2 ha (Nat.le_trans (Nat.le_of_lt hab) ha) cs ce).trans
    (if_pos hab), rfl⟩

/-- a number above 65529 in first position (forms `n`, `n-`, `n-m`; whatever follows) is refused
    with UNDEFINED LINE; `t` is any numeral token spelling `a` in decimal -/
theorem operand_first_too_large (ws tl : List Token) (t : Token) (a : Nat) (hw : AllWs ws)
    (ht : IsNum t (RStd.natDigits a)) (ha : 65529 < a) (cs ce : Nat) :
    ∃ e, lineNumberRange.run (st0 (ws ++ t :: tl) cs ce) = .error e ∧ e.code = Code.undefinedLine :=
  ⟨_, range_bad_first ws t _ tl hw ht (parseU16_lit_bad ha) cs ce, rfl⟩

/-- … in the form `-n` -/
theorem operand_upto_too_large (ws ws1 tl : List Token) (t : Token) (b : Nat) (hw : AllWs ws)
    (hw1 : AllWs ws1) (ht : IsNum t (RStd.natDigits b)) (hb : 65529 < b) (cs ce : Nat) :
    ∃ e, lineNumberRange.run (st0 (ws ++ .operator .minus :: (ws1 ++ t :: tl)) cs ce) = .error e ∧
      e.code = Code.undefinedLine :=
  ⟨_, range_minus_bad ws ws1 t _ tl hw hw1 ht (parseU16_lit_bad hb) cs ce, rfl⟩

/-- … as the second number of `a-n` -/
theorem operand_second_too_large (ws ws1 ws2 tl : List Token) (t : Token) (a b : Nat) (hw : AllWs ws)
    (hw1 : AllWs ws1) (hw2 : AllWs ws2) (ht : IsNum t (RStd.natDigits b)) (ha : a ≤ 65529)
    (hb : 65529 < b) (cs ce : Nat) :
    ∃ e, lineNumberRange.run
        (st0 (ws ++ lit a :: (ws1 ++ .operator .minus :: (ws2 ++ t :: tl))) cs ce) = .error e ∧
      e.code = Code.undefinedLine :=
  ⟨_, range_bad_second ws ws1 ws2 t _ a tl hw hw1 hw2 ht ha (parseU16_lit_bad hb) cs ce, rfl⟩

/-- a numeral token whose text is no `u16` at all (e.g. `1.5`, `1E3`) is refused as well -/
theorem operand_not_u16 (ws tl : List Token) (t : Token) (s : Str) (hw : AllWs ws) (ht : IsNum t s)
    (hs : Fmt.parseU16 s = none) (cs ce : Nat) :
    ∃ e, lineNumberRange.run (st0 (ws ++ t :: tl) cs ce) = .error e ∧ e.code = Code.undefinedLine :=
  ⟨_, range_bad_first ws t s tl hw ht (fun a h => by rw [hs] at h; cases h) cs ce, rfl⟩

/-- the lexer makes `lit a` of the decimal numeral of `a` -/
theorem lit_is_lexed (a : Nat) (ha : a ≤ 65535) (rest : List Char) (hb : Lex.NumBoundary rest) :
    Lex.number (RStd.natDigits a ++ rest) = (lit a, rest) := by
  have hw := Lex.Numeral.plain_wf _ (KeyText.natDigits_ne_nil a) (fun _ => KeyText.isDigit_of_mem_natDigits)
  have hlen : ¬ (RStd.natDigits a).length > 7 := by
    rw [KeyText.natDigits_eq]
    have := (Nat.length_toDigits_le_iff (b := 10) (k := 5) (by decide) (by decide)).2 (by omega : a < 10 ^ 5)
    omega
  have h := Lex.number_numeral _ hw rest (fun _ => hb)
  rw [Lex.Numeral.token_eq _ hw, Lex.Numeral.plain_text, Lex.Numeral.plain_ty, if_neg hlen, Lex.decimalValue_eq,
    KeyText.natDigits_value] at h
  rw [h, lit]
  split <;> rfl

example : ∃ c₁ c₂ st', lineNumberRange.run (st0 [lit 10] 0 4)
    = .ok ((lineExpr c₁ 10, lineExpr c₂ 10), st') :=
  operand_n [] [] 10 AllWs.nil (by decide) stmtEnd_nil.noMinus 0 4
example : ∃ c₁ c₂ st', lineNumberRange.run (st0 [lit 10, .operator .minus, .colon, .word .end] 0 6)
    = .ok ((lineExpr c₁ 10, lineExpr c₂ 65529), st') :=
  operand_n_minus [] [] _ 10 AllWs.nil AllWs.nil (by decide) (stmtEnd_colon _).noNum 0 6
example : ∃ c₁ c₂ st', lineNumberRange.run (st0 [.whitespace 1, .operator .minus, .whitespace 2, lit 40000] 0 4)
    = .ok ((lineExpr c₁ 0, lineExpr c₂ 40000), st') :=
  operand_minus_n [.whitespace 1] [.whitespace 2] [] 40000 AllWs.nil.cons AllWs.nil.cons (by decide) 0 4
example : ∃ c₁ c₂ st', lineNumberRange.run (st0 [lit 10, .operator .minus, lit 65529] 0 4)
    = .ok ((lineExpr c₁ 10, lineExpr c₂ 65529), st') :=
  operand_a_minus_b [] [] [] [] 10 65529 AllWs.nil AllWs.nil AllWs.nil (by decide) (by decide) 0 4
example : ∃ c₁ c₂ st', lineNumberRange.run (st0 [.whitespace 1, .word .else] 0 4)
    = .ok ((lineExpr c₁ 0, lineExpr c₂ 65529), st') :=
  operand_none _ (stmtEnd_ws [.whitespace 1] _ AllWs.nil.cons (stmtEnd_else [])) 0 4
example : ∃ e, lineNumberRange.run (st0 [lit 20, .operator .minus, lit 10] 0 6) = .error e ∧
    e.code = Code.undefinedLine :=
  operand_inverted [] [] [] [] 20 10 AllWs.nil AllWs.nil AllWs.nil (by decide) (by decide) 0 6
example : ∃ e, lineNumberRange.run (st0 [.literal (.single (RStd.natDigits 65530))] 0 6) = .error e ∧
    e.code = Code.undefinedLine :=
  operand_first_too_large [] [] _ 65530 AllWs.nil (Or.inr (Or.inl rfl)) (by decide) 0 6
example : ∃ e, lineNumberRange.run (st0 [.operator .minus, .literal (.single (RStd.natDigits 70000))] 0 6)
    = .error e ∧ e.code = Code.undefinedLine :=
  operand_upto_too_large [] [] [] _ 70000 AllWs.nil AllWs.nil (Or.inr (Or.inl rfl)) (by decide) 0 6
example : ∃ e, lineNumberRange.run
    (st0 [lit 10, .operator .minus, .literal (.double (RStd.natDigits 123456789))] 0 6) = .error e ∧
    e.code = Code.undefinedLine :=
  operand_second_too_large [] [] [] [] _ 10 123456789 AllWs.nil AllWs.nil AllWs.nil
    (Or.inr (Or.inr rfl)) (by decide) (by decide) 0 6
example : ∃ e, lineNumberRange.run (st0 [.literal (.single "1.5".toList)] 0 6) = .error e ∧
    e.code = Code.undefinedLine :=
  operand_not_u16 [] [] _ _ AllWs.nil (Or.inr (Or.inl rfl)) (by decide) 0 6
example : Lex.number ("10-".toList) = (lit 10, "-".toList) :=
  lit_is_lexed 10 (by decide) "-".toList (by decide)

/-- a bare DELETE (followed by the end of the line, `:`, ELSE or a remark) does not parse:
    ILLEGAL FUNCTION CALL (fix D17), and no statement is produced -/
theorem delete_bare_refused (ln : Option Nat) (ws tl : List Token) (hw : AllWs ws) (htl : StmtEnd tl) :
    ∃ e, parse ln (ws ++ .word .delete :: tl) = .error e ∧ e.code = Code.illegalFunctionCall ∧
      e.line = ln := by
  refine ⟨(bareDeleteErr (0 + width ws) (0 + width ws + 6)).inLine ln, ?_, rfl, rfl⟩
  unfold parse
  rw [parseTokens_one_error (tok_solid hw word_solid_delete tl 0 0) (by decide) fun fuel =>
    statement_delete_bare fuel ws tl hw htl 0 0]

/-- a bare LIST parses to the LIST statement for the full range 0 to 65529 -/
theorem list_bare_full_range (ln : Option Nat) (ws tl : List Token) (hw : AllWs ws) (htl : LineEnd tl) :
    ∃ c c₁ c₂, parse ln (ws ++ .word .list :: tl)
      = .ok [.list c (lineExpr c₁ 0) (lineExpr c₂ 65529)] := by
  have h := (parseTokens_list ws tl hw).2 _ _ _
    (range_empty tl htl.stmtEnd.noNum htl.stmtEnd.noMinus _ _) (by rw [← pk_st0, tok_pk, tok_st0, htl])
  exact ⟨_, _, _, by unfold parse; rw [h]; rfl⟩

/-- the line `LIST a-b`, `a ≤ b ≤ 65529`, parses to the LIST statement with ends `a` and `b` -/
theorem list_line_a_minus_b (ln : Option Nat) (ws ws0 ws1 ws2 tl : List Token) (a b : Nat)
    (hw : AllWs ws) (hw0 : AllWs ws0) (hw1 : AllWs ws1) (hw2 : AllWs ws2) (htl : LineEnd tl)
    (hab : a ≤ b) (hb : b ≤ 65529) :
    ∃ c c₁ c₂, parse ln (ws ++ .word .list ::
        (ws0 ++ lit a :: (ws1 ++ .operator .minus :: (ws2 ++ lit b :: tl))))
      = .ok [.list c (lineExpr c₁ a) (lineExpr c₂ b)] := by
  have h := (parseTokens_list ws _ hw).2 _ _ _
    ((range_n_minus_n ws0 ws1 ws2 a b tl hw0 hw1 hw2 (Nat.le_trans hab hb) hb _ _).trans
      (if_neg (Nat.not_lt.2 hab)))
    (by rw [tok_st0, htl])
  exact ⟨_, _, _, by unfold parse; rw [h]⟩

/-- the line `DELETE a-b`, `a ≤ b ≤ 65529`, parses to the DELETE statement with ends `a` and `b` -/
theorem delete_line_a_minus_b (ln : Option Nat) (ws ws0 ws1 ws2 tl : List Token) (a b : Nat)
    (hw : AllWs ws) (hw0 : AllWs ws0) (hw1 : AllWs ws1) (hw2 : AllWs ws2) (htl : LineEnd tl)
    (hab : a ≤ b) (hb : b ≤ 65529) :
    ∃ c c₁ c₂, parse ln (ws ++ .word .delete ::
        (ws0 ++ lit a :: (ws1 ++ .operator .minus :: (ws2 ++ lit b :: tl))))
      = .ok [.delete c (lineExpr c₁ a) (lineExpr c₂ b)] := by
  have h := (parseTokens_delete ws _ hw (isEnd_lit ws0 a _ hw0 _ _)).2 _ _ _
    ((range_n_minus_n ws0 ws1 ws2 a b tl hw0 hw1 hw2 (Nat.le_trans hab hb) hb _ _).trans
      (if_neg (Nat.not_lt.2 hab)))
    (by rw [tok_st0, htl])
  exact ⟨_, _, _, by unfold parse; rw [h]⟩

/-- the line `DELETE a-b` with `a > b` does not parse: UNDEFINED LINE -/
theorem delete_line_inverted (ln : Option Nat) (ws ws0 ws1 ws2 tl : List Token) (a b : Nat)
    (hw : AllWs ws) (hw0 : AllWs ws0) (hw1 : AllWs ws1) (hw2 : AllWs ws2)
    (hab : b < a) (ha : a ≤ 65529) :
    ∃ e, parse ln (ws ++ .word .delete ::
        (ws0 ++ lit a :: (ws1 ++ .operator .minus :: (ws2 ++ lit b :: tl)))) = .error e ∧
      e.code = Code.undefinedLine := by
  have h := (parseTokens_delete ws _ hw (isEnd_lit ws0 a _ hw0 _ _)).1 _
    ((range_n_minus_n ws0 ws1 ws2 a b tl hw0 hw1 hw2 ha (Nat.le_trans (Nat.le_of_lt hab) ha) _ _).trans
      (if_pos hab))
  exact ⟨_, by unfold parse; rw [h], rfl⟩

example : ∃ e, parse none [.word .delete] = .error e ∧ e.code = Code.illegalFunctionCall ∧ e.line = none :=
  delete_bare_refused none [] [] AllWs.nil stmtEnd_nil
example : ∃ e, parse (some 10) [.whitespace 1, .word .delete, .whitespace 1, .colon, .word .end] = .error e ∧
    e.code = Code.illegalFunctionCall ∧ e.line = some 10 :=
  delete_bare_refused (some 10) [.whitespace 1] _ AllWs.nil.cons
    (stmtEnd_ws [.whitespace 1] _ AllWs.nil.cons (stmtEnd_colon _))
example : ∃ e, parse none [.word .delete, .word .else, .word .end] = .error e ∧
    e.code = Code.illegalFunctionCall ∧ e.line = none :=
  delete_bare_refused none [] _ AllWs.nil (stmtEnd_else _)
example : ∃ c c₁ c₂, parse none [.word .list] = .ok [.list c (lineExpr c₁ 0) (lineExpr c₂ 65529)] :=
  list_bare_full_range none [] [] AllWs.nil lineEnd_nil
example : ∃ c c₁ c₂, parse none [.word .list, .whitespace 1, lit 10, .operator .minus, lit 20]
    = .ok [.list c (lineExpr c₁ 10) (lineExpr c₂ 20)] :=
  list_line_a_minus_b none [] [.whitespace 1] [] [] [] 10 20 AllWs.nil AllWs.nil.cons AllWs.nil AllWs.nil
    lineEnd_nil (by decide) (by decide)
example : ∃ c c₁ c₂, parse none [.word .delete, .whitespace 1, lit 10, .operator .minus, lit 20]
    = .ok [.delete c (lineExpr c₁ 10) (lineExpr c₂ 20)] :=
  delete_line_a_minus_b none [] [.whitespace 1] [] [] [] 10 20 AllWs.nil AllWs.nil.cons AllWs.nil AllWs.nil
    lineEnd_nil (by decide) (by decide)
example : ∃ e, parse none [.word .delete, .whitespace 1, lit 20, .operator .minus, lit 10] = .error e ∧
    e.code = Code.undefinedLine :=
  delete_line_inverted none [] [.whitespace 1] [] [] [] 20 10 AllWs.nil AllWs.nil.cons AllWs.nil AllWs.nil
    (by decide) (by decide)

/-- DELETE at run time, with the two ends of the range on the stack (`a` below `b`) and both of
    them line numbers: the statement ends the program (`Event.stopped`), the store afterwards is the
    store before with exactly the lines numbered `lo … hi` removed, the invariant is kept, and the
    store is marked dirty exactly when a line was removed.
    (The operands the compiled statement pushes are `Single` values built by `Float32.ofNat`, which
    the kernel cannot evaluate; hence the hypotheses on `toLineNumber` instead of concrete values.) -/
theorem delete_removes_exactly (s : Runtime) (stk : Array Val) (a b : Val) (lo hi : Nat)
    (h : s.stack = (stk.push a).push b) (ha : a.toLineNumber = .ok (some lo))
    (hb : b.toLineNumber = .ok (some hi)) :
    ((doDelete.run).run s).1 = .ok .stopped ∧
    abs ((doDelete.run).run s).2.listing = (abs s.listing).deleteRange lo hi ∧
    (WF s.listing → WF ((doDelete.run).run s).2.listing) ∧
    (((doDelete.run).run s).2.dirty = true ↔
      s.dirty = true ∨ ∃ k, lo ≤ k ∧ k ≤ hi ∧ (abs s.listing k).isSome = true) := by
  obtain ⟨h1, h2, h3⟩ := doDelete_listing s stk a b (some lo) (some hi) h ha hb
  refine ⟨h1, ?_, ?_, ?_⟩
  · rw [h2]; exact removeRange_refines s.listing lo hi
  · intro hwf; rw [h2]; exact wf_removeRange hwf _ _
  · rw [h3, Bool.or_eq_true, (removeRange_exact s.listing (some lo) (some hi)).2]
    simp only [inRange_some, and_assoc]

/-- … and when no stored line lies in the range the store is the very same and `dirty` keeps its
    value -/
theorem delete_nothing_in_range (s : Runtime) (stk : Array Val) (a b : Val) (lo hi : Nat)
    (h : s.stack = (stk.push a).push b) (ha : a.toLineNumber = .ok (some lo))
    (hb : b.toLineNumber = .ok (some hi))
    (hn : ∀ k, lo ≤ k → k ≤ hi → abs s.listing k = none) :
    ((doDelete.run).run s).1 = .ok .stopped ∧
    ((doDelete.run).run s).2.listing = s.listing ∧ ((doDelete.run).run s).2.dirty = s.dirty := by
  obtain ⟨h1, h2, h3⟩ := doDelete_listing s stk a b (some lo) (some hi) h ha hb
  have hno : (s.listing.removeRange (some lo) (some hi)).2 = false := Bool.eq_false_iff.2 fun ht => by
    obtain ⟨k, hk, hs⟩ := (removeRange_exact s.listing (some lo) (some hi)).2.1 ht
    have hk' := (inRange_some lo hi k).1 hk
    rw [hn k hk'.1 hk'.2] at hs
    cases hs
  exact ⟨h1, h2.trans (removeRange_unchanged _ _ _ hno), by rw [h3, hno, Bool.or_false]⟩

/-- an operand that is no line number (`toLineNumber` fails: above 65529, negative, not a number)
    makes DELETE raise that error; the store and its dirty flag are unchanged -/
theorem delete_not_a_line_number (s : Runtime) (stk : Array Val) (a b : Val) (e : Error)
    (h : s.stack = (stk.push a).push b)
    (hab : a.toLineNumber = .error e ∨ (∃ lo, a.toLineNumber = .ok lo) ∧ b.toLineNumber = .error e) :
    ((doDelete.run).run s).1 = .error e ∧
    ((doDelete.run).run s).2.listing = s.listing ∧ ((doDelete.run).run s).2.dirty = s.dirty := by
  -- the two operands are popped, the conversion fails, nothing else happens
  have hr : (doDelete.run).run s = (.error e, { s with stack := stk }) := by
    unfold doDelete
    rw [run_bind, rm_pop2 s stk a b h]
    rcases hab with ha | ⟨⟨lo, ha⟩, hb⟩
    · simp only [ha, run_bind, run_liftE]
    · simp only [ha, hb, run_bind, run_liftE]
  rw [hr]
  exact ⟨rfl, rfl, rfl⟩

/-- which values are no line numbers: anything whose `u16` value exceeds 65529 (UNDEFINED LINE),
    and anything that is no `u16` (the error of that conversion) -/
theorem not_a_line_number (v : Val) :
    (∀ n, v.toU16 = .ok n → 65529 < n → v.toLineNumber = err Code.undefinedLine) ∧
    (∀ e, v.toU16 = .error e → v.toLineNumber = .error e) := by
  constructor
  · intro n h hn
    rw [toLineNumber_eq, h]
    exact if_neg (by simp only [maxLineNumber] at *; omega)
  · intro e h
    rw [toLineNumber_eq, h]

/-- LIST at run time, with two line numbers on the stack: the runtime enters the listing state for
    that range; nothing is emitted yet and nothing else changes (the operands are popped) -/
theorem list_enters_listing (s : Runtime) (stk : Array Val) (a b : Val) (lo hi : Nat)
    (h : s.stack = (stk.push a).push b) (ha : a.toLineNumber = .ok (some lo))
    (hb : b.toLineNumber = .ok (some hi)) :
    (doList.run).run s = (.ok (), { s with stack := stk, state := .listing (some lo) (some hi) }) :=
  doList_range s stk a b _ _ h ha hb

/-- … and with an operand that is no line number LIST raises the error and no listing state is
    entered -/
theorem list_not_a_line_number (s : Runtime) (stk : Array Val) (a b : Val) (e : Error)
    (h : s.stack = (stk.push a).push b)
    (hab : a.toLineNumber = .error e ∨ (∃ lo, a.toLineNumber = .ok lo) ∧ b.toLineNumber = .error e) :
    (doList.run).run s = (.error e, { s with stack := stk }) := by
  unfold doList
  rw [run_bind, rm_pop2 s stk a b h]
  rcases hab with ha | ⟨⟨lo, ha⟩, hb⟩
  · simp only [ha, run_bind, run_liftE]
  · simp only [ha, hb, run_bind, run_liftE]

/-- from a listing state, as many calls of `execute` as `listIter` finds lines emit exactly those
    lines and leave the state with an exhausted range; apart from the print column nothing else
    changes -/
theorem executeN_listing (env : Env) (n : Nat) : ∀ (fuel : Nat) (s : Runtime) (lo hi : Option Nat)
    out, s.state = .listing lo hi → listIter s.listing fuel lo hi = some out →
    ∃ r : Option Nat × Option Nat,
      executeN env n out.length s =
        (out.map (fun x => Event.list x.1 x.2),
          { s with state := .listing r.1 r.2, printCol := if out.isEmpty then s.printCol else 0 }) ∧
      s.listing.listLine r.1 r.2 = none
  | 0, _, _, _, _, _, h => by cases h
  | fuel + 1, s, lo, hi, out, hs, h => by
    unfold listIter at h
    cases hl : s.listing.listLine lo hi with
    | none =>
      rw [hl] at h
      cases h
      refine ⟨(lo, hi), ?_, hl⟩
      simp only [List.length_nil, executeN, List.map_nil, List.isEmpty_nil, if_true, ← hs]
    | some x =>
      obtain ⟨⟨text, cols⟩, lo', hi'⟩ := x
      rw [hl] at h
      simp only at h
      cases hr : listIter s.listing fuel lo' hi' with
      | none => rw [hr] at h; cases h
      | some o =>
        rw [hr] at h
        cases h
        obtain ⟨r, ih, hend⟩ := executeN_listing env n fuel
          { s with state := .listing lo' hi', printCol := 0 } lo' hi' o rfl hr
        refine ⟨r, ?_, hend⟩
        simp only [List.length_cons, executeN, execute_listing_some env s n lo hi lo' hi' text cols hs hl,
          ih, List.map_cons, List.isEmpty_cons, Bool.false_eq_true, if_false]
        congr 2
        split <;> rfl

/-- LIST at run time: from the listing state of the range `lo … hi` over a well-formed store, as
    many calls of `Runtime.execute` as there are stored lines in the range return exactly those
    lines, in ascending order, each as an `Event.list` with its listed text and error columns
    (`list_emits_exactly`); afterwards the range in the state is exhausted, and apart from the
    state's range and the print column nothing has changed, the store included -/
theorem list_runtime_emits_exactly (env : Env) (n : Nat) (s : Runtime) (lo hi : Nat)
    (hs : s.state = .listing (some lo) (some hi)) (hl : WF s.listing) :
    ∃ r : Option Nat × Option Nat,
      executeN env n (listSpec (abs s.listing) lo hi).length s =
        ((listSpec (abs s.listing) lo hi).map fun p =>
            Event.list (render s.listing p).1 (render s.listing p).2,
          { s with state := .listing r.1 r.2,
                   printCol := if (listSpec (abs s.listing) lo hi).isEmpty then s.printCol else 0 }) ∧
      s.listing.listLine r.1 r.2 = none := by
  obtain ⟨r, h, hend⟩ := executeN_listing env n _ s _ _ _ hs (list_emits_exactly s.listing hl lo hi)
  simp only [List.length_map, List.map_map, List.isEmpty_map] at h
  exact ⟨r, h, hend⟩

/-- once the range is exhausted the next call of `execute` carries on with the rest of the direct
    line exactly as from the running state (LIST emits nothing more) -/
theorem list_runtime_done (env : Env) (s : Runtime) (n : Nat) (lo hi : Option Nat)
    (hs : s.state = .listing lo hi) (hl : s.listing.listLine lo hi = none)
    (hd : s.listing.directErrors.isEmpty = true) :
    execute env s n = execute env { s with state := .running } n := by
  exact Runtime.execute_listing_none env s n lo hi hs hl (List.isEmpty_iff.1 hd)

/-- the store of the examples: lines 0, 10 and 65529 -/
def exStore : Listing :=
  ({} : Listing).insert ⟨some 10, [.word .end]⟩ |>.insert ⟨some 0, [.word .cls]⟩
    |>.insert ⟨some 65529, [.word .stop]⟩

/-- `DELETE 10-` on it: the stack holds 10 and 65529.0 (as `f32` bits) -/
def exDelete : Runtime :=
  { listing := exStore, stack := (#[].push (.int 10)).push (.sng 0x477FF900) }

example : (Val.int 10).toLineNumber = .ok (some 10) ∧
    (Val.sng 0x477FF900).toLineNumber = .ok (some 65529) := by decide
theorem exStore_wf : WF exStore :=
  wf_insert (wf_insert (wf_insert wf_empty _ 10 rfl (by decide)) _ 0 rfl (by decide)) _ 65529 rfl (by decide)
example : abs ((doDelete.run).run exDelete).2.listing = (abs exStore).deleteRange 10 65529 :=
  (delete_removes_exactly exDelete #[] (.int 10) (.sng 0x477FF900) 10 65529 rfl (by decide) (by decide)).2.1
example : ((doDelete.run).run exDelete).2.listing.source.map (·.1) = [0] ∧
    ((doDelete.run).run exDelete).2.dirty = true := by decide
/-- `DELETE 11-20`: nothing there -/
example : ((doDelete.run).run { exDelete with stack := (#[].push (.int 11)).push (.int 20) }).2.listing
    = exStore :=
  (delete_nothing_in_range { exDelete with stack := (#[].push (.int 11)).push (.int 20) } #[]
    (.int 11) (.int 20) 11 20 rfl (by decide) (by decide) (by
      intro k h1 h2
      have : ∀ k : Fin 21, 11 ≤ k.val → abs exStore k.val = none := by decide
      exact this ⟨k, by omega⟩ h1)).2.1
/-- 65530.0 and -1 are no line numbers -/
example : (Val.sng 0x477FFA00).toLineNumber = err Code.undefinedLine ∧
    (Val.int (-1)).toLineNumber = err Code.overflow := by decide
example : ((doDelete.run).run { exDelete with stack := (#[].push (.int 10)).push (.sng 0x477FFA00) }).1
    = err Code.undefinedLine ∧
    ((doDelete.run).run { exDelete with stack := (#[].push (.int 10)).push (.sng 0x477FFA00) }).2.listing
    = exStore :=
  have h := delete_not_a_line_number { exDelete with stack := (#[].push (.int 10)).push (.sng 0x477FFA00) }
    #[] (.int 10) (.sng 0x477FFA00) (Error.mk' Code.undefinedLine) rfl
    (Or.inr ⟨⟨some 10, by decide⟩, by decide⟩)
  ⟨h.1, h.2.1⟩
example : (Val.sng 0x477FFA00).toLineNumber = err Code.undefinedLine :=
  (not_a_line_number _).1 65530 (by decide) (by decide)
example : (Val.str []).toLineNumber = err Code.typeMismatch := (not_a_line_number _).2 _ rfl
example : (doList.run).run exDelete
    = (.ok (), { exDelete with stack := #[], state := .listing (some 10) (some 65529) }) :=
  list_enters_listing exDelete #[] (.int 10) (.sng 0x477FF900) 10 65529 rfl (by decide) (by decide)
example : (doList.run).run { exDelete with stack := (#[].push (.int (-1))).push (.int 5) }
    = (.error (Error.mk' Code.overflow), { exDelete with stack := #[] }) :=
  list_not_a_line_number _ #[] (.int (-1)) (.int 5) _ rfl (Or.inl (by decide))
/-- `LIST 10-`: two calls of `execute` return lines 10 and 65529 -/
example (env : Env) : (executeN env 100 2 { listing := exStore, state := .listing (some 10) (some 65529) }).1
    = [.list "10 END".toList [], .list "65529 STOP".toList []] := rfl
example (env : Env) : execute env { listing := exStore, state := .listing (some endMark) (some endMark) } 5
    = execute env { listing := exStore, state := .running } 5 :=
  list_runtime_done env _ 5 _ _ rfl (by decide) rfl

end Statements

/-- the largest line number re-extracted from lang/mod.rs; `Gen/Limits.lean` is regenerated from /repo/src on every run, so editing one of these
    constants in the Rust source breaks this obligation -/
theorem generated_limits_documented : Gen.maxLineNumber = 65529 := by decide

end Thm.C15
end Basic

import BasicModel.Thm.C03
import BasicModel.Lemmas.NoFaultSession
import BasicModel.Lemmas.RangeCodegen
/-
  C03 (continued) — no reachable state and no event carries a fault.

  In the model a Rust panic is the error code `Code.fault` (`Error.isFault`).  The places where the
  model can produce it at all are, after the repairs D21 and D22 below:
  (i)   `Parse.outOfFuel` (Model/Parse.lean) — the recursion depth of the parser.  PROVED
        UNREACHABLE: the fuel `6 * tokens + 20` covers every token list (`parser_never_faults`).
  (ii)  `Listing.removeRangeR` / `listLineR` (Model/Listing.lean) — `BTreeMap::range` with an
        inverted range.  NOT CALLED by `Model/Runtime.lean`, which uses the total `removeRange` /
        `listLine`; they agree on every range that is not inverted (`rangeR_total_of_not_inverted`),
        the parser only produces ordered ranges (`parsed_range_ordered`), the code of a parsed
        LIST / DELETE hands exactly that range over (section 2, under `LineLiteralRoundTrip`), and
        stepping through a listing never inverts it (`listing_continuation_not_inverted`).
  (iii) `Model/Var.lean` — none: `Var.tyOf` looks the DEFtype table up with a checked index
        (fix D21), `Var.defTy` refuses a range whose ends are not letters (fix D22).
  No other definition of `Model/` mentions `fault`.

  RESULT (`no_fault_reachable`).  With the model's own lexer and RENUM rewriter, after ANY list of
  API calls (`execute`, `enter`, `interrupt`, `set_listing` with listings of lexed lines): no state
  holds a fault — not as `state = runtimeError e`, not in `cont`, not among the compile-time
  diagnostics of the program or the listing — and no `execute` returns an `errors` event containing
  one.  The runtime part needs nothing about the program or the stack: one instruction never faults,
  from any state (`instruction_never_faults`).  `names_reachable` (every name operand of compiled
  code starts with a letter) is proved separately; the result does not depend on it.

  Former finding D21 (repaired; `nextframe_no_fault` is its last step):
      10 DEF FNA(X,Y,Z)=1
      20 FOR I=1 TO 2
      30 A=FNA(1\0,1\0,"hello")
      RUN / CONT / CONT / NEXT   → before the repair: panic in var.rs `types[idx]` (fetch of the variable `hello`)
  CONT after a run-time error resumes behind the failed instruction with the operand stack one
  value short; after two of them `r#fn` re-pushed `"I"`, the `Next` entry and `"hello"` reversed, and
  a bare `NEXT` took `hello` for the loop variable.  With the repair: TYPE MISMATCH.

  Former finding D22 (repaired; `deftype_no_fault` is its last step):
      10 X$="}"+("}"+STR$(3+(1\0)))
      20 ON 1\0 GOTO :CLS:DEFINT A-B
      RUN / GOTO 20 / CONT       → before the repair: panic in var.rs `types[idx] = t` (DEFINT "}"-"}")
  CONT resumed at `On` with the stack one value short: `r#on` took its own count literal `0` for the
  selector and a stale `3` for the count, `pc += 3` landed on `Defint` behind its two literals, and
  `Defint` popped two stale strings.  With the repair: ILLEGAL FUNCTION CALL.
  (The stack discipline itself — CONT after an error, `r#on` trusting the popped count — is
  as it was; it does not reach a panic site.)
-/
namespace Basic
namespace Thm.C03
open Basic.Runtime Basic.Lemmas.ParseNames Basic.Program

/-! ### 1. names

  (a)–(c) say where the names that reach the variable store come from: a name not starting with
  a letter never comes from compiled code.  The absence of faults does not depend on them
  (`tyOf_never_faults` holds for any name, fix D21). -/

/-- (a) the lexer only produces identifier tokens whose text starts with `A`..`Z` -/
theorem lexer_idents_start_with_letter (src : Str) (i : TIdent) (h : Token.ident i ∈ (Lex.lex src).2) :
    Letter1 i.name :=
  Lemmas.LexIdent.lex_ident_letter1 src i h

/-- … also as a `Line` (`Line::new`), and after the RENUM rewriter -/
theorem lexed_line_ok (src : Str) : LineOk (Lex.lineNew src) := lineOk_lineNew src
theorem lexed_lines_ok (texts : List Str) : ∀ l ∈ texts.map Lex.lineNew, LineOk l := fun l hl => by
  obtain ⟨src, _, rfl⟩ := List.mem_map.1 hl
  exact lexed_line_ok src
theorem renumbered_line_ok (ch : List (Nat × Nat)) (l : Line) (h : LineOk l) : LineOk (Lex.lineRenum ch l) :=
  lineOk_lineRenum ch l h

/-- (b) the parser only puts identifier-token texts into `Variable` nodes — plus the `FNname.`
    prefix of a parameter, `TAB` for the print zones and the empty dummy name of a bare `NEXT`:
    every name in the AST is empty or starts with a letter, every array name starts with a letter -/
theorem parser_names_from_tokens (ln : Option Nat) (ts : List Token) (h : ToksOk ts) (ast : List Stmt)
    (hp : Parse.parse ln ts = .ok ast) : StmtsOk ast :=
  parse_stmtsOk ln ts h ast hp

/-- (c) the code generator only emits name operands taken from those nodes -/
theorem codegen_names_from_ast (link : Link) (ast : List Stmt) (h : StmtsOk ast) (hl : OpsOk link.ops) :
    OpsOk (Codegen.codegen link ast).1.ops :=
  Codegen.codegen_linkOk link ast h hl

/-- hence: in a program compiled from ANY listing lexed by the model's lexer, every name operand
    is empty or starts with a letter, and every array name starts with a letter -/
theorem compiled_names_ok (texts : List Str) :
    OpsOk (Program.compile (texts.map Lex.lineNew)).link.ops :=
  compile_progOk _ (lexed_lines_ok texts)

/-- … and with ANY direct line on top of it -/
theorem compiled_direct_names_ok (texts : List Str) (direct : Str) :
    OpsOk ((((({} : Program).codegenLines (texts.map Lex.lineNew)).codegenLine (Lex.lineNew direct)).linkProg).link.ops) :=
  ((ProgOk.empty.codegenLines (lexed_lines_ok texts)).codegenLine (lexed_line_ok direct)).linkProg

/-- the type table is looked up with a checked index (fix D21): `tyOf` — hence `fetch`, `store`
    and the array operations — never faults, for ANY name -/
theorem tyOf_never_faults (v : Var) (name : Str) (e : Error) (he : v.tyOf name = .error e) :
    e.isFault = false :=
  (Var.nfe_tyOf v name).out e he

theorem fetch_store_never_fault (v : Var) (name : Str) (x : Val) :
    (∀ e, v.fetch name = .error e → e.isFault = false) ∧ (∀ e, v.store name x = .error e → e.isFault = false) :=
  ⟨(Var.nfe_fetch v name).out, (Var.nfe_store v name x).out⟩

theorem array_ops_never_fault (v : Var) (name : Str) (idx : List Val) (x : Val) :
    (∀ e, (v.fetchArray name idx).2 = .error e → e.isFault = false) ∧
    (∀ e, (v.storeArray name idx x).2 = .error e → e.isFault = false) :=
  ⟨(Var.nfe_fetchArray v name idx).out, (Var.nfe_storeArray v name idx x).out⟩

/-- DEFtype never faults (fix D22): a range whose ends are not letters is ILLEGAL FUNCTION CALL -/
theorem deftype_never_faults (v : Var) (t : VarTy) (frm to : Val) (e : Error)
    (he : v.defTy t frm to = .error e) : e.isFault = false :=
  (Var.nfe_defTy v t frm to).out e he

/-- (d) **one step of the VM never faults**: from ANY state — any program, any stack -/
theorem step_never_faults (env : Env) (hie : Bool) (s : Runtime) (e : Error)
    (he : ((step env hie).run.run s).1 = .error e) : e.isFault = false :=
  (step_oeff_any env hie s).no_fault he

theorem instruction_never_faults (env : Env) (hie : Bool) (op : Opcode) (s : Runtime) (e : Error)
    (he : ((execOp env hie op).run.run s).1 = .error e) : e.isFault = false :=
  execOp_no_fault env hie op s e he

theorem slice_never_faults (env : Env) (n : Nat) (s : Runtime) (e : Error)
    (he : ((executeLoop env n).run.run s).1 = .error e) : e.isFault = false :=
  executeLoop_no_fault env n s e he

def faults {α : Type} (r : Except Error α × Runtime) : Bool :=
  match r.1 with
  | .error e => e.isFault
  | .ok _ => false

def errorCode {α : Type} (r : Except Error α × Runtime) : Option Nat :=
  match r.1 with
  | .error e => some e.code
  | .ok _ => none

/-- former finding D21: a non-name string under a `Next` entry.  Since the fix the bare `NEXT`
    reads the default value Single 0 for `hello`; adding the "step" found under it (here the
    `Return` entry) is a TYPE MISMATCH — a BASIC error, no fault -/
def nextFrameState : Runtime :=
  { program := { link := { ops := #[.next []] } }, pc := 0,
    stack := #[.int 2, .int 1, .str "I".toList, .ret 7, .str "hello".toList, .nxt 5] }

theorem nextframe_no_fault :
    faults ((step env0 false).run.run nextFrameState) = false ∧
    errorCode ((step env0 false).run.run nextFrameState) = some Code.typeMismatch := by
  decide

/-- former finding D22: `DEFINT` reached behind its two literals, with two stale strings on top of
    the stack.  Since the fix: ILLEGAL FUNCTION CALL, no fault, and the type table is untouched -/
def defTypeState : Runtime :=
  { program := { link := { ops := #[.cls, .literal (.str "A".toList), .literal (.str "B".toList), .defint] } },
    pc := 3, stack := #[.str "}".toList, .str "}".toList] }

theorem deftype_no_fault :
    faults ((step env0 false).run.run defTypeState) = false ∧
    errorCode ((step env0 false).run.run defTypeState) = some Code.illegalFunctionCall ∧
    ((step env0 false).run.run defTypeState).2.vars.typeLetters = defTypeState.vars.typeLetters := by
  decide

/-- … while the same instruction reached in sequence, after its two literals, runs: A and B become
    Integer -/
example : faults ((step env0 false).run.run
      { defTypeState with stack := #[.str "A".toList, .str "B".toList] }) = false ∧
    (((step env0 false).run.run
      { defTypeState with stack := #[.str "A".toList, .str "B".toList] }).2.vars.typeLetters.take 3) =
      "IIS".toList := by decide

/-! ### 2. ranges

  The runtime model calls the total `Listing.removeRange` / `listLine`; the real code panics in
  `BTreeMap::range` exactly when `Listing.rangeFaults` (a rooted map and an inverted range).  What
  is shown: the range a parsed LIST / DELETE statement hands over is not inverted.  The operands
  travel as Single literals through the generator and the stack; `LineLiteralRoundTrip` (a line
  literal converts back to its number) is the one fact the kernel cannot compute, because
  `Float32.ofNat` is opaque; it is a hypothesis here and is validated by the differential tests. -/

/-- the parser (`expect_line_number_range`) only returns ordered pairs of line literals -/
theorem parsed_range_ordered (st st' : Parse.PState) (a b : Expr)
    (h : Parse.lineNumberRange.run st = .ok ((a, b), st')) :
    ∃ ca cb m n, (a, b) = (Parse.lineExpr ca m, Parse.lineExpr cb n) ∧ m ≤ n ∧ n ≤ maxLineNumber :=
  Parse.lineNumberRange_ordered.out st (a, b) st' h

/-- the code generated for such a statement is `literal m, literal n, list|delete` -/
theorem range_code_generated (hrt : LineLiteralRoundTrip) (isList : Bool) (c ca cb : Col) (m n : Nat)
    (hm : m ≤ maxLineNumber) (hn : n ≤ maxLineNumber) (s : Codegen.VState) :
    (Codegen.acceptStmt (if isList then .list c (Parse.lineExpr ca m) (Parse.lineExpr cb n)
                 else .delete c (Parse.lineExpr ca m) (Parse.lineExpr cb n)) s) =
      { s with g := { s.g with stmt := s.g.stmt.push ((c.1, cb.2),
          { ops := #[Codegen.lineLit m, Codegen.lineLit n, if isList then .list else .delete] }) } } := by
  open Codegen in (
  cases isList
  · simp only [Bool.false_eq_true, if_false]
    rw [acceptStmt, accept_lineExpr, accept_lineExpr,
      visit_rangeStmt hrt _ .delete c ca cb m n hm hn _ s.g.expr (by simp only [genStatement]) rfl]
  · simp only [if_true]
    rw [acceptStmt, accept_lineExpr, accept_lineExpr,
      visit_rangeStmt hrt _ .list c ca cb m n hm hn _ s.g.expr (by simp only [genStatement]) rfl])

/-- executed in sequence, the three instructions of `LIST m-n` enter the listing state
    `(some m, some n)`, which is not inverted -/
theorem list_range_not_inverted (hrt : LineLiteralRoundTrip) (m n : Nat) (hmn : m ≤ n) (hn : n ≤ maxLineNumber)
    (s : Runtime) (hsz : s.stack.size + 2 ≤ Gen.stackMaxLen) :
    (do push (.sng (F.b32 (Float32.ofNat m))); push (.sng (F.b32 (Float32.ofNat n))); doList : RM Unit).run.run s =
      (.ok (), { s with state := .listing (some m) (some n) }) ∧
    Listing.inverted (some m) (some n) = false := by
  obtain ⟨h1, h2, h3⟩ := range_literals_not_inverted hrt m n hmn hn
  refine ⟨?_, h3⟩
  rw [run_push2 _ _ _ s hsz, doList_range _ s.stack _ _ (some m) (some n) rfl h1 h2]

/-- … those of `DELETE m-n` remove exactly the range `(some m, some n)` -/
theorem delete_range_not_inverted (hrt : LineLiteralRoundTrip) (m n : Nat) (hmn : m ≤ n) (hn : n ≤ maxLineNumber)
    (s : Runtime) (hsz : s.stack.size + 2 ≤ Gen.stackMaxLen) :
    ((do push (.sng (F.b32 (Float32.ofNat m))); push (.sng (F.b32 (Float32.ofNat n))); doDelete : RM Event).run.run s).2.listing =
      (s.listing.removeRange (some m) (some n)).1 ∧
    Listing.inverted (some m) (some n) = false := by
  obtain ⟨h1, h2, h3⟩ := range_literals_not_inverted hrt m n hmn hn
  refine ⟨?_, h3⟩
  rw [run_push2 _ _ _ s hsz, doDelete_range _ s.stack _ _ (some m) (some n) rfl h1 h2]

/-- while a listing is being printed the continuation range is never inverted -/
theorem listing_continuation_not_inverted (l : Listing) (lo hi : Option Nat) (x : Str × List (Nat × Nat))
    (r : Option Nat × Option Nat) (h : l.listLine lo hi = some (x, r)) : Listing.inverted r.1 r.2 = false := by
  open Listing in (
  unfold listLine at h
  split at h
  · cases h
  · rename_i n line hf
    have hin := List.find?_some hf
    dsimp only at h
    cases h
    cases hi with
    | none => simp [inverted]
    | some b =>
      dsimp only
      split
      · rename_i hlt
        simp only [inverted, decide_eq_false_iff_not, Nat.not_lt]
        omega
      · simp [inverted])

/-- on a range that is not inverted the panicking variants agree with the total functions the
    runtime model calls -/
theorem rangeR_total_of_not_inverted (l : Listing) (lo hi : Option Nat) (h : Listing.inverted lo hi = false) :
    l.removeRangeR lo hi = .ok (l.removeRange lo hi) ∧ l.listLineR lo hi = .ok (l.listLine lo hi) := by
  have : l.rangeFaults lo hi = false := by unfold Listing.rangeFaults; rw [h, Bool.and_false]
  unfold Listing.removeRangeR Listing.listLineR
  rw [this]
  exact ⟨rfl, rfl⟩

/-- `Parse.parse` never returns the fuel fault: the fuel `6 * tokens + 20` covers every token list -/
theorem parser_never_faults (ln : Option Nat) (ts : List Token) (e : Error) (h : Parse.parse ln ts = .error e) :
    e.isFault = false :=
  Lemmas.ParseNoFault.parse_never_faults ln ts e h

/-- … and no other compile-time diagnostic is a fault either -/
theorem compile_errors_never_fault (p : Program) (h : PErrOk p) (lines : List Line) (line : Line) :
    PErrOk ((p.codegenLines lines).codegenLine line).linkProg :=
  ((h.codegenLines lines).codegenLine line).linkProg

/-- the listings handed to `set_listing` hold lexed lines and non-fault diagnostics: `Call.ok` at the
    listings of `ninv_session` -/
def Call.inputOk : Call → Prop
  | .setListing l _ => ListingOk l ∧ LErrOk l
  | _ => True

/-- the states after each call of a history, with the event of each `execute` -/
def trace (env : Env) : List Call → Runtime → List (Runtime × Option Event)
  | [], _ => []
  | .execute n :: cs, s => ((execute env s n).1, some (execute env s n).2) :: trace env cs (execute env s n).1
  | c :: cs, s => (Call.apply env s c, none) :: trace env cs (Call.apply env s c)

/-- nothing in the state is a fault: not `state` / `cont`, not a compile-time diagnostic of the
    program or of the listing (these are all the places of a `Runtime` that hold an `Error`) -/
def StateFaultFree (s : Runtime) : Prop :=
  (∀ e, s.state = .runtimeError e → e.isFault = false) ∧
  (∀ e, s.cont = .runtimeError e → e.isFault = false) ∧
  (∀ e ∈ s.program.errors ++ s.program.indirectErrors, e.isFault = false) ∧
  (∀ e ∈ s.listing.directErrors ++ s.listing.indirectErrors, e.isFault = false)

/-- no error carried by the event is a fault (only `errors` events carry any) -/
def EventFaultFree : Event → Prop
  | .errors es => ∀ e ∈ es, e.isFault = false
  | _ => True

theorem Call.inputOk.ok {c : Call} (h : c.inputOk) : c.ok fun l => ListingOk l ∧ LErrOk l := by
  cases c <;> exact h

theorem trace_ninv (env : Env) (henv : EnvOk env) (calls : List Call)
    (hin : ∀ c ∈ calls, c.inputOk) (s : Runtime) (hi : NInv s) :
    ∀ x ∈ trace env calls s, NInv x.1 ∧ ∀ ev, x.2 = some ev → EventOk ev := by
  induction calls generalizing s with
  | nil => intro x hx; cases hx
  | cons c cs ih =>
    have h1 := (ninv_session env henv).call s c (hin c List.mem_cons_self).ok hi
    have hcs : ∀ c ∈ cs, c.inputOk := fun c hc => hin c (List.mem_cons_of_mem _ hc)
    intro x hx
    cases c with
    | execute n =>
      rcases List.mem_cons.1 hx with rfl | hx
      · exact ⟨h1, fun ev hev => by cases hev; exact execute_event_ok env henv s n hi⟩
      · exact ih hcs _ h1 x hx
    | _ =>
      -- the other three calls report no event
      rcases List.mem_cons.1 hx with rfl | hx
      · exact ⟨h1, fun ev hev => nomatch hev⟩
      · exact ih hcs _ h1 x hx

theorem stateFaultFree_of_ninv {s : Runtime} (hi : NInv s) : StateFaultFree s := by
  obtain ⟨hs1, hs2⟩ := hi.st
  refine ⟨?_, ?_, ?_, ?_⟩
  · intro e he; rw [he] at hs1; exact hs1
  · intro e he; rw [he] at hs2; exact hs2
  · intro e he
    exact (List.mem_append.1 he).elim (hi.perr.1 e) (hi.perr.2 e)
  · intro e he
    exact (List.mem_append.1 he).elim (hi.lerr.1 e) (hi.lerr.2 e)

/-- **Names.**  With the model's own lexer and RENUM rewriter, after ANY list of API calls: every
    name operand in program memory is empty or starts with `A`..`Z` (array names start with a
    letter) and every stored line has such identifiers. -/
theorem names_reachable (env : Env) (h1 : env.lex = Lex.lineNew) (h2 : env.lineRenum = Lex.lineRenum)
    (calls : List Call) (hin : ∀ c ∈ calls, c.inputOk) :
    ∀ x ∈ trace env calls {}, OpsOk x.1.program.link.ops ∧ ListingOk x.1.listing := by
  intro x hx
  have := (trace_ninv env (envOk_model env h1 h2) calls hin {} ninv_init x hx).1
  exact ⟨this.prog, this.lst⟩

/-- **No fault is reachable.**  With the model's own lexer and RENUM rewriter, for every list of API
    calls — `execute` with any quantum, `enter` with any text, `interrupt`, `set_listing` with
    listings of lexed lines (`Call.inputOk`) — from `Runtime::default()`: no state of the history
    carries a fault (`StateFaultFree`: `state`, `cont`, the diagnostics of the program and of the
    listing) and no `execute` returns an event that carries one.
    (The only fault sites left in the model are the parser's fuel, proved unreachable, and the
    `…R` variants of `Listing`, which the runtime model does not call: see the header.) -/
theorem no_fault_reachable (env : Env) (h1 : env.lex = Lex.lineNew) (h2 : env.lineRenum = Lex.lineRenum)
    (calls : List Call) (hin : ∀ c ∈ calls, c.inputOk) :
    ∀ x ∈ trace env calls {}, StateFaultFree x.1 ∧ ∀ ev, x.2 = some ev → EventFaultFree ev := by
  intro x hx
  obtain ⟨hi, hev⟩ := trace_ninv env (envOk_model env h1 h2) calls hin {} ninv_init x hx
  refine ⟨stateFaultFree_of_ninv hi, fun ev he => ?_⟩
  have := hev ev he
  cases ev <;> first | trivial | exact this

/-- in particular the final state: `foldl Call.apply` is the last state of the trace -/
theorem no_fault_final (env : Env) (h1 : env.lex = Lex.lineNew) (h2 : env.lineRenum = Lex.lineRenum)
    (calls : List Call) (hin : ∀ c ∈ calls, c.inputOk) :
    StateFaultFree (calls.foldl (Call.apply env) {}) :=
  stateFaultFree_of_ninv
    ((ninv_session env (envOk_model env h1 h2)).reachable calls {} (fun c hc => (hin c hc).ok) ninv_init)

/-- identifiers the lexer really produces -/
example : Token.ident (.plain "X1".toList) ∈ (Lex.lex "10 forx1=a$".toList).2 := by
  simp only [Lex.lex_eval]; decide +kernel
example : Letter1 "X1".toList ∧ ¬ Letter1 "1X".toList ∧ NameOk [] ∧ ¬ NameOk "hello".toList := by decide
example : OpOk (.popArr "A".toList) ∧ ¬ OpOk (.pushArr []) ∧ OpOk (.next []) ∧ ¬ OpOk (.pop ",1,".toList) := by
  decide

/-- a state about to store into `A%`: the step really runs -/
def storeState : Runtime :=
  { program := { link := { ops := #[.pop "A%".toList] } }, pc := 0, stack := #[.int 7] }
example : ∀ e, ((step env0 false).run.run storeState).1 = .error e → e.isFault = false :=
  step_never_faults env0 false storeState
example : faults ((step env0 false).run.run storeState) = false ∧
    ((step env0 false).run.run storeState).2.vars.vars = [("A%".toList, .int 7)] := by decide

/-- the same store with a name that does not start with a letter: since fix D21 the store is
    refused with INTERNAL ERROR (it used to be the panic of finding D21); a fetch reads Single 0 -/
example : faults ((step env0 false).run.run
      { storeState with program := { link := { ops := #[.pop "hello".toList] } } }) = false ∧
    errorCode ((step env0 false).run.run
      { storeState with program := { link := { ops := #[.pop "hello".toList] } } }) = some Code.internalError := by
  decide
example : ((step env0 false).run.run
      { storeState with program := { link := { ops := #[.push "hello".toList] } }, stack := #[] }).2.stack
    = #[.sng 0] := by decide

/-- a `Next` frame: `NEXT` runs (here the loop ends) -/
def loopState : Runtime :=
  { program := { link := { ops := #[.next []] } }, pc := 0,
    stack := #[.int 2, .int 1, .str "I%".toList, .nxt 5] }
example : faults ((step env0 false).run.run loopState) = false := by decide

/-- the environment of the headline, and a history to which it applies: the banner, a line of
    text, an interrupt, the BREAK report -/
def envM : Env := { lex := Lex.lineNew, lineRenum := Lex.lineRenum }
def exCalls : List Call := [.execute 5, .enter "10 PRINT A$(1);hello".toList, .interrupt, .execute 5]

theorem exCalls_inputOk : ∀ c ∈ exCalls, c.inputOk := by
  intro c hc
  simp only [exCalls, List.mem_cons, List.not_mem_nil, or_false] at hc
  rcases hc with rfl | rfl | rfl | rfl <;> trivial

example : ∀ x ∈ trace envM exCalls {}, OpsOk x.1.program.link.ops ∧ ListingOk x.1.listing :=
  names_reachable envM rfl rfl exCalls exCalls_inputOk

example : ∀ x ∈ trace envM exCalls {}, StateFaultFree x.1 ∧ ∀ ev, x.2 = some ev → EventFaultFree ev :=
  no_fault_reachable envM rfl rfl exCalls exCalls_inputOk

/-- … and the statement is not empty: the last call of `exCalls` reports the BREAK of the
    interrupt as an `errors` event (code 0), which is not a fault -/
example : (trace envM exCalls {}).length = 4 := rfl

/-- ranges: an inverted range is what the real `BTreeMap::range` panics on; an ordered one is not -/
example : Listing.inverted (some 30) (some 10) = true ∧ Listing.inverted (some 10) (some 30) = false ∧
    Listing.inverted none (some 10) = false := by decide
example : ({ source := [(10, ⟨some 10, [.word .end]⟩)], rooted := true } : Listing).rangeFaults (some 30) (some 10)
    = true := by decide

/-- fuel: a fault is what too little fuel gives (so `parser_never_faults` is about `fuelFor`) -/
example : ((Parse.descend 3 [] 0).run { toks := List.replicate 12 .lparen }).toOption.isNone = true := by decide

end Thm.C03
end Basic

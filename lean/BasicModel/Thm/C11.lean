import BasicModel.Model.Runtime
import BasicModel.Model.Parse
import BasicModel.Spec.PrintSpec
import BasicModel.Lemmas.C11
import BasicModel.Thm.C07
import BasicModel.Lemmas.PrintList
import BasicModel.Spec.PrintStmt
import BasicModel.Lemmas.PrintRun
/-
  C11 — PRINT lays out output exactly as documented.

  * the number wrapper: a non-negative number is printed with a leading blank, a negative one with
    its minus sign, and PRINT appends one blank after every number (nothing after a string).  For
    Integers the digits are proved to be the decimal digits of |n|; for floats only the *shape* of
    `Val.display` (blank-or-minus in front, the `{}` / `{:E}` switch at more than 9 resp. 17 digits)
    is proved — "shortest decimal that reads back" is `core::fmt`'s contract and stays trusted.
  * zone arithmetic: `,` is `TAB(Gen.printZone)`; from every column it emits between 1 and 14 blanks
    and lands on a multiple of the documented zone width 14.  Stated against the GENERATED constant.
  * TAB / SPC / POS on Integer arguments, all cases (result or the documented OVERFLOW).
  * the column the VM tracks is `Spec.columnAfter` of the emitted text (newline → 0, else +1).
  * the PRINT list desugaring, one unfolding step of `Parse.printList` per kind of token, and the
    whole-list statement `printList_desugar` for lists of C02-fragment expressions, `,` and `;`.
  * the PRINT statement end to end (last section): the specification `Spec.printSpec`
    (Spec/PrintStmt.lean) of a whole list — values, `;`, `,`, TAB, SPC, POS, the final newline —,
    the node the parser builds (`printAst`), the code generated for it (`stmtCode`) and the run of
    that code on the VM: the `print` events carry exactly the specification's texts, `printCol`
    ends as the specification's column, stack and variables are restored; TAB and POS see the
    column at their place in the list; two statements in sequence carry the column over.
    Formulated over `Runtime.step` iterated with an accumulator of printed texts (`runCollect`);
    for the case without error also over repeated `Runtime.execute` slices (`slices`).
-/
namespace Basic
namespace Thm.C11
open RStd Lemmas.C11

/-- Integers: blank or minus sign, then the decimal digits of |n| -/
theorem int_display_wrapper (n : Int16) :
    Val.display (.int n) = (if n.toInt < 0 then '-' else ' ') :: natDigits n.toInt.natAbs := by
  by_cases h : n.toInt < 0
  · simp only [Val.display, showInt, if_pos h]
    rfl
  · simp only [Val.display, showInt, if_neg h]
    rw [if_neg (natDigits_head_ne_minus _)]

/-- everything after the first character of a printed Integer is a decimal digit, and there is at
    least one -/
theorem int_display_digits (n : Int16) :
    (Val.display (.int n)).tail ≠ [] ∧ ∀ ch ∈ (Val.display (.int n)).tail, ch.isDigit = true := by
  rw [int_display_wrapper]
  exact ⟨KeyText.natDigits_ne_nil _, fun ch hc => KeyText.isDigit_of_mem_natDigits hc⟩

/-- the digits Rust's `{}` prints for a Single, switching to `{:E}` when they exceed 9 digits -/
def sngText (b : UInt32) : Str :=
  let s := Fmt.fmtFloat Ieee.fp32 9 b.toNat false
  if Fmt.countDigits s > 9 then Fmt.fmtFloat Ieee.fp32 9 b.toNat true else s

/-- the digits Rust's `{}` prints for a Double, switching to `{:E}` when they exceed 17 digits -/
def dblText (b : UInt64) : Str :=
  let s := Fmt.fmtFloat Ieee.fp64 17 b.toNat false
  if Fmt.countDigits s > 17 then Fmt.fmtFloat Ieee.fp64 17 b.toNat true else s

/-- floats: the formatter's text (positional, or scientific past 9 / 17 digits) as is when it starts
    with a minus sign, behind one blank otherwise -/
theorem float_display_switch :
    (∀ b, Val.display (.sng b) = if (sngText b).head? = some '-' then sngText b else ' ' :: sngText b) ∧
    (∀ b, Val.display (.dbl b) = if (dblText b).head? = some '-' then dblText b else ' ' :: dblText b) :=
  ⟨fun _ => rfl, fun _ => rfl⟩

theorem blank_or_minus (s : Str) :
    (if s.head? = some '-' then s else ' ' :: s).head? = some ' ' ∨
      (if s.head? = some '-' then s else ' ' :: s).head? = some '-' := by
  split
  · exact .inr ‹_›
  · exact .inl rfl

/-- every number is printed behind a blank or a minus sign -/
theorem number_wrapper_partial (v : Val) (hv : v.isNumeric = true) :
    (Val.display v).head? = some ' ' ∨ (Val.display v).head? = some '-' := by
  -- not proved: for floats the text after the first character is not characterised (the digits
  -- are the trusted `core::fmt` contract)
  cases v with
  | int n =>
    rw [int_display_wrapper]
    split
    · exact Or.inr rfl
    · exact Or.inl rfl
  | sng b =>
    rw [float_display_switch.1]
    exact blank_or_minus _
  | dbl b =>
    rw [float_display_switch.2]
    exact blank_or_minus _
  | str s => cases hv
  | ret a => cases hv
  | nxt a => cases hv

theorem columnAfter_after_newline (c : Nat) (a b : Str) :
    Spec.columnAfter c (a ++ '\n' :: b) = Spec.columnAfter 0 b := by
  rw [columnAfter_append]
  simp [Spec.columnAfter]

/-- PRINT pops one item, emits its text (`printText`: a string as is, a number followed by one
    blank), sets the tracked column to the true column after that text and changes nothing else
    (`Lemmas.C11.doPrint_run`); here with the stack given as `st.push item`: the stack afterwards is `st` -/
theorem print_col_tracks_push (s : Runtime) (st : Array Val) (item : Val) (h : s.stack = st.push item) :
    (Runtime.doPrint.run).run s =
      (.ok (.print (printText item)),
       { s with stack := st, printCol := Spec.columnAfter s.printCol (printText item) }) := by
  rw [doPrint_run s item (by rw [h]; exact Array.back?_push ..), h, Array.pop_push]

/-- PRINT on an empty stack is the internal UNDERFLOW error and changes nothing -/
theorem print_empty_stack (s : Runtime) (h : s.stack.back? = none) :
    (Runtime.doPrint.run).run s = (.error Runtime.underflow, s) := by
  unfold Runtime.doPrint
  rw [Runtime.run_bind, Runtime.run_pop, h]

/-- PRINT appends one blank to a number … -/
theorem print_appends_blank (s : Runtime) (v : Val) (hv : v.isNumeric = true)
    (h : s.stack.back? = some v) :
    (Runtime.doPrint.run).run s =
      (.ok (.print (v.display ++ [' '])),
       { s with stack := s.stack.pop, printCol := Spec.columnAfter s.printCol (v.display ++ [' ']) }) := by
  rw [doPrint_run s v h]
  cases v <;> first | rfl | cases hv

/-- … and nothing to a string -/
theorem print_string_verbatim (s : Runtime) (str : Str) (h : s.stack.back? = some (.str str)) :
    (Runtime.doPrint.run).run s =
      (.ok (.print str),
       { s with stack := s.stack.pop, printCol := Spec.columnAfter s.printCol str }) :=
  doPrint_run s (.str str) h

/-- a printed Integer occupies sign + digits + one blank columns -/
theorem print_int_width (c : Nat) (n : Int16) :
    Spec.columnAfter c (printText (.int n)) = c + (natDigits n.toInt.natAbs).length + 2 := by
  have hnl : '\n' ∉ natDigits n.toInt.natAbs :=
    fun h => absurd (KeyText.isDigit_of_mem_natDigits h) (by decide)
  have : printText (.int n) = (Val.int n).display ++ [' '] := rfl
  have hsign : (if n.toInt < 0 then '-' else ' ') ≠ '\n' := by split <;> decide
  rw [this, columnAfter_append, int_display_wrapper]
  simp only [Spec.columnAfter, if_neg hsign, if_neg (show ' ' ≠ '\n' by decide)]
  rw [columnAfter_no_newline _ _ hnl]
  omega

/-- the generated constant is the documented zone width, negated (the "modulo" form of TAB) -/
theorem printZone_documented : Gen.printZone.toInt = -(Spec.zoneWidth : Int) := by decide

/-- `TAB(n)`, 0 ≤ n ≤ 255: blanks up to column n; never moves left -/
theorem tab_moves_or_stays (c : Nat) (n : Int16) (h0 : 0 ≤ n.toInt) (h1 : n.toInt ≤ 255) :
    Func.tab c (.int n) = .ok (.str (List.replicate (max c n.toInt.toNat - c) ' ')) := by
  rw [tab_int, if_neg (by omega), if_neg (by omega)]
  congr 3
  split <;> omega

/-- … so the print head ends in column `max c n` -/
theorem tab_column (c : Nat) (n : Int16) (h0 : 0 ≤ n.toInt) (h1 : n.toInt ≤ 255) :
    ∃ spaces, Func.tab c (.int n) = .ok (.str spaces) ∧
      Spec.columnAfter c spaces = max c n.toInt.toNat :=
  ⟨_, tab_moves_or_stays c n h0 h1, by rw [columnAfter_blanks]; omega⟩

/-- `TAB` outside -255..255 is OVERFLOW -/
theorem tab_overflow (c : Nat) (n : Int16) (h : n.toInt > 255 ∨ n.toInt < -255) :
    Func.tab c (.int n) = err Code.overflow := by
  rw [tab_int, if_pos (by omega)]

/-- the generated TAB bounds are the ones the model's `Func.tab` tests (-255 and 255) -/
theorem tab_bounds_generated : Gen.tabMin = -255 ∧ Gen.tabMax = 255 := ⟨rfl, rfl⟩

/-- `TAB(-k)`, 1 ≤ k ≤ 255: to the next multiple of k (always at least one blank) -/
theorem tab_negative (c : Nat) (n : Int16) (h0 : -255 ≤ n.toInt) (h1 : n.toInt < 0) :
    Func.tab c (.int n) =
      .ok (.str (List.replicate ((-n.toInt).toNat - c % (-n.toInt).toNat) ' ')) := by
  rw [tab_int, if_neg (by omega), if_pos h1]

/-- … the column afterwards is a multiple of k, strictly to the right -/
theorem tab_negative_column (c : Nat) (n : Int16) (h0 : -255 ≤ n.toInt) (h1 : n.toInt < 0) :
    ∃ spaces, Func.tab c (.int n) = .ok (.str spaces) ∧
      Spec.columnAfter c spaces % (-n.toInt).toNat = 0 ∧ c < Spec.columnAfter c spaces := by
  obtain ⟨h1', _, h3⟩ := next_stop c (-n.toInt).toNat (by omega)
  refine ⟨_, tab_negative c n h0 h1, ?_, ?_⟩
  · rw [columnAfter_blanks, h3, Nat.mul_mod_left]
  · rw [columnAfter_blanks]
    omega

/-- `SPC(n)`: n blanks for 0 ≤ n ≤ 255, OVERFLOW otherwise -/
theorem spc_spec (n : Int16) :
    Func.spc (.int n) =
      if 0 ≤ n.toInt ∧ n.toInt ≤ 255 then .ok (.str (List.replicate n.toInt.toNat ' '))
      else err Code.overflow :=
  Thm.C07.spc_eq n

/-- the generated SPC bound is the one `Func.spc` tests -/
theorem spc_bound_generated : Gen.spcMax = 255 := rfl

/-- `POS`: the tracked column as an Integer, OVERFLOW past 32767 -/
theorem pos_spec (c : Nat) :
    (c ≤ 32767 → Func.pos c = .ok (.int (Int16.ofNat c)) ∧ (Int16.ofNat c).toInt = c) ∧
    (¬ c ≤ 32767 → Func.pos c = err Code.overflow) := by
  constructor
  · intro h
    refine ⟨by rw [Func.pos, if_pos h], ?_⟩
    exact Int16.toInt_ofNat_of_lt (by show c < 32768; omega)
  · intro h; rw [Func.pos, if_neg h]

open Parse Lemmas.ParseRun

/-- the item a `,` desugars to, at column range `c` -/
def zoneItem (c : Col) : Expr :=
  Expr.var (.array c (.string "TAB".toList) [Expr.integer c Gen.printZone])

/-- at the end of the line (no token left, nothing peeked) the list is complete; the `"\n"` item is
    appended exactly when the linefeed flag is set -/
theorem printList_end_of_line (fuel n : Nat) (lf : Bool) (acc : List Expr) (st : PState)
    (hp : st.peeked = none) (ht : st.toks = []) :
    (Parse.printList fuel (n+1) lf acc).run st =
      .ok (if lf then acc ++ [Expr.string (st.ce, st.ce) ['\n']] else acc, { st with cs := st.ce }) := by
  rw [printList_run, (tok_end hp ht).1, (tok_end hp ht).2]
  rfl

/-- at a terminator (`:` or ELSE peeked) the result ends in the newline item exactly when the flag is set -/
theorem printList_end_newline_iff (fuel n : Nat) (lf : Bool) (acc : List Expr) (st : PState) (t : Token)
    (h : st.peeked = some t) (he : isEnd (some t) = true) :
    ((Parse.printList fuel (n+1) lf acc).run st =
        .ok (acc ++ [Expr.string (st.ce, st.ce) ['\n']], st)) ↔ lf = true := by
  rw [printList_run, tok_peeked h, if_pos he, pk_peeked h]
  cases lf
  · simp only [Bool.false_eq_true, if_false, iff_false]
    intro hh
    have hl : acc.length = (acc ++ [Expr.string (st.ce, st.ce) ['\n']]).length := by
      injection hh with hh
      exact congrArg List.length (congrArg Prod.fst hh)
    simp at hl
  · simp

/-- `printList` at a token that is neither a terminator nor `,` nor `;`: an expression item -/
theorem printList_item (fuel n : Nat) (lf : Bool) (acc : List Expr) (st : PState) (t : Token)
    (h : st.peeked = some t) (he : isEnd (some t) = false) (h1 : t ≠ .semicolon) (h2 : t ≠ .comma) :
    (Parse.printList fuel (n+1) lf acc).run st =
      (Parse.expression fuel).run st >>= fun p => (Parse.printList fuel n true (acc ++ [p.1])).run p.2 := by
  rw [printList_run, tok_peeked h, if_neg (by rw [he]; exact Bool.false_ne_true), pk_peeked h]
  cases t <;> first | rfl | contradiction

/-- anything but `,`, `;` and a terminator starts an expression item; after it the linefeed flag is set -/
theorem printList_item_ok (fuel n : Nat) (lf : Bool) (acc : List Expr) (st st' : PState) (t : Token) (e : Expr)
    (h : st.peeked = some t) (he : isEnd (some t) = false) (h1 : t ≠ .semicolon) (h2 : t ≠ .comma)
    (hx : (Parse.expression fuel).run st = .ok (e, st')) :
    (Parse.printList fuel (n+1) lf acc).run st = (Parse.printList fuel n true (acc ++ [e])).run st' := by
  rw [printList_item fuel n lf acc st t h he h1 h2, hx]
  rfl

/-- a syntax error in the item is the error of the list -/
theorem printList_item_error (fuel n : Nat) (lf : Bool) (acc : List Expr) (st : PState) (t : Token) (e : Error)
    (h : st.peeked = some t) (he : isEnd (some t) = false) (h1 : t ≠ .semicolon) (h2 : t ≠ .comma)
    (hx : (Parse.expression fuel).run st = .error e) :
    (Parse.printList fuel (n+1) lf acc).run st = .error e := by
  rw [printList_item fuel n lf acc st t h he h1 h2, hx]
  rfl

/-- The desugaring of the PRINT list, one step of `Parse.printList` per kind of look-ahead token:
    `,` adds `TAB(Gen.printZone)`, `;` adds nothing, both clear the linefeed flag; an item sets it;
    at the end the `"\n"` item is appended iff the flag is set (the statement parser starts with the
    flag set, `Parse.statement`: `printList fuel fuel true []`).

    Partial: these are the step equations only (any tokens, any expressions); the whole-list
    statement is `printList_desugar` below, for lists whose expression items are in the fragment
    of `Thm.C02.parse_render` (Integer literals, unary minus, NOT, the 18 binary operators). -/
theorem printList_desugar_partial (fuel n : Nat) (lf : Bool) (acc : List Expr) (st : PState) :
    (st.peeked = some .comma →
      (Parse.printList fuel (n+1) lf acc).run st =
        (Parse.printList fuel n false (acc ++ [zoneItem (st.cs, st.ce)])).run { st with peeked := none }) ∧
    (st.peeked = some .semicolon →
      (Parse.printList fuel (n+1) lf acc).run st =
        (Parse.printList fuel n false acc).run { st with peeked := none }) ∧
    (∀ t, st.peeked = some t → isEnd (some t) = true →
      (Parse.printList fuel (n+1) lf acc).run st =
        .ok (if lf then acc ++ [Expr.string (st.ce, st.ce) ['\n']] else acc, st)) ∧
    (∀ t, st.peeked = some t → isEnd (some t) = false → t ≠ .semicolon → t ≠ .comma →
      (Parse.printList fuel (n+1) lf acc).run st =
        (do let e ← Parse.expression fuel; Parse.printList fuel n true (acc ++ [e])).run st) := by
  refine ⟨fun h => ?_, fun h => ?_, fun t h he => ?_, fun t h he h1 h2 => ?_⟩
  · rw [printList_run, tok_peeked h, adv_peeked h]
    rfl
  · rw [printList_run, tok_peeked h, adv_peeked h]
    rfl
  · rw [printList_run, tok_peeked h, if_pos he, pk_peeked h]
  · exact printList_item fuel n lf acc st t h he h1 h2

/-- the zone item carries the generated constant, i.e. `TAB(-14)` -/
theorem zoneItem_documented (c : Col) :
    zoneItem c = Expr.var (.array c (.string ['T', 'A', 'B']) [Expr.integer c (-14)]) := rfl


section whole_list
open Lemmas.PrintList

theorem zoneItem_eq (c : Col) : Lemmas.PrintList.zoneItem c = zoneItem c := rfl

/-- **PRINT list desugaring, whole list** (`Lemmas.PrintList.printList_spec` at the statement level:
    `PRINT <items>` up to the end of the line, as `Parse.statement` calls it, `printList fuel fuel true []`).
    Take any list of items — expressions of the C02 fragment, `,`, `;` — with no two expressions side by
    side (`Alternating`), rendered without blanks.  For all sufficiently large fuel, `printList` returns:
    for every expression a tree of the same shape, for every `,` exactly `TAB(Gen.printZone)`, for every
    `;` nothing, in order (`Outs`); then the `"\n"` item iff `lfAfter true items`, i.e. iff the list does
    not end in `;` or `,` (`lfAfter_eq`); and it reads everything. -/
theorem printList_desugar (lit : Int16 → Str) (items : List PItem)
    (hfr : ∀ e, PItem.expr e ∈ items → Spec.Frag (Thm.C02.LitOk lit) e)
    (halt : Alternating items) :
    ∃ N out st', Outs items out ∧ st'.toks = [] ∧ st'.peeked = none ∧
      ∀ fuel, N ≤ fuel → items.length < fuel →
        (Parse.printList fuel fuel true []).run { toks := renderItems lit items } =
          .ok (out ++ (if lfAfter true items then [Expr.string (st'.ce, st'.ce) ['\n']] else []),
               st') := by
  have hend : EndTok [] := rfl
  obtain ⟨N, out, st', hout, _, hv, hrun⟩ :=
    printList_spec lit [] hend items { toks := renderItems lit items } true []
      ⟨rfl, renderItems_plain lit items⟩ (by simp [Lemmas.ParseExpr.view]) hfr
      (sep_of_alternating lit hend items halt)
  exact ⟨N, out, st', hout, (Lemmas.ParseExpr.view_nil hv).1, (Lemmas.ParseExpr.view_nil hv).2,
    fun fuel hf hn => by simpa using hrun fuel fuel hf hn⟩

/-- the newline item is appended iff the list does not end in `;` or `,` -/
theorem newline_iff_not_trailing_separator (items : List PItem) :
    lfAfter true items = (match items.getLast? with
      | none => true
      | some (.expr _) => true
      | some _ => false) :=
  lfAfter_eq true items

/-- each item's contribution, read off `Outs`: the number of parsed items is the number of
    expressions and commas -/
theorem outs_length {items : List PItem} {out : List Expr} (h : Outs items out) :
    out.length = (items.filter fun i => match i with | .semi => false | _ => true).length := by
  induction h with
  | nil => rfl
  | cons hi _ ih =>
    cases hi <;> simp [List.filter, ih]

end whole_list

example : Val.display (.int 42) = [' ', '4', '2'] := by
  rw [int_display_wrapper, KeyText.natDigits_eq]; rfl
example : Val.display (.int (-7)) = ['-', '7'] := by
  rw [int_display_wrapper, KeyText.natDigits_eq]; rfl
example : Val.display (.int 0) = [' ', '0'] := by
  rw [int_display_wrapper, KeyText.natDigits_eq]; rfl

example : Spec.columnAfter 3 ['a', 'b', '\n', 'c', 'd'] = 2 := by decide
example : Spec.columnAfter 3 ['a', 'b'] = 5 := by decide

example : Func.tab 0 (.int Gen.printZone) = .ok (.str (List.replicate 14 ' ')) := by decide
example : Func.tab 13 (.int Gen.printZone) = .ok (.str [' ']) := by decide
example : Func.tab 14 (.int Gen.printZone) = .ok (.str (List.replicate 14 ' ')) := by decide
example : Func.tab 3 (.int 10) = .ok (.str (List.replicate 7 ' ')) := by decide
example : Func.tab 12 (.int 10) = .ok (.str []) := by decide
example : Func.tab 7 (.int (-5)) = .ok (.str (List.replicate 3 ' ')) := by decide
example : Func.tab 0 (.int 256) = err Code.overflow := by decide
example : Func.tab 0 (.int (-256)) = err Code.overflow := by decide
example : Func.spc (.int 3) = .ok (.str [' ', ' ', ' ']) := by decide
example : Func.spc (.int (-1)) = err Code.overflow := by decide
example : Func.spc (.int 256) = err Code.overflow := by decide
example : Func.pos 17 = .ok (.int 17) := by decide
example : Func.pos 32768 = err Code.overflow := by decide

/-- PRINT of the string "hi" from column 3: the event carries the text, the column is 5 -/
example :
    (Runtime.doPrint.run).run { stack := #[.int 1, .str ['h', 'i']], printCol := 3 } =
      (.ok (.print ['h', 'i']), { stack := #[.int 1], printCol := 5 }) := by
  rw [print_col_tracks_push _ #[.int 1] (.str ['h', 'i']) rfl]; rfl

/-- PRINT of the Integer 42 from column 0: " 42 " and column 4 -/
example :
    (Runtime.doPrint.run).run { stack := #[.int 42] } =
      (.ok (.print [' ', '4', '2', ' ']), { stack := #[], printCol := 4 }) := by
  have hd : Val.display (.int 42) = [' ', '4', '2'] := by
    rw [int_display_wrapper, KeyText.natDigits_eq]; rfl
  rw [print_col_tracks_push _ #[] (.int 42) rfl]
  simp only [printText, hd]; rfl

/-- `1,2;` : three items (1, TAB(-14), 2) and no newline item -/
example :
    ((Parse.printList 20 20 true []).run
        { toks := [.literal (.integer ['1']), .comma, .literal (.integer ['2']), .semicolon] }).map (·.1) =
      .ok [Expr.integer (0, 1) 1, zoneItem (1, 2), Expr.integer (2, 3) 2] := by cbv

/-- `1,2` : the same three items and the newline item -/
example :
    ((Parse.printList 20 20 true []).run
        { toks := [.literal (.integer ['1']), .comma, .literal (.integer ['2'])] }).map (·.1) =
      .ok [Expr.integer (0, 1) 1, zoneItem (1, 2), Expr.integer (2, 3) 2, Expr.string (3, 3) ['\n']] := by cbv

/-- `1;2,` : ends in `,` — a zone stop and no newline item; `;` left no trace -/
example :
    ((Parse.printList 20 20 true []).run
        { toks := [.literal (.integer ['1']), .semicolon, .literal (.integer ['2']), .comma] }).map (·.1) =
      .ok [Expr.integer (0, 1) 1, Expr.integer (2, 3) 2, zoneItem (3, 4)] := by cbv

/-- empty list: just the newline -/
example :
    ((Parse.printList 20 20 true []).run { toks := [] }).map (·.1) = .ok [Expr.string (0, 0) ['\n']] := by rfl

/-- `printList_desugar` applies to `1,2;` (hypotheses satisfiable); its flag says: no newline item -/
example : ∃ N out st', Lemmas.PrintList.Outs
      [.expr (Thm.C02.L 1), .comma, .expr (Thm.C02.L 2), .semi] out ∧ st'.toks = [] ∧
      st'.peeked = none ∧ ∀ fuel, N ≤ fuel → 4 < fuel →
        (Parse.printList fuel fuel true []).run
          { toks := [Thm.C02.T Thm.C02.demoLit 1, .comma, Thm.C02.T Thm.C02.demoLit 2, .semicolon] } =
          .ok (out ++ [], st') :=
  printList_desugar Thm.C02.demoLit [.expr (Thm.C02.L 1), .comma, .expr (Thm.C02.L 2), .semi]
    (by
      intro e he
      simp only [List.mem_cons, Lemmas.PrintList.PItem.expr.injEq, reduceCtorEq, List.not_mem_nil,
        or_false, false_or] at he
      rcases he with rfl | rfl <;> exact .int _ _ (by decide))
    ⟨rfl, ⟨rfl, trivial⟩⟩

example : Lemmas.PrintList.lfAfter true [.expr (Thm.C02.L 1), .comma] = false ∧
    Lemmas.PrintList.lfAfter true [.expr (Thm.C02.L 1), .semi, .expr (Thm.C02.L 2)] = true := ⟨rfl, rfl⟩

/-! ### the PRINT statement, end to end

`Spec.printSpec vars col items` (Spec/PrintStmt.lean) is the documented meaning of `PRINT items` from
cursor column `col`: the texts written (`chunks`, one per writing item), the column afterwards, the
error that stopped the list (if any).  Items: `Spec.PrItem` — a value expression, `;`, `,`, `TAB(e)`,
`SPC(e)`, `POS(e)`; well-formed (`PrItem.Ok`) when the expressions are in the fragment `Spec.Pure`
of `Spec.eval`. -/

section statement
open Spec Lemmas.PrintRun Lemmas.ExprCompile

/-- a string is written as is -/
theorem itemText_string (s : Str) : itemText (.str s) = s := rfl

/-- a number is written as `Val.display` — a blank or a minus sign in front (`number_wrapper_partial`,
    `int_display_wrapper`, `float_display_switch`) — followed by one blank -/
theorem itemText_number (v : Val) (hv : v.isNumeric = true) :
    itemText v = v.display ++ [' '] ∧
    ((itemText v).head? = some ' ' ∨ (itemText v).head? = some '-') ∧ (itemText v).getLast? = some ' ' := by
  have h : itemText v = v.display ++ [' '] := by cases v <;> first | rfl | cases hv
  refine ⟨h, ?_, by rw [h]; simp⟩
  rw [h, List.head?_append]
  rcases number_wrapper_partial v hv with hd | hd
  · exact .inl (by rw [hd]; rfl)
  · exact .inr (by rw [hd]; rfl)

/-- the text PRINT writes is the one `doPrint` emits (`Lemmas.C11.doPrint_run`) -/
theorem itemText_printText (v : Val) : itemText v = printText v := itemText_eq_printText v

/-- `,`: between 1 and 14 blanks, ending on a multiple of the zone width 14 — and this is what the
    generated `TAB(Gen.printZone)` computes from the same column -/
theorem zoneBlanks_spec (col : Nat) :
    1 ≤ (zoneBlanks col).length ∧ (zoneBlanks col).length ≤ 14 ∧ (∀ ch ∈ zoneBlanks col, ch = ' ') ∧
    (col + (zoneBlanks col).length) % 14 = 0 ∧
    columnAfter col (zoneBlanks col) = (col / zoneWidth + 1) * zoneWidth ∧
    Func.tab col (.int Gen.printZone) = .ok (.str (zoneBlanks col)) := by
  -- the zone stops are the multiples of 14: `next_stop`
  obtain ⟨h1, h2, h3⟩ := next_stop col zoneWidth (by decide)
  have hl : (zoneBlanks col).length = zoneWidth - col % zoneWidth := List.length_replicate
  refine ⟨hl ▸ h1, hl ▸ h2, fun ch h => (List.mem_replicate.1 h).2, ?_, ?_, tab_printZone col⟩
  · rw [hl, h3]
    exact Nat.mul_mod_left _ _
  · rw [zoneBlanks, columnAfter_blanks, h3]

/-- `,` = `TAB(Gen.printZone)`: from every column, 1 to 14 blanks, landing on a multiple of 14 -/
theorem comma_zone (c : Nat) :
    ∃ spaces, Func.tab c (.int Gen.printZone) = .ok (.str spaces) ∧ 1 ≤ spaces.length ∧
      spaces.length ≤ 14 ∧ (∀ ch ∈ spaces, ch = ' ') ∧ (c + spaces.length) % 14 = 0 :=
  have h := zoneBlanks_spec c
  ⟨_, h.2.2.2.2.2, h.1, h.2.1, h.2.2.1, h.2.2.2.1⟩

/-- in terms of the print head: after the text of a `,` the column is the start of the next zone -/
theorem comma_zone_column (c : Nat) :
    ∃ spaces, Func.tab c (.int Gen.printZone) = .ok (.str spaces) ∧
      Spec.columnAfter c spaces = (c / Spec.zoneWidth + 1) * Spec.zoneWidth :=
  have h := zoneBlanks_spec c
  ⟨_, h.2.2.2.2.2, h.2.2.2.2.1⟩

/-- what each kind of item contributes at cursor column `col` — TAB and POS take that column -/
theorem itemVal_cases (vars : Var) (col : Nat) (c : Col) (e : Expr) :
    itemVal vars col (.expr e) = some (eval vars e) ∧
    itemVal vars col .semi = none ∧
    itemVal vars col (.comma c) = some (.ok (.str (zoneBlanks col))) ∧
    itemVal vars col (.tab c e) = some (eval vars e >>= Func.tab col) ∧
    itemVal vars col (.spc c e) = some (eval vars e >>= Func.spc) ∧
    itemVal vars col (.pos c e) = some (eval vars e >>= fun _ => Func.pos col) :=
  ⟨rfl, rfl, rfl, rfl, rfl, rfl⟩

/-- the column of the result is the column function of the transcript -/
theorem printItems_column (vars : Var) (col : Nat) (items : List PrItem) :
    (printItems vars col items).col = columnAfter col (printItems vars col items).text := by
  induction items generalizing col with
  | nil => rfl
  | cons it rest ih =>
    cases hv : itemVal vars col it with
    | none => rw [printItems_cons_none _ hv]; exact ih col
    | some r =>
      cases r with
      | error e => rw [printItems_cons_error _ hv]; rfl
      | ok v =>
        rw [printItems_cons_ok _ hv]
        simp only [PrintResult.text, List.flatten_cons]
        rw [Lemmas.C11.columnAfter_append]
        exact ih _

theorem printSpec_column (vars : Var) (col : Nat) (items : List PrItem) :
    (printSpec vars col items).col = columnAfter col (printSpec vars col items).text := by
  unfold printSpec
  simp only
  split
  · exact printItems_column vars col items
  · simp only [PrintResult.text, List.flatten_append, List.flatten_cons, List.flatten_nil, List.append_nil]
    rw [columnAfter_after_newline]
    rfl

/-- **TAB, SPC and POS act on the true cursor column**: an item that follows the (error-free)
    items `pre` is evaluated at the column function of everything `pre` has written, starting from
    the column the statement found -/
theorem item_sees_cursor (vars : Var) (col : Nat) (pre : List PrItem) (it : PrItem) (rest : List PrItem)
    (h : (printItems vars col pre).err = none) :
    printItems vars col (pre ++ it :: rest) =
      { chunks := (printItems vars col pre).chunks ++
          (printItems vars (columnAfter col (printItems vars col pre).text) (it :: rest)).chunks,
        col := (printItems vars (columnAfter col (printItems vars col pre).text) (it :: rest)).col,
        err := (printItems vars (columnAfter col (printItems vars col pre).text) (it :: rest)).err } := by
  rw [printItems_append, h, ← printItems_column]
  rfl

/-- a trailing `;` or `,` suppresses the newline … -/
theorem printSpec_open (vars : Var) (col : Nat) (items : List PrItem) (h : endsOpen items = true) :
    printSpec vars col items = printItems vars col items := by
  simp [printSpec, h]

/-- … otherwise (and if no item failed) a newline is written last and the column is 0 -/
theorem printSpec_closed (vars : Var) (col : Nat) (items : List PrItem) (h : endsOpen items = false)
    (he : (printItems vars col items).err = none) :
    printSpec vars col items = ⟨(printItems vars col items).chunks ++ [['\n']], 0, none⟩ := by
  simp [printSpec, h, he]

/-- an item that fails stops the list: the error, the texts written before it, no newline -/
theorem printSpec_error (vars : Var) (col : Nat) (items : List PrItem) (e : Error)
    (he : (printItems vars col items).err = some e) :
    printSpec vars col items = printItems vars col items := by
  simp [printSpec, he]

/-- `endsOpen`: the last item is `;` or `,` -/
theorem endsOpen_iff (items : List PrItem) :
    endsOpen items = true ↔ items.getLast? = some .semi ∨ ∃ c, items.getLast? = some (.comma c) := by
  unfold endsOpen
  cases items.getLast? with
  | none => simp
  | some x => cases x <;> simp

theorem zoneExpr_eq (c : Col) : zoneExpr c = zoneItem c := rfl

/-- the statement node: every item's expression (none for `;`, `TAB(Gen.printZone)` for `,`), then
    the newline item unless the list ends in `;` or `,` -/
theorem printAst_eq (c cn : Col) (items : List PrItem) :
    printAst c cn items =
      .print c (astExprs items ++ if endsOpen items then [] else [Expr.string cn ['\n']]) := by
  unfold printAst fullItems
  split
  · simp
  · rw [astExprs_append]; rfl

/-- **the parser** on `PRINT` followed by trees of the C02 fragment, `,` and `;` yields `printAst`
    of the same list (the trees up to their recorded columns), whose meaning is that of the list
    as written -/
theorem print_parse (lit : Int16 → Str) (items : List Lemmas.PrintList.PItem)
    (hfr : ∀ e, Lemmas.PrintList.PItem.expr e ∈ items → Spec.Frag (Thm.C02.LitOk lit) e)
    (halt : Lemmas.PrintList.Alternating items) :
    ∃ (N : Nat) (c cn : Col) (items' : List PrItem) (st' : PState),
      SameItems items items' ∧ (∀ it ∈ items', it.Ok) ∧
      (∀ vars col, printSpec vars col items' = printSpec vars col (items.map ofPItem)) ∧
      st'.toks = [] ∧ st'.peeked = none ∧
      ∀ fuel, N ≤ fuel → items.length < fuel →
        (Parse.statement (fuel + 1)).run { toks := .word .print :: Lemmas.PrintList.renderItems lit items } =
          .ok (printAst c cn items', st') := by
  have hg : Lemmas.ParseExpr.Good ({ toks := .word .print :: Lemmas.PrintList.renderItems lit items } : PState) :=
    ⟨rfl, fun t ht => by
      rcases List.mem_cons.1 ht with rfl | ht
      · exact Lemmas.PrintList.plain_word_print
      · exact Lemmas.PrintList.renderItems_plain lit items t ht⟩
  obtain ⟨ht, hg1, hv1⟩ := Lemmas.ParseExpr.tok_cons hg (show Lemmas.ParseExpr.view _ = _ :: _ from rfl)
  generalize hst1 : Lemmas.ParseRun.adv _ = st1 at hg1 hv1
  have hend : Lemmas.PrintList.EndTok [] := rfl
  obtain ⟨N, out, st', hout, _, hv', hrun⟩ :=
    Lemmas.PrintList.printList_spec lit [] hend items st1 true [] hg1 (by rw [hv1, List.append_nil]) hfr
      (Lemmas.PrintList.sep_of_alternating lit hend items halt)
  obtain ⟨items', hsame, hast⟩ := outs_items hout
  refine ⟨N, (st1.cs, st1.ce), (st'.ce, st'.ce), items', st', hsame, sameItem_ok hsame hfr,
    fun vars col => printSpec_sameItem vars col hsame hfr, (Lemmas.ParseExpr.view_nil hv').1,
    (Lemmas.ParseExpr.view_nil hv').2, fun fuel hf hn => ?_⟩
  rw [Lemmas.PrintList.statement_print_run _ _ ht, hst1, hrun fuel fuel hf hn, List.nil_append, printAst_eq,
    endsOpen_sameItem hsame, hast]
  cases Lemmas.PrintList.lfAfter true items <;> rfl

/-- the code: per item its expression's code and `print`; then `literal "\n", print` unless the list
    ends in `;` or `,` -/
theorem stmtCode_items (c : Col) (e : Expr) :
    itemCode (.expr e) = flat e ++ [.print] ∧
    itemCode .semi = [] ∧
    itemCode (.comma c) = [.literal (.int Gen.printZone), .tab, .print] ∧
    itemCode (.tab c e) = flat e ++ [.tab, .print] ∧
    itemCode (.spc c e) = flat e ++ [.spc, .print] ∧
    itemCode (.pos c e) = flat e ++ [.literal (.int 1), .pos, .print] := by
  refine ⟨itemCode_of_arg rfl, rfl, rfl, ?_, ?_, ?_⟩
  · rw [itemCode_of_arg rfl, List.append_assoc]; rfl
  · rw [itemCode_of_arg rfl, List.append_assoc]; rfl
  · rw [itemCode_of_arg rfl, List.append_assoc]; rfl

/-- **code generation** (`print_codegen_shape` for a whole list): one statement fragment, no data,
    symbols or references, code `stmtCode items`; nothing reported -/
theorem print_codegen (c cn : Col) (items : List PrItem) (hok : ∀ it ∈ items, it.Ok)
    (s : Codegen.VState) (hlen : (stmtCode items).length ≤ 65535) :
    Codegen.acceptStmt (printAst c cn items) s =
      { s with g := { s.g with stmt := s.g.stmt.push (c, plain (stmtCode items).toArray) } } := by
  rw [← stmtCode_eq cn, printCode_eq_flatMap] at hlen ⊢
  exact print_exprs_codegen_shape _ (items_compile (fullItems_ok cn hok)) c s hlen

/-- the one-item instance is `print_codegen_shape` -/
example (c cn : Col) (e : Expr) :
    printAst c cn [.expr e] = .print c [e, .string cn ['\n']] ∧
    stmtCode [.expr e] = flat e ++ [Opcode.print, .literal (.str ['\n']), .print] := by
  refine ⟨rfl, ?_⟩
  simp [stmtCode, printCode, itemCode_of_arg (it := .expr e) rfl, endsOpen]

/-- **PRINT, run.**  Let the code `stmtCode items` of a well-formed list lie at `s.pc` (trace off,
    room on the stack for the code's length) and let `r = printSpec s.vars s.printCol items`.
    * `r.err = none`: iterating `Runtime.step` over the code (`runCollect`: a `print` event hands its
      text to the accumulator and the run goes on) prints exactly `r.chunks`, in order, and ends —
      every step made — in `s` with `pc` behind the code and `printCol = r.col`; stack, variables
      and all other components are those of `s`;
    * `r.err = some e`: the run stops in exactly `e`, having printed exactly `r.chunks` (the texts of
      the items before the failing one); the state differs from `s` in `pc`, `stack` and
      `printCol = r.col` only — whatever fuel is given beyond the code's length. -/
theorem print_statement_run (env : Env) (hie : Bool) (items : List PrItem) (hok : ∀ it ∈ items, it.Ok)
    (s : Runtime) (hcode : CodeAt s.program.link.ops s.pc (stmtCode items)) (htr : s.tron = false)
    (hroom : s.stack.size + (stmtCode items).length ≤ 65535) :
    ((printSpec s.vars s.printCol items).err = none → ∀ acc,
      runCollect env hie (stmtCode items).length s acc =
        (.done,
         { s with pc := s.pc + (stmtCode items).length, printCol := (printSpec s.vars s.printCol items).col },
         acc ++ (printSpec s.vars s.printCol items).chunks)) ∧
    (∀ e, (printSpec s.vars s.printCol items).err = some e → ∃ (pc' : Nat) (stk' : Array Val),
      ∀ n, (stmtCode items).length ≤ n → ∀ acc,
        runCollect env hie n s acc =
          (.error e,
           { s with pc := pc', stack := stk', printCol := (printSpec s.vars s.printCol items).col },
           acc ++ (printSpec s.vars s.printCol items).chunks)) :=
  ⟨fun he acc => (print_run env hie items hok s hcode htr hroom).done he acc,
   (print_run env hie items hok s hcode htr hroom).2⟩

/-- the run continues with whatever follows the statement: `m` more steps from the final state -/
theorem print_statement_run_then (env : Env) (hie : Bool) (items : List PrItem) (hok : ∀ it ∈ items, it.Ok)
    (s : Runtime) (hcode : CodeAt s.program.link.ops s.pc (stmtCode items)) (htr : s.tron = false)
    (hroom : s.stack.size + (stmtCode items).length ≤ 65535)
    (he : (printSpec s.vars s.printCol items).err = none) (m : Nat) (acc : List Str) :
    runCollect env hie ((stmtCode items).length + m) s acc =
      runCollect env hie m
        { s with pc := s.pc + (stmtCode items).length, printCol := (printSpec s.vars s.printCol items).col }
        (acc ++ (printSpec s.vars s.printCol items).chunks) :=
  (print_run env hie items hok s hcode htr hroom).1 he m acc

/-- **compiled and run**: the node compiles to one fragment whose code is `stmtCode items`, and that
    code, wherever it lies, runs as `printSpec` says -/
theorem print_statement_compiled (env : Env) (hie : Bool) (c cn : Col) (items : List PrItem)
    (hok : ∀ it ∈ items, it.Ok) (vs : Codegen.VState) (hlen : (stmtCode items).length ≤ 65535) :
    ∃ frag : Link,
      (Codegen.acceptStmt (printAst c cn items) vs).g.stmt = vs.g.stmt.push (c, frag) ∧
      (Codegen.acceptStmt (printAst c cn items) vs).errors = vs.errors ∧
      frag.ops = (stmtCode items).toArray ∧
      ∀ (s : Runtime), CodeAt s.program.link.ops s.pc frag.ops.toList → s.tron = false →
        s.stack.size + frag.ops.size ≤ 65535 →
        RunsTo env hie frag.ops.size s (printSpec s.vars s.printCol items) := by
  have h := print_codegen c cn items hok vs hlen
  exact ⟨plain (stmtCode items).toArray, by rw [h], by rw [h], rfl, fun s hcode htr hroom =>
    print_run env hie items hok s hcode htr hroom⟩

/-- **through `Runtime.execute`** (no failing item): a running machine with no errors among its
    direct statements, called once per text with a quantum that covers the code, returns exactly
    the `print` events of the specification, in order, and is left behind the code -/
theorem print_statement_execute (env : Env) (q : Nat) (items : List PrItem) (hok : ∀ it ∈ items, it.Ok)
    (s : Runtime) (hcode : CodeAt s.program.link.ops s.pc (stmtCode items)) (htr : s.tron = false)
    (hroom : s.stack.size + (stmtCode items).length ≤ 65535)
    (hst : s.state = .running) (hde : s.listing.directErrors.isEmpty = true) (hq : (stmtCode items).length ≤ q)
    (herr : (printSpec s.vars s.printCol items).err = none) (acc : List Str) :
    slices env q (printSpec s.vars s.printCol items).chunks.length s acc =
      ({ s with pc := s.pc + (stmtCode items).length, printCol := (printSpec s.vars s.printCol items).col },
       acc ++ (printSpec s.vars s.printCol items).chunks) := by
  rw [← stmtCode_eq (0, 0)] at hcode hroom hq ⊢
  rw [printSpec_eq_full _ _ (0, 0)] at herr ⊢
  exact printItems_slices env q _ (fullItems_ok (0, 0) hok) s hcode htr hroom hst hde hq herr acc

/-- **two PRINT statements in sequence** print the texts of the first, then the texts of the second
    *computed from the column the first has left* (`(printSpec … a).col`, which is `columnAfter` of
    the first's transcript: 0 after a newline, the true cursor column after a trailing `;` or `,`) -/
theorem print_carry_over (env : Env) (hie : Bool) (a b : List PrItem)
    (hoka : ∀ it ∈ a, it.Ok) (hokb : ∀ it ∈ b, it.Ok) (s : Runtime)
    (hcode : CodeAt s.program.link.ops s.pc (stmtCode a ++ stmtCode b)) (htr : s.tron = false)
    (hroom : s.stack.size + (stmtCode a ++ stmtCode b).length ≤ 65535)
    (h1 : (printSpec s.vars s.printCol a).err = none)
    (h2 : (printSpec s.vars (printSpec s.vars s.printCol a).col b).err = none) (acc : List Str) :
    runCollect env hie (stmtCode a ++ stmtCode b).length s acc =
      (.done,
       { s with pc := s.pc + (stmtCode a ++ stmtCode b).length,
                printCol := (printSpec s.vars (printSpec s.vars s.printCol a).col b).col },
       acc ++ ((printSpec s.vars s.printCol a).chunks ++
         (printSpec s.vars (printSpec s.vars s.printCol a).col b).chunks)) := by
  rw [List.length_append] at hroom ⊢
  have hmax : Gen.stackMaxLen = 65535 := rfl
  have h := RunsTo.seq (print_run env hie a hoka s hcode.left htr (by omega)) fun _ =>
    print_run env hie b hokb
      { s with pc := s.pc + (stmtCode a).length, printCol := (printSpec s.vars s.printCol a).col }
      hcode.right htr (by simp only; omega)
  rw [h1] at h
  exact h.done h2 acc

/-- the column the second statement starts in is the column function of the first's transcript -/
theorem carried_column (vars : Var) (col : Nat) (a : List PrItem) :
    (printSpec vars col a).col = columnAfter col (printSpec vars col a).text := printSpec_column vars col a

end statement

/-! #### non-vacuity: `PRINT "AB";TAB(5);"C",POS(0)` and friends -/

section demo
open Spec Lemmas.PrintRun Lemmas.ExprCompile

/-- the tokens of `PRINT "AB";TAB(5);"C",POS(0)` -/
def demoToks : List Token :=
  [.word .print, .literal (.string "AB".toList), .semicolon, .ident (.plain "TAB".toList), .lparen,
   .literal (.integer "5".toList), .rparen, .semicolon, .literal (.string "C".toList), .comma,
   .ident (.plain "POS".toList), .lparen, .literal (.integer "0".toList), .rparen]

/-- its items, with the column ranges the parser records -/
def demoItems : List PrItem :=
  [.expr (.string (5, 9) "AB".toList), .semi, .tab (10, 16) (.integer (14, 15) 5), .semi,
   .expr (.string (17, 20) "C".toList), .comma (20, 21), .pos (21, 27) (.integer (25, 26) 0)]

theorem demoItems_ok : ∀ it ∈ demoItems, it.Ok := by
  simp [demoItems, PrItem.Ok, Pure.string, Pure.integer]

/-- parser state of the demo: `k` tokens read, look-ahead `pk`, column range `cs..ce` -/
def demoSt (k : Nat) (pk : Option Token) (cs ce : Nat) : Parse.PState :=
  { toks := demoToks.drop k, peeked := pk, cs := cs, ce := ce }

/-- **the parser** builds `printAst` of the demo items: strings, `TAB(5)`, `POS(0)`, `,` as
    `TAB(-14)`, `;` as nothing, the newline item last (by evaluating the model) -/
theorem demo_parse :
    (Parse.statement 21).run { toks := demoToks } =
      .ok (printAst (0, 5) (27, 27) demoItems, demoSt 14 none 27 27) := by
  -- the keyword by hand: evaluating `Word.text` through its equations is slow to check
  rw [Lemmas.PrintList.statement_print_run 20 _ (show Lemmas.ParseRun.tok _ = some (.word .print) from rfl),
    show Lemmas.ParseRun.adv { toks := demoToks } = demoSt 1 none 0 5 from rfl]
  cbv

example : printAst (0, 5) (27, 27) demoItems =
    .print (0, 5) [.string (5, 9) "AB".toList, tabCall (10, 16) (.integer (14, 15) 5), .string (17, 20) "C".toList,
      zoneItem (20, 21), posCall (21, 27) (.integer (25, 26) 0), .string (27, 27) ['\n']] := rfl

theorem demo_code : stmtCode demoItems =
    [.literal (.str "AB".toList), .print, .literal (.int 5), .tab, .print, .literal (.str "C".toList), .print,
     .literal (.int (-14)), .tab, .print, .literal (.int 0), .literal (.int 1), .pos, .print,
     .literal (.str ['\n']), .print] := rfl

/-- **code generation** on the parsed node: exactly that code, nothing reported -/
example : (Codegen.acceptStmt (printAst (0, 5) (27, 27) demoItems) {}).g.stmt =
      #[((0, 5), plain (stmtCode demoItems).toArray)] ∧
    (Codegen.acceptStmt (printAst (0, 5) (27, 27) demoItems) {}).errors = [] := by
  rw [print_codegen (0, 5) (27, 27) demoItems demoItems_ok {} (by rw [demo_code]; decide)]
  exact ⟨rfl, rfl⟩

/-- **the specification from column 0**: `AB`, three blanks to column 5, `C`, eight blanks to the
    zone stop 14, POS(0) = 14 printed as ` 14 `, newline; column 0 afterwards -/
theorem demo_spec_0 (vars : Var) : printSpec vars 0 demoItems =
    ⟨["AB".toList, "   ".toList, "C".toList, "        ".toList, " 14 ".toList, "\n".toList], 0, none⟩ := rfl

/-- **from column 3**: `AB` ends in column 5, so `TAB(5)` writes nothing; the rest as before -/
theorem demo_spec_3 (vars : Var) : printSpec vars 3 demoItems =
    ⟨["AB".toList, [], "C".toList, "        ".toList, " 14 ".toList, "\n".toList], 0, none⟩ := rfl

/-- POS reads the cursor where it stands: `PRINT "AB";POS(0);` from column 3 prints ` 5 ` and stays
    on the line (column 8); from column 0 it prints ` 2 ` -/
example (vars : Var) (c : Col) :
    printSpec vars 3 [.expr (.string c "AB".toList), .semi, .pos c (.integer c 0), .semi] =
      ⟨["AB".toList, " 5 ".toList], 8, none⟩ ∧
    printSpec vars 0 [.expr (.string c "AB".toList), .semi, .pos c (.integer c 0), .semi] =
      ⟨["AB".toList, " 2 ".toList], 5, none⟩ := ⟨rfl, rfl⟩

/-- numbers: blank or minus sign in front, one blank behind; `,` from column 4 goes to column 14 -/
example (vars : Var) (c : Col) :
    printSpec vars 0 [.expr (.integer c 42), .comma c, .expr (.neg c (.integer c 7))] =
      ⟨[" 42 ".toList, "          ".toList, "-7 ".toList, "\n".toList], 0, none⟩ := rfl

/-- SPC and a zone stop at an exact multiple: from column 14 a `,` writes 14 blanks -/
example (vars : Var) (c : Col) :
    printSpec vars 12 [.spc c (.integer c 2), .comma c] =
      ⟨["  ".toList, List.replicate 14 ' '], 28, none⟩ := rfl

/-- an error stops the list: `PRINT "A";TAB(300);"B"` writes `A`, then OVERFLOW; no newline -/
theorem demo_spec_error (vars : Var) (c : Col) :
    printSpec vars 0 [.expr (.string c "A".toList), .semi, .tab c (.integer c 300), .semi,
      .expr (.string c "B".toList)] = ⟨["A".toList], 1, some (Error.mk' Code.overflow)⟩ := rfl

/-- **the run from column 0**, in any machine state that holds the code at `pc` -/
example (env : Env) (hie : Bool) (s : Runtime)
    (hcode : CodeAt s.program.link.ops s.pc (stmtCode demoItems)) (htr : s.tron = false)
    (hroom : s.stack.size + 16 ≤ 65535) (hcol : s.printCol = 0) :
    runCollect env hie 16 s [] =
      (.done, { s with pc := s.pc + 16, printCol := 0 },
       ["AB".toList, "   ".toList, "C".toList, "        ".toList, " 14 ".toList, "\n".toList]) := by
  have h := (print_statement_run env hie demoItems demoItems_ok s hcode htr hroom).1
  rw [hcol, demo_spec_0] at h
  exact h rfl []

/-- **the run from column 3**: TAB(5) prints the empty text, POS still reports 14 -/
example (env : Env) (hie : Bool) (s : Runtime)
    (hcode : CodeAt s.program.link.ops s.pc (stmtCode demoItems)) (htr : s.tron = false)
    (hroom : s.stack.size + 16 ≤ 65535) (hcol : s.printCol = 3) :
    runCollect env hie 16 s [] =
      (.done, { s with pc := s.pc + 16, printCol := 0 },
       ["AB".toList, [], "C".toList, "        ".toList, " 14 ".toList, "\n".toList]) := by
  have h := (print_statement_run env hie demoItems demoItems_ok s hcode htr hroom).1
  rw [hcol, demo_spec_3] at h
  exact h rfl []

/-- a concrete machine: the demo's code is the whole program, the cursor stands in column `col` -/
def demoRt (col : Nat) : Runtime :=
  { program := { link := { ops := (stmtCode demoItems).toArray } }, printCol := col }

example (env : Env) :
    runCollect env false 16 (demoRt 3) [] =
      (.done, { demoRt 3 with pc := 16, printCol := 0 },
       ["AB".toList, [], "C".toList, "        ".toList, " 14 ".toList, "\n".toList]) := by
  have hcode : CodeAt (demoRt 3).program.link.ops (demoRt 3).pc (stmtCode demoItems) :=
    CodeAt.of_append #[] #[] (stmtCode demoItems)
  have h := (print_statement_run env false demoItems demoItems_ok (demoRt 3) hcode rfl (by decide)).1
  exact h rfl []

/-- **the error case, run**: `A` is printed, then the run stops in OVERFLOW with the cursor in column 1 -/
example (env : Env) (hie : Bool) (s : Runtime) (c : Col)
    (hcode : CodeAt s.program.link.ops s.pc (stmtCode
      [.expr (.string c "A".toList), .semi, .tab c (.integer c 300), .semi, .expr (.string c "B".toList)]))
    (htr : s.tron = false) (hroom : s.stack.size + 9 ≤ 65535) (hcol : s.printCol = 0) :
    ∃ pc' stk', ∀ n, 9 ≤ n →
      runCollect env hie n s [] =
        (.error (Error.mk' Code.overflow), { s with pc := pc', stack := stk', printCol := 1 }, ["A".toList]) := by
  have h := (print_statement_run env hie _ (by simp [PrItem.Ok, Pure.string, Pure.integer]) s hcode htr hroom).2
  rw [hcol, demo_spec_error] at h
  obtain ⟨pc', stk', hrun⟩ := h _ rfl
  exact ⟨pc', stk', fun n hn => hrun n hn []⟩

/-- **carry-over**: `PRINT "AB";` then `PRINT POS(0)` from column 0 — the second statement starts in
    column 2 and says so -/
example (env : Env) (hie : Bool) (s : Runtime) (c : Col)
    (hcode : CodeAt s.program.link.ops s.pc
      (stmtCode [.expr (.string c "AB".toList), .semi] ++ stmtCode [.pos c (.integer c 0)]))
    (htr : s.tron = false) (hroom : s.stack.size + 8 ≤ 65535) (hcol : s.printCol = 0) :
    runCollect env hie 8 s [] =
      (.done, { s with pc := s.pc + 8, printCol := 0 }, ["AB".toList, " 2 ".toList, "\n".toList]) := by
  have h := print_carry_over env hie [.expr (.string c "AB".toList), .semi] [.pos c (.integer c 0)]
    (by simp [PrItem.Ok, Pure.string]) (by simp [PrItem.Ok, Pure.integer]) s hcode htr hroom
  have e1 : printSpec s.vars 0 [.expr (.string c "AB".toList), .semi] = ⟨["AB".toList], 2, none⟩ := rfl
  have e2 : printSpec s.vars 2 [.pos c (.integer c 0)] = ⟨[" 2 ".toList, "\n".toList], 0, none⟩ := rfl
  rw [hcol, e1] at h
  simp only at h
  rw [e2] at h
  exact h trivial rfl []

end demo

end Thm.C11
end Basic

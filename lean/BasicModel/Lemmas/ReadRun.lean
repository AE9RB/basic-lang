import BasicModel.Lemmas.FnCall
/-
  READ, compiled and run (C09): the code of `READ v₁,…,vₖ` with scalar targets, `read; pop v₁; …; read; pop vₖ` — one
  `read` and one store per target, left to right (that the generator emits it: `Thm.C09.read_code_shape`) — runs as
  `readSpec` says (`read_run`); then `readSpec` in its three cases: all stored, a constant refused by the store, fewer
  constants than targets.
-/
namespace Basic
namespace Lemmas.ReadRun
open Basic.Spec Basic.Codegen Basic.Link Basic.Runtime
open Basic.Lemmas.ExprCompile Basic.Lemmas.FnCall

/-- the code of `READ v₁,…,vₖ` with scalar targets -/
def readCode (names : List Str) : List Opcode := names.flatMap fun n => [Opcode.read, Opcode.pop n]

theorem readCode_length (names : List Str) : (readCode names).length = 2 * names.length := by
  induction names with
  | nil => rfl
  | cons n ns ih =>
    show ([Opcode.read, Opcode.pop n] ++ readCode ns).length = _
    rw [List.length_append, ih]; simp; omega

/-- `READ v₁,…,vₖ` on the data segment `data`, from variables `vars` and cursor `p`.  Result: the
    error that stopped the list (if any), the variables, the cursor and the number of instructions
    executed.  A target is assigned before the next constant is fetched; a constant that cannot be
    stored (type mismatch, overflow) **has been consumed**. -/
def readSpec (data : Array Val) : List Str → Var → Nat → Option Error × Var × Nat × Nat
  | [], vars, p => (none, vars, p, 0)
  | n :: ns, vars, p =>
    match data[p]? with
    | none => (some (Error.mk' Code.outOfData), vars, p, 1)
    | some v =>
      match vars.store n v with
      | .ok vars' =>
        let r := readSpec data ns vars' (p + 1)
        (r.1, r.2.1, r.2.2.1, r.2.2.2 + 2)
      | .error e => (some e, vars, p + 1, 2)

def afterRead (s : Runtime) (r : Option Error × Var × Nat × Nat) : Runtime :=
  { s with pc := s.pc + r.2.2.2, vars := r.2.1,
           program := { s.program with link := { s.program.link with dataPos := r.2.2.1 } } }

def readResult (s : Runtime) (r : Option Error × Var × Nat × Nat) : Except Error Step × Runtime :=
  match r.1 with
  | none => (.ok .continue, afterRead s r)
  | some e => (.error e, afterRead s r)

theorem doRead_ok (s : Runtime) (v : Val) (h : s.program.link.data[s.program.link.dataPos]? = some v)
    (hb : s.stack.size + 1 ≤ Gen.stackMaxLen) :
    (doRead.run).run s =
      (.ok (), { s with
        program := { s.program with link := { s.program.link with dataPos := s.program.link.dataPos + 1 } },
        stack := s.stack.push v }) := by
  unfold doRead
  have h1 : ¬ (s.stack.size + 1 > Gen.stackMaxLen) := by omega
  simp only [Runtime.run_bind, Runtime.run_get, Link.readData, h, Runtime.run_set, Runtime.run_liftE,
    Runtime.run_push, h1, if_false]

theorem doRead_none (s : Runtime) (h : s.program.link.data[s.program.link.dataPos]? = none) :
    (doRead.run).run s = (.error (Error.mk' Code.outOfData), s) := by
  unfold doRead
  simp only [Runtime.run_bind, Runtime.run_get, Link.readData, h, Runtime.run_set, Runtime.run_liftE]

/-- **the run of a READ list.**  From a state with tracing off and room for one value on the stack,
    the code `read; pop v₁; …` runs exactly as `readSpec` says: on success `pc` is past the code, every
    target holds its constant (converted by `Var.store`), the cursor has advanced by `k`; on an error
    the run stops there with the earlier targets assigned.  The stack is as it was found. -/
theorem read_run (env : Env) (hie : Bool) : ∀ (names : List Str) (s : Runtime),
    CodeAt s.program.link.ops s.pc (readCode names) → s.tron = false → s.stack.size + 1 ≤ Gen.stackMaxLen →
    runOps env hie (readCode names) s =
      readResult s (readSpec s.program.link.data names s.vars s.program.link.dataPos)
  | [], s, _, _, _ => by
    show (_, s) = _
    simp only [readSpec, readResult, afterRead]
    rfl
  | n :: ns, s, hcode, htr, hroom => by
    have hc : CodeAt s.program.link.ops s.pc ([Opcode.read, Opcode.pop n] ++ readCode ns) := hcode
    have hlen : (readCode (n :: ns)).length = 1 + (1 + (readCode ns).length) := by
      show ([Opcode.read, Opcode.pop n] ++ readCode ns).length = _
      simp; omega
    unfold runOps
    rw [hlen]
    have h1 := run_step_unit env hie s doRead htr hc.head
    cases hd : s.program.link.data[s.program.link.dataPos]? with
    | none =>
      rw [doRead_none { s with pc := s.pc + 1 } hd] at h1
      rw [runSteps_error_le (a := 1) (by rw [runSteps_one]; exact h1) (by omega)]
      simp only [readSpec, hd, readResult, afterRead]
    | some v =>
      rw [doRead_ok { s with pc := s.pc + 1 } v hd hroom] at h1
      rw [runSteps_ok_add (by rw [runSteps_one]; exact h1)]
      have hpop : s.program.link.ops[s.pc + 1]? = some (Opcode.pop n) := by
        have := hc 1 (by simp)
        simpa using this
      have h2 := run_step_pop env hie
        { s with pc := s.pc + 1, program := { s.program with link := { s.program.link with dataPos := s.program.link.dataPos + 1 } },
                 stack := s.stack.push v } n s.stack v htr hpop rfl
      cases hs : s.vars.store n v with
      | error e =>
        rw [hs] at h2
        rw [runSteps_error_le (a := 1) (by rw [runSteps_one]; exact h2) (by omega)]
        simp only [readSpec, hd, hs, readResult, afterRead]
      | ok vars' =>
        rw [hs] at h2
        rw [runSteps_ok_add (by rw [runSteps_one]; exact h2)]
        have hc' : CodeAt s.program.link.ops (s.pc + 1 + 1) (readCode ns) := by
          have := hc.right
          simpa [Nat.add_assoc] using this
        have ih := read_run env hie ns
          { s with pc := s.pc + 1 + 1,
                   program := { s.program with link := { s.program.link with dataPos := s.program.link.dataPos + 1 } },
                   stack := s.stack, vars := vars' } hc' htr hroom
        unfold runOps at ih
        rw [ih]
        simp only [readSpec, hd, hs, readResult, afterRead]
        split <;> (simp only [Nat.add_assoc]; congr 2; omega)

theorem readSpec_append (data : Array Val) : ∀ (pre rest : List Str) (vars vars1 : Var) (p p1 c1 : Nat),
    readSpec data pre vars p = (none, vars1, p1, c1) →
    readSpec data (pre ++ rest) vars p =
      ((readSpec data rest vars1 p1).1, (readSpec data rest vars1 p1).2.1, (readSpec data rest vars1 p1).2.2.1,
       (readSpec data rest vars1 p1).2.2.2 + c1)
  | [], rest, vars, vars1, p, p1, c1, h => by
    simp only [readSpec] at h
    cases h
    rfl
  | n :: pre, rest, vars, vars1, p, p1, c1, h => by
    simp only [readSpec, List.cons_append] at h ⊢
    cases hd : data[p]? with
    | none => rw [hd] at h; cases h
    | some v =>
      rw [hd] at h
      dsimp only at h ⊢
      cases hs : vars.store n v with
      | error e => rw [hs] at h; cases h
      | ok vars' =>
        rw [hs] at h
        dsimp only at h ⊢
        rcases hr : readSpec data pre vars' (p + 1) with ⟨r1, r2, r3, r4⟩
        rw [hr] at h
        simp only [Prod.mk.injEq] at h
        obtain ⟨h1, h2, h3, h4⟩ := h
        subst h1 h2 h3 h4
        rw [readSpec_append data pre rest vars' r2 (p + 1) r3 r4 hr]
        simp only [Nat.add_assoc]

/-- **enough constants, every store accepted**: target `i` receives `data[p+i]` through `Var.store`
    (`bindParams`: first target first, each in the variables left by the previous one), the cursor
    ends at `p + k`, `2k` instructions were executed -/
theorem readSpec_ok (data : Array Val) : ∀ (names : List Str) (vars vars' : Var) (p : Nat),
    p + names.length ≤ data.size →
    bindParams vars names ((data.toList.drop p).take names.length) = .ok vars' →
    readSpec data names vars p = (none, vars', p + names.length, 2 * names.length)
  | [], vars, vars', p, _, h => by
    simp only [bindParams] at h
    cases h
    rfl
  | n :: ns, vars, vars', p, hp, h => by
    simp only [List.length_cons] at hp
    have hlt : p < data.toList.length := by simp; omega
    have hd : data[p]? = some data.toList[p] := by
      rw [← Array.getElem?_toList, List.getElem?_eq_getElem hlt]
    rw [List.drop_eq_getElem_cons hlt, List.length_cons, List.take_succ_cons] at h
    simp only [bindParams] at h
    cases hs : vars.store n data.toList[p] with
    | error e => rw [hs] at h; cases h
    | ok vars1 =>
      rw [hs] at h
      have ih := readSpec_ok data ns vars1 vars' (p + 1) (by omega) h
      simp only [readSpec, hd, hs, ih, List.length_cons]
      refine Prod.ext rfl (Prod.ext rfl (Prod.ext ?_ ?_)) <;> (simp only; omega)

/-- **a constant that cannot be stored**: the targets `pre` are assigned, the error is the store's
    (TYPE MISMATCH, OVERFLOW, …), and the cursor is `p + pre.length + 1` — the offending constant is consumed -/
theorem readSpec_store_error (data : Array Val) (pre : List Str) (n : Str) (post : List Str) (vars vars1 : Var)
    (p : Nat) (v : Val) (e : Error) (hp : p + pre.length ≤ data.size)
    (hpre : bindParams vars pre ((data.toList.drop p).take pre.length) = .ok vars1)
    (hv : data[p + pre.length]? = some v) (hs : vars1.store n v = .error e) :
    readSpec data (pre ++ n :: post) vars p = (some e, vars1, p + pre.length + 1, 2 * pre.length + 2) := by
  rw [readSpec_append data pre (n :: post) vars vars1 p _ _ (readSpec_ok data pre vars vars1 p hp hpre)]
  simp only [readSpec, hv, hs]
  refine Prod.ext rfl (Prod.ext rfl (Prod.ext rfl ?_))
  simp only; omega

/-- **fewer constants than targets**: the first `data.size - p` targets are assigned, then OUT OF DATA;
    the cursor stays at the end of the data -/
theorem readSpec_out_of_data (data : Array Val) (pre : List Str) (n : Str) (post : List Str) (vars vars1 : Var)
    (p : Nat) (hp : p + pre.length = data.size)
    (hpre : bindParams vars pre ((data.toList.drop p).take pre.length) = .ok vars1) :
    readSpec data (pre ++ n :: post) vars p =
      (some (Error.mk' Code.outOfData), vars1, data.size, 2 * pre.length + 1) := by
  rw [readSpec_append data pre (n :: post) vars vars1 p _ _ (readSpec_ok data pre vars vars1 p (by omega) hpre)]
  have hnone : data[p + pre.length]? = none := by rw [hp]; simp
  simp only [readSpec, hnone]
  refine Prod.ext rfl (Prod.ext rfl (Prod.ext ?_ ?_)) <;> (simp only; omega)

end Lemmas.ReadRun
end Basic

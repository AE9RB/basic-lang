import BasicModel.Lemmas.LexFuel
/-
  Evaluating the lexer on a concrete line.

  The reserved-word table of `Model/Lex` is written with string literals, and a string is an array of
  UTF-8 bytes: the kernel decodes all 49 of them in every declaration whose evaluation reaches
  `alphabetic`, which for a short line is most of the work.  `lexK kw` is the token iterator with
  the table as an argument (`lexLoop` is copied, because the table is buried in it; `alphabetic()` enters in its closed
  form), and `lex_eval : lex src = lexK kwChars src` puts the table written as character lists in.  A test vector is
  rewritten with `lex_eval` and then evaluated.
-/
namespace Basic
namespace Lex

/-- `alphaSpan` (the closed form of `alphabetic()`, Lemmas/LexScan) with the table as an argument -/
def alphaSpanOn (kw : List (Str × Token)) (cs : List Char) : List Token × List Char :=
  match scanAlphaLoopOn kw (((cs.takeWhile isAlpha).map upper).length + 1) [] ((cs.takeWhile isAlpha).map upper) with
  | (q, []) => (q, cs.dropWhile isAlpha)
  | (q, s) => alphaTail q s (cs.dropWhile isAlpha)

def lexLoopK (kw : List (Str × Token)) : Nat → List Char → Bool → List Token
  | 0, _, _ => []
  | _ + 1, [], _ => []
  | fuel + 1, pk :: cs, remark =>
    if remark then [.unknown (pk :: cs)]
    else if isWs pk then
      let r := whitespace (pk :: cs); r.1 :: lexLoopK kw fuel r.2 false
    else if isDigit pk || pk = '.' then
      let r := number (pk :: cs); r.1 :: lexLoopK kw fuel r.2 false
    else if isAlpha pk then
      let r := alphaSpanOn kw (pk :: cs)
      match r.1 with
      | [] => []
      | t :: ts => t :: ts ++ lexLoopK kw fuel r.2 (t == .word .rem1)
    else if pk = '"' then
      let r := string (pk :: cs); r.1 :: lexLoopK kw fuel r.2 false
    else if pk = '&' then
      let r := radix (pk :: cs); r.1 :: lexLoopK kw fuel r.2 false
    else
      let r := minutia (pk :: cs); r.1 :: lexLoopK kw fuel r.2 (r.1 == .word .rem2)

def lexK (kw : List (Str × Token)) (src : Str) : Option Nat × List Token :=
  ((splitLineNumber src).1,
    postPasses (lexLoopK kw ((splitLineNumber src).2.length + 1) (splitLineNumber src).2 false))

theorem alphabetic_eval (pk : Char) (cs : List Char) (h : isAlpha pk = true) :
    alphabetic (pk :: cs) = alphaSpanOn kwChars (pk :: cs) := by
  rw [alphabetic_eq pk cs h, alphaSpan, alphaSpanOn]
  simp only [scanAlphabetic, scanAlphaLoop_eq]
  rcases scanAlphaLoopOn kwChars _ [] _ with ⟨q, _ | ⟨c, s⟩⟩ <;> rfl

theorem lexLoopK_eq (f : Nat) (cs : List Char) (r : Bool) : lexLoop f cs r = lexLoopK kwChars f cs r := by
  induction f generalizing cs r with
  | zero => rfl
  | succ f ih =>
    cases cs with
    | nil => rfl
    | cons c cs =>
      by_cases ha : isAlpha c = true
      · simp only [lexLoopK, lexLoop, alphabetic_eval c cs ha, ih]
        generalize alphaSpanOn kwChars (c :: cs) = q
        rcases q with ⟨_ | ⟨t, ts⟩, r'⟩ <;> rfl
      · simp only [lexLoopK, lexLoop, ha, ih, Bool.false_eq_true, if_false]

theorem lex_eval (src : Str) : lex src = lexK kwChars src := by
  simp only [lex, lexK, rawTokens, lexLoopK_eq]

theorem lexFrom_eval (cs : List Char) (r : Bool) : lexFrom cs r = lexLoopK kwChars (cs.length + 1) cs r :=
  lexLoopK_eq _ cs r

theorem NoKeyword.of_chars {s : Str} (h : bestMatch s kwChars none = none) : NoKeyword s := by
  rw [NoKeyword, keywords_eq]
  exact h

end Lex
end Basic

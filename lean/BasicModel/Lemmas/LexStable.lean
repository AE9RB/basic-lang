import BasicModel.Lemmas.LexPost
import BasicModel.Lemmas.LexCanon
/-
  The four post-passes, each as a plain recursion (`sepRec`, `dblRec` of Lemmas/LexPost, `triRec` here), along which every
  other module reasons instead of about locations and splices; when the two collapse passes `G = dblRec ∘ triRec` split
  over `++` (`Seam`, `G_append`); and what the passes make of the raw form of a token list without operator clash, `sepRec`
  of the list (`passes_raw`, `postPasses_packed`), hence a syntactic sufficient condition for them to rebuild the list
  (`postPasses_stable`): the raw forms of two neighbours without clash meet at a seam.
-/
namespace Basic
namespace Lex

/-- comparison operators: the tokens the collapse passes build or consume -/
def isCmp : Token → Bool
  | .operator .less | .operator .equal | .operator .greater
  | .operator .lessEqual | .operator .greaterEqual | .operator .notEqual => true
  | _ => false

def isBlank : Token → Bool
  | .whitespace _ => true
  | _ => false

def isGoHead (t : Token) : Bool := t == .ident (.plain "GO".toList)
def isGoTail (t : Token) : Bool := t == .word .to || t == .ident (.plain "SUB".toList)

def isRawCmp : Token → Bool
  | .operator .less | .operator .equal | .operator .greater => true
  | _ => false

theorem isCmp_of_isRawCmp (t : Token) (h : isRawCmp t = true) : isCmp t = true := by
  unfold isRawCmp at h; split at h
  all_goals first | rfl | cases h

def goTok : Token := .ident (.plain "GO".toList)
def subTok : Token := .ident (.plain "SUB".toList)

/-- what `collapse_triples` rewrites: a comparison, `GO TO` or `GO SUB` spelt with a blank in the middle -/
theorem tripleMatch_some (a b c T : Token) (h : tripleMatch a b c = some T) :
    (∃ n, b = .whitespace n) ∧
      ((isRawCmp a = true ∧ isRawCmp c = true ∧ isCmp T = true) ∨
        (a = goTok ∧ ((c = .word .to ∧ T = .word .goto) ∨ (c = subTok ∧ T = .word .gosub)))) := by
  unfold tripleMatch at h
  split at h
  all_goals first
    | (cases h; exact ⟨⟨_, rfl⟩, Or.inl ⟨rfl, rfl, rfl⟩⟩)
    | (split at h
       · rename_i hgo
         cases h
         first
           | (simp only [Bool.and_eq_true, decide_eq_true_eq] at hgo
              obtain ⟨e1, e2⟩ := hgo
              subst e1; subst e2
              exact ⟨⟨_, rfl⟩, Or.inr ⟨rfl, Or.inr ⟨rfl, rfl⟩⟩⟩)
           | (subst hgo
              exact ⟨⟨_, rfl⟩, Or.inr ⟨rfl, Or.inl ⟨rfl, rfl⟩⟩⟩)
       · cases h)
    | cases h

theorem doubleMatch_some (a b T : Token) (h : doubleMatch a b = some T) :
    isRawCmp a = true ∧ isRawCmp b = true ∧ isCmp T = true := by
  unfold doubleMatch at h
  split at h
  all_goals first
    | (cases h; exact ⟨rfl, rfl, rfl⟩)
    | cases h

theorem doubleMatch_none_left (a b : Token) (h : isRawCmp a = false) : doubleMatch a b = none := by
  cases hm : doubleMatch a b with
  | none => rfl
  | some T => rw [(doubleMatch_some a b T hm).1] at h; cases h

theorem doubleMatch_none_right (a b : Token) (h : isRawCmp b = false) : doubleMatch a b = none := by
  cases hm : doubleMatch a b with
  | none => rfl
  | some T => rw [(doubleMatch_some a b T hm).2.1] at h; cases h

theorem isRawCmp_of_not_isCmp (t : Token) (h : isCmp t = false) : isRawCmp t = false := by
  cases hr : isRawCmp t with
  | false => rfl
  | true => rw [isCmp_of_isRawCmp t hr] at h; cases h

theorem doubleMatch_of_not_cmp_left (a b : Token) (h : isCmp a = false) : doubleMatch a b = none :=
  doubleMatch_none_left a b (isRawCmp_of_not_isCmp a h)

theorem doubleMatch_of_not_cmp_right (a b : Token) (h : isCmp b = false) : doubleMatch a b = none :=
  doubleMatch_none_right a b (isRawCmp_of_not_isCmp b h)

theorem tripleMatch_none_of_not_blank (x y z : Token) (h : isBlank y = false) : tripleMatch x y z = none := by
  cases hm : tripleMatch x y z with
  | none => rfl
  | some T =>
    obtain ⟨⟨n, e⟩, -⟩ := tripleMatch_some x y z T hm
    subst e; cases h

theorem tripleMatch_none_of_ends (x y z : Token) (h1 : (isRawCmp x && isRawCmp z) = false)
    (h2 : (isGoHead x && isGoTail z) = false) : tripleMatch x y z = none := by
  cases hm : tripleMatch x y z with
  | none => rfl
  | some T =>
    rcases (tripleMatch_some x y z T hm).2 with ⟨hx, hz, -⟩ | ⟨ex, ⟨ez, -⟩ | ⟨ez, -⟩⟩
    · rw [hx, hz] at h1; cases h1
    · subst ex; subst ez; exact absurd h2 (by decide)
    · subst ex; subst ez; exact absurd h2 (by decide)

theorem tripleMatch_blank_mid (x y z t : Token) (h : tripleMatch x y z = some t) : isBlank y = true := by
  obtain ⟨⟨n, rfl⟩, -⟩ := tripleMatch_some x y z t h
  rfl

theorem tripleMatch_blank_first (x y z : Token) (h : isBlank x = true) : tripleMatch x y z = none := by
  cases x <;> simp [isBlank] at h
  exact tripleMatch_none_of_ends _ y z rfl rfl

/-- `collapse_triples` without locations: a hit replaces the window; the third token of the window
    has already been looked at as the first of a later window (overlaps are inspected), and is
    swallowed by the splice whether or not that later window fired -/
def triRec : List Token → List Token
  | a :: b :: c :: rest =>
    match tripleMatch a b c with
    | some t => t :: (triRec (c :: rest)).tail
    | none => a :: triRec (b :: c :: rest)
  | ts => ts

theorem triRec_ne_nil (ts : List Token) (h : ts ≠ []) : triRec ts ≠ [] := by
  match ts with
  | [] => contradiction
  | [a] => simp [triRec]
  | [a, b] => simp [triRec]
  | a :: b :: c :: rest =>
    simp only [triRec]; split <;> simp

theorem splice_prefix (n : Nat) (pre ts : List Token) (j : Nat) (t : Token) :
    splice n (pre ++ ts) (pre.length + j, t) = pre ++ splice n ts (j, t) := by
  simp only [splice]
  rw [List.take_append, List.drop_append]
  have h1 : List.take (pre.length + j) pre = pre := List.take_of_length_le (by omega)
  have h2 : List.drop (pre.length + j + n) pre = [] := List.drop_of_length_le (by omega)
  simp [h1, Nat.add_assoc]

theorem tripleLocs_skip_blank (b c : Token) (rest : List Token) (k : Nat) (h : isBlank b = true) :
    tripleLocs (b :: c :: rest) k = tripleLocs (c :: rest) (k + 1) := by
  cases rest with
  | nil => simp [tripleLocs]
  | cons d rest' => simp only [tripleLocs, tripleMatch_blank_first b c d h]

theorem triRec_cons_ne (c : Token) (rest : List Token) : ∃ x xs, triRec (c :: rest) = x :: xs :=
  List.exists_cons_of_ne_nil (triRec_ne_nil _ (List.cons_ne_nil _ _))

/-! `fun_induction f` makes the auxiliary lemmas of the matcher in `f` in the module that first calls it, and two
  modules that have made them independently cannot both be imported.  So the first call stands with the definition:
  here for `triRec`, in `collapseDoubles_aux` of Lemmas/LexPost for `dblRec` (`sepRec` has an `if`, no matcher);
  after it, `fun_induction` and `induction … using triRec.induct` are both safe anywhere. -/

theorem collapseTriples_aux (ts pre : List Token) :
    applyLocs 3 (tripleLocs ts pre.length) (pre ++ ts) = pre ++ triRec ts := by
  fun_induction triRec ts generalizing pre with
  | case1 a b c rest t hm ih =>
    have hb := tripleMatch_blank_mid a b c t hm
    have := ih (pre ++ [a, b])
    obtain ⟨x, xs, hx⟩ := triRec_cons_ne c rest
    simp only [List.length_append, List.length_cons, List.length_nil, List.append_assoc,
      List.cons_append, List.nil_append] at this
    simp only [tripleLocs, hm, tripleLocs_skip_blank b c rest _ hb, applyLocs, List.foldr_cons] at this ⊢
    rw [show pre.length + 1 + 1 = pre.length + (0 + 1 + 1) by omega, this]
    have := splice_prefix 3 pre (a :: b :: triRec (c :: rest)) 0 t
    simp only [Nat.add_zero] at this
    rw [this]
    simp [splice, hx]
  | case2 a b c rest hm ih =>
    have := ih (pre ++ [a])
    simp only [tripleLocs, hm]
    simpa using this
  | case3 ts hts =>
    match ts, hts with
    | [], _ => simp [tripleLocs, applyLocs]
    | [a], _ => simp [tripleLocs, applyLocs]
    | [a, b], _ => simp [tripleLocs, applyLocs]
    | a :: b :: c :: rest, h => exact absurd rfl (h a b c rest)

theorem collapseTriples_eq (ts : List Token) : collapseTriples ts = triRec ts := by
  simpa [collapseTriples] using collapseTriples_aux ts []

theorem triRec_cons_of_none (t : Token) (B : List Token)
    (h : ∀ y z B', B = y :: z :: B' → tripleMatch t y z = none) : triRec (t :: B) = t :: triRec B := by
  match B with
  | [] => rfl
  | [y] => rfl
  | y :: z :: B' => rw [triRec, h y z B' rfl]

theorem trimEndRev_snoc (L : List Token) (t : Token) :
    trimEndRev (L ++ [t]) = if trimEndRev L = [] then trimEndRev [t] else trimEndRev L ++ [t] := by
  induction L with
  | nil => simp [trimEndRev]
  | cons x L ih =>
    cases x with
    | whitespace n => simp only [List.cons_append, trimEndRev]; exact ih
    | unknown s =>
      simp only [List.cons_append, trimEndRev]
      split
      · exact ih
      · simp
    | _ => simp [trimEndRev]

theorem trimEnd_cons (t : Token) (X : List Token) :
    trimEnd (t :: X) = if trimEnd X = [] then trimEnd [t] else t :: trimEnd X := by
  simp only [trimEnd, List.reverse_cons, trimEndRev_snoc, List.reverse_eq_nil_iff, List.reverse_nil,
    List.nil_append]
  split <;> simp

theorem trimEnd_snoc (l : List Token) (x : Token) :
    trimEnd (l ++ [x]) =
      match x with
      | .whitespace _ => trimEnd l
      | .unknown s => if (trimEndStr s).isEmpty then trimEnd l else l ++ [.unknown (trimEndStr s)]
      | t => l ++ [t] := by
  unfold trimEnd
  rw [List.reverse_append]
  simp only [List.reverse_cons, List.reverse_nil, List.nil_append, List.cons_append]
  cases x with
  | whitespace n => simp [trimEndRev]
  | unknown s =>
    simp only [trimEndRev]
    split <;> simp
  | _ => simp [trimEndRev]

/-- no window of `collapse_triples` or `collapse_doubles` that straddles the seam between `A` and `B` fires -/
def Seam (A B : List Token) : Prop :=
  (∀ P x y z, A = P ++ [x, y] → B.head? = some z → tripleMatch x y z = none) ∧
  (∀ x y z B', A.getLast? = some x → B = y :: z :: B' → tripleMatch x y z = none) ∧
  (∀ a b, A.getLast? = some a → B.head? = some b → doubleMatch a b = none)

theorem Seam.nil_left (B : List Token) : Seam [] B := by
  refine ⟨?_, ?_, ?_⟩
  · intro P x y z h; simp at h
  · intro x y z B' h; simp at h
  · intro a b h; simp at h

theorem Seam.nil_right (A : List Token) : Seam A [] := by
  refine ⟨?_, ?_, ?_⟩
  · intro P x y z _ h; simp at h
  · intro x y z B' _ h; simp at h
  · intro a b _ h; simp at h

theorem Seam.tail {a : Token} {l B : List Token} (h : Seam (a :: l) B) : Seam l B := by
  by_cases hl : l = []
  · subst hl; exact Seam.nil_left B
  · obtain ⟨h1, h2, h3⟩ := h
    refine ⟨?_, ?_, ?_⟩
    · intro P x y z e hz; exact h1 (a :: P) x y z (by simp [e]) hz
    · intro x y z B' e hB; exact h2 x y z B' (by rw [getLast?_cons_of_ne_nil a l hl]; exact e) hB
    · intro x b e hb; exact h3 x b (by rw [getLast?_cons_of_ne_nil a l hl]; exact e) hb

theorem triRec_append (A B : List Token) (hs : Seam A B) : triRec (A ++ B) = triRec A ++ triRec B := by
  induction A using triRec.induct with
  | case1 a b c A' t hm ih =>
    have ih := ih hs.tail.tail
    obtain ⟨x, xs, hx⟩ := triRec_cons_ne c A'
    simp only [List.cons_append, triRec, hm] at ih ⊢
    rw [ih, hx]
    rfl
  | case2 a b c A' hm ih =>
    have ih := ih hs.tail
    simp only [List.cons_append, triRec, hm] at ih ⊢
    rw [ih]
  | case3 A hA =>
    match A, hA with
    | [], _ => rfl
    | [a], _ => exact triRec_cons_of_none a B fun y z B' e => hs.2.1 a y z B' rfl e
    | [a, b], _ =>
      cases B with
      | nil => rfl
      | cons z B'' =>
        have hm : tripleMatch a b z = none := hs.1 [] a b z rfl rfl
        show triRec (a :: b :: z :: B'') = a :: b :: triRec (z :: B'')
        rw [triRec, hm, triRec_cons_of_none b (z :: B'') fun y w B' e => hs.tail.2.1 b y w B' rfl e]
    | a :: b :: c :: A', h => exact absurd rfl (h a b c A')

theorem dblRec_append (X Y : List Token)
    (hs : ∀ a b, X.getLast? = some a → Y.head? = some b → doubleMatch a b = none) :
    dblRec (X ++ Y) = dblRec X ++ dblRec Y := by
  induction X using dblRec.induct with
  | case1 a b X' t hm ih =>
    rw [List.cons_append, List.cons_append, dblRec, hm, dblRec, hm]
    simp only [List.cons_append]
    rw [ih fun x y e hy => hs x y (by
      cases X' with
      | nil => simp at e
      | cons c X'' => rw [getLast?_cons_of_ne_nil a _ (by simp), getLast?_cons_of_ne_nil b _ (by simp)]; exact e) hy]
  | case2 a b X' hm ih =>
    rw [List.cons_append, List.cons_append, dblRec, hm, dblRec, hm]
    simp only [List.cons_append]
    have := ih fun x y e hy => hs x y (by rw [getLast?_cons_of_ne_nil a _ (by simp)]; exact e) hy
    rw [List.cons_append] at this
    rw [this]
  | case3 X hX =>
    match X, hX with
    | [], _ => rfl
    | [a], _ =>
      cases Y with
      | nil => rfl
      | cons b Y' => simp only [List.cons_append, List.nil_append, dblRec, hs a b rfl rfl]
    | a :: b :: X', h => exact absurd rfl (h a b X')

theorem tripleMatch_result_not_raw (x y z t : Token) (h : tripleMatch x y z = some t) :
    isRawCmp t = false := by
  unfold tripleMatch at h
  split at h
  all_goals first
    | (cases h; rfl)
    | (split at h <;> first | (cases h; rfl) | cases h)
    | cases h

theorem doubleMatch_raw (a b t : Token) (h : doubleMatch a b = some t) :
    isRawCmp a = true ∧ isRawCmp b = true :=
  ⟨(doubleMatch_some a b t h).1, (doubleMatch_some a b t h).2.1⟩

theorem triRec_getLast (A : List Token) (x : Token) (hl : (triRec A).getLast? = some x)
    (hx : isRawCmp x = true) : A.getLast? = some x := by
  induction A using triRec.induct with
  | case1 a b c rest t hm ih =>
    obtain ⟨y, ys, hy⟩ := triRec_cons_ne c rest
    rw [getLast?_cons_of_ne_nil a _ (by simp), getLast?_cons_of_ne_nil b _ (by simp)]
    apply ih
    rw [triRec, hm, hy, List.tail_cons] at hl
    cases ys with
    | nil =>
      simp at hl; subst hl
      rw [tripleMatch_result_not_raw a b c _ hm] at hx; cases hx
    | cons z zs =>
      rw [hy, getLast?_cons_of_ne_nil y _ (by simp)]
      rwa [getLast?_cons_of_ne_nil t _ (by simp)] at hl
  | case2 a b c rest hm ih =>
    rw [triRec, hm, getLast?_cons_of_ne_nil a _ (triRec_ne_nil _ (by simp))] at hl
    rw [getLast?_cons_of_ne_nil a _ (by simp)]
    exact ih hl
  | case3 A hA =>
    match A, hA with
    | [], _ => exact hl
    | [a], _ => exact hl
    | [a, b], _ => exact hl
    | a :: b :: c :: A', h => exact absurd rfl (h a b c A')

theorem triRec_head (B : List Token) (x : Token) (hl : (triRec B).head? = some x)
    (hx : isRawCmp x = true) : B.head? = some x := by
  match B with
  | [] => simp [triRec] at hl
  | [a] => simpa [triRec] using hl
  | [a, b] => simpa [triRec] using hl
  | a :: b :: c :: rest =>
    rw [triRec] at hl
    cases hm : tripleMatch a b c with
    | none => rw [hm] at hl; simpa using hl
    | some t =>
      rw [hm] at hl
      simp at hl; subst hl
      rw [tripleMatch_result_not_raw a b c _ hm] at hx; cases hx

/-- the two collapse passes -/
def G (ts : List Token) : List Token := dblRec (triRec ts)

theorem G_append (A B : List Token) (h : Seam A B) : G (A ++ B) = G A ++ G B := by
  unfold G
  rw [triRec_append A B h]
  apply dblRec_append
  intro a b ha hb
  cases hm : doubleMatch a b with
  | none => rfl
  | some t =>
    obtain ⟨r1, r2⟩ := doubleMatch_raw a b t hm
    have e1 := triRec_getLast A a ha r1
    have e2 := triRec_head B b hb r2
    rw [h.2.2 a b e1 e2] at hm; cases hm

/-- `x <blank> y` with both comparison operators, or `GO <blank> TO|SUB` -/
def tripleClash : List Token → Bool
  | a :: b :: c :: rest =>
    (isBlank b && ((isCmp a && isCmp c) || (isGoHead a && isGoTail c))) || tripleClash (b :: c :: rest)
  | _ => false

/-- two adjacent comparison operators -/
def doubleClash : List Token → Bool
  | a :: b :: rest => (isCmp a && isCmp b) || doubleClash (b :: rest)
  | _ => false

/-- two adjacent word-like tokens -/
def wordClash : List Token → Bool
  | a :: b :: rest => (a.isWord && b.isWord) || wordClash (b :: rest)
  | _ => false

/-- the line does not end in a blank run or in remark text with trailing white space -/
def endOk (ts : List Token) : Bool :=
  match ts.getLast? with
  | some (.whitespace _) => false
  | some (.unknown s) => trimEndStr s == s && !s.isEmpty
  | _ => true

theorem sepRec_stable (ts : List Token) (h : wordClash ts = false) : sepRec ts = ts := by
  induction ts with
  | nil => rfl
  | cons a ts ih =>
    cases ts with
    | nil => rfl
    | cons b rest =>
      simp only [wordClash, Bool.or_eq_false_iff] at h
      simp only [sepRec, h.1, Bool.false_eq_true, if_false, ih h.2]

theorem rawOf_of_not_cmp (t : Token) (h : isCmp t = false) : rawOf t = [t] := by
  unfold rawOf; split <;> simp_all [isCmp]

theorem rawOf_shape (a : Token) :
    (rawOf a = [a]) ∨
    (∃ x1 x2, rawOf a = [x1, x2] ∧ isBlank x2 = false ∧ isCmp a = true ∧ isGoHead x2 = false ∧
      isBlank x1 = false) := by
  cases a with
  | operator o => cases o <;> first | (left; rfl) | (right; exact ⟨_, _, rfl, rfl, rfl, rfl, rfl⟩)
  | _ => left; rfl

theorem rawOf_head (c : Token) : ∃ z tl, rawOf c = z :: tl ∧ (isRawCmp z = true → isCmp c = true) ∧
    (isGoTail z = true → isGoTail c = true) ∧ (isBlank z = true → c = z ∧ tl = []) := by
  cases c with
  | operator o =>
    cases o <;> exact ⟨_, _, rfl, by decide, by decide, by decide⟩
  | _ => exact ⟨_, _, rfl, by simp [isRawCmp, isCmp], id, fun _ => ⟨rfl, rfl⟩⟩

theorem tripleClash_tail (a : Token) (ts : List Token) (h : tripleClash (a :: ts) = false) :
    tripleClash ts = false := by
  cases ts with
  | nil => rfl
  | cons b ts =>
    cases ts with
    | nil => rfl
    | cons c rest => simp only [tripleClash, Bool.or_eq_false_iff] at h; exact h.2

theorem doubleClash_tail (a : Token) (ts : List Token) (h : doubleClash (a :: ts) = false) : doubleClash ts = false := by
  cases ts with
  | nil => rfl
  | cons b rest =>
    simp only [doubleClash, Bool.or_eq_false_iff] at h
    exact h.2

theorem G_rawOf (a : Token) : G (rawOf a) = [a] := by
  cases a with
  | operator o => cases o <;> rfl
  | _ => rfl

/-- the last raw token of `a`: `a` itself, or the second half of a comparison operator -/
theorem rawOf_last (a x : Token) (h : (rawOf a).getLast? = some x) :
    (isRawCmp x = true → isCmp a = true) ∧ (isGoHead x = true → isGoHead a = true) ∧
      (isCmp a = false → x = a) := by
  cases a with
  | operator o => cases o <;> cases h <;> exact ⟨by decide, by decide, by decide⟩
  | _ =>
    cases h
    exact ⟨by simp [isRawCmp, isCmp], id, fun _ => rfl⟩

theorem seam_raw (a : Token) (ts : List Token) (h : tripleClash (a :: ts) = false)
    (h2 : doubleClash (a :: ts) = false) : Seam (rawOf a) (ts.flatMap rawOf) := by
  refine ⟨?_, ?_, ?_⟩
  · -- both halves of a comparison operator in front of the seam: the second is no blank
    intro P x y z e _
    rcases rawOf_shape a with e' | ⟨x1, x2, e', hb2, -⟩ <;> rw [e'] at e
    · have := congrArg List.length e
      simp at this
    · match P, e with
      | [], e =>
        cases e
        exact tripleMatch_none_of_not_blank _ _ _ hb2
      | [_], e =>
        have := congrArg List.length e
        simp at this
      | _ :: _ :: _, e =>
        have := congrArg List.length e
        simp at this
  · -- the window that starts at the last raw token `x` of `a`: its middle is a blank token `b` of `ts`, its third the head
    -- of the raw form of the token `c` behind `b`; and `a`, `b`, `c` are no clash
    intro x y z R' hx hR
    obtain ⟨hx1, hx2, -⟩ := rawOf_last a x hx
    by_cases hy : isBlank y = true
    · cases ts with
      | nil => simp at hR
      | cons b ts' =>
        obtain ⟨y', tl, e, -, -, hb⟩ := rawOf_head b
        rw [List.flatMap_cons, e, List.cons_append] at hR
        have hy' : y' = y := (List.cons.inj hR).1
        subst hy'
        obtain ⟨hb1, hb2⟩ := hb hy
        subst hb2
        have hR' : ts'.flatMap rawOf = z :: R' := by simpa using (List.cons.inj hR).2
        cases ts' with
        | nil => simp at hR'
        | cons c ts'' =>
          obtain ⟨z', tl', e', hc1, hc2, -⟩ := rawOf_head c
          rw [List.flatMap_cons, e', List.cons_append] at hR'
          have hz : z' = z := (List.cons.inj hR').1
          subst hz
          simp only [tripleClash, Bool.or_eq_false_iff, Bool.and_eq_false_iff] at h
          have hcl := h.1
          rw [hb1] at hcl
          rcases hcl with hcl | hcl
          · rw [hy] at hcl
            exact absurd hcl (by simp)
          · apply tripleMatch_none_of_ends
            · cases h1 : isRawCmp x with
              | false => rfl
              | true =>
                cases h3 : isRawCmp z' with
                | false => rfl
                | true =>
                  have := hcl.1
                  rw [hx1 h1, hc1 h3] at this
                  exact absurd this (by simp)
            · cases h1 : isGoHead x with
              | false => rfl
              | true =>
                cases h3 : isGoTail z' with
                | false => rfl
                | true =>
                  have := hcl.2
                  rw [hx2 h1, hc2 h3] at this
                  exact absurd this (by simp)
    · exact tripleMatch_none_of_not_blank x y z (by simpa using hy)
  · -- two comparison characters across the seam come from two comparison operators
    intro x y hx hy
    obtain ⟨-, -, hxa⟩ := rawOf_last a x hx
    cases ts with
    | nil => simp at hy
    | cons b rest =>
      simp only [doubleClash, Bool.or_eq_false_iff, Bool.and_eq_false_iff] at h2
      rcases h2.1 with ha | hb
      · rw [hxa ha]
        exact doubleMatch_of_not_cmp_left a y ha
      · rw [List.flatMap_cons, rawOf_of_not_cmp b hb] at hy
        cases hy
        exact doubleMatch_of_not_cmp_right x _ hb

theorem G_raw (ts : List Token) (h1 : tripleClash ts = false) (h2 : doubleClash ts = false) :
    G (ts.flatMap rawOf) = ts := by
  induction ts with
  | nil => rfl
  | cons a ts ih =>
    rw [List.flatMap_cons, G_append _ _ (seam_raw a ts h1 h2), G_rawOf,
      ih (tripleClash_tail a ts h1) (doubleClash_tail a ts h2)]
    rfl

theorem collapses_raw (ts : List Token) (h1 : tripleClash ts = false) (h2 : doubleClash ts = false) :
    collapseDoubles (collapseTriples (ts.flatMap rawOf)) = ts := by
  rw [collapseTriples_eq, collapseDoubles_eq]
  exact G_raw ts h1 h2

/-- what `trim_end` leaves at the end of the line -/
def LastOK : Token → Prop
  | .whitespace _ => False
  | .unknown s => trimEndStr s = s ∧ s ≠ []
  | _ => True

theorem trimEndStr_idem (s : Str) : trimEndStr (trimEndStr s) = trimEndStr s := by
  have hd : ∀ l : List Char, (l.dropWhile isUniWhite).dropWhile isUniWhite = l.dropWhile isUniWhite := by
    intro l
    induction l with
    | nil => rfl
    | cons a l ih =>
      by_cases ha : isUniWhite a = true
      · simp only [List.dropWhile_cons, ha, if_true]; exact ih
      · simp [ha]
  simp [trimEndStr, hd]

theorem trimEnd_lastOK (l : List Token) : ∀ t, (trimEnd l).getLast? = some t → LastOK t := by
  refine snoc_induction (P := fun l => ∀ t, (trimEnd l).getLast? = some t → LastOK t)
    (by intro t h; simp [trimEnd, trimEndRev] at h) ?_ l
  intro l x ih
  · intro t h
    rw [trimEnd_snoc] at h
    cases x with
    | whitespace n => exact ih t h
    | unknown s =>
      simp only at h
      split at h
      · exact ih t h
      · rename_i hne
        simp at h; subst h
        exact ⟨trimEndStr_idem s, by simpa using hne⟩
    | _ => simp at h; subst h; trivial

theorem endOk_iff (l : List Token) : endOk l = true ↔ ∀ t, l.getLast? = some t → LastOK t := by
  unfold endOk
  cases l.getLast? with
  | none => simp
  | some t => cases t <;> simp [LastOK]

theorem trimEnd_keeps (l : List Token) (h : ∀ t, l.getLast? = some t → LastOK t) : trimEnd l = l := by
  rcases List.eq_nil_or_concat l with rfl | ⟨ys, x, rfl⟩
  · rfl
  · have hx : LastOK x := h x (by simp)
    cases x with
    | whitespace n => exact hx.elim
    | unknown s => simp [trimEnd, trimEndRev, hx.1, hx.2]
    | _ => simp [trimEnd, trimEndRev]

theorem trimEnd_raw (ts : List Token) (h : endOk ts = true) : trimEnd (ts.flatMap rawOf) = ts.flatMap rawOf := by
  refine trimEnd_keeps _ fun x hx => ?_
  rcases List.eq_nil_or_concat ts with rfl | ⟨init, t, rfl⟩
  · simp at hx
  · rw [List.concat_eq_append] at h hx
    have ht : LastOK t := (endOk_iff _).1 h t (by simp)
    -- the last raw token is `t` itself or the second half of a comparison operator
    have hl : ((init ++ [t]).flatMap rawOf).getLast? = (rawOf t).getLast? := by
      rcases rawOf_shape t with e | ⟨_, _, e, _⟩ <;> simp [List.flatMap_append, e, List.getLast?_append]
    rw [hl] at hx
    cases t with
    | operator o => cases o <;> cases hx <;> first | exact ht | trivial
    | _ =>
      cases hx
      exact ht

theorem postPasses_single (t : Token) (hw : ∀ n, t ≠ .whitespace n) (hu : ∀ s, t ≠ .unknown s) :
    postPasses [t] = [t] := by
  cases t with
  | whitespace n => exact absurd rfl (hw n)
  | unknown s => exact absurd rfl (hu s)
  | _ => simp [postPasses, trimEnd, trimEndRev, collapseTriples, tripleLocs, collapseDoubles, doubleLocs,
      separateWords, wordLocs, applyLocs]

/-- the three passes after `trimEnd` on raw output without operator clashes: the collapse passes
    rebuild the comparison operators, `separate_words` puts one blank between adjacent word-like
    tokens, nothing else happens -/
theorem passes_raw (ts : List Token) (h1 : tripleClash ts = false) (h2 : doubleClash ts = false) :
    separateWords (collapseDoubles (collapseTriples (ts.flatMap rawOf))) = sepRec ts := by
  rw [collapses_raw ts h1 h2, separateWords_eq]

theorem postPasses_packed (ts : List Token) (h1 : tripleClash ts = false) (h2 : doubleClash ts = false)
    (h4 : endOk ts = true) : postPasses (ts.flatMap rawOf) = sepRec ts := by
  rw [postPasses, trimEnd_raw ts h4, passes_raw ts h1 h2]

/-- the syntactic sufficient condition: no comparison operators next to (or one blank away from)
    each other, no `GO <blank> TO|SUB`, no two word-like tokens adjacent, no trailing blank run, no
    trailing white space in (and no empty) remark text ⟹ the four post-passes rebuild exactly `ts` -/
theorem postPasses_stable (ts : List Token) (h1 : tripleClash ts = false) (h2 : doubleClash ts = false)
    (h3 : wordClash ts = false) (h4 : endOk ts = true) : postPasses (ts.flatMap rawOf) = ts := by
  rw [postPasses_packed ts h1 h2 h4, sepRec_stable ts h3]

end Lex
end Basic

import BasicModel.Lemmas.GenClean
/-
  The exact code emitted by three generator functions — `pushDefFn` (DEF FN), `genOn` (ON … GOSUB), `rangeStmt`
  (LIST / DELETE) — as facts about their clean path: chains of the rules of `Lemmas/GenClean.lean`.  With the bound
  spelled out the first two are `Thm.C10.pushDefFn_shape`, `Thm.C18.genOn_gosub_shape`.
-/
namespace Basic
namespace Codegen
open Link


/-- the link `pushDefFn` builds -/
def defFnLink (l : Link) (c : Col) (ident : Str) (vars : List Str) (body : Link) : Link :=
  (((appended
      (((((l.push (.literal (.int (Int16.ofNat vars.length)))).1.push (.def ident)).1.nextSymbol.1.addUnlinked c
          (l.currentSymbol - 1)).push (.jump 0)).1.pushOps (vars.map Opcode.pop).toArray)
      body).push .return).1).pushSymbol (l.currentSymbol - 1)

theorem pushDefFn_clean (v : Array VarItem) (ex st : Array (Col × Link)) (cur : Link) (c : Col) (ident : Str)
    (vars : List Str) (body : Link) (hv : vars.length ≤ 32767) :
    Clean (pushDefFn c ident vars body) ⟨v, ex, st, cur⟩ () ⟨v, ex, st, defFnLink cur c ident vars body⟩ := by
  unfold pushDefFn pushJump
  exact .bind (.lenVal hv _) <| .bind (.lpush ..) <| .bind (.lpush ..) <| .bind (.lnextSymbol ..) <|
    .bind (.bind (.laddUnlinked ..) (.lpush ..)) <| .bind (.forIn_lpush ..) <| .bind (.lappend ..) <|
    .bind (.lpush ..) <| .lpushSymbol ..

theorem defFnLink_ops (l : Link) (c : Col) (ident : Str) (vars : List Str) (body : Link) :
    (defFnLink l c ident vars body).ops =
      l.ops ++ #[.literal (.int (Int16.ofNat vars.length)), .def ident, .jump 0] ++ (vars.map Opcode.pop).toArray
        ++ body.ops ++ #[.return] := by
  unfold defFnLink
  simp

theorem defFnLink_data (l : Link) (c : Col) (ident : Str) (vars : List Str) (body : Link) :
    (defFnLink l c ident vars body).data = l.data ++ body.data := by
  unfold defFnLink
  simp

/-- the `jump` (third op) refers to the label defined right after the final `return`: DEF skips the body -/
theorem defFnLink_skip (l : Link) (c : Col) (ident : Str) (vars : List Str) (body : Link) :
    (defFnLink l c ident vars body).unlinked.lookup (l.ops.size + 2) = some (c, l.currentSymbol - 1) ∧
    (defFnLink l c ident vars body).symbols.lookup (l.currentSymbol - 1) =
      some ((defFnLink l c ident vars body).ops.size, l.data.size + body.data.size) := by
  constructor
  · unfold defFnLink
    simp only [pushSymbol_unlinked, push_unlinked, appended_unlinked]
    rw [appendUnlinked_lookup_left _ _ _ (by simp)]
    simp only [pushOps_unlinked, push_unlinked, addUnlinked_unlinked, nextSymbol_ops, push_ops, Array.size_push,
      unlInsert_lookup, if_true]
  · rw [defFnLink_ops]
    unfold defFnLink
    simp only [pushSymbol_symbols, symInsert_lookup, if_true]
    simp

/-- `l'` is `l` plus `k` unresolved jumps: nothing else changed, earlier references untouched -/
structure JumpsAdded (l l' : Link) (k : Nat) : Prop where
  ops : l'.ops = l.ops ++ Array.replicate k (.jump 0)
  symbols : l'.symbols = l.symbols
  data : l'.data = l.data
  currentSymbol : l'.currentSymbol = l.currentSymbol
  directSet : l'.directSet = l.directSet
  unlinked : ∀ x, x < l.ops.size → l'.unlinked.lookup x = l.unlinked.lookup x

theorem JumpsAdded.refl (l : Link) : JumpsAdded l l 0 :=
  ⟨by simp, rfl, rfl, rfl, rfl, fun _ _ => rfl⟩

theorem JumpsAdded.trans {l l' l'' : Link} {j k : Nat} (h1 : JumpsAdded l l' j) (h2 : JumpsAdded l' l'' k) :
    JumpsAdded l l'' (j + k) := by
  refine ⟨?_, h2.symbols.trans h1.symbols, h2.data.trans h1.data, h2.currentSymbol.trans h1.currentSymbol,
    h2.directSet.trans h1.directSet, ?_⟩
  · rw [h2.ops, h1.ops, Array.append_assoc]
    congr 1
    apply Array.ext'; simp
  · intro x hx
    rw [h2.unlinked x (by rw [h1.ops]; simp; omega), h1.unlinked x hx]

theorem pushGoto_clean (c : Col) (n : Nat) (v : Array VarItem) (ex st : Array (Col × Link)) (cur : Link) :
    Clean (pushGoto c (some n)) ⟨v, ex, st, cur⟩ () ⟨v, ex, st, ((cur.addUnlinked c n).push (.jump 0)).1⟩ := by
  unfold pushGoto
  exact .bind (.liftE rfl _) (.bind (.laddUnlinked ..) (.lpush ..))

theorem pushGoto_jumpsAdded (l : Link) (c : Col) (n : Nat) :
    JumpsAdded l ((l.addUnlinked c n).push (.jump 0)).1 1 := by
  refine ⟨?_, rfl, rfl, rfl, rfl, ?_⟩
  · simp only [push_ops, addUnlinked_ops]
    apply Array.ext'; simp
  · intro x hx
    simp only [push_unlinked, addUnlinked_unlinked, unlInsert_lookup]
    rw [if_neg (by omega)]

/-- the link after the jump table: one unresolved `jump` per listed line number -/
def jumpsLink (l : Link) : List (Col × Link) → Link
  | [] => l
  | x :: rest =>
    match lineNumberOfLink x.2 with
    | .ok (some n) => jumpsLink ((l.addUnlinked x.1 n).push (.jump 0)).1 rest
    | _ => l

def lastColEnd (init : Nat) : List (Col × Link) → Nat
  | [] => init
  | x :: rest => lastColEnd x.1.2 rest

theorem jumpsLink_jumpsAdded (frags : List (Col × Link)) (l : Link)
    (hfrag : ∀ x ∈ frags, ∃ n, lineNumberOfLink x.2 = .ok (some n)) :
    JumpsAdded l (jumpsLink l frags) frags.length := by
  induction frags generalizing l with
  | nil => exact JumpsAdded.refl _
  | cons hd tl ih =>
    obtain ⟨n, hn⟩ := hfrag hd List.mem_cons_self
    simp only [jumpsLink, hn, List.length_cons]
    have := JumpsAdded.trans (pushGoto_jumpsAdded l hd.1 n) (ih _ (fun x hx => hfrag x (List.mem_cons_of_mem _ hx)))
    rw [Nat.add_comm] at this
    exact this

theorem forIn_jumps_clean (f : Col × Link → Nat → GM (ForInStep Nat)) (v : Array VarItem) (ex st : Array (Col × Link))
    (hf : ∀ (x : Col × Link) (n s : Nat) (cur : Link), lineNumberOfLink x.2 = .ok (some n) →
      Clean (f x s) ⟨v, ex, st, cur⟩ (.yield x.1.2) ⟨v, ex, st, ((cur.addUnlinked x.1 n).push (.jump 0)).1⟩) :
    ∀ (frags : List (Col × Link)), (∀ x ∈ frags, ∃ n, lineNumberOfLink x.2 = .ok (some n)) → ∀ (cur : Link) (init : Nat),
      Clean (forIn frags init f) ⟨v, ex, st, cur⟩ (lastColEnd init frags) ⟨v, ex, st, jumpsLink cur frags⟩
  | [], _, _, _ => .pure ..
  | hd :: tl, hfrag, cur, init => by
    obtain ⟨n, hn⟩ := hfrag hd List.mem_cons_self
    rw [List.forIn_cons]
    refine (Clean.bind (hf hd n init cur hn)
      (forIn_jumps_clean f v ex st hf tl (fun x hx => hfrag x (List.mem_cons_of_mem _ hx)) _ hd.1.2)).congr ?_
    simp only [jumpsLink, hn]

/-- the fragment of `ON x GOSUB` up to and including `on`: the return reference, the count, the selector -/
def onHead (c : Col) (k : Nat) (varOps : Link) : Link :=
  (((((({} : Link).nextSymbol.1.addUnlinked c (-1)).push (.literal (.ret 0))).1.push
    (.literal (.int (Int16.ofNat k)))).1.appended varOps).push .on).1

theorem genOn_gosub_clean (c : Col) (v : Array VarItem) (pre st : Array (Col × Link)) (subCol : Col) (varOps : Link)
    (frags : List (Col × Link)) (hlen : frags.length ≤ 32767)
    (hfrag : ∀ x ∈ frags, ∃ n, lineNumberOfLink x.2 = .ok (some n)) :
    Clean (genOn c frags.length true) ⟨v, (pre.push (subCol, varOps)) ++ frags.toArray, st, {}⟩
      (c.1, lastColEnd subCol.2 frags)
      ⟨v, pre, st, ((jumpsLink (onHead c frags.length varOps) frags).push .return).1.pushSymbol (-1)⟩ := by
  unfold genOn pushReturnVal
  simp only [if_true]
  exact .bind (.popNExpr ..) <| .bind (.lenVal hlen _) <| .bind (.popExpr ..) <| .bind (.lnextSymbol ..) <|
    .bind (.bind (.laddUnlinked ..) (.lpush ..)) <| .bind (.lpush ..) <| .bind (.lappend ..) <| .bind (.lpush ..) <|
    .bind (forIn_jumps_clean _ v pre st (fun x n s cur hn => by
      obtain ⟨col, ops⟩ := x
      simp only at hn
      simp only [hn]
      exact .bind (pushGoto_clean ..) (.pure ..)) frags hfrag _ _) <|
    .bind (.lpush ..) <| .bind (.lpushSymbol ..) (.pure ..)

theorem exprPopLineNumber_clean (c : Col) {val : Val} {n : Nat} (h : val.toLineNumber = .ok (some n))
    (v : Array VarItem) (ex st : Array (Col × Link)) (cur : Link) :
    Clean exprPopLineNumber ⟨v, ex.push (c, { ops := #[.literal val] }), st, cur⟩ (c, some n) ⟨v, ex, st, cur⟩ := by
  unfold exprPopLineNumber
  refine .bind (.popExpr ..) ?_
  have : lineNumberOfLink ({ ops := #[.literal val] } : Link) = val.toLineNumber := rfl
  simp only [this, h]
  exact .pure ..

theorem rangeStmt_clean (op : Opcode) (c ca cb : Col) {va vb : Val} {n m : Nat} (ha : va.toLineNumber = .ok (some n))
    (hb : vb.toLineNumber = .ok (some m)) (v : Array VarItem) (ex st : Array (Col × Link)) :
    Clean (rangeStmt op c)
      ⟨v, (ex.push (ca, { ops := #[.literal va] })).push (cb, { ops := #[.literal vb] }), st, {}⟩ (c.1, cb.2)
      ⟨v, ex, st, { ops := #[.literal (.sng (F.b32 (Float32.ofNat n))), .literal (.sng (F.b32 (Float32.ofNat m))), op] }⟩ := by
  unfold rangeStmt
  exact .bind (exprPopLineNumber_clean cb hb ..) <| .bind (exprPopLineNumber_clean ca ha ..) <|
    .bind (.liftE rfl _) <| .bind (.lpush ..) <| .bind (.liftE rfl _) <| .bind (.lpush ..) <| .bind (.lpush ..) (.pure ..)

theorem fits_three (a b c : Opcode) : Fits { ops := #[a, b, c] } :=
  ⟨by show 3 ≤ Gen.stackMaxLen; decide, Nat.zero_le _, rfl⟩

end Codegen
end Basic

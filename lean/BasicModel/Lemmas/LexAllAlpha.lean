import BasicModel.Lemmas.LexCanon
/-
  C05 for ALL strings: what `alphabetic()` returns for an arbitrary text — a non-empty queue of
  reserved words and identifiers that are scanned back from their own text, the first of which starts
  with the (upper-cased) first character, and a remainder the last of them does not absorb
  (`alphabetic_spec`, read off the closed form `alphaSpan` of Lemmas/LexScan).  What `scan_alphabetic` finds in
  the letters is stated over any table of reserved words (`scanAlphaLoopOn_spec`).
-/
namespace Basic
namespace Lex

/-- the first character of the printed text -/
def fc (t : Token) : Option Char := t.text.head?

/-- tokens of the reserved-word table -/
def isKwTok : Token → Bool
  | .word w => w != .rem2
  | .operator o => o.isWord
  | _ => false

theorem keywords_tok : ∀ kw ∈ keywords, isKwTok kw.2 = true ∧ kw.2.text = kw.1 ∧ kw.2.isWord = true := by
  rw [keywords_eq]; decide +kernel

/-- what `alphabetic()` queues: reserved words and identifiers that scan back -/
def AlphaTok (t : Token) : Prop := isKwTok t = true ∨ ∃ i, t = .ident i ∧ Printable (.ident i)

theorem bestMatch_take_none (kws : List (Str × Token)) (hne : ∀ kw ∈ kws, kw.1 ≠ []) (s : Str)
    (r : Nat × Nat × Token) (h : bestMatch s kws none = some r) : bestMatch (s.take r.1) kws none = none := by
  obtain ⟨-, -, hmin⟩ := bestMatch_spec s kws none r h
  rw [bestMatch_none_iff]
  intro kw hkw
  rw [findSub_eq_none_iff]
  rintro ⟨t, u, e⟩
  -- an entry inside the first `r.1` characters stands in `s` to the left of `r.1`
  have es : s = t ++ kw.1 ++ (u ++ s.drop r.1) := by
    rw [← List.append_assoc, e, List.take_append_drop]
  cases hf : findSub kw.1 s with
  | none => exact (findSub_eq_none_iff _ _).1 hf ⟨t, u ++ s.drop r.1, es.symm⟩
  | some i =>
    have h1 := hmin kw hkw i hf
    have h2 := findSub_le _ _ i hf t _ es
    have h3 : t.length + kw.1.length ≤ r.1 := by
      have := congrArg List.length e
      simp only [List.length_append, List.length_take] at this
      omega
    have := List.length_pos_iff.mpr (hne kw hkw)
    omega

theorem map_upper_allUp (ls : Str) (h : AllUp ls) : ls.map upper = ls := by
  induction ls with
  | nil => rfl
  | cons c ls ih =>
    simp only [List.map_cons]
    rw [upper_of_isUpperAlpha c (h c (by simp)), ih (fun x hx => h x (by simp [hx]))]

theorem printable_plain (ls ds : Str) (h1 : AllUp ls) (h2 : ls ≠ []) (h3 : ∀ c ∈ ds, isDigit c = true)
    (h4 : NoKeyword (ls ++ ds)) : Printable (.ident (.plain (ls ++ ds))) := by
  have hu := map_upper_allUp ls h1
  refine ⟨⟨ls, ds, none⟩, ⟨fun c hc => isAlpha_of_isUpperAlpha c (h1 c hc), h2, h3, (by intro c hc; cases hc), ?_⟩,
    ?_, hu⟩
  · simp only [Name.base, hu]; exact h4
  · simp only [Name.token, Name.base, hu]

theorem printable_sfx (ls ds : Str) (c : Char) (hc : isSuffixChar c = true) (h1 : AllUp ls) (h2 : ls ≠ [])
    (h3 : ∀ c ∈ ds, isDigit c = true) (h4 : NoKeyword (ls ++ ds)) :
    Printable (.ident (suffixIdent c (ls ++ ds ++ [c]))) := by
  have hu := map_upper_allUp ls h1
  refine ⟨⟨ls, ds, some c⟩, ⟨fun c hc => isAlpha_of_isUpperAlpha c (h1 c hc), h2, h3,
    (by intro x hx; cases hx; exact hc), ?_⟩, ?_, hu⟩
  · simp only [Name.base, hu]; exact h4
  · simp only [Name.token, Name.base, hu]

theorem printable_ident_text (i : TIdent) (h : Printable (.ident i)) :
    ∃ c r, i.name = c :: r ∧ isAlpha c = true ∧ upper c = c := by
  obtain ⟨nm, hw, htk, hu⟩ := h
  have htx : (Token.ident i).text = nm.base ++ nm.sfx.toList := by rw [← htk, nm.token_text]
  obtain ⟨h1, h2, -, -, -⟩ := hw
  cases hl : nm.letters with
  | nil => exact absurd hl h2
  | cons c r =>
    refine ⟨c, r.map upper ++ nm.digits ++ nm.sfx.toList, ?_, h1 c (by simp [hl]), ?_⟩
    · have : (Token.ident i).text = i.name := rfl
      rw [← this, htx, Name.base, hl]
      rw [hl] at hu
      simp at hu
      simp [hu.1]
    · rw [hl] at hu; simp at hu; exact hu.1

/-- `scan_alphabetic` over ANY table `kws` of entries of at least two characters, each with a reserved-word token
    whose text it is (the table itself is not what makes this true; left a variable, no step carries its 49
    entries): what it appends are reserved words and non-empty stretches of the text that hold no entry, the
    first starts where the text starts, the last is a reserved word, and what it leaves holds no entry -/
theorem scanAlphaLoopOn_spec (kws : List (Str × Token))
    (hk : ∀ kw ∈ kws, 2 ≤ kw.1.length ∧ isKwTok kw.2 = true ∧ kw.2.text = kw.1) (fuel : Nat) :
    ∀ (v : List Token) (s : Str), AllUp s → s.length < fuel →
    ∃ new, (scanAlphaLoopOn kws fuel v s).1 = v ++ new ∧
      (∀ t ∈ new, isKwTok t = true ∨
        ∃ u, t = .ident (.plain u) ∧ AllUp u ∧ u ≠ [] ∧ bestMatch u kws none = none) ∧
      AllUp (scanAlphaLoopOn kws fuel v s).2 ∧ bestMatch (scanAlphaLoopOn kws fuel v s).2 kws none = none ∧
      (new = [] → (scanAlphaLoopOn kws fuel v s).2 = s) ∧
      (new ≠ [] → new.head?.bind fc = s.head? ∧ ∃ t, new.getLast? = some t ∧ isKwTok t = true) := by
  have hne : ∀ kw ∈ kws, kw.1 ≠ [] := by
    intro kw h e
    have := (hk kw h).1
    rw [e] at this
    exact absurd this (by decide)
  induction fuel with
  | zero => intro v s _ h; omega
  | succ fuel ih =>
    intro v s hs hf
    unfold scanAlphaLoopOn
    split
    · rename_i hb
      exact ⟨[], by simp, by intro t ht; simp at ht, hs, hb, fun _ => rfl, fun h => absurd rfl h⟩
    · rename_i idx len token hb
      obtain ⟨hkw, -, -⟩ := bestMatch_spec s kws none _ hb
      have hnk := bestMatch_take_none kws hne s _ hb
      simp only at hnk
      rcases hkw with hkw | ⟨kw, hkw, hfind, hlen, htok⟩
      · cases hkw
      simp only at hfind hlen htok
      obtain ⟨hk0, hk1, hk2⟩ := hk kw hkw
      have hsne : s ≠ [] := by
        intro e
        rw [e] at hfind
        simp [findSub, hne kw hkw] at hfind
      have hpos : 0 < s.length := List.length_pos_iff.mpr hsne
      have hlen2 : 2 ≤ len := by rw [hlen]; exact hk0
      split
      · rename_i hidx
        subst hidx
        obtain ⟨new', e1, e2, e3, e4, e5, e6⟩ := ih (v ++ [token]) (s.drop len) (allUp_drop _ hs)
          (by simp only [List.length_drop]; omega)
        obtain ⟨u, hu⟩ := (findSub_zero_iff _ _).1 hfind
        have hfc : fc token = s.head? := by
          rw [htok, fc, hk2, ← hu, head_append_ne _ _ (hne kw hkw)]
        refine ⟨token :: new', by rw [e1]; simp, ?_, e3, e4, (by intro h; cases h), ?_⟩
        · intro t ht
          rcases List.mem_cons.mp ht with h | h
          · rw [h, htok]; exact Or.inl hk1
          · exact e2 t h
        · intro _
          refine ⟨by simpa using hfc, ?_⟩
          cases new' with
          | nil => exact ⟨token, rfl, by rw [htok]; exact hk1⟩
          | cons a m =>
            obtain ⟨-, t, ht, hkt⟩ := e6 (by simp)
            exact ⟨t, by rw [List.getLast?_cons_cons]; exact ht, hkt⟩
      · rename_i hidx
        obtain ⟨new', e1, e2, e3, e4, e5, e6⟩ := ih (v ++ [.ident (.plain (s.take idx)), token])
          (s.drop (idx + len)) (allUp_drop _ hs) (by simp only [List.length_drop]; omega)
        have htake : s.take idx ≠ [] := by
          cases s with
          | nil => contradiction
          | cons c cs =>
            cases idx with
            | zero => contradiction
            | succ n => simp
        refine ⟨.ident (.plain (s.take idx)) :: token :: new', by rw [e1]; simp, ?_, e3, e4,
          (by intro h; cases h), ?_⟩
        · intro t ht
          rcases List.mem_cons.mp ht with h | h
          · rw [h]; exact Or.inr ⟨_, rfl, allUp_take _ hs, htake, hnk⟩
          · rcases List.mem_cons.mp h with h | h
            · rw [h, htok]; exact Or.inl hk1
            · exact e2 t h
        · intro _
          constructor
          · simp only [List.head?_cons, Option.bind_some, fc, Token.text, TIdent.name]
            cases s with
            | nil => contradiction
            | cons c cs =>
              cases idx with
              | zero => contradiction
              | succ n => simp
          · cases new' with
            | nil => exact ⟨token, rfl, by rw [htok]; exact hk1⟩
            | cons a m =>
              obtain ⟨-, t, ht, hkt⟩ := e6 (by simp)
              exact ⟨t, by rw [List.getLast?_cons_cons, List.getLast?_cons_cons]; exact ht, hkt⟩

theorem scanAlphabetic_spec (v : List Token) (s : Str) (hs : AllUp s) :
    ∃ new, (scanAlphabetic v s).1 = v ++ new ∧ (∀ t ∈ new, AlphaTok t) ∧
      AllUp (scanAlphabetic v s).2 ∧ NoKeyword (scanAlphabetic v s).2 ∧
      (new = [] → (scanAlphabetic v s).2 = s) ∧
      (new ≠ [] → new.head?.bind fc = s.head? ∧ ∃ t, new.getLast? = some t ∧ isKwTok t = true) := by
  unfold NoKeyword scanAlphabetic
  rw [scanAlphaLoop_eq, ← keywords_eq]
  obtain ⟨new, e1, e2, e3, e4, e5, e6⟩ := scanAlphaLoopOn_spec keywords
    (fun kw h => ⟨(keywords_shape kw h).1, (keywords_tok kw h).1, (keywords_tok kw h).2.1⟩)
    (s.length + 1) v s hs (Nat.lt_succ_self _)
  refine ⟨new, e1, fun t ht => ?_, e3, e4, e5, e6⟩
  rcases e2 t ht with h | ⟨u, rfl, hu, hne, hnk⟩
  · exact Or.inl h
  · have hp := printable_plain u [] hu hne (by intro c hc; simp at hc) (by rw [List.append_nil]; exact hnk)
    rw [List.append_nil] at hp
    exact Or.inr ⟨_, rfl, hp⟩

/-- the last queued token does not absorb the character the scanner stopped at; the scanner stops
    before a letter only after an identifier (that ends in a digit or a type suffix) -/
def AlphaStop (q : List Token) (cs' : List Char) : Prop :=
  ∀ c ∈ cs'.head?, (isAlpha c = true → ∃ i, q.getLast? = some (.ident i)) ∧
    (isAlpha c = false → ∀ s, q.getLast? = some (.ident (.plain s)) →
      isDigit c = false ∧ isSuffixChar c = false)

/-- what `alphabetic()` returns behind the letter `c0`, as the walks along the iterator use it -/
structure AlphaRes (c0 : Char) (q : List Token) (cs' : List Char) : Prop where
  ne : q ≠ []
  toks : ∀ t ∈ q, AlphaTok t
  head : q.head?.bind fc = some c0
  stop : AlphaStop q cs'

theorem alphaRes_ident (c0 : Char) (p : List Token) (i : TIdent) (rest : List Char)
    (hp : ∀ t ∈ p, AlphaTok t) (h1 : p ≠ [] → p.head?.bind fc = some c0)
    (h2 : p = [] → i.name.head? = some c0) (hi : Printable (.ident i))
    (hstop : ∀ s, i = .plain s → ∀ c ∈ rest.head?, isAlpha c = false → isDigit c = false ∧ isSuffixChar c = false) :
    AlphaRes c0 (p ++ [.ident i]) rest := by
  refine ⟨by simp, ?_, ?_, ?_⟩
  · intro t ht
    rcases List.mem_append.mp ht with h | h
    · exact hp t h
    · simp at h; rw [h]; exact Or.inr ⟨i, rfl, hi⟩
  · cases p with
    | nil => simpa [fc, Token.text] using h2 rfl
    | cons a l => simpa using h1 (by simp)
  · intro c hc
    constructor
    · intro _
      exact ⟨i, by rw [List.getLast?_append]; simp⟩
    · intro ha s hs
      rw [List.getLast?_append] at hs
      simp at hs
      exact hstop s hs c hc ha

theorem suffixIdent_name (c : Char) (s : Str) : (suffixIdent c s).name = s := by
  unfold suffixIdent
  repeat' split
  all_goals rfl

theorem suffixIdent_not_plain (c : Char) (s s' : Str) : suffixIdent c s ≠ .plain s' := by
  unfold suffixIdent
  repeat' split
  all_goals simp

/-- what `alphabetic()` returns for ANY text, read off its closed form `alphaSpan`: the reserved words the scan
    of the letters finds, and — if the scan leaves a remainder — one identifier made of the remainder, the digits
    behind it and a type suffix -/
theorem alphabetic_spec (pk : Char) (cs : List Char) (h : isAlpha pk = true) :
    AlphaRes (upper pk) (alphabetic (pk :: cs)).1 (alphabetic (pk :: cs)).2 ∧
      ∃ w, w ≠ [] ∧ pk :: cs = w ++ (alphabetic (pk :: cs)).2 := by
  have hls := takeWhile_all isAlpha (pk :: cs)
  have hr := dropWhile_head_not isAlpha (pk :: cs)
  have e := (List.takeWhile_append_dropWhile (p := isAlpha) (l := pk :: cs)).symm
  have hhd : (((pk :: cs).takeWhile isAlpha).map upper).head? = some (upper pk) := by
    simp [h]
  have hU : AllUp (((pk :: cs).takeWhile isAlpha).map upper) := by
    intro c hc
    obtain ⟨x, hx, rfl⟩ := List.mem_map.mp hc
    exact isUpperAlpha_upper_of_isAlpha x (hls x hx)
  obtain ⟨new, e1, e2, e3, e4, e5, e6⟩ := scanAlphabetic_spec [] _ hU
  rw [alphabetic_eq pk cs h, alphaSpan]
  generalize (pk :: cs).takeWhile isAlpha = ls at *
  generalize (pk :: cs).dropWhile isAlpha = r1 at *
  have hlne : ls ≠ [] := by intro en; rw [en] at hhd; cases hhd
  rw [List.nil_append] at e1
  have h1 : new ≠ [] → new.head?.bind fc = some (upper pk) := fun hn => by rw [(e6 hn).1, hhd]
  split
  · -- the letters were all reserved words
    rename_i hemp
    have hnew : new ≠ [] := by
      intro en
      rw [e5 en] at hemp
      cases ls with
      | nil => exact hlne rfl
      | cons a l => cases hemp
    rw [e1]
    refine ⟨⟨hnew, e2, h1 hnew, ?_⟩, ls, hlne, e⟩
    intro c hc
    refine ⟨fun ha => absurd ha (by rw [hr c hc]; simp), fun _ s hs => ?_⟩
    obtain ⟨-, t, ht, hk⟩ := e6 hnew
    rw [ht] at hs; cases hs; cases hk
  · rename_i hemp
    have hne2 : (scanAlphabetic [] (ls.map upper)).2 ≠ [] := by simpa using hemp
    have h2 : new = [] → ∀ x, ((scanAlphabetic [] (ls.map upper)).2 ++ x).head? = some (upper pk) := by
      intro en x
      rw [e5 en, head_append_ne _ _ (by simpa using hlne), hhd]
    have hds := takeWhile_all isDigit r1
    have hnd := dropWhile_head_not isDigit r1
    have e' := (List.takeWhile_append_dropWhile (p := isDigit) (l := r1)).symm
    have hn := noKeyword_digits _ _ hds e4
    unfold alphaTail
    rw [e1]
    generalize r1.takeWhile isDigit = ds at *
    generalize r1.dropWhile isDigit = r2 at *
    subst e'
    cases r2 with
    | cons c r' =>
      simp only
      split
      · rename_i hc
        exact ⟨alphaRes_ident _ new _ r' e2 h1
            (fun en => by rw [suffixIdent_name, List.append_assoc]; exact h2 en _)
            (printable_sfx _ _ c hc e3 hne2 hds hn) (fun s es => absurd es (suffixIdent_not_plain _ _ _)),
          ls ++ (ds ++ [c]), by simp [hlne], by rw [e]; simp⟩
      · rename_i hc
        refine ⟨alphaRes_ident _ new _ _ e2 h1 (fun en => h2 en _) (printable_plain _ _ e3 hne2 hds hn) ?_,
          ls ++ ds, by simp [hlne], by rw [e]; simp⟩
        intro s _ x hx _
        simp at hx; subst hx
        exact ⟨hnd _ rfl, by simpa using hc⟩
    | nil =>
      exact ⟨alphaRes_ident _ new _ _ e2 h1 (fun en => h2 en _) (printable_plain _ _ e3 hne2 hds hn)
          (fun s _ x hx => by simp at hx),
        ls ++ ds, by simp [hlne], by rw [e]; simp⟩

end Lex
end Basic

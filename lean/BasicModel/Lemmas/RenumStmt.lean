import BasicModel.Lemmas.RenumGen
/-
  RENUM and the compiler, part 3: the generator functions (`VarItem`, `Generator` of codegen.rs) on
  related inputs, and `genStatement` on related statements without line-number operands
  (`gr_genStatement`, one arm per statement form; the longer arms are lemmas of their own).  Each proof
  follows its `do` block bind by bind.  This is the walk of `h_genStatement_of` (`Lemmas/GenWalk.lean`) a second time: `H` speaks
  of one run and cannot say that two runs succeed or fail together.  What makes every arm go through: the code of
  `genStatement` looks at its argument only through the constructor, the columns and the lengths of the lists, and those
  agree for related statements; everything else comes off the stacks.
-/
namespace Basic
namespace RenumRel
open Link Codegen

variable {φ : Nat → Nat} {α α' β β' : Type}

theorem errRel_syntaxAt (c c' : Col) (m : String) : ErrRel (syntaxAt c m) (syntaxAt c' m) := ⟨rfl, rfl⟩

theorem gr_testForBuiltIn (c c' : Col) (name : Str) (l l' : Link) (a : Option Nat) (strict : Bool) :
    GRs φ (liftE (testForBuiltIn ⟨c, name, l, a⟩ strict)) (liftE (testForBuiltIn ⟨c', name, l', a⟩ strict)) TT := by
  apply GRs.lift₂
  unfold testForBuiltIn
  dsimp only
  cases Gen.opcodeAndArity name with
  | none => trivial
  | some t =>
    rcases t with ⟨oc, lo, hi⟩
    dsimp only
    by_cases h1 : (decide (lo = 0) && decide (hi = 0) && a.isSome && !strict) = true
    · rw [if_pos h1, if_pos h1]; trivial
    · rw [if_neg h1, if_neg h1]
      by_cases h2 : (!(decide (lo = 0) && decide (hi = 0)) && a.isNone && !strict) = true
      · rw [if_pos h2, if_pos h2]; trivial
      · rw [if_neg h2, if_neg h2]; exact errRel_syntaxAt _ _ _

theorem gr_pushRet {R : α → α' → Prop} (op : Opcode) {a : α} {a' : α'} (h : R a a') :
    GRs φ (do lpush op; pure a) (do lpush op; pure a') R :=
  GRs.seq_any (gr_lpush op) fun _ _ => GRs.ret h

theorem gr_pushLen {R : α → α' → Prop} (len : Nat) (op : Opcode) {a : α} {a' : α'} (h : R a a') :
    GRs φ (do lpush (.literal (← lenVal len)); lpush op; pure a)
      (do lpush (.literal (← lenVal len)); lpush op; pure a') R :=
  GRs.seq_same (gr_lenVal len) fun _ _ => GRs.seq_any (gr_lpush _) fun _ _ => gr_pushRet op h

theorem gr_pushAsDim (c c' : Col) (name : Str) {l l' : Link} (hl : FragRel φ l l') (a : Option Nat) :
    GRs φ (pushAsDim ⟨c, name, l, a⟩) (pushAsDim ⟨c', name, l', a⟩) TT := by
  refine GRs.seq_any (gr_testForBuiltIn c c' name l l' a true) fun _ _ => ?_
  cases a with
  | none => exact GRs.thr (errRel_syntaxAt _ _ _)
  | some len =>
    exact GRs.ite (fun _ => GRs.seq_any (gr_lappend hl) fun _ _ => gr_pushLen len _ trivial)
      fun _ => GRs.thr (errRel_syntaxAt _ _ _)

theorem gr_pushAsPopUnary (c c' : Col) (name : Str) (l l' : Link) (a : Option Nat) :
    GRs φ (pushAsPopUnary ⟨c, name, l, a⟩) (pushAsPopUnary ⟨c', name, l', a⟩) TT :=
  GRs.seq_any (gr_testForBuiltIn c c' name l l' a false) fun _ _ => gr_pushRet _ trivial

theorem gr_pushAsPop (c c' : Col) (name : Str) {l l' : Link} (hl : FragRel φ l l') (a : Option Nat) :
    GRs φ (pushAsPop ⟨c, name, l, a⟩) (pushAsPop ⟨c', name, l', a⟩) TT := by
  refine GRs.seq_any (gr_testForBuiltIn c c' name l l' a false) fun _ _ => ?_
  cases a with
  | none => exact gr_pushRet _ trivial
  | some len =>
    exact GRs.ite (fun _ => GRs.seq_any (gr_lappend hl) fun _ _ => gr_pushLen len _ trivial)
      fun _ => GRs.seq_any (GRs.thr (errRel_syntaxAt _ _ _)) fun _ _ => GRs.ret trivial

theorem gr_pushAsExpression (c c' : Col) (name : Str) {l l' : Link} (hl : FragRel φ l l') (a : Option Nat) :
    GRs φ (pushAsExpression ⟨c, name, l, a⟩) (pushAsExpression ⟨c', name, l', a⟩) TT := by
  unfold pushAsExpression
  dsimp only
  -- a built-in is handled or not alike on both sides
  refine GRs.seq_any (gr_lappend hl) fun _ _ => GRs.seq_same (P := fun _ => True) ?_ fun handled _ => ?_
  · cases Gen.opcodeAndArity name with
    | none => exact GRs.ret ⟨rfl, trivial⟩
    | some t =>
      refine GRs.ite (fun _ => gr_pushRet _ ⟨rfl, trivial⟩) fun _ => ?_
      cases a with
      | none => exact GRs.ret ⟨rfl, trivial⟩
      | some len =>
        exact GRs.ite (fun _ => GRs.ite (fun _ => gr_pushLen len _ ⟨rfl, trivial⟩) fun _ => gr_pushRet _ ⟨rfl, trivial⟩)
          fun _ => GRs.thr ⟨rfl, rfl⟩
  · refine GRs.ite (fun _ => GRs.ret trivial) fun _ => ?_
    cases a with
    | none => exact gr_pushRet _ trivial
    | some len => exact GRs.ite (fun _ => gr_pushLen len _ trivial) fun _ => gr_pushLen len _ trivial

/-- A related fragment of at most two instructions is EQUAL (`OpsRel.range` needs three), so whatever the generator reads
    back out of an operand fragment (`lineNumberOfLink`, `stringOfLink`) is the same on both sides.  Hence operands that
    really differ (`litFrag v` / `litFrag v'`) are never `FragRel`-related: `Lemmas/RenumAccept` treats them by equations
    of the one run instead. -/
theorem FragRel.ops_eq_of_short {l l' : Link} (h : FragRel φ l l') (hs : l.ops.size ≤ 2) : l'.ops = l.ops := by
  have := h.ops.eq_of_short (by simpa only [Array.length_toList] using hs)
  exact Array.toList_inj.1 this

theorem lineNumberOfLink_rel {l l' : Link} (h : FragRel φ l l') : lineNumberOfLink l' = lineNumberOfLink l := by
  unfold lineNumberOfLink
  rw [h.size]
  split
  · rw [h.ops_eq_of_short (by omega)]
  · rfl

theorem stringOfLink_rel {l l' : Link} (h : FragRel φ l l') : stringOfLink l' = stringOfLink l := by
  unfold stringOfLink
  rw [h.size]
  split
  · rw [h.ops_eq_of_short (by omega)]
  · rfl

theorem GRs.popLineNumber {R : β → β' → Prop} {f : Col × Option Nat → GM β} {f' : Col × Option Nat → GM β'}
    (h : ∀ c c' ln, GRs φ (f (c, ln)) (f' (c', ln)) R) :
    GRs φ (exprPopLineNumber >>= f) (exprPopLineNumber >>= f') R := by
  refine GRs.seq (R := fun r r' => r'.2 = r.2) (GRs.seq gr_popExpr fun x x' hx => ?_) fun r r' hr => ?_
  · dsimp only
    rw [lineNumberOfLink_rel hx]
    cases lineNumberOfLink x.2 with
    | ok ln => exact GRs.ret rfl
    | error e => exact GRs.thr (ErrRel.inCol (ErrRel.refl e) _ _ _ _)
  · obtain ⟨c, ln⟩ := r
    obtain ⟨c', ln'⟩ := r'
    cases hr
    exact h c c' ln

theorem gr_genVariable {v v' : Variable} (h : VarRel v v') :
    GRs φ (genVariable v) (genVariable v') (fun r r' => r'.2 = r.2) := by
  cases h with
  | unary c c' i => exact GRs.ret rfl
  | array c c' i hes =>
    exact GRs.seq (gr_popNExpr hes.length_eq) fun _ _ hxs =>
      GRs.seq_any (GRs.forLoop hxs fun _ _ hx _ _ => GRs.seq_any (gr_lappend hx) fun _ _ => GRs.ret (.yield _ _))
        fun _ _ => GRs.ret (by rw [hes.length_eq])

theorem gr_unaryExpr (op : Opcode) (c c' : Col) : GRs φ (unaryExpr op c) (unaryExpr op c') TT :=
  GRs.seq gr_popExpr fun _ _ hx => GRs.seq_any (gr_lappend hx) fun _ _ => gr_pushRet op trivial

theorem gr_binaryExpr (op : Opcode) : GRs φ (binaryExpr op) (binaryExpr op) TT :=
  GRs.seq gr_popExpr fun _ _ hr => GRs.seq gr_popExpr fun _ _ hl =>
    GRs.seq_any (gr_lappend hl) fun _ _ => GRs.seq_any (gr_lappend hr) fun _ _ => gr_pushRet op trivial

theorem gr_genExpression {e e' : Expr} (h : ExprRel e e') : GRs φ (genExpression e) (genExpression e') TT := by
  cases h with
  | var _ =>
    exact GRs.seq gr_popVar fun _ _ hv => hv.elim fun c c' name a _ _ hl => gr_pushAsExpression c c' name hl a
  | single | double | integer | string => exact gr_pushRet _ trivial
  | neg c c' | not c c' => exact gr_unaryExpr _ c c'
  | bin op => exact gr_binaryExpr _

theorem gr_defType (op : Opcode) (c c' : Col) : GRs φ (defType op c) (defType op c') TT :=
  GRs.seq gr_popVar fun _ _ ht => GRs.seq gr_popVar fun _ _ hf =>
    ht.elim fun _ _ _ _ _ _ _ => hf.elim fun _ _ _ _ _ _ _ =>
      GRs.seq_any (gr_lpush _) fun _ _ => GRs.seq_any (gr_lpush _) fun _ _ => gr_pushRet op trivial

theorem FragRel.clearOps {l l' : Link} (h : FragRel φ l l') : FragRel φ { l with ops := #[] } { l' with ops := #[] } :=
  { h with ops := .nil }

theorem transformToData_rel {l l' : Link} (h : FragRel φ l l') (c c' : Col) :
    FragRel φ (transformToData l c).1 (transformToData l' c').1 ∧
    (match (transformToData l c).2, (transformToData l' c').2 with
      | .ok _, .ok _ => True
      | .error e, .error e' => ErrRel e e'
      | _, _ => False) := by
  unfold transformToData
  dsimp only
  rw [h.size]
  by_cases h1 : l.ops.size = 1
  · rw [if_pos h1, if_pos h1, h.ops_eq_of_short (by omega)]
    split
    · rename_i v _
      have hp := h.clearOps.pushData v
      refine ⟨hp.1, ?_⟩
      rw [hp.2]
      cases ({ l with ops := #[] } : Link).pushData v |>.2 with
      | ok _ => trivial
      | error e => exact ErrRel.refl e
    · exact ⟨h.clearOps, ⟨rfl, rfl⟩⟩
  · rw [if_neg h1, if_neg h1]
    by_cases h2 : l.ops.size = 2
    · rw [if_pos h2, if_pos h2, h.ops_eq_of_short (by omega)]
      split
      · rename_i v _ _
        cases Ops.negate v with
        | ok nv =>
          dsimp only
          have hp := h.clearOps.pushData nv
          refine ⟨hp.1, ?_⟩
          rw [hp.2]
          cases ({ l with ops := #[] } : Link).pushData nv |>.2 with
          | ok _ => trivial
          | error e => exact ErrRel.refl e
        | error e => exact ⟨h.clearOps, ErrRel.refl e⟩
      · exact ⟨h.clearOps, ⟨rfl, rfl⟩⟩
    · rw [if_neg h2, if_neg h2]
      exact ⟨h, ⟨rfl, rfl⟩⟩

theorem gr_gen_data {c c' : Col} {es es' : List Expr} (h : ExprsRel es es') :
    GRs φ (genStatement (.data c es)) (genStatement (.data c' es')) TT := by
  simp only [genStatement, h.length_eq]
  refine GRs.seq (gr_popNExpr rfl) fun xs xs' hxs =>
    GRs.seq_any (GRs.forLoop hxs ?_) fun _ _ => GRs.ret trivial
  rintro ⟨ec, el⟩ ⟨ec', el'⟩ hel _ _
  dsimp only
  have ht := transformToData_rel hel ec ec'
  generalize transformToData el ec = x at ht
  generalize transformToData el' ec' = x' at ht
  rcases x with ⟨l1, r1⟩
  rcases x' with ⟨l1', r1'⟩
  dsimp only at ht ⊢
  refine GRs.seq_any (GRs.lift₂ (R := TT) ?_) ?_
  · cases r1 <;> cases r1' <;> first | exact ht.2 | trivial
  · exact fun _ _ => GRs.seq_any (gr_lappend ht.1) fun _ _ => GRs.ret (.yield _ _)

theorem map_name_eq {vs vs' : List VarItem} (h : All₂ (VarItemRel φ) vs vs') : vs'.map (·.name) = vs.map (·.name) := by
  induction h with
  | nil => rfl
  | cons hab _ ih => simp only [List.map_cons, ih, hab.name]

theorem gr_gen_input {c c' : Col} {e1 e1' e2 e2' : Expr} {vs vs' : List Variable} (hl : vs'.length = vs.length) :
    GRs φ (genStatement (.input c e1 e2 vs)) (genStatement (.input c' e1' e2' vs')) TT := by
  simp only [genStatement, hl]
  exact GRs.seq gr_popExpr fun _ _ hp => GRs.seq gr_popExpr fun _ _ hc =>
    GRs.seq_any (gr_lappend hp) fun _ _ => GRs.seq_any (gr_lappend hc) fun _ _ =>
    GRs.seq_same (gr_lenVal _) fun _ _ => GRs.seq_any (gr_lpush _) fun _ _ =>
    GRs.seq (gr_popNVar rfl) fun _ _ hvs =>
    GRs.seq_any (GRs.forLoop hvs fun _ _ hv _ _ => hv.elim fun c c' name a _ _ hl =>
      GRs.seq_any (gr_lpush _) fun _ _ =>
      GRs.seq_any (gr_pushAsPop c c' name hl a) fun _ _ => GRs.ret (.yield _ _)) fun _ _ => gr_pushRet _ trivial

theorem gr_gen_for {c c' : Col} {v v' : Variable} {a a' b b' s s' : Expr} :
    GRs φ (genStatement (.for c v a b s)) (genStatement (.for c' v' a' b' s')) TT :=
  GRs.seq gr_popExpr fun x x' hs => GRs.seq gr_popExpr fun _ _ ht => GRs.seq gr_popExpr fun _ _ hf =>
  GRs.seq gr_popVar fun _ _ hv => hv.elim fun vc vc' name n l l' _ =>
  GRs.seq_any (gr_lappend hf) fun _ _ =>
  GRs.seq_any (gr_pushAsPopUnary vc vc' name l l' n) fun _ _ =>
  GRs.seq_any (gr_lappend ht) fun _ _ =>
  GRs.seq_any (gr_lappend hs) fun _ _ =>
  GRs.seq_any (gr_lpush _) fun _ _ =>
  GRs.seq_any (gr_pushFor (c.1, x.1.2) (c'.1, x'.1.2)) fun _ _ => GRs.ret trivial

theorem gr_gen_if {c c' : Col} {p p' : Expr} {th th' el el' : List Stmt} (h1 : th'.length = th.length)
    (h2 : el'.length = el.length) :
    GRs φ (genStatement (.if c p th el)) (genStatement (.if c' p' th' el')) TT := by
  simp only [genStatement, h1, h2]
  exact GRs.seq gr_popExpr fun _ _ hp =>
    GRs.seq_any (gr_lappend hp) fun _ _ =>
    GRs.seq_same gr_lnextSymbol fun elseSym he =>
    GRs.seq_any (gr_pushIfnot c c' he) fun _ _ =>
    GRs.seq (gr_popNStmt rfl) fun _ _ hel =>
    GRs.seq (gr_popNStmt rfl) fun _ _ hth =>
    GRs.seq_any (GRs.forLoop hth fun _ _ hx _ _ => GRs.seq_any (gr_lappend hx) fun _ _ => GRs.ret (.yield _ _)) fun _ _ =>
    GRs.ite (fun _ => GRs.seq_any (gr_lpushSymbol elseSym) fun _ _ => GRs.ret trivial) fun _ =>
      GRs.seq_same gr_lnextSymbol fun fin hf =>
      GRs.seq_any (gr_pushJump c c' hf) fun _ _ =>
      GRs.seq_any (gr_lpushSymbol elseSym) fun _ _ =>
      GRs.seq_any (GRs.forLoop hel fun _ _ hx _ _ => GRs.seq_any (gr_lappend hx) fun _ _ => GRs.ret (.yield _ _)) fun _ _ =>
      GRs.seq_any (gr_lpushSymbol fin) fun _ _ => GRs.ret trivial

/-- LOAD, SAVE -/
theorem gr_popPush (op : Opcode) (f f' : Col × Link → Col) :
    GRs φ (do let x ← popExpr; lappend x.2; lpush op; pure (f x)) (do let x ← popExpr; lappend x.2; lpush op; pure (f' x)) TT :=
  GRs.seq gr_popExpr fun _ _ hx => GRs.seq_any (gr_lappend hx) fun _ _ => gr_pushRet op trivial

theorem gr_gen_mid {c c' : Col} {v v' : Variable} {e1 e1' e2 e2' e3 e3' : Expr} :
    GRs φ (genStatement (.mid c v e1 e2 e3)) (genStatement (.mid c' v' e1' e2' e3')) TT :=
  GRs.seq gr_popVar fun _ _ hv => hv.elim fun vc vc' name n _ _ hl =>
  GRs.seq gr_popExpr fun _ _ he => GRs.seq gr_popExpr fun _ _ hn => GRs.seq gr_popExpr fun _ _ hp =>
  GRs.seq_any (gr_pushAsExpression vc vc' name hl n) fun _ _ =>
  GRs.seq_any (gr_lappend he) fun _ _ =>
  GRs.seq_any (gr_lappend hn) fun _ _ =>
  GRs.seq_any (gr_lappend hp) fun _ _ =>
  GRs.seq_any (gr_lpush _) fun _ _ =>
  GRs.seq_any (gr_pushAsPop vc vc' name hl n) fun _ _ => GRs.ret trivial

theorem gr_gen_renum {c c' : Col} {a a' b b' s s' : Expr} :
    GRs φ (genStatement (.renum c a b s)) (genStatement (.renum c' a' b' s')) TT := by
  simp only [genStatement]
  refine GRs.popLineNumber fun _ _ ln1 => GRs.popLineNumber fun _ _ ln2 => GRs.popLineNumber fun _ _ ln3 => ?_
  dsimp only
  split
  · exact GRs.seq_any (gr_lpush _) fun _ _ => GRs.seq_any (gr_lpush _) fun _ _ =>
      GRs.seq_any (gr_lpush _) fun _ _ => gr_pushRet _ trivial
  · exact GRs.ret trivial

theorem gr_gen_swap {c c' : Col} {a a' b b' : Variable} :
    GRs φ (genStatement (.swap c a b)) (genStatement (.swap c' a' b')) TT :=
  GRs.seq gr_popVar fun _ _ h1 => h1.elim fun c1 c1' n1 a1 l1 l1' hl1 =>
  GRs.seq gr_popVar fun _ _ h2 => h2.elim fun c2 c2' n2 a2 l2 l2' hl2 =>
  GRs.seq_any (gr_testForBuiltIn c1 c1' n1 l1 l1' a1 false) fun _ _ =>
  GRs.seq_any (gr_testForBuiltIn c2 c2' n2 l2 l2' a2 false) fun _ _ =>
  GRs.seq_any (gr_pushAsExpression c1 c1' n1 hl1 a1) fun _ _ =>
  GRs.seq_any (gr_pushAsExpression c2 c2' n2 hl2 a2) fun _ _ =>
  GRs.seq_any (gr_lpush _) fun _ _ =>
  GRs.seq_any (gr_pushAsPop c1 c1' n1 hl1 a1) fun _ _ =>
  GRs.seq_any (gr_pushAsPop c2 c2' n2 hl2 a2) fun _ _ => GRs.ret trivial

/-- a statement with a line-number operand: its operand leaves are not related as expressions -/
def refs : Stmt → Bool
  | .goto .. | .gosub .. | .restore .. | .run .. | .delete .. | .list .. | .onGoto .. | .onGosub .. => true
  | _ => false

/-- related statements without line-number operands generate related code from related stacks -/
theorem gr_genStatement {st st' : Stmt} (h : StmtRel φ st st') (hp : refs st = false) :
    GRs φ (genStatement st) (genStatement st') TT := by
  cases h with
  | data _ _ hes => exact gr_gen_data hes
  | print _ _ hes =>
    exact GRs.seq (gr_popNExpr hes.length_eq) fun _ _ hxs =>
      GRs.seq_any (GRs.forLoop hxs fun _ _ hx _ _ =>
        GRs.seq_any (gr_lappend hx) fun _ _ => gr_pushRet _ (.yield _ _)) fun _ _ => GRs.ret trivial
  | «def» c c' _ hps _ =>
    exact GRs.seq (gr_popNVar hps.length_eq) fun _ _ hvs =>
      GRs.seq gr_popVar fun _ _ hf => hf.elim fun _ _ name _ _ _ _ =>
      GRs.seq gr_popExpr fun _ _ he =>
      GRs.seq_any (gr_pushDefFn c c' name (map_name_eq hvs) he) fun _ _ => GRs.ret trivial
  | defdbl c c' | defint c c' | defsng c c' | defstr c c' => exact gr_defType _ c c'
  | swap => exact gr_gen_swap
  | mid => exact gr_gen_mid
  | «for» => exact gr_gen_for
  | load | save => exact gr_popPush _ _ _
  | «while» c c' =>
    exact GRs.seq gr_popExpr fun _ _ hx => GRs.seq_any (gr_pushWhile c c' hx) fun _ _ => GRs.ret trivial
  | «if» _ _ _ hth hel => exact gr_gen_if hth.length_eq hel.length_eq
  | «let» =>
    exact GRs.seq gr_popExpr fun _ _ he => GRs.seq_any (gr_lappend he) fun _ _ =>
      GRs.seq gr_popVar fun _ _ hv => hv.elim fun vc vc' name n _ _ hl =>
      GRs.seq_any (gr_pushAsPop vc vc' name hl n) fun _ _ => GRs.ret trivial
  | input _ _ _ _ hvs => exact gr_gen_input hvs.length_eq
  | renum => exact gr_gen_renum
  | dim _ _ hvs =>
    exact GRs.seq (gr_popNVar hvs.length_eq) fun _ _ hvs =>
      GRs.seq_any (GRs.forLoop hvs fun _ _ hv _ _ => hv.elim fun c c' name a _ _ hl =>
        GRs.seq_any (gr_pushAsDim c c' name hl a) fun _ _ => GRs.ret (.yield _ _)) fun _ _ => GRs.ret trivial
  | erase _ _ hvs =>
    exact GRs.seq (gr_popNVar hvs.length_eq) fun _ _ hvs =>
      GRs.seq_any (GRs.forLoop hvs fun _ _ hv _ _ => hv.elim fun _ _ _ _ _ _ _ => gr_pushRet _ (.yield _ _))
        fun _ _ => GRs.ret trivial
  | next _ _ hvs =>
    exact GRs.seq (gr_popNVar hvs.length_eq) fun _ _ hvs =>
      GRs.seq_any (GRs.forLoop hvs fun _ _ hv _ _ => hv.elim fun c c' name a l l' _ =>
        GRs.seq_any (gr_testForBuiltIn c c' name l l' a false) fun _ _ => gr_pushRet _ (.yield _ _))
        fun _ _ => GRs.ret trivial
  | read _ _ hvs =>
    exact GRs.seq (gr_popNVar hvs.length_eq) fun _ _ hvs =>
      GRs.seq_any (GRs.forLoop hvs fun _ _ hv _ _ => hv.elim fun c c' name a _ _ hl =>
        GRs.seq_any (gr_lpush _) fun _ _ =>
        GRs.seq_any (gr_pushAsPop c c' name hl a) fun _ _ => GRs.ret (.yield _ _)) fun _ _ => GRs.ret trivial
  | clear | cls | cont | «end» | new | «return» | stop | troff | tron => exact gr_pushRet _ trivial
  | wend c c' => exact GRs.seq_any (gr_pushWend c c') fun _ _ => GRs.ret trivial
  | goto | gosub | restore | run | delete | list | onGoto | onGosub => cases hp

end RenumRel
end Basic

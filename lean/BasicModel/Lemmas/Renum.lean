import BasicModel.Model.Renum
import BasicModel.Lemmas.ParseLines
/-
  `RenumVisitor` characterised: the replacements it collects are the line-number operands of the
  AST that are keys of the change map; plus two parses of concrete token lists (`parse_empty`,
  `parse_number_first`) for the non-vacuity examples of `Thm/C14.lean`.
-/
namespace Basic
namespace Lex

/-- the line-number operand an expression is (column and number), if it is one and its column is
    not empty: what `RenumVisitor::line` is called with and accepts -/
def operandOf (e : Expr) : List (Col × Nat) :=
  match lineOperand e with
  | some (c, n) => if c.1 = c.2 then [] else [(c, n)]
  | none => []

mutual
/-- the line-number operands a statement (`operandsStmts`: a line) refers to, in visiting order,
    whatever the change map -/
def operandsStmt : Stmt → List (Col × Nat)
  | .goto _ e | .gosub _ e | .restore _ e | .run _ e => operandOf e
  | .delete _ a b | .list _ a b => operandOf a ++ operandOf b
  | .onGoto _ _ ls | .onGosub _ _ ls => ls.flatMap operandOf
  | .if _ _ th el => operandsStmts th ++ operandsStmts el
  | _ => []
def operandsStmts : List Stmt → List (Col × Nat)
  | [] => []
  | st :: sts => operandsStmt st ++ operandsStmts sts
end

def rewrite (changes : List (Nat × Nat)) (r : Col × Nat) : Option (Col × Nat) :=
  (changes.lookup r.2).map fun new => (r.1, new)

theorem lineRef_eq (changes : List (Nat × Nat)) (e : Expr) :
    lineRef changes e = (operandOf e).filterMap (rewrite changes) := by
  unfold lineRef operandOf
  cases lineOperand e with
  | none => rfl
  | some p =>
    obtain ⟨c, n⟩ := p
    simp only
    split
    · rfl
    · simp only [List.filterMap_cons, List.filterMap_nil, rewrite]
      cases changes.lookup n <;> rfl

theorem flatMap_lineRef (changes : List (Nat × Nat)) (ls : List Expr) :
    ls.flatMap (lineRef changes) = (ls.flatMap operandOf).filterMap (rewrite changes) := by
  induction ls with
  | nil => rfl
  | cons e ls ih => simp [List.flatMap_cons, List.filterMap_append, lineRef_eq, ih]

mutual
theorem visitStmt_eq (changes : List (Nat × Nat)) : ∀ st : Stmt,
    visitStmt changes st = (operandsStmt st).filterMap (rewrite changes)
  | .goto _ e | .gosub _ e | .restore _ e | .run _ e => by
    simp [visitStmt, operandsStmt, lineRef_eq]
  | .delete _ a b | .list _ a b => by
    simp [visitStmt, operandsStmt, lineRef_eq, List.filterMap_append]
  | .onGoto _ _ ls | .onGosub _ _ ls => by
    simp [visitStmt, operandsStmt, flatMap_lineRef]
  | .if _ _ th el => by
    simp [visitStmt, operandsStmt, List.filterMap_append, visitStmts_eq changes th, visitStmts_eq changes el]
  | .clear _ | .cls _ | .cont _ | .data _ _ | .def _ _ _ _ | .defdbl _ _ _ | .defint _ _ _
  | .defsng _ _ _ | .defstr _ _ _ | .dim _ _ | .end _ | .erase _ _ | .for _ _ _ _ _
  | .input _ _ _ _ | .let _ _ _ | .load _ _ | .mid _ _ _ _ _ | .new _ | .next _ _
  | .print _ _ | .read _ _ | .renum _ _ _ _ | .return _ | .save _ _ | .stop _ | .swap _ _ _
  | .troff _ | .tron _ | .wend _ | .while _ _ => by simp [visitStmt, operandsStmt]
theorem visitStmts_eq (changes : List (Nat × Nat)) : ∀ sts : List Stmt,
    visitStmts changes sts = (operandsStmts sts).filterMap (rewrite changes)
  | [] => by simp [visitStmts, operandsStmts]
  | st :: sts => by
    simp [visitStmts, operandsStmts, List.filterMap_append, visitStmt_eq changes st, visitStmts_eq changes sts]
end

/-- two parses of concrete token lists (the parser model as a whole does not evaluate in the kernel:
    it stores line numbers through the opaque `Float32.ofNat`), used for the non-vacuity examples -/
theorem parse_empty (n : Option Nat) : Parse.parse n [] = .ok [] := by
  simp [parse_eval]

theorem parse_number_first (n : Option Nat) :
    ∃ e, Parse.parse n [.literal (.integer ['1'])] = .error e := ⟨_, rfl⟩

end Lex
end Basic

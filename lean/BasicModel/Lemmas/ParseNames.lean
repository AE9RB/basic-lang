import BasicModel.Lemmas.ParseWalk
/-
  The parser only puts identifier-token texts into the AST: if every identifier token of the input
  is `Letter1`, every `Variable` of the result is `VarOk` (`parse_stmtsOk`).

  `HasOk α` says which values of type `α` are fine (by type).  The proof reads the result off
  `ParseWalk.parseTokens_spec` at `G := True`.  `Pres m` is the names half of a contract
  `Spec True m ..` of `ParseWalk.lean` on its own (`Pres.of_spec`): `m`, started in a state whose
  tokens are fine, returns a fine value and a fine state.  `parse_stmtsOk` does not go through it; it
  is the form in which the name-preservation of a single parser function can be quoted.
-/
namespace Basic
namespace Lemmas.ParseNames
open Parse

theorem ok_pstate (s : PState) : ok s ↔ StOk s := Iff.rfl

theorem ok_exprs (es : List Expr) : ok es ↔ ExprsOk es := by
  rw [exprsOk_iff]; exact Iff.rfl
theorem ok_stmts (ss : List Stmt) : ok ss ↔ StmtsOk ss := by
  rw [stmtsOk_iff]; exact Iff.rfl
theorem ok_vars (vs : List Variable) : ok vs ↔ VarsOk vs := Iff.rfl

theorem ok_lineExpr (c : Col) (n : Nat) : ok (lineExpr c n) := trivial

structure Pres {α} [HasOk α] (m : PM α) : Prop where
  run : ∀ s, StOk s → ∀ a s', m.run s = .ok (a, s') → ok a ∧ StOk s'

theorem Pres.of_spec {α} [HasOk α] {m : PM α} {pre : Prop} {need : PState → Prop}
    {R : PState → α → PState → Prop} [ParseWalk.Spec True m pre need R] (hpre : pre) : Pres m := by
  refine ⟨fun s hs a s' hr => ?_⟩
  have h := ParseWalk.Spec.run (G := True) (m := m) s (fun _ => hpre) (fun _ => hs)
  unfold ParseWalk.wp at h
  rw [show m s = .ok (a, s') from hr] at h
  exact ⟨h.2.1 trivial, h.2.2 trivial⟩

theorem Pres.outOfFuel {α} [HasOk α] : Pres (outOfFuel : PM α) :=
  ⟨fun s _ a s' hr => by cases hr⟩

theorem Pres.expect (tok : Token) : Pres (expect tok) := Pres.of_spec trivial

theorem Pres.literal (c : Col) (l : Literal) : Pres (literal c l) := Pres.of_spec trivial

theorem Pres.expression (f : Nat) : Pres (expression f) := Pres.of_spec trivial

def ToksOk (ts : List Token) : Prop := ∀ i, Token.ident i ∈ ts → Letter1 i.name

/-- **the parser only puts identifier-token texts into `Variable` nodes** (plus the `FNname.`
    prefix of parameters, `TAB` for the print zones and the empty dummy of a bare NEXT) -/
theorem parseTokens_stmtsOk (ts : List Token) (h : ToksOk ts) (ast : List Stmt)
    (hp : parseTokens ts = .ok ast) : StmtsOk ast := by
  have := ParseWalk.parseTokens_spec True ts fun _ => ⟨fun t ht i hi => h i (hi ▸ ht), nofun⟩
  rw [hp] at this
  exact (ok_stmts _).1 (this trivial)

theorem parse_stmtsOk (ln : Option Nat) (ts : List Token) (h : ToksOk ts) (ast : List Stmt)
    (hp : parse ln ts = .ok ast) : StmtsOk ast := by
  unfold parse at hp
  split at hp
  · cases hp; exact parseTokens_stmtsOk ts h _ (by assumption)
  · cases hp

end Lemmas.ParseNames
end Basic

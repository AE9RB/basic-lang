import BasicModel.Lemmas.SpellingAlias
/-
  C16: `PRINT` glued to a following letter (`PRINTX`).  The letters are crunched by the same call of
  `alphabetic()`; `PRINT` is found first (leftmost, and no other reserved word starts with `P`), and
  the rest is scanned exactly as it would be on its own (`alphabetic_keyword_glued`, for any reserved word that is
  the only one with its first letter).  The only difference to `?X` is the remark flag, which `next()` derives from
  the FIRST token of the queue.
-/
namespace Basic
namespace Lex

theorem scanAlphaLoop_fuel (f : Nat) : ∀ (g : Nat) (v : List Token) (s : Str), s.length < f → s.length < g →
    scanAlphaLoop f v s = scanAlphaLoop g v s := by
  induction f with
  | zero => intro g v s h; omega
  | succ f ih =>
    intro g v s hf hg
    cases g with
    | zero => omega
    | succ g =>
      simp only [scanAlphaLoop]
      cases hb : bestMatch s keywords none with
      | none => rfl
      | some r =>
        obtain ⟨idx, len, token⟩ := r
        have hlen : 2 ≤ len := (bestMatch_len_pos s _ hb).1
        have hne : s ≠ [] := by intro e; rw [e, bestMatch_nil] at hb; cases hb
        have hpos : 0 < s.length := List.length_pos_iff.mpr hne
        simp only
        split
        · exact ih g _ _ (by simp only [List.length_drop]; omega) (by simp only [List.length_drop]; omega)
        · exact ih g _ _ (by simp only [List.length_drop]; omega) (by simp only [List.length_drop]; omega)

theorem scanAlphaLoop_pending (f : Nat) : ∀ (q v : List Token) (s : Str),
    scanAlphaLoop f (q ++ v) s = (q ++ (scanAlphaLoop f v s).1, (scanAlphaLoop f v s).2) := by
  induction f with
  | zero => intro q v s; rfl
  | succ f ih =>
    intro q v s
    simp only [scanAlphaLoop]
    cases hb : bestMatch s keywords none with
    | none => rfl
    | some r =>
      obtain ⟨idx, len, token⟩ := r
      simp only
      split
      · rw [List.append_assoc, ih]
      · rw [List.append_assoc, ih]

theorem scanAlphabetic_pending (q v : List Token) (s : Str) :
    scanAlphabetic (q ++ v) s = (q ++ (scanAlphabetic v s).1, (scanAlphabetic v s).2) :=
  scanAlphaLoop_pending _ q v s

/-- a reserved word at the very start wins if it is the only one that starts with its letter: the
    winner is a table entry found at the least index (`bestMatch_spec`), here 0 -/
theorem bestMatch_head (p : Str × Token) (hp : p ∈ keywords) (c : Char) (w s : Str) (hw : p.1 = c :: w)
    (honly : ∀ q ∈ keywords, q.1.head? = some c → q = p) :
    bestMatch (p.1 ++ s) keywords none = some (0, p.1.length, p.2) := by
  have h0 : findSub p.1 (p.1 ++ s) = some 0 := (findSub_zero_iff _ _).2 (List.prefix_append _ _)
  cases hb : bestMatch (p.1 ++ s) keywords none with
  | none => rw [(bestMatch_none_iff _ _).1 hb p hp] at h0; cases h0
  | some r =>
    obtain ⟨hk, -, hmin⟩ := bestMatch_spec _ _ none r hb
    rcases hk with hk | ⟨q, hq, hf, e1, e2⟩
    · cases hk
    · have hr0 : r.1 = 0 := Nat.le_zero.1 (hmin p hp 0 h0)
      rw [hr0] at hf
      have hpre := (findSub_zero_iff _ _).1 hf
      have : q = p := honly q hq (by
        rw [hw] at hpre
        cases hq1 : q.1 with
        | nil => exact absurd hq1 (keywords_alpha q hq).2.2
        | cons d ds =>
          rw [hq1, List.cons_append, List.cons_prefix_cons] at hpre
          simp [hpre.1])
      subst this
      obtain ⟨a, b, t⟩ := r
      simp only at hr0 e1 e2
      rw [hr0, e1, e2]

theorem chars_PRINT : "PRINT".toList = ['P', 'R', 'I', 'N', 'T'] := by decide

theorem scanAlphabetic_head (p : Str × Token) (hp : p ∈ keywords) (c : Char) (w : Str) (hw : p.1 = c :: w)
    (honly : ∀ q ∈ keywords, q.1.head? = some c → q = p) (v : List Token) (s : Str) :
    scanAlphabetic v (p.1 ++ s) = scanAlphabetic (v ++ [p.2]) s := by
  have hlen : 0 < p.1.length := by rw [hw]; simp
  unfold scanAlphabetic
  rw [scanAlphaLoop, bestMatch_head p hp c w s hw honly]
  simp only [if_true, List.drop_left]
  exact scanAlphaLoop_fuel _ _ _ _ (by simp only [List.length_append]; omega) (by omega)

theorem alphabetic_keyword_glued (p : Str × Token) (hp : p ∈ keywords) (c : Char) (w : Str) (hw : p.1 = c :: w)
    (honly : ∀ q ∈ keywords, q.1.head? = some c → q = p) (k : Char) (tl : List Char) (hk : isAlpha k = true) :
    alphabetic (p.1 ++ k :: tl) = (p.2 :: (alphabetic (k :: tl)).1, (alphabetic (k :: tl)).2) := by
  obtain ⟨hup, hal, -⟩ := keywords_alpha p hp
  have hs : ∀ U, scanAlphabetic [] (p.1 ++ U) = (p.2 :: (scanAlphabetic [] U).1, (scanAlphabetic [] U).2) := fun U => by
    rw [scanAlphabetic_head p hp c w hw honly]
    exact scanAlphabetic_pending [p.2] [] U
  have e : alphabetic (p.1 ++ k :: tl) = alphaSpan (p.1 ++ k :: tl) := by
    rw [hw]; exact alphabetic_eq c _ (hal c (hw ▸ List.mem_cons_self))
  rw [e, alphabetic_eq _ _ hk, alphaSpan, alphaSpan, List.takeWhile_append_of_pos hal, List.dropWhile_append_of_pos hal,
    List.map_append, hup, hs]
  split
  · rfl
  · exact alphaTail_pending [p.2] _ _ _

theorem print_alias_glued (pre : Str) (k : Char) (tl : List Char) (A : List Token)
    (hq : Cut (lineBody pre) A '?') (hp : Cut (lineBody pre) A 'P') (hk : isAlpha k = true)
    (hfirst : ∃ t ts, (alphabetic (k :: tl)).1 = t :: ts ∧ t ≠ .word .rem1) :
    lex (pre ++ '?' :: k :: tl) = lex (pre ++ ("PRINT".toList ++ k :: tl)) := by
  obtain ⟨t, ts, e, ht⟩ := hfirst
  have hflag : (t == Token.word Word.rem1) = false := by simp [ht]
  have h1 : lexFrom ('?' :: k :: tl) false = .word .print :: lexFrom (k :: tl) false :=
    lexFrom_minutia_one '?' _ _ rfl
  have h2 : lexFrom ("PRINT".toList ++ k :: tl) false = .word .print :: lexFrom (k :: tl) false := by
    -- no other reserved word starts with `P`
    have hg := alphabetic_keyword_glued ("PRINT".toList, .word .print) (by rw [keywords_eq]; decide) 'P' _ chars_PRINT
      (by rw [keywords_eq]; decide +kernel) k tl hk
    rw [e] at hg
    rw [chars_PRINT] at hg ⊢
    refine (lexFrom_alpha 'P' _ (by decide) (.word .print) (t :: ts) _ hg).trans ?_
    rw [lexFrom_alpha k tl hk t ts _ (Prod.ext e rfl), hflag]
    rfl
  rw [lex_cut hq rfl rfl, lex_cut_word hp rfl rfl "PRINT".toList _ rfl, h1, h2]

end Lex
end Basic

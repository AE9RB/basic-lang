import BasicModel.Thm.C15
import BasicModel.Lemmas.Renum
/-
  RENUM at the level of the whole listing (`Listing.renum` with `Lex.lineRenum` = `Line::renum`).  For a well-formed
  store all of whose lines parse the new store is the old one mapped line by line (`renum_source`): key `k` becomes
  `renumMap ch k` — in closed form (`renumMap_plan`) by its position among the lines that move — and the line becomes
  `Lex.lineRenum ch line`; the rest is read off this and the closed form `renumPlan_eq` of the plan.

  Without "all lines parse" the structure fails (a line that does not parse keeps its old number,
  as `Line::renum` does): see the examples at the end of `Thm/C14.lean`.
-/
namespace Basic
namespace Listing
open SortedList Thm.C15

/-- the renumbering function of a plan: a key of `changes` goes to its new number, anything else
    stays -/
def renumMap (changes : List (Nat × Nat)) (n : Nat) : Nat := (changes.lookup n).getD n

def AllParse (l : Listing) : Prop :=
  ∀ p ∈ l.source, ∃ ast, Parse.parse p.2.number p.2.tokens = .ok ast

theorem keys_pairwise {l : Listing} (hl : WF l) : (l.source.map (·.1)).Pairwise (· < ·) := by
  rw [List.pairwise_map]
  exact hl.sorted

theorem keys_bounded {l : Listing} (hl : WF l) : ∀ k ∈ l.source.map (·.1), k ≤ maxLineNumber := by
  intro k hk
  obtain ⟨p, hp, rfl⟩ := List.mem_map.1 hk
  exact hl.bounded p hp

/-- looking a line up in `planFrom`: its position decides -/
theorem lookup_planFrom (c : Nat) : ∀ (ks : List Nat) (n k : Nat),
    (planFrom n c ks).lookup k = if k ∈ ks then some (n + c * ks.idxOf k) else none
  | [], n, k => rfl
  | x :: r, n, k => by
    rw [planFrom, List.lookup_cons, lookup_planFrom c r (n + c) k, List.idxOf_cons]
    by_cases h : k = x
    · subst h
      simp
    · have h1 : (k == x) = false := by simpa using h
      have h2 : (x == k) = false := by simpa using fun e => h e.symm
      simp only [h1, h2, cond_false]
      by_cases hm : k ∈ r
      · rw [if_pos hm, if_pos (List.mem_cons_of_mem _ hm), Nat.mul_succ]
        congr 1
        omega
      · rw [if_neg hm, if_neg (fun hh => (List.mem_cons.1 hh).elim h hm)]

theorem idxOf_lt_of_pairwise {ks : List Nat} (hs : ks.Pairwise (· < ·)) {i j : Nat} (hi : i ∈ ks) (hj : j ∈ ks)
    (hij : i < j) : ks.idxOf i < ks.idxOf j := by
  have hp := List.idxOf_lt_length_of_mem hi
  have hq := List.idxOf_lt_length_of_mem hj
  apply Nat.lt_of_not_le
  intro hle
  have e1 := List.getElem_idxOf hp
  have e2 := List.getElem_idxOf hq
  rcases Nat.lt_or_eq_of_le hle with hlt | heq
  · have := List.pairwise_iff_getElem.1 hs _ _ hq hp hlt
    omega
  · have : ks[ks.idxOf j] = ks[ks.idxOf i] := by simp only [heq]
    omega

section Plan
variable {ks : List Nat} {a b c : Nat} {ch : List (Nat × Nat)}

/-- looking a line up in a plan: the lines numbered `≥ b`, by position -/
theorem plan_lookup (h : renumPlan ks a b c = .ok ch) (k : Nat) :
    ch.lookup k =
      if k ∈ ks ∧ b ≤ k then some (a + c * (ks.filter (fun k => decide (k ≥ b))).idxOf k) else none := by
  rw [(renumPlan_ok h).2.1, lookup_planFrom]
  by_cases hk : k ∈ ks ∧ b ≤ k
  · rw [if_pos hk, if_pos (List.mem_filter.2 ⟨hk.1, by simpa using hk.2⟩)]
  · rw [if_neg hk, if_neg (fun hh => hk ⟨(List.mem_filter.1 hh).1, by simpa using (List.mem_filter.1 hh).2⟩)]

/-- **the renumbering function of a plan, in closed form**: a line numbered `≥ b` gets `a + c * i`, `i` its
    position among those lines; every other number stays -/
theorem renumMap_plan (h : renumPlan ks a b c = .ok ch) (k : Nat) :
    renumMap ch k =
      if k ∈ ks ∧ b ≤ k then a + c * (ks.filter (fun k => decide (k ≥ b))).idxOf k else k := by
  unfold renumMap
  rw [plan_lookup h]
  split <;> rfl

theorem rewrite_plan (h : renumPlan ks a b c = .ok ch) (r : Col × Nat) :
    Lex.rewrite ch r = if r.2 ∈ ks ∧ b ≤ r.2 then some (r.1, renumMap ch r.2) else none := by
  unfold Lex.rewrite
  rw [plan_lookup h, renumMap_plan h]
  by_cases hk : r.2 ∈ ks ∧ b ≤ r.2
  · rw [if_pos hk, if_pos hk, if_pos hk]; rfl
  · rw [if_neg hk, if_neg hk]; rfl

theorem renumMap_kept (h : renumPlan ks a b c = .ok ch) {k : Nat} (hk : k < b) : renumMap ch k = k := by
  rw [renumMap_plan h, if_neg (fun hh => by omega)]

theorem renumMap_not_key (h : renumPlan ks a b c = .ok ch) {k : Nat} (hk : k ∉ ks) : renumMap ch k = k := by
  rw [renumMap_plan h, if_neg (fun hh => hk hh.1)]

theorem renumMap_new (hs : ks.Pairwise (· < ·)) (h : renumPlan ks a b c = .ok ch) (i : Nat)
    (hi : i < (ks.filter (fun k => decide (k ≥ b))).length) :
    renumMap ch ((ks.filter (fun k => decide (k ≥ b)))[i]) = a + c * i := by
  have hm := List.mem_filter.1 (List.getElem_mem hi)
  rw [renumMap_plan h, if_pos ⟨hm.1, by simpa using hm.2⟩,
    List.Nodup.idxOf_getElem ((hs.sublist List.filter_sublist).imp Nat.ne_of_lt) i hi]

theorem renumMap_le (hs : ks.Pairwise (· < ·)) (hb : ∀ k ∈ ks, k ≤ maxLineNumber)
    (h : renumPlan ks a b c = .ok ch) : ∀ k ∈ ks, renumMap ch k ≤ maxLineNumber := by
  intro k hk
  rw [renumMap_plan h]
  split
  · next hh =>
    exact ((renumPlan_ok h).2.2 _ (List.idxOf_lt_length_of_mem
      (List.mem_filter.2 ⟨hk, by simpa using hh.2⟩))).1
  · exact hb k hk

theorem renumMap_strictMono (hs : ks.Pairwise (· < ·)) (hb : ∀ k ∈ ks, k ≤ maxLineNumber)
    (h : renumPlan ks a b c = .ok ch) :
    ∀ i j, i ∈ ks → j ∈ ks → i < j → renumMap ch i < renumMap ch j := by
  intro i j hi hj hij
  have hc : 0 < c := Nat.pos_of_ne_zero (renumPlan_ok h).1
  rw [renumMap_plan h i, renumMap_plan h j]
  by_cases hjb : b ≤ j
  · have hjm : j ∈ ks.filter (fun k => decide (k ≥ b)) := List.mem_filter.2 ⟨hj, by simpa using hjb⟩
    rw [if_pos (show j ∈ ks ∧ b ≤ j from ⟨hj, hjb⟩)]
    by_cases hib : b ≤ i
    · -- both move: positions in the ascending list of moved lines
      rw [if_pos (show i ∈ ks ∧ b ≤ i from ⟨hi, hib⟩)]
      have := Nat.mul_lt_mul_of_pos_left (idxOf_lt_of_pairwise (hs.sublist List.filter_sublist)
        (List.mem_filter.2 ⟨hi, by simpa using hib⟩) hjm hij) hc
      omega
    · -- a kept line lies below the first new number
      rw [if_neg (fun hh => hib hh.2)]
      obtain ⟨x, r, hf⟩ := List.exists_cons_of_ne_nil (List.ne_nil_of_mem hjm)
      have hch : ch = (x, a) :: planFrom (a + c) c r := by rw [(renumPlan_ok h).2.1, hf]; rfl
      have := renumPlan_kept_below h (by rw [hch]; exact List.cons_ne_nil _ _) hs hb i hi (by omega) (x, a)
        (by rw [hch]; exact List.mem_cons_self)
      simp only at this
      omega
  · rw [if_neg (show ¬ (j ∈ ks ∧ b ≤ j) from fun hh => hjb hh.2),
      if_neg (show ¬ (i ∈ ks ∧ b ≤ i) from fun hh => by omega)]
    exact hij

theorem renumMap_injOn (hs : ks.Pairwise (· < ·)) (hb : ∀ k ∈ ks, k ≤ maxLineNumber)
    (h : renumPlan ks a b c = .ok ch) :
    ∀ i ∈ ks, ∀ j ∈ ks, renumMap ch i = renumMap ch j → i = j := by
  intro i hi j hj e
  rcases Nat.lt_trichotomy i j with hlt | heq | hgt
  · have := renumMap_strictMono hs hb h i j hi hj hlt
    omega
  · exact heq
  · have := renumMap_strictMono hs hb h j i hj hi hgt
    omega

end Plan

theorem insertSorted_append (n : Nat) (x : Line) :
    ∀ (s : List (Nat × Line)), (∀ p ∈ s, p.1 < n) → insertSorted n x s = s ++ [(n, x)]
  | [], _ => rfl
  | (k, y) :: r, h => by
    have hk : k < n := h (k, y) List.mem_cons_self
    unfold insertSorted
    rw [if_neg (by omega), if_neg (by omega),
      insertSorted_append n x r (fun p hp => h p (List.mem_cons_of_mem _ hp))]
    rfl

theorem rebuild_go_ascending : ∀ (ps acc : List (Nat × Line)), Sorted (acc ++ ps) →
    (∀ p ∈ ps, p.2.number = some p.1) →
    (ps.map (·.2)).foldl (fun acc line => match line.number with
      | some n => insertSorted n line acc
      | none => acc) acc = acc ++ ps
  | [], acc, _, _ => by simp
  | p :: ps, acc, hs, hc => by
    rw [List.map_cons, List.foldl_cons, hc p List.mem_cons_self]
    simp only
    have hlt : ∀ q ∈ acc, q.1 < p.1 := by
      intro q hq
      exact (List.pairwise_append.1 hs).2.2 q hq p List.mem_cons_self
    rw [insertSorted_append p.1 p.2 acc hlt]
    have e : acc ++ [(p.1, p.2)] ++ ps = acc ++ p :: ps := by simp
    rw [rebuild_go_ascending ps (acc ++ [(p.1, p.2)]) (by rw [e]; exact hs)
      (fun q hq => hc q (List.mem_cons_of_mem _ hq)), e]

/-- re-inserting, in order, lines whose numbers are strictly ascending gives back those lines in
    that order, each under its own number -/
theorem rebuild_ascending (ps : List (Nat × Line)) (hs : Sorted ps)
    (hc : ∀ p ∈ ps, p.2.number = some p.1) : rebuild (ps.map (·.2)) = ps := by
  have := rebuild_go_ascending ps [] (by simpa using hs) hc
  rw [List.nil_append] at this
  exact this

/-- **`Line::renum` on a line that parses**: the number goes through the plan; the tokens stay when no operand is a key of
    the plan, else they are the listed text with the operands replaced, lexed again -/
theorem lineRenum_ok (ch : List (Nat × Nat)) (line : Line) (ast : List Stmt)
    (h : Parse.parse line.number line.tokens = .ok ast) :
    Lex.lineRenum ch line = ⟨line.number.map (renumMap ch),
      if (Lex.operandsStmts ast).filterMap (Lex.rewrite ch) = [] then line.tokens
      else (Lex.lex (Lex.applyReplacements ((Lex.operandsStmts ast).filterMap (Lex.rewrite ch))
        (printTokens line.tokens))).2⟩ := by
  have hn : (match line.number with
      | some n => (ch.lookup n).or (some n)
      | none => none) = line.number.map (renumMap ch) := by
    cases line.number with
    | none => rfl
    | some n => simp only [Option.map_some, renumMap]; cases ch.lookup n <;> rfl
  unfold Lex.lineRenum
  simp only [h, Lex.visitStmts_eq, List.isEmpty_iff]
  split <;> exact congrArg (fun n => (⟨n, _⟩ : Line)) hn

theorem lineRenum_number (ch : List (Nat × Nat)) (line : Line) (ast : List Stmt)
    (h : Parse.parse line.number line.tokens = .ok ast) :
    (Lex.lineRenum ch line).number = line.number.map (renumMap ch) := by
  rw [lineRenum_ok ch line ast h]

/-- RENUM maps the store line by line: the line numbered `k` is stored under `renumMap ch k` and
    becomes `Lex.lineRenum ch line`; nothing is added, dropped or reordered; the recorded compile
    errors are kept as they are (they are recomputed by the caller) -/
theorem renum_source {l l' : Listing} {a b c : Nat} (hl : WF l) (hp : AllParse l)
    (h : l.renum Lex.lineRenum a b c = .ok l') :
    ∃ ch, renumPlan (l.source.map (·.1)) a b c = .ok ch ∧
      l'.source = l.source.map (fun p => (renumMap ch p.1, Lex.lineRenum ch p.2)) ∧
      l'.indirectErrors = l.indirectErrors ∧ l'.directErrors = l.directErrors ∧
      l'.rooted = !l.source.isEmpty := by
  obtain ⟨ch, hpl, rfl⟩ := renum_ok h
  refine ⟨ch, hpl, ?_, rfl, rfl, rfl⟩
  show rebuild (l.lines.map (Lex.lineRenum ch)) = _
  have e : l.lines.map (Lex.lineRenum ch) =
      (l.source.map (fun p => (renumMap ch p.1, Lex.lineRenum ch p.2))).map (·.2) := by
    unfold lines
    rw [List.map_map, List.map_map]
    rfl
  rw [e]
  apply rebuild_ascending
  · unfold Sorted
    rw [List.pairwise_map]
    apply List.Pairwise.imp_of_mem _ hl.sorted
    intro x y hx hy hxy
    exact renumMap_strictMono (keys_pairwise hl) (keys_bounded hl) hpl x.1 y.1 (List.mem_map.2 ⟨x, hx, rfl⟩)
      (List.mem_map.2 ⟨y, hy, rfl⟩) hxy
  · intro q hq
    obtain ⟨p, hpm, rfl⟩ := List.mem_map.1 hq
    obtain ⟨ast, hast⟩ := hp p hpm
    show (Lex.lineRenum ch p.2).number = some (renumMap ch p.1)
    rw [lineRenum_number ch p.2 ast hast, hl.coherent p hpm]
    rfl

section Mapped
/- what follows from `renum_source` alone: `l'` is `l` mapped line by line under the plan `ch` -/
variable {l l' : Listing} {ch : List (Nat × Nat)}
  (hsrc : l'.source = l.source.map (fun p => (renumMap ch p.1, Lex.lineRenum ch p.2)))
include hsrc

theorem mapped_lines : l'.lines = l.lines.map (Lex.lineRenum ch) := by
  unfold lines
  rw [hsrc, List.map_map, List.map_map]
  rfl

theorem mapped_keys : l'.source.map (·.1) = (l.source.map (·.1)).map (renumMap ch) := by
  rw [hsrc, List.map_map, List.map_map]
  rfl

/-- the line a number refers to: line `n` of the old program is line `renumMap ch n` of the new one,
    rewritten -/
theorem mapped_get? (hs : Sorted l.source) (hs' : Sorted l'.source) (n : Nat) (x : Line) (hx : l.get? n = some x) :
    l'.get? (renumMap ch n) = some (Lex.lineRenum ch x) := by
  apply (mem_iff_look hs' _ _).1
  rw [hsrc]
  exact List.mem_map.2 ⟨(n, x), (mem_iff_look hs n x).2 hx, rfl⟩

end Mapped

theorem renum_lines {l l' : Listing} {a b c : Nat} {ch : List (Nat × Nat)} (hl : WF l) (hp : AllParse l)
    (hplan : renumPlan (l.source.map (·.1)) a b c = .ok ch) (h : l.renum Lex.lineRenum a b c = .ok l') :
    l'.lines = l.lines.map (Lex.lineRenum ch) := by
  obtain ⟨ch', h1, h2, _⟩ := renum_source hl hp h
  cases hplan.symm.trans h1
  exact mapped_lines h2

/-- what RENUM does to the operand `(col, n)` of a statement: it is replaced by the new number when
    `n` names a line of the program numbered `≥ b`, and left alone otherwise -/
def operandRewrite (ks : List Nat) (b : Nat) (ch : List (Nat × Nat)) (r : Col × Nat) :
    Option (Col × Nat) :=
  if r.2 ∈ ks ∧ b ≤ r.2 then some (r.1, renumMap ch r.2) else none

/-- the replacements made in a line with the AST `ast`: its operands that name a renumbered line,
    in visiting order, with the new numbers -/
def renumReps (ks : List Nat) (b : Nat) (ch : List (Nat × Nat)) (ast : List Stmt) :
    List (Col × Nat) :=
  (Lex.operandsStmts ast).filterMap (operandRewrite ks b ch)

theorem renumReps_eq_nil_iff (ks : List Nat) (b : Nat) (ch : List (Nat × Nat)) (ast : List Stmt) :
    renumReps ks b ch ast = [] ↔ ∀ r ∈ Lex.operandsStmts ast, ¬ (r.2 ∈ ks ∧ b ≤ r.2) := by
  unfold renumReps
  rw [List.filterMap_eq_nil_iff]
  constructor
  · intro h r hr hk
    have := h r hr
    unfold operandRewrite at this
    rw [if_pos hk] at this
    cases this
  · intro h r hr
    unfold operandRewrite
    rw [if_neg (h r hr)]

/-- one line under a successful plan for the line numbers `ks`: if no operand names a renumbered
    line the tokens are unchanged; otherwise they are the lexing of the listed text in which
    exactly those operands have been replaced by the digits of the new numbers -/
theorem lineRenum_tokens_plan {ks : List Nat} {a b c : Nat} {ch : List (Nat × Nat)}
    (h : renumPlan ks a b c = .ok ch) (line : Line) (ast : List Stmt)
    (hast : Parse.parse line.number line.tokens = .ok ast) :
    (Lex.lineRenum ch line).tokens =
      if renumReps ks b ch ast = [] then line.tokens
      else (Lex.lex (Lex.applyReplacements (renumReps ks b ch ast) (printTokens line.tokens))).2 := by
  rw [lineRenum_ok ch line ast hast, funext (rewrite_plan h)]
  rfl

theorem lineRenum_no_operands (ch : List (Nat × Nat)) (line : Line) (ast : List Stmt)
    (h : Parse.parse line.number line.tokens = .ok ast) (hno : Lex.operandsStmts ast = []) :
    Lex.lineRenum ch line = ⟨line.number.map (renumMap ch), line.tokens⟩ := by
  rw [lineRenum_ok ch line ast h, hno]
  rfl

/-- RENUM changes the tokens of a line only at its line-number operands that name a renumbered line
    (a line of the program numbered `≥ b`) -/
theorem renum_tokens {l l' : Listing} {a b c : Nat} (hl : WF l) (hp : AllParse l)
    (h : l.renum Lex.lineRenum a b c = .ok l') :
    ∃ ch, renumPlan (l.source.map (·.1)) a b c = .ok ch ∧
      l'.lines = l.lines.map (Lex.lineRenum ch) ∧
      ∀ p ∈ l.source, ∀ ast, Parse.parse p.2.number p.2.tokens = .ok ast →
        ((∀ r ∈ Lex.operandsStmts ast, ¬ (r.2 ∈ l.source.map (·.1) ∧ b ≤ r.2)) →
          (Lex.lineRenum ch p.2).tokens = p.2.tokens) ∧
        ((∃ r ∈ Lex.operandsStmts ast, r.2 ∈ l.source.map (·.1) ∧ b ≤ r.2) →
          (Lex.lineRenum ch p.2).tokens =
            (Lex.lex (Lex.applyReplacements (renumReps (l.source.map (·.1)) b ch ast)
              (printTokens p.2.tokens))).2) := by
  obtain ⟨ch, h1, h2, _⟩ := renum_source hl hp h
  refine ⟨ch, h1, mapped_lines h2, ?_⟩
  intro p _ ast hast
  have ht := lineRenum_tokens_plan h1 p.2 ast hast
  constructor
  · intro hno
    rw [ht, if_pos ((renumReps_eq_nil_iff _ _ _ _).2 hno)]
  · intro ⟨r, hr, hk⟩
    rw [ht, if_neg (fun hnil => (renumReps_eq_nil_iff _ _ _ _).1 hnil r hr hk)]

theorem idxOf_map_of_injOn (g : Nat → Nat) : ∀ (ks : List Nat) (n : Nat), n ∈ ks →
    (∀ x ∈ ks, ∀ y ∈ ks, g x = g y → x = y) → (ks.map g).idxOf (g n) = ks.idxOf n
  | [], _, h, _ => by cases h
  | k :: r, n, h, hinj => by
    rw [List.map_cons, List.idxOf_cons, List.idxOf_cons]
    by_cases hkn : k = n
    · subst hkn
      simp
    · have hg : g k ≠ g n := fun e => hkn (hinj k List.mem_cons_self n h e)
      have h1 : (k == n) = false := by simpa using hkn
      have h2 : (g k == g n) = false := by simpa using hg
      rw [h1, h2]
      simp only [cond_false]
      have hn : n ∈ r := by
        rcases List.mem_cons.1 h with e | hr
        · exact absurd e.symm hkn
        · exact hr
      rw [idxOf_map_of_injOn g r n hn
        (fun x hx y hy => hinj x (List.mem_cons_of_mem _ hx) y (List.mem_cons_of_mem _ hy))]

theorem mapped_position {l l' : Listing} {ch : List (Nat × Nat)}
    (hkeys : l'.source.map (·.1) = (l.source.map (·.1)).map (renumMap ch))
    (hinj : ∀ i ∈ l.source.map (·.1), ∀ j ∈ l.source.map (·.1), renumMap ch i = renumMap ch j → i = j) :
    ∀ n ∈ l.source.map (·.1),
      renumMap ch n ∈ l'.source.map (·.1) ∧
      (l'.source.map (·.1)).idxOf (renumMap ch n) = (l.source.map (·.1)).idxOf n ∧
      ∀ i : Nat, (l.source.map (·.1))[i]? = some n →
        (l'.source.map (·.1))[i]? = some (renumMap ch n) := by
  intro n hn
  rw [hkeys]
  refine ⟨List.mem_map.2 ⟨n, hn, rfl⟩, idxOf_map_of_injOn _ _ n hn hinj, ?_⟩
  intro i hi
  rw [List.getElem?_map, hi]
  rfl

/-- references are consistent: a line-number operand `(col, n)` of a line of the program that names
    an existing line names, once rewritten, the line at the same position of the renumbered program
    (which by `renum_source` is the rewritten old line `n`); the operand is rewritten to
    `renumMap ch n` exactly when `n ≥ b`, and otherwise is left alone and `renumMap ch n = n`.
    An operand that names no line (dangling) is never rewritten. -/
theorem renum_refs_consistent {l l' : Listing} {a b c : Nat} (hl : WF l) (hp : AllParse l)
    (h : l.renum Lex.lineRenum a b c = .ok l') :
    ∃ ch, renumPlan (l.source.map (·.1)) a b c = .ok ch ∧
      ∀ p ∈ l.source, ∀ ast, Parse.parse p.2.number p.2.tokens = .ok ast →
        ∀ r ∈ Lex.operandsStmts ast,
          (r.2 ∈ l.source.map (·.1) →
            renumMap ch r.2 ∈ l'.source.map (·.1) ∧
            (l'.source.map (·.1)).idxOf (renumMap ch r.2) = (l.source.map (·.1)).idxOf r.2 ∧
            (∀ x, l.get? r.2 = some x → l'.get? (renumMap ch r.2) = some (Lex.lineRenum ch x)) ∧
            (b ≤ r.2 → Lex.rewrite ch r = some (r.1, renumMap ch r.2)) ∧
            (r.2 < b → Lex.rewrite ch r = none ∧ renumMap ch r.2 = r.2)) ∧
          (r.2 ∉ l.source.map (·.1) → Lex.rewrite ch r = none ∧ renumMap ch r.2 = r.2) := by
  obtain ⟨ch, h1, h2, _⟩ := renum_source hl hp h
  have hpos := mapped_position (mapped_keys h2) (renumMap_injOn (keys_pairwise hl) (keys_bounded hl) h1)
  have hget := mapped_get? h2 hl.sorted (renum_sorted _ l l' a b c h).1
  refine ⟨ch, h1, ?_⟩
  intro p _ ast _ r _
  have hrw := rewrite_plan h1 r
  constructor
  · intro hk
    obtain ⟨i1, i2, _⟩ := hpos r.2 hk
    refine ⟨i1, i2, fun x hx => hget r.2 x hx, ?_, ?_⟩
    · intro hb
      rw [hrw, if_pos ⟨hk, hb⟩]
    · intro hb
      refine ⟨?_, renumMap_kept h1 hb⟩
      rw [hrw, if_neg (fun hh => by omega)]
  · intro hk
    refine ⟨?_, renumMap_not_key h1 hk⟩
    rw [hrw, if_neg (fun hh => hk hh.1)]

/-- only the last new number matters -/
theorem numbersFit_iff_last (n c m : Nat) :
    NumbersFit n c m ↔ m = 0 ∨ (n + c * (m - 1) ≤ maxLineNumber ∧ n + c * m ≤ 65535) := by
  unfold NumbersFit
  constructor
  · intro h
    cases m with
    | zero => exact Or.inl rfl
    | succ k =>
      right
      have := h k (by omega)
      rw [Nat.mul_succ]
      simp only [Nat.add_sub_cancel]
      omega
  · rintro (h | h)
    · intro i hi; omega
    · intro i hi
      have h1 : c * i ≤ c * (m - 1) := Nat.mul_le_mul_left c (by omega)
      have h2 : c * (m - 1) + c = c * m := by
        have : m = (m - 1) + 1 := by omega
        rw [this, Nat.mul_succ]
        simp
      omega

theorem not_numbersFit_iff (n c m : Nat) :
    ¬ NumbersFit n c m ↔ ∃ i, i < m ∧ (n + c * i > maxLineNumber ∨ n + c * i + c > 65535) := by
  unfold NumbersFit
  constructor
  · intro h
    apply Classical.byContradiction
    intro hn
    apply h
    intro i hi
    apply Classical.byContradiction
    intro hc
    exact hn ⟨i, hi, by omega⟩
  · intro ⟨i, hi, hc⟩ h
    have := h i hi
    omega

/-- RENUM on a well-formed store fails exactly when the step is 0, or there is a line numbered
    `≥ b` and either some line below `b` is numbered `≥ a`, or a new number does not fit;
    the store is then not replaced (there is no new listing) -/
theorem renum_fails_iff (f : List (Nat × Nat) → Line → Line) {l : Listing} (hl : WF l) (a b c : Nat) :
    (∃ e, l.renum f a b c = .error e) ↔
      c = 0 ∨ ((l.source.map (·.1)).filter (fun k => decide (k ≥ b)) ≠ [] ∧
        ((∃ k ∈ l.source.map (·.1), k < b ∧ a ≤ k) ∨
          ∃ i, i < ((l.source.map (·.1)).filter (fun k => decide (k ≥ b))).length ∧
            (a + c * i > maxLineNumber ∨ a + c * i + c > 65535))) := by
  rw [renum_eq, renumPlan_eq (keys_pairwise hl) (keys_bounded hl), ← not_numbersFit_iff]
  by_cases hc : c = 0
  · rw [if_pos hc]
    exact ⟨fun _ => .inl hc, fun _ => ⟨_, rfl⟩⟩
  · rw [if_neg hc]
    by_cases hf : (l.source.map (·.1)).filter (fun k => decide (k ≥ b)) = []
    · rw [if_pos hf]
      exact ⟨fun ⟨_, h⟩ => (nomatch h), fun h => h.elim (absurd · hc) fun h => absurd hf h.1⟩
    · rw [if_neg hf]
      by_cases hk : ∃ k ∈ l.source.map (·.1), k < b ∧ a ≤ k
      · rw [if_pos hk]
        exact ⟨fun _ => .inr ⟨hf, .inl hk⟩, fun _ => ⟨_, rfl⟩⟩
      · rw [if_neg hk]
        by_cases hn : NumbersFit a c ((l.source.map (·.1)).filter (fun k => decide (k ≥ b))).length
        · rw [if_pos hn]
          exact ⟨fun ⟨_, h⟩ => (nomatch h),
            fun h => h.elim (absurd · hc) fun h => h.2.elim (absurd · hk) (absurd hn)⟩
        · rw [if_neg hn]
          exact ⟨fun _ => .inr ⟨hf, .inr hn⟩, fun _ => ⟨_, rfl⟩⟩

end Listing
end Basic

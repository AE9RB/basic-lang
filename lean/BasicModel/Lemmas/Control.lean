import BasicModel.Lemmas.RtSplit
/-
  What the control-flow helpers of the VM do on a stack of known shape, and one `step` at a known instruction
  (`run_step_*`; where the instruction calls a `Res`-valued operation the result is written as a `match`/`if` on it, with
  `outcome` for `run_step_pop`).  Stacks are arrays, top last; `s.at pc stk σ` is the machine `s`
  somewhere else.
-/
namespace Basic
namespace Runtime

theorem run_ite {α} (c : Prop) [Decidable c] (m1 m2 : RM α) (s : Runtime) :
    ((if c then m1 else m2).run).run s = if c then (m1.run).run s else (m2.run).run s := by
  split <;> rfl

theorem run_push_room (v : Val) (s : Runtime) (h : s.stack.size + 1 ≤ Gen.stackMaxLen) :
    ((push v).run).run s = (.ok (), { s with stack := s.stack.push v }) := by
  rw [run_push, if_neg (by omega)]

theorem run_pop_push (v : Val) (st : Array Val) (s : Runtime) (h : s.stack = st.push v) :
    ((pop).run).run s = (.ok v, { s with stack := st }) := by
  simp only [pop, run_bind, run_get, h, Array.back?_push, run_set, run_pure, Array.pop_push]

theorem run_pushLoop {α} (g : α → Val) (l : List α) (s : Runtime)
    (h : s.stack.size + l.length ≤ Gen.stackMaxLen) :
    ((forIn l PUnit.unit (fun a _ => do push (g a); pure (ForInStep.yield PUnit.unit)) : RM PUnit).run).run s =
      (.ok ⟨⟩, { s with stack := s.stack ++ (l.map g).toArray }) := by
  induction l generalizing s with
  | nil => rw [List.forIn_nil, run_pure]; simp
  | cons a t ih =>
    simp only [List.length_cons] at h
    rw [List.forIn_cons, run_bind, run_bind, run_push_room _ _ (by omega)]
    simp only [run_pure]
    rw [ih _ (by simp only [Array.size_push]; omega)]
    simp

theorem run_pushLoop_overflow {α} (g : α → Val) (l : List α) (s : Runtime)
    (hs : s.stack.size ≤ Gen.stackMaxLen) (h : s.stack.size + l.length > Gen.stackMaxLen) :
    (((forIn l PUnit.unit (fun a _ => do push (g a); pure (ForInStep.yield PUnit.unit)) : RM PUnit).run).run s).1 =
      .error stackOverflow := by
  induction l generalizing s with
  | nil => simp only [List.length_nil] at h; omega
  | cons a t ih =>
    simp only [List.length_cons] at h
    rw [List.forIn_cons, run_bind, run_bind, run_push]
    by_cases hc : s.stack.size + 1 > Gen.stackMaxLen
    · rw [if_pos hc]
    · rw [if_neg hc]
      simp only [run_pure]
      exact ih _ (by simp only [Array.size_push]; omega) (by simp only [Array.size_push]; omega)

theorem run_popN_append (s : Runtime) (σ : Array Val) (args : List Val) (hst : s.stack = σ ++ args.toArray) :
    ((popN args.length).run).run s = (.ok args, { s with stack := σ }) := by
  unfold popN
  have h1 : ¬ (args.length > (σ ++ args.toArray).size) := by simp
  simp only [run_bind, run_get, hst, h1, if_false, run_set, run_pure]
  simp

theorem run_popVec (s : Runtime) (σ : Array Val) (args : List Val) (k : Int16)
    (hst : s.stack = (σ ++ args.toArray).push (.int k)) (hk : k.toInt = args.length) :
    (popVec.run).run s = (.ok args, { s with stack := σ }) := by
  unfold popVec
  have h1 : ¬ (k.toInt < 0) := by omega
  have h2 : k.toInt.toNat = args.length := by omega
  simp only [run_bind, run_pop, hst, Array.back?_push, Array.pop_push, h1, if_false, h2]
  rw [run_popN_append _ σ args rfl]

theorem run_doOn (s : Runtime) (σ : Array Val) (lenV selV : Val) (len sel : Int16)
    (hst : s.stack = (σ.push lenV).push selV) (hsel : selV.toI16 = .ok sel) (hlen : lenV.toI16 = .ok len) :
    (doOn.run).run s =
      if sel.toInt < 0 ∨ len.toInt < 0 then (.error (Error.mk' Code.illegalFunctionCall), { s with stack := σ })
      else if sel.toInt = 0 ∨ sel.toInt > len.toInt then (.ok (), { s with stack := σ, pc := s.pc + len.toInt.toNat })
      else (.ok (), { s with stack := σ, pc := s.pc + (sel.toInt.toNat - 1) }) := by
  unfold doOn
  simp only [run_bind, run_pop, hst, Array.back?_push, Array.pop_push, run_liftE, hsel, hlen, run_ite, run_throw,
    run_modify, Bool.or_eq_true, decide_eq_true_eq]

/-- values a function body / expression leaves on the stack -/
def isValue : Val → Bool
  | .str _ | .sng _ | .dbl _ | .int _ => true
  | _ => false

def isRet : Val → Bool
  | .ret _ => true
  | _ => false

/-- what `doReturn.loop` does once the search is over: drop the return address, re-push the kept value -/
def finishReturn (s : Runtime) (σ : Array Val) (a : Nat) (rv : Option Val) : Except Error Unit × Runtime :=
  match rv with
  | none => (.ok (), { s with stack := σ, pc := a })
  | some v =>
    if σ.size + 1 > Gen.stackMaxLen then (.error stackOverflow, { s with stack := σ.push v })
    else (.ok (), { s with stack := σ.push v, pc := a })

/-- the value RETURN keeps: the top of the stack if it is a number or string (`rj` = what lies above the
    return address, top first) -/
def keptOf (first : Bool) (rv : Option Val) : List Val → Option Val
  | [] => rv
  | t :: _ => if first && isValue t then some t else rv

def keptTop (rj : List Val) : Option Val := keptOf true none rj

/-- the unwinding loop: everything above the innermost return address is discarded, except that a
    value on the very top (the result of a function body) is kept -/
theorem run_doReturn_loop (σ : Array Val) (a : Nat) (rj : List Val) (hrj : ∀ v ∈ rj, isRet v = false) :
    ∀ (s : Runtime) (fuel : Nat) (rv : Option Val) (first : Bool),
      s.stack = σ.push (.ret a) ++ rj.reverse.toArray → rj.length < fuel →
      ((doReturn.loop fuel rv first).run).run s =
        finishReturn s σ a (keptOf first rv rj) := by
  induction rj with
  | nil =>
    intro s fuel rv first hst hf
    cases fuel with
    | zero => cases hf
    | succ n =>
      unfold doReturn.loop
      simp only [List.reverse_nil, Array.append_empty] at hst
      simp only [run_bind, run_get, hst, Array.back?_push, run_pop, Array.pop_push]
      cases rv with
      | none => simp only [run_modify, finishReturn, keptOf]
      | some v =>
        by_cases hc : σ.size + 1 > Gen.stackMaxLen
        · simp only [run_bind, run_push, finishReturn, keptOf, hc, if_true]
        · simp only [run_bind, run_push, run_modify, finishReturn, keptOf, hc, if_false]
  | cons t rest ih =>
    intro s fuel rv first hst hf
    cases fuel with
    | zero => cases hf
    | succ n =>
      have ht : isRet t = false := hrj t List.mem_cons_self
      have hst' : s.stack = (σ.push (.ret a) ++ rest.reverse.toArray).push t := by
        rw [hst, List.reverse_cons]; apply Array.ext'; simp
      unfold doReturn.loop
      simp only [run_bind, run_get, hst', Array.back?_push]
      have hstep : ∀ (keep : Bool) (hk : keep = isValue t),
          ((doReturn.loop n (if (first && keep) = true then some t else rv) false).run).run
              { s with stack := (σ.push (.ret a) ++ rest.reverse.toArray) } =
            finishReturn s σ a (keptOf first rv (t :: rest)) := by
        intro keep hk
        subst hk
        rw [ih (fun v hv => hrj v (List.mem_cons_of_mem _ hv)) _ n _ false rfl (by simpa using hf)]
        cases rest with
        | nil => rfl
        | cons t' rest' => simp only [keptOf, Bool.false_and, Bool.false_eq_true, if_false]; rfl
      cases t with
      | ret x => simp [isRet] at ht
      | str x | sng x | dbl x | int x =>
        simp only [run_bind, run_pop, hst', Array.back?_push, Array.pop_push]; exact hstep true rfl
      | nxt x => simp only [run_bind, run_pop, hst', Array.back?_push, Array.pop_push]; exact hstep false rfl

theorem run_doReturn (s : Runtime) (σ : Array Val) (a : Nat) (rj : List Val) (hrj : ∀ v ∈ rj, isRet v = false)
    (hst : s.stack = σ.push (.ret a) ++ rj.reverse.toArray) :
    (doReturn.run).run s =
      finishReturn s σ a (keptTop rj) := by
  unfold doReturn
  simp only [run_bind, run_get]
  rw [run_doReturn_loop σ a rj hrj s _ none true hst (by rw [hst]; simp; omega)]
  rfl

theorem run_doReturn_plain (s : Runtime) (σ : Array Val) (a : Nat) (hst : s.stack = σ.push (.ret a)) :
    (doReturn.run).run s = (.ok (), { s with stack := σ, pc := a }) :=
  run_doReturn s σ a [] (fun _ h => nomatch h) (by simpa using hst)

theorem run_doReturn_value (s : Runtime) (σ : Array Val) (a : Nat) (v : Val) (hv : isValue v = true)
    (hst : s.stack = (σ.push (.ret a)).push v) (hb : σ.size + 1 ≤ Gen.stackMaxLen) :
    (doReturn.run).run s = (.ok (), { s with stack := σ.push v, pc := a }) := by
  have hr : ∀ x ∈ [v], isRet x = false := by
    intro x hx
    rw [List.mem_singleton.1 hx]
    cases v <;> first | rfl | cases hv
  rw [run_doReturn s σ a [v] hr (by simpa using hst)]
  simp only [keptTop, keptOf, hv, Bool.true_and, if_true, finishReturn]
  rw [if_neg (by omega)]

theorem doReturn_refused (s : Runtime) (h : s.stack = #[]) :
    doReturn.run.run s = (.error (Error.mk' Code.returnWithoutGosub), s) := by
  unfold doReturn
  rw [run_bind_ok (run_get s), h]
  show (doReturn.loop 1 none true).run.run s = _
  unfold doReturn.loop
  rw [run_bind_ok (run_get s), h]
  rfl

/-- the frame `FOR` leaves on the stack (bottom first): limit, step, variable name, address of the loop body -/
def forFrame (toV stepV : Val) (vn : Str) (addr : Nat) : Array Val := #[toV, stepV, .str vn, .nxt addr]

/-- **NEXT on a stack whose top is the frame of its loop**, one pass of its search loop written out.
    (A step without a sign lets the search go on below the frame.) -/
theorem doNext_on_frame (s : Runtime) (σ : Array Val) (toV stepV : Val) (vn name : Str) (addr : Nat)
    (hst : s.stack = σ ++ forFrame toV stepV vn addr) (hname : name = [] ∨ vn = name)
    (hb : s.stack.size ≤ Gen.stackMaxLen) :
    ((doNext name).run).run s =
      match s.vars.fetch vn with
      | .error e => (.error e, { s with stack := σ })
      | .ok cur0 =>
        match Ops.sum cur0 stepV with
        | .error e => (.error e, { s with stack := σ })
        | .ok cur =>
          match s.vars.store vn cur with
          | .error e => (.error e, { s with stack := σ })
          | .ok vars' =>
            match stepV.toF64 with
            | .error _ => ((doNext.loop name (s.stack.size + 1)).run).run { s with stack := σ, vars := vars' }
            | .ok st =>
              match (if st < 0 then Ops.less cur toV else Ops.less toV cur) with
              | .error e => (.error e, { s with stack := σ, vars := vars' })
              | .ok done =>
                if done ≠ .int (-1) then (.ok (), { s with vars := vars', pc := addr })
                else (.ok (), { s with vars := vars', stack := σ }) := by
  have hst' : s.stack = (((σ.push toV).push stepV).push (.str vn)).push (.nxt addr) := by
    rw [hst]; apply Array.ext'; simp [forFrame]
  have hsz : σ.size + 4 ≤ Gen.stackMaxLen := by
    rw [hst'] at hb; simpa using hb
  have hcond : (!name.isEmpty && decide (vn ≠ name)) = false := by
    rcases hname with h | h
    · subst h; rfl
    · subst h; simp
  unfold doNext
  simp only [run_bind, run_get]
  conv => lhs; unfold doNext.loop
  simp only [run_bind, run_get, run_pop, hst', Array.back?_push, Array.pop_push, run_pure, hcond,
    Bool.false_eq_true, if_false, run_liftE]
  cases s.vars.fetch vn with
  | error e => rfl
  | ok cur0 =>
    dsimp only
    cases Ops.sum cur0 stepV with
    | error e => rfl
    | ok cur =>
      dsimp only
      cases s.vars.store vn cur with
      | error e => rfl
      | ok vars' =>
        simp only [run_modify]
        cases stepV.toF64 with
        | error x => rfl
        | ok st =>
          dsimp only
          cases (if st < 0 then Ops.less cur toV else Ops.less toV cur) with
          | error e => rfl
          | ok done =>
            by_cases hd : done = .int (-1)
            · simp only [hd, ne_eq, not_true_eq_false, if_false]; rfl
            · have h1 : ¬ (σ.size + 1 > Gen.stackMaxLen) := by omega
              have h2 : ¬ (σ.size + 1 + 1 > Gen.stackMaxLen) := by omega
              have h3 : ¬ (σ.size + 1 + 1 + 1 > Gen.stackMaxLen) := by omega
              have h4 : ¬ (σ.size + 1 + 1 + 1 + 1 > Gen.stackMaxLen) := by omega
              simp only [run_liftE, ne_eq, hd, not_false_eq_true, if_true, run_bind, run_push, Array.size_push, h1, h2,
                h3, h4, if_false, run_modify]

theorem run_doNext (s : Runtime) (σ : Array Val) (toV stepV : Val) (vn name : Str) (addr : Nat)
    (cur0 cur : Val) (vars' : Var) (st : Float) (done : Val)
    (hst : s.stack = σ ++ forFrame toV stepV vn addr)
    (hname : name = [] ∨ vn = name)
    (hfetch : s.vars.fetch vn = .ok cur0) (hsum : Ops.sum cur0 stepV = .ok cur)
    (hstore : s.vars.store vn cur = .ok vars') (hstep : stepV.toF64 = .ok st)
    (hdone : (if st < 0 then Ops.less cur toV else Ops.less toV cur) = .ok done)
    (hb : s.stack.size ≤ Gen.stackMaxLen) :
    ((doNext name).run).run s =
      if done ≠ .int (-1) then (.ok (), { s with vars := vars', pc := addr })
      else (.ok (), { s with vars := vars', stack := σ }) := by
  rw [doNext_on_frame s σ toV stepV vn name addr hst hname hb, hfetch]
  dsimp only
  rw [hsum]
  dsimp only
  rw [hstore]
  dsimp only
  rw [hstep]
  dsimp only
  rw [hdone]

theorem doNext_refused (name : Str) (s : Runtime) (h : s.stack = #[]) :
    (doNext name).run.run s = (.error (Error.mk' Code.nextWithoutFor), s) := by
  unfold doNext
  rw [run_bind_ok (run_get s), h]
  show (doNext.loop name 2).run.run s = _
  unfold doNext.loop
  rw [run_bind_ok (run_get s), h]
  rfl

theorem run_doFn (s : Runtime) (σ : Array Val) (args : List Val) (k : Int16) (name : Str) (addr : Nat)
    (hst : s.stack = (σ ++ args.toArray).push (.int k)) (hk : k.toInt = args.length)
    (hfn : s.functions.lookup name = some (args.length, addr))
    (hb : σ.size + 1 + args.length ≤ Gen.stackMaxLen) :
    ((doFn name).run).run s =
      (.ok (), { s with stack := σ.push (.ret s.pc) ++ args.reverse.toArray, pc := addr }) := by
  unfold doFn
  have h1 : ¬ (σ.size + 1 > Gen.stackMaxLen) := by omega
  simp only [run_bind, run_popVec s σ args k hst hk, run_get, hfn, if_true, run_push, h1, if_false]
  rw [run_pushLoop (fun a => a)]
  · simp only [run_modify, List.map_id']
  · simp only [Array.size_push, List.length_reverse]; omega

/-- a call whose return address and arguments do not all fit is OUT OF MEMORY "STACK OVERFLOW", whichever
    push is the one too many -/
theorem run_doFn_overflow (s : Runtime) (σ : Array Val) (args : List Val) (k : Int16) (name : Str) (addr : Nat)
    (hst : s.stack = (σ ++ args.toArray).push (.int k)) (hk : k.toInt = args.length)
    (hfn : s.functions.lookup name = some (args.length, addr))
    (hb : σ.size + 1 + args.length > Gen.stackMaxLen) :
    (((doFn name).run).run s).1 = .error stackOverflow := by
  unfold doFn
  simp only [run_bind, run_popVec s σ args k hst hk, run_get, hfn, if_true, run_push]
  by_cases hc : σ.size + 1 > Gen.stackMaxLen
  · rw [if_pos hc]
  · rw [if_neg hc]
    simp only []
    have := run_pushLoop_overflow (fun a => a) args.reverse { s with stack := σ.push (.ret s.pc) }
      (by simp only [Array.size_push]; omega) (by simp only [Array.size_push, List.length_reverse]; omega)
    generalize ((forIn args.reverse PUnit.unit _ : RM PUnit).run).run _ = res at this ⊢
    rcases res with ⟨r, t⟩
    dsimp only at this
    subst this
    rfl

theorem run_doFn_undefined (s : Runtime) (σ : Array Val) (args : List Val) (k : Int16) (name : Str)
    (hst : s.stack = (σ ++ args.toArray).push (.int k)) (hk : k.toInt = args.length)
    (hfn : s.functions.lookup name = none) :
    ((doFn name).run).run s = (.error (Error.mk' Code.undefinedUserFunction), { s with stack := σ }) := by
  unfold doFn
  simp only [run_bind, run_popVec s σ args k hst hk, run_get, hfn, run_throw]

theorem popVec_functions {s t : Runtime} {args : List Val} (h : popVec.run.run s = (.ok args, t)) :
    t.functions = s.functions := by
  unfold popVec at h
  rw [run_bind, run_pop] at h
  cases hb : s.stack.back? with
  | none => rw [hb] at h; cases h
  | some v =>
    rw [hb] at h
    dsimp only at h
    cases v with
    | int n =>
      dsimp only at h
      by_cases hn : n.toInt < 0
      · rw [if_pos hn] at h; cases h
      · rw [if_neg hn, run_popN] at h
        split at h
        · cases h
        · cases h; rfl
    | _ => cases h

theorem doFn_refused (name : Str) (s t : Runtime) (args : List Val) (h : s.functions = [])
    (hv : popVec.run.run s = (.ok args, t)) :
    (doFn name).run.run s = (.error (Error.mk' Code.undefinedUserFunction), t) := by
  have ht : t.functions = [] := (popVec_functions hv).trans h
  unfold doFn
  rw [run_bind_ok hv, run_bind_ok (run_get t), ht]
  rfl

theorem doCont_refused (s : Runtime) (h : s.cont = .stopped) :
    doCont.run.run s = (.error (Error.mk' Code.cantContinue), s) := by
  rw [run_doCont, if_pos h]

theorem run_doDef (s : Runtime) (σ : Array Val) (n : Int16) (name : Str)
    (hst : s.stack = σ.push (.int n)) (hpc : s.pc < s.entryAddress) :
    ((doDef name).run).run s =
      (.ok (), { s with stack := σ,
                        functions := (name, (n.toInt.toNat, s.pc + 1)) :: s.functions.filter (·.1 ≠ name) }) := by
  unfold doDef
  have h1 : ¬ (s.pc ≥ s.entryAddress) := by omega
  simp only [run_bind, run_get, h1, if_false, run_pop, hst, Array.back?_push, Array.pop_push, run_modify]

theorem run_doDef_direct (s : Runtime) (name : Str) (hpc : s.pc ≥ s.entryAddress) :
    ((doDef name).run).run s = (.error (Error.mk' Code.illegalDirect), s) := by
  unfold doDef
  simp only [run_bind, run_get, hpc, if_true, run_throw]

/-- the machine `s` (code, flags, tables) at address `pc` with stack `stk` and variables `σ`.  Facts about
    the machine (`s.tron = false`, what `s.program.link.ops` holds) then mention `s` alone, never the
    moving state, and `s.at s.pc s.stack s.vars` is `s` by `rfl`. -/
def «at» (s : Runtime) (pc : Nat) (stk : Array Val) (σ : Var) : Runtime :=
  { s with pc := pc, stack := stk, vars := σ }

def outcome {α : Type} (r : Res α) (ok : α → Runtime) (s' : Runtime) : Except Error Step × Runtime :=
  match r with
  | .ok a => (.ok .continue, ok a)
  | .error e => (.error e, s')

/-- lift a helper's outcome to the outcome of the instruction that calls it -/
def asStep (r : Except Error Unit × Runtime) : Except Error Step × Runtime :=
  match r with
  | (.ok _, s') => (.ok .continue, s')
  | (.error e, s') => (.error e, s')

/-- the zero test of `ifNot`: numeric values only -/
def zeroTest : Val → Option Bool
  | .int n => some (n == 0)
  | .sng b => some (F.f32 b == 0)
  | .dbl b => some (F.f64 b == 0)
  | _ => none

theorem run_step_ifNot (env : Env) (hie : Bool) (s : Runtime) (a : Nat) (σ : Array Val) (v : Val)
    (htr : s.tron = false) (hop : s.program.link.ops[s.pc]? = some (.ifNot a))
    (hst : s.stack = σ.push v) :
    ((step env hie).run).run s =
      match zeroTest v with
      | some z => (.ok .continue, { s with stack := σ, pc := if z then a else s.pc + 1 })
      | none => (.error (Error.mk' Code.typeMismatch), { s with stack := σ, pc := s.pc + 1 }) := by
  rw [run_step env hie s _ htr hop]
  unfold execOp
  simp only [run_bind, run_pop, hst, Array.back?_push, Array.pop_push]
  cases v with
  | int n =>
    cases hz : n == 0 <;>
      simp only [zeroTest, hz, run_pure, run_bind, run_modify, Bool.false_eq_true, if_false, if_true]
  | sng b =>
    cases hz : F.f32 b == 0 <;>
      simp only [zeroTest, hz, run_pure, run_bind, run_modify, Bool.false_eq_true, if_false, if_true]
  | dbl b =>
    cases hz : F.f64 b == 0 <;>
      simp only [zeroTest, hz, run_pure, run_bind, run_modify, Bool.false_eq_true, if_false, if_true]
  | str x | ret x | nxt x => simp only [zeroTest, run_throw]

/-- an instruction that is a helper followed by `continue` -/
theorem run_step_unit (env : Env) (hie : Bool) (s : Runtime) {op : Opcode} (m : RM Unit)
    (htr : s.tron = false) (hop : s.program.link.ops[s.pc]? = some op)
    (hm : execOp env hie op = (do m; pure Step.continue) := by rfl) :
    ((step env hie).run).run s = asStep ((m.run).run { s with pc := s.pc + 1 }) := by
  rw [run_step env hie s op htr hop, hm, run_bind]
  rcases (m.run).run { s with pc := s.pc + 1 } with ⟨_ | _, _⟩ <;> rfl

theorem run_step_return_plain (env : Env) (hie : Bool) (s : Runtime) (σ : Array Val) (a : Nat)
    (htr : s.tron = false) (hop : s.program.link.ops[s.pc]? = some .return) (hst : s.stack = σ.push (.ret a)) :
    ((step env hie).run).run s = (.ok .continue, { s with pc := a, stack := σ }) := by
  rw [run_step_unit env hie s doReturn htr hop, run_doReturn_plain { s with pc := s.pc + 1 } σ a hst]
  rfl

theorem run_step_return_value (env : Env) (hie : Bool) (s : Runtime) (σ : Array Val) (a : Nat) (v : Val)
    (htr : s.tron = false) (hop : s.program.link.ops[s.pc]? = some .return)
    (hst : s.stack = (σ.push (.ret a)).push v) (hv : isValue v = true) (hb : σ.size + 1 ≤ Gen.stackMaxLen) :
    ((step env hie).run).run s = (.ok .continue, { s with pc := a, stack := σ.push v }) := by
  rw [run_step_unit env hie s doReturn htr hop,
    run_doReturn_value { s with pc := s.pc + 1 } σ a v hv hst hb]
  rfl

theorem run_step_restore (env : Env) (hie : Bool) (s : Runtime) (a : Nat)
    (htr : s.tron = false) (hop : s.program.link.ops[s.pc]? = some (.restore a)) :
    ((step env hie).run).run s =
      (.ok .continue, { s with pc := s.pc + 1,
                               program := { s.program with link := s.program.link.restoreData a } }) :=
  run_step env hie s _ htr hop

theorem run_step_jump (env : Env) (hie : Bool) (s : Runtime) (a : Nat)
    (htr : s.tron = false) (hop : s.program.link.ops[s.pc]? = some (.jump a))
    (hgate : hie = false ∨ a ≥ s.entryAddress) :
    ((step env hie).run).run s = (.ok .continue, { s with pc := a }) := by
  have hc : (hie && decide (a < s.entryAddress)) = false := by
    rcases hgate with h | h
    · rw [h]; rfl
    · rw [decide_eq_false (by omega), Bool.and_false]
  rw [run_step env hie s _ htr hop, execOp_jump_run]
  exact if_neg (ne_true_of_eq_false hc)

/-- the gate: with compile errors in the program a jump into it stops with those errors instead -/
theorem run_step_jump_gated (env : Env) (s : Runtime) (a : Nat)
    (htr : s.tron = false) (hop : s.program.link.ops[s.pc]? = some (.jump a))
    (hin : a < s.entryAddress) :
    ((step env true).run).run s =
      (.ok (.event (.errors s.listing.indirectErrors)), { s with pc := a, state := .stopped, cont := .stopped }) := by
  rw [run_step env true s _ htr hop, execOp_jump_run]
  exact if_pos (decide_eq_true hin)

theorem run_step_pop (env : Env) (hie : Bool) (s : Runtime) (name : Str) (σ : Array Val) (v : Val)
    (htr : s.tron = false) (hop : s.program.link.ops[s.pc]? = some (.pop name))
    (hst : s.stack = σ.push v) :
    ((step env hie).run).run s =
      outcome (s.vars.store name v) (fun vars' => { s with pc := s.pc + 1, stack := σ, vars := vars' })
        { s with pc := s.pc + 1, stack := σ } := by
  rw [run_step env hie s _ htr hop]
  unfold execOp
  simp only [run_bind, run_pop, hst, Array.back?_push, Array.pop_push, run_get, run_liftE]
  cases s.vars.store name v <;> rfl

theorem run_step_literal (env : Env) (hie : Bool) (s : Runtime) (v : Val)
    (htr : s.tron = false) (hop : s.program.link.ops[s.pc]? = some (.literal v)) :
    ((step env hie).run).run s =
      (if s.stack.size + 1 > Gen.stackMaxLen then .error stackOverflow else .ok .continue,
        { s with pc := s.pc + 1, stack := s.stack.push v }) := by
  rw [run_step env hie s _ htr hop]
  unfold execOp
  by_cases hc : s.stack.size + 1 > Gen.stackMaxLen
  · simp only [run_bind, run_push, hc, if_true]
  · simp only [run_bind, run_push, hc, if_false, run_pure]

theorem run_step_literal_room (env : Env) (hie : Bool) (s : Runtime) (v : Val) (htr : s.tron = false)
    (hop : s.program.link.ops[s.pc]? = some (.literal v)) (hroom : s.stack.size + 1 ≤ Gen.stackMaxLen) :
    ((step env hie).run).run s = (.ok .continue, { s with pc := s.pc + 1, stack := s.stack.push v }) := by
  rw [run_step_literal env hie s v htr hop, if_neg (by omega)]

theorem run_step_push (env : Env) (hie : Bool) (s : Runtime) (name : Str)
    (htr : s.tron = false) (hop : s.program.link.ops[s.pc]? = some (.push name)) :
    ((step env hie).run).run s =
      match s.vars.fetch name with
      | .ok v => (if s.stack.size + 1 > Gen.stackMaxLen then .error stackOverflow else .ok .continue,
                  { s with pc := s.pc + 1, stack := s.stack.push v })
      | .error e => (.error e, { s with pc := s.pc + 1 }) := by
  rw [run_step env hie s _ htr hop]
  unfold execOp
  simp only [run_bind, run_get, run_liftE]
  cases s.vars.fetch name with
  | error e => rfl
  | ok v =>
    by_cases hc : s.stack.size + 1 > Gen.stackMaxLen
    · simp only [run_push, hc, if_true]
    · simp only [run_push, hc, if_false, run_pure]

theorem run_step_input (env : Env) (hie : Bool) (s : Runtime) (name : Str)
    (htr : s.tron = false) (hop : s.program.link.ops[s.pc]? = some (.input name)) :
    ((step env hie).run).run s =
      match ((doInput name).run).run { s with pc := s.pc + 1 } with
      | (.ok true, s') => (.ok (.event .running), s')
      | (.ok false, s') => (.ok .continue, s')
      | (.error e, s') => (.error e, s') :=
  (run_step env hie s _ htr hop).trans (execOp_input_run env hie name _)

/-- `popArr name` on `σ, x, i₁ … iₙ, n`: `x` is stored into the element by `Var.storeArray`; the
    variables are those `storeArray` returns in either case (the automatic dimension stays), which is why
    the result is a `match` and not an `outcome` -/
theorem run_step_popArr (env : Env) (hie : Bool) (s : Runtime) (name : Str) (σ : Array Val) (x : Val)
    (idx : List Val) (k : Int16)
    (htr : s.tron = false) (hop : s.program.link.ops[s.pc]? = some (.popArr name))
    (hst : s.stack = (σ.push x ++ idx.toArray).push (.int k)) (hk : k.toInt = idx.length) :
    ((step env hie).run).run s =
      match s.vars.storeArray name idx x with
      | (vars', .ok ()) => (.ok .continue, { s with pc := s.pc + 1, stack := σ, vars := vars' })
      | (vars', .error e) => (.error e, { s with pc := s.pc + 1, stack := σ, vars := vars' }) := by
  rw [run_step env hie s _ htr hop]
  unfold execOp
  rw [run_bind,
    run_popVec { s with pc := s.pc + 1 } (σ.push x) idx k hst hk]
  simp only [run_bind, run_get, run_set, run_pure, run_pop, Array.back?_push, Array.pop_push, run_liftE]
  generalize s.vars.storeArray name idx x = res
  rcases res with ⟨v', r⟩
  cases r <;> rfl

theorem run_step_tab (env : Env) (hie : Bool) (s : Runtime) (st : Array Val) (a : Val)
    (htr : s.tron = false) (hop : s.program.link.ops[s.pc]? = some .tab) (hst : s.stack = st.push a)
    (hroom : st.size + 1 ≤ Gen.stackMaxLen) :
    ((step env hie).run).run s =
      match Func.tab s.printCol a with
      | .ok v => (.ok .continue, { s with pc := s.pc + 1, stack := st.push v })
      | .error e => (.error e, { s with pc := s.pc + 1, stack := st }) := by
  rw [run_step env hie s _ htr hop]
  unfold execOp
  simp only [run_bind, run_get, run_pure, run_pop, hst, Array.back?_push, Array.pop_push]
  cases hf : Func.tab s.printCol a with
  | ok v =>
    simp only [run_liftE, run_push]
    rw [if_neg (by omega)]
  | error e => simp only [run_liftE]

theorem run_step_pos (env : Env) (hie : Bool) (s : Runtime) (st : Array Val) (a : Val)
    (htr : s.tron = false) (hop : s.program.link.ops[s.pc]? = some .pos)
    (hst : s.stack = (st.push a).push (.int 1)) (hroom : st.size + 1 ≤ Gen.stackMaxLen) :
    ((step env hie).run).run s =
      match Func.pos s.printCol with
      | .ok v => (.ok .continue, { s with pc := s.pc + 1, stack := st.push v })
      | .error e => (.error e, { s with pc := s.pc + 1, stack := st }) := by
  rw [run_step env hie s _ htr hop]
  unfold execOp
  simp only [run_bind]
  rw [run_popVec _ st [a] 1 (by simp only [hst]; congr 1) (by show (1 : Int16).toInt = 1; decide)]
  cases hf : Func.pos s.printCol with
  | ok v =>
    simp only [run_get, run_pure, run_liftE, run_push, hf]
    rw [if_neg (by omega)]
  | error e => simp only [run_get, run_liftE, hf]

end Runtime
end Basic

import BasicModel.Lemmas.LiteralTy
import BasicModel.Lemmas.HexVal
/-
  Literal values (C02): what `Expression::literal` (`Parse.literal`) makes of the token of a well-formed numeral.  The
  text handed to `str::parse` is the spelling without its type suffix, the exponent letter `D` read as `E`.  `dec2flt`'s
  grammar accepts it when the mantissa has a digit and reads mantissa digits `m` and a decimal exponent `e`: the float is
  `Fmt.roundDecimal` (nearest, ties to even) of `m · 10^e`; floats stay bit patterns, nothing is evaluated.  The Integer
  reading is the value of a plain digit string when that is at most 32767, otherwise (too big, or a fraction / exponent
  under a `%` suffix) TYPE MISMATCH.  `&H…` / `&…` give the value when at most 32767 (`&H7FFF`), otherwise — from
  `&H8000` on, and for the empty digit string — OVERFLOW: there is no two's-complement wrap.
-/
namespace Basic
namespace Lex
open Spec

/-- `replace('D', "E")` -/
def dToE (c : Char) : Char := if c = 'D' then 'E' else c

theorem numText_eq (s : Str) : Parse.numText s =
    if ((s.map dToE).getLast?.any isNumSuffix) = true then (s.map dToE).dropLast else s.map dToE := by
  unfold Parse.numText dToE
  simp only []
  split
  · rename_i h; simp [h, isNumSuffix]
  · rename_i h; simp [h, isNumSuffix]
  · rename_i h; simp [h, isNumSuffix]
  · rename_i h1 h2 h3
    cases hl : (List.map (fun c => if c = 'D' then 'E' else c) s).getLast? with
    | none => simp
    | some k =>
      have a : k ≠ '!' := by rintro rfl; exact h1 hl
      have b : k ≠ '#' := by rintro rfl; exact h2 hl
      have c : k ≠ '%' := by rintro rfl; exact h3 hl
      simp [isNumSuffix, a, b, c]

theorem takeDigits_append (ds rest : Str) (hd : AllDigits ds)
    (hr : ∀ c ∈ rest.head?, Fmt.isDigit c = false) : Fmt.takeDigits (ds ++ rest) = (ds, rest) := by
  induction ds with
  | nil =>
    cases rest with
    | nil => rfl
    | cons c r => simp [Fmt.takeDigits, hr c (by simp)]
  | cons c cs ih =>
    have hc : Fmt.isDigit c = true := by rw [fmt_isDigit_eq]; exact hd c (by simp)
    simp [Fmt.takeDigits, hc, ih (fun x hx => hd x (by simp [hx]))]

def fracDigits : Option (List Char) → Str
  | some f => f
  | none => []

/-- the exponent as `dec2flt` reads it -/
def expoRead : Option Exponent → Str
  | some x => 'E' :: (x.sign ++ x.digits)
  | none => []

/-- the written exponent as `dec2flt` reads it: clamped to 1 000 000 from seven digits on -/
def expoVal : Option Exponent → Int
  | some x =>
    let ev : Int := if x.digits.length > 6 then 1000000 else (Fmt.digitsToNat x.digits : Int)
    if x.sign = ['-'] then -ev else ev
  | none => 0

theorem toLower_of_not_upper (c : Char) (h : ¬ (65 ≤ c.toNat ∧ c.toNat ≤ 90)) : c.toLower = c := by
  unfold Char.toLower
  split
  · rename_i hh; simp [UInt32.le_iff_toNat_le] at hh; exact absurd hh h
  · rfl

/-- the optional sign of the exponent, as `Fmt.parseDecimal` takes it off -/
def signSplit (r : Str) : Bool × Str :=
  match r with
  | '-' :: r' => (true, r')
  | '+' :: r' => (false, r')
  | _ => (false, r)

/-- the exponent part of `parseDecimal`: what stands behind a mantissa with the digits `mant` (`nd` of them, `k` behind
    the point) -/
def parseExpo (mant nd k : Nat) : Str → Option Fmt.Parsed
  | [] => some (.num false mant (-(k : Int)) nd)
  | c :: r =>
    if c = 'e' || c = 'E' then
      let (eneg, r) := signSplit r
      let (ed, rest) := Fmt.takeDigits r
      if ed.isEmpty || !rest.isEmpty then none
      else
        let ev : Int := if ed.length > 6 then 1000000 else (Fmt.digitsToNat ed : Int)
        let ev := if eneg then -ev else ev
        some (.num false mant (ev - (k : Int)) nd)
    else none

/-- the part of `parseDecimal` after the sign and the `inf` / `nan` words: the body of `Fmt.parseDecimal` from there on,
    word for word up to `signSplit` and `parseExpo`, so that `parseDecimal_unsigned` ends by `rfl` -/
def parseMantExp (s : Str) : Option Fmt.Parsed :=
    let (ip, r1) := Fmt.takeDigits s
    let (fp, r2, hadDot) := match r1 with
      | '.' :: r => let (f, r') := Fmt.takeDigits r; (f, r', true)
      | _ => ([], r1, false)
    let _ := hadDot
    if ip.isEmpty && fp.isEmpty then none
    else parseExpo (Fmt.digitsToNat (ip ++ fp)) (ip ++ fp).length fp.length r2

theorem parseDecimal_unsigned (c : Char) (cs : Str) (hc : isDigit c = true ∨ c = '.') :
    Fmt.parseDecimal (c :: cs) = parseMantExp (c :: cs) := by
  have hm : c ≠ '-' ∧ c ≠ '+' ∧ c.toLower ≠ 'i' ∧ c.toLower ≠ 'n' := by
    rcases hc with hc | rfl
    · have hl : c.toLower = c := toLower_of_not_upper c (by rw [isDigit_iff] at hc; omega)
      rw [hl]
      refine ⟨?_, ?_, ?_, ?_⟩ <;> exact ne_of_isDigit c _ hc (by decide)
    · decide
  obtain ⟨h1, h2, h3, h4⟩ := hm
  unfold Fmt.parseDecimal
  split
  rename_i neg s heq
  have : neg = false ∧ s = c :: cs := by
    split at heq
    · rename_i r' heq'; exact absurd (List.cons.inj heq').1 h1
    · rename_i r' heq'; exact absurd (List.cons.inj heq').1 h2
    · cases heq; exact ⟨rfl, rfl⟩
  obtain ⟨rfl, rfl⟩ := this
  have e1 : (Fmt.lower (c :: cs) = "inf".toList) = False := by
    simp [Fmt.lower, h3]
  have e2 : (Fmt.lower (c :: cs) = "infinity".toList) = False := by
    simp [Fmt.lower, h3]
  have e3 : (Fmt.lower (c :: cs) = "nan".toList) = False := by
    simp [Fmt.lower, h4]
  simp only [e1, e2, e3, decide_false, Bool.or_self, Bool.false_eq_true, if_false]
  rfl

theorem fmt_not_digit_E : Fmt.isDigit 'E' = false := by decide
theorem fmt_not_digit_dot : Fmt.isDigit '.' = false := by decide

theorem expoRead_head (expo : Option Exponent) : ∀ c ∈ (expoRead expo).head?, Fmt.isDigit c = false := by
  cases expo with
  | none => simp [expoRead]
  | some x => simp [expoRead, fmt_not_digit_E]

theorem expoRead_not_dot (expo : Option Exponent) : ∀ r, expoRead expo ≠ '.' :: r := by
  cases expo with
  | none => simp [expoRead]
  | some x => simp [expoRead]

theorem signMatch (sign digits : Str) (hs : sign = [] ∨ sign = ['+'] ∨ sign = ['-'])
    (hd : AllDigits digits) (hne : digits ≠ []) :
    signSplit (sign ++ digits) = (decide (sign = ['-']), digits) := by
  unfold signSplit
  rcases hs with rfl | rfl | rfl
  · cases digits with
    | nil => contradiction
    | cons d ds =>
      obtain ⟨-, -, -, -, -, -, -, -, hplus, hminus⟩ := isDigit_not_special (hd d (by simp))
      simp only [List.nil_append]
      split
      · rename_i r heq; exact absurd (List.cons.inj heq).1 hminus
      · rename_i r heq; exact absurd (List.cons.inj heq).1 hplus
      · simp
  · simp
  · simp

theorem parseExpo_expoRead (mant nd k : Nat) (expo : Option Exponent) (h4 : ∀ x, expo = some x → x.WF) :
    parseExpo mant nd k (expoRead expo) = some (.num false mant (expoVal expo - (k : Int)) nd) := by
  cases expo with
  | none => simp [expoRead, parseExpo, expoVal]
  | some x =>
    obtain ⟨-, hs, hd, hdne⟩ := h4 x rfl
    have ht := takeDigits_append x.digits [] hd (by simp)
    rw [List.append_nil] at ht
    have hde : x.digits.isEmpty = false := by cases hx : x.digits <;> simp_all
    simp [expoRead, parseExpo, expoVal, signMatch x.sign x.digits hs hd hdne, ht, hde]

theorem parseMantExp_numeral (int : Str) (frac : Option (List Char)) (expo : Option Exponent)
    (h1 : AllDigits int) (h2 : ∀ f, frac = some f → AllDigits f) (h4 : ∀ x, expo = some x → x.WF)
    (hne : int ++ fracDigits frac ≠ []) :
    parseMantExp (int ++ fracText frac ++ expoRead expo) =
      some (.num false (Fmt.digitsToNat (int ++ fracDigits frac))
        (expoVal expo - ((fracDigits frac).length : Int)) (int ++ fracDigits frac).length) := by
  have hemp : (int.isEmpty && (fracDigits frac).isEmpty) = false := by
    cases int <;> cases hf : fracDigits frac <;> simp_all
  -- the exponent part is the same behind either shape of the mantissa
  rw [← parseExpo_expoRead _ _ _ expo h4]
  unfold parseMantExp
  cases frac with
  | none =>
    have ht := takeDigits_append int (expoRead expo) h1 (expoRead_head expo)
    simp only [fracText, List.append_nil, ht]
    split
    · rename_i r heq; exact absurd heq (expoRead_not_dot expo r)
    · simp only [fracDigits] at hemp ⊢
      simp only [hemp, Bool.false_eq_true, if_false, List.append_nil]
  | some f =>
    have ht : Fmt.takeDigits (int ++ '.' :: f ++ expoRead expo) = (int, '.' :: (f ++ expoRead expo)) := by
      rw [List.append_assoc]
      exact takeDigits_append int _ h1 (by simp [fmt_not_digit_dot])
    have ht2 := takeDigits_append f (expoRead expo) (h2 f rfl) (expoRead_head expo)
    simp only [fracDigits] at hemp ⊢
    simp only [fracText, ht, ht2, hemp, Bool.false_eq_true, if_false]

/-- what `str::parse` is given for a numeral: mantissa and exponent, the letter being `E` -/
def Numeral.readText (nm : Numeral) : Str := nm.int ++ fracText nm.frac ++ expoRead nm.expo

theorem map_dToE_id (l : Str) (h : ∀ c ∈ l, c ≠ 'D') : l.map dToE = l :=
  (List.map_congr_left fun c hc => if_neg (h c hc)).trans (List.map_id l)

theorem digits_no_D {ds : Str} (hd : AllDigits ds) : ∀ c ∈ ds, c ≠ 'D' :=
  fun c hc => (isDigit_not_special (hd c hc)).2.1

theorem body_map (nm : Numeral) (h : nm.WF) : nm.body.map dToE = nm.readText := by
  obtain ⟨h1, h2, -, h4, -⟩ := h
  simp only [Numeral.body, Numeral.mantissa, Numeral.readText, List.map_append]
  rw [map_dToE_id _ (digits_no_D h1)]
  congr 1
  · congr 1
    cases hf : nm.frac with
    | none => rfl
    | some f =>
      simp only [fracText, List.map_cons, map_dToE_id _ (digits_no_D (h2 f hf))]
      rfl
  · cases hx : nm.expo with
    | none => rfl
    | some x =>
      obtain ⟨hl, hs, hd, -⟩ := h4 x hx
      have hsg : x.sign.map dToE = x.sign := by rcases hs with e | e | e <;> rw [e] <;> rfl
      have hlt : dToE x.letter = 'E' := by rcases hl with e | e <;> rw [e] <;> rfl
      simp only [expoText, expoRead, Exponent.text, List.map_cons, List.map_append, hsg, hlt,
        map_dToE_id _ (digits_no_D hd)]

/-- **the text that is parsed**: the spelling without the type suffix, `D` read as `E` -/
theorem numText_text (nm : Numeral) (h : nm.WF) : Parse.numText nm.text = nm.readText := by
  have hb := body_map nm h
  have hns := body_not_suffix nm h
  have hne := body_ne_nil nm h
  have hmap : nm.text.map dToE = nm.readText ++ nm.sfx.toList := by
    simp only [Numeral.text, List.map_append, hb]
    congr 1
    cases hs : nm.sfx with
    | none => rfl
    | some c =>
      have := (isNumSuffix_iff c).1 (h.2.2.2.2 c hs)
      rcases this with rfl | rfl | rfl <;> rfl
  have hrs : ∀ k ∈ nm.readText, isNumSuffix k = false := by
    intro k hk
    rw [← hb] at hk
    obtain ⟨k0, hk0, rfl⟩ := List.mem_map.1 hk
    have := hns k0 hk0
    unfold dToE
    split
    · decide
    · exact this
  have hrne : nm.readText ≠ [] := by
    rw [← hb]; simpa using hne
  rw [numText_eq, hmap]
  cases hs : nm.sfx with
  | some c =>
    have hc : isNumSuffix c = true := h.2.2.2.2 c hs
    simp [hc]
  | none =>
    simp only [Option.toList_none, List.append_nil]
    cases hl : nm.readText.getLast? with
    | none => exact absurd (List.getLast?_eq_none_iff.1 hl) hrne
    | some k => simp [hrs k (List.mem_of_getLast? hl)]

/-- the digits of the mantissa, the point removed -/
def Numeral.mantDigits (nm : Numeral) : Str := nm.int ++ fracDigits nm.frac

def Numeral.mantValue (nm : Numeral) : Nat := decimalValue nm.mantDigits

/-- the decimal exponent of the last mantissa digit: the written exponent (clamped to 1 000 000 from 7
    digits on, where the value is 0 or infinite anyway) minus the number of fraction digits -/
def Numeral.exp10 (nm : Numeral) : Int := expoVal nm.expo - ((fracDigits nm.frac).length : Int)

theorem readText_head (nm : Numeral) (h : nm.WF) :
    ∃ c cs, nm.readText = c :: cs ∧ (isDigit c = true ∨ c = '.') ∧ c ≠ '-' ∧ c ≠ '+' := by
  obtain ⟨h1, -, h3, -, -⟩ := h
  cases hi : nm.int with
  | cons c cs =>
    have hc := h1 c (by simp [hi])
    obtain ⟨-, -, -, -, -, -, -, -, hp, hm⟩ := isDigit_not_special hc
    exact ⟨c, cs ++ fracText nm.frac ++ expoRead nm.expo, by simp [Numeral.readText, hi], .inl hc, hm, hp⟩
  | nil =>
    cases hf : nm.frac with
    | none => exact absurd hi (h3 hf)
    | some f =>
      exact ⟨'.', f ++ expoRead nm.expo, by simp [Numeral.readText, hi, hf, fracText], .inr rfl, by decide, by decide⟩

theorem parseDecimal_readText (nm : Numeral) (h : nm.WF) (hd : nm.mantDigits ≠ []) :
    Fmt.parseDecimal nm.readText = some (.num false nm.mantValue nm.exp10 nm.mantDigits.length) := by
  obtain ⟨c, cs, e, hc, -⟩ := readText_head nm h
  obtain ⟨h1, h2, -, h4, -⟩ := h
  rw [e, parseDecimal_unsigned c cs hc, ← e, Numeral.readText,
    parseMantExp_numeral nm.int nm.frac nm.expo h1 h2 h4 hd, digitsToNat_eq]
  rfl

/-- a Single constant is the float nearest (ties to even) to `mantValue · 10 ^ exp10` -/
theorem parseF32_numeral (nm : Numeral) (h : nm.WF) (hd : nm.mantDigits ≠ []) :
    Fmt.parseF32 (Parse.numText nm.text) =
      some (UInt32.ofNat (Fmt.roundDecimal Ieee.fp32 false nm.mantValue nm.exp10 nm.mantDigits.length)) := by
  rw [numText_text nm h, Fmt.parseF32, Fmt.parseFloat, parseDecimal_readText nm h hd]
  rfl

/-- a Double constant likewise, to 53 bits -/
theorem parseF64_numeral (nm : Numeral) (h : nm.WF) (hd : nm.mantDigits ≠ []) :
    Fmt.parseF64 (Parse.numText nm.text) =
      some (UInt64.ofNat (Fmt.roundDecimal Ieee.fp64 false nm.mantValue nm.exp10 nm.mantDigits.length)) := by
  rw [numText_text nm h, Fmt.parseF64, Fmt.parseFloat, parseDecimal_readText nm h hd]
  rfl

/-- a mantissa without any digit (`.`, `.E5`) is not a number: TYPE MISMATCH when parsed -/
theorem parseDecimal_no_digit (nm : Numeral) (h : nm.WF) (hd : nm.mantDigits = []) :
    Fmt.parseDecimal nm.readText = none := by
  obtain ⟨h1, h2, h3, h4, -⟩ := h
  have hint : nm.int = [] := by
    cases hi : nm.int with
    | nil => rfl
    | cons a b => simp [Numeral.mantDigits, hi] at hd
  cases hf : nm.frac with
  | none => exact absurd hint (h3 hf)
  | some f =>
    have hfe : f = [] := by simpa [Numeral.mantDigits, hint, hf, fracDigits] using hd
    subst hfe
    have ht := takeDigits_append [] (expoRead nm.expo) (by intro c hc; cases hc) (expoRead_head nm.expo)
    simp only [List.nil_append] at ht
    have e : nm.readText = '.' :: expoRead nm.expo := by simp [Numeral.readText, hint, hf, fracText]
    rw [e, parseDecimal_unsigned '.' _ (.inr rfl)]
    unfold parseMantExp
    simp [Fmt.takeDigits, fmt_not_digit_dot, ht]

/-- the Integer reading of a numeral (a `%` constant, or an undecorated one the lexer found to fit):
    its value when it is a plain digit string denoting at most 32767; otherwise — too big, or with
    a fraction or an exponent — not an Integer -/
theorem parseI16_readText (nm : Numeral) (h : nm.WF) :
    Fmt.parseI16 (Parse.numText nm.text) =
      if nm.frac = none ∧ nm.expo = none ∧ decimalValue nm.int ≤ 32767
      then some (Int16.ofNat (decimalValue nm.int)) else none := by
  rw [numText_text nm h]
  by_cases hplain : nm.frac = none ∧ nm.expo = none
  · obtain ⟨hf, hx⟩ := hplain
    have e : nm.readText = nm.int := by simp [Numeral.readText, hf, hx, fracText, expoRead]
    rw [e, parseI16_digits nm.int (h.2.2.1 hf) h.1]
    simp [hf, hx]
  · have hbad : ∃ k ∈ nm.readText, Fmt.isDigit k = false := by
      cases hf : nm.frac with
      | some f => exact ⟨'.', by simp [Numeral.readText, hf, fracText], by decide⟩
      | none =>
        cases hx : nm.expo with
        | some x => exact ⟨'E', by simp [Numeral.readText, hx, expoRead], by decide⟩
        | none => exact absurd ⟨hf, hx⟩ hplain
    obtain ⟨c, cs, e, -, hm, hp⟩ := readText_head nm h
    obtain ⟨k, hk, hkd⟩ := hbad
    have : ¬ (nm.frac = none ∧ nm.expo = none ∧ decimalValue nm.int ≤ 32767) :=
      fun hh => hplain ⟨hh.1, hh.2.1⟩
    rw [if_neg this, e]
    exact parseI16_not_digits hm hp (e ▸ hk) hkd

end Lex

namespace Spec

/-- the value of a hexadecimal / octal digit (`0`–`9`, `A`–`F`) -/
def radixDigitVal (c : Char) : Nat := if c.toNat ≤ 57 then c.toNat - 48 else c.toNat - 55

/-- the number a string of radix digits denotes -/
def radixValue (radix : Nat) (ds : Str) : Nat := ds.foldl (fun acc c => acc * radix + radixDigitVal c) 0

end Spec

namespace Lex
open Spec

/-- 16 for `&H…`, 8 for `&…` -/
def radixOf (isHex : Bool) : Nat := if isHex then 16 else 8

theorem radixDigit_of_isRadixDigit (isHex : Bool) (c : Char) (h : isRadixDigit isHex c = true) :
    Fmt.radixDigit (radixOf isHex) c = some (radixDigitVal c) ∧ radixDigitVal c < radixOf isHex := by
  have hn : c.val.toNat = c.toNat := rfl
  simp [isRadixDigit, Char.le_def, UInt32.le_iff_toNat_le, hn] at h
  simp only [Fmt.radixDigit, Fmt.isDigit, Fmt.digitVal, radixDigitVal, radixOf]
  simp [Char.le_def, UInt32.le_iff_toNat_le, hn]
  -- `0`–`7`; with `&H` also `8`, `9` and `A`–`F`
  rcases h with h | ⟨rfl, h | h⟩
  · have h1 : 48 ≤ c.toNat ∧ c.toNat ≤ 57 := by omega
    cases isHex <;> simp [h1] <;> omega
  · have h1 : 48 ≤ c.toNat ∧ c.toNat ≤ 57 := by omega
    simp [h1]; omega
  · have h2 : ¬ c.toNat ≤ 57 := by omega
    have h3 : ¬ (97 ≤ c.toNat ∧ c.toNat ≤ 122) := by omega
    have h4 : 65 ≤ c.toNat ∧ c.toNat ≤ 90 := by omega
    simp [h2, h3, h4]; omega

/-- **`i16::from_str_radix` on a string of radix digits**: its value when that is at most 32767;
    nothing for the empty string and for every larger value (no wrap to negative numbers) -/
theorem parseI16Radix_digits (isHex : Bool) (ds : Str) (hd : ∀ c ∈ ds, isRadixDigit isHex c = true) :
    Fmt.parseI16Radix ds (radixOf isHex) =
      if ds ≠ [] ∧ radixValue (radixOf isHex) ds ≤ 32767
      then some (Int16.ofNat (radixValue (radixOf isHex) ds)) else none :=
  Fmt.parseI16Radix_fold (radixOf isHex) (by cases isHex <;> decide) radixDigitVal ds fun c hc =>
    ⟨(radixDigit_of_isRadixDigit isHex c (hd c hc)).1,
      by rintro rfl; exact absurd (hd _ hc) (by cases isHex <;> decide),
      by rintro rfl; exact absurd (hd _ hc) (by cases isHex <;> decide)⟩

end Lex
end Basic

import BasicModel.Model.Var
/-
  Finite-map laws of the association lists used for `vars` and `dims` (`Basic.AL`).
-/
namespace Basic
namespace AL
variable {κ : Type} {α : Type} [DecidableEq κ]

/-- keys are pairwise distinct (the list is a map, its length is the number of keys) -/
def NoDup (l : List (κ × α)) : Prop := (l.map (·.1)).Nodup

theorem get_nil (k : κ) : get k ([] : List (κ × α)) = none := rfl

theorem get_cons (k k' : κ) (v : α) (l : List (κ × α)) :
    get k ((k', v) :: l) = if k' = k then some v else get k l := rfl

theorem mem_of_get {k : κ} {x : α} : ∀ {l : List (κ × α)}, get k l = some x → (k, x) ∈ l
  | [], h => by simp [get] at h
  | (k', v) :: r, h => by
    rw [get_cons] at h
    by_cases hk : k' = k
    · rw [if_pos hk] at h
      cases h; subst hk; exact List.mem_cons_self
    · rw [if_neg hk] at h
      exact List.mem_cons_of_mem _ (mem_of_get h)

theorem get_none_iff {k : κ} : ∀ {l : List (κ × α)}, get k l = none ↔ ∀ p ∈ l, p.1 ≠ k
  | [] => by simp [get]
  | (k', v) :: r => by
    rw [get_cons]
    by_cases hk : k' = k
    · simp [hk]
    · simp only [if_neg hk, List.mem_cons, forall_eq_or_imp]
      rw [get_none_iff (l := r)]
      exact ⟨fun h => ⟨hk, h⟩, fun h => h.2⟩

theorem get_of_mem {k : κ} {x : α} : ∀ {l : List (κ × α)}, NoDup l → (k, x) ∈ l → get k l = some x
  | [], _, h => by cases h
  | (k', v) :: r, hd, h => by
    rw [get_cons]
    have hd' : k' ∉ r.map (·.1) ∧ NoDup r := by
      simpa [NoDup, List.nodup_cons] using hd
    rcases List.mem_cons.1 h with h | h
    · cases h; simp
    · have : k' ≠ k := by
        intro e; subst e
        exact hd'.1 (List.mem_map.2 ⟨_, h, rfl⟩)
      rw [if_neg this]
      exact get_of_mem hd'.2 h

theorem mem_erase {k : κ} {p : κ × α} {l : List (κ × α)} : p ∈ erase k l ↔ p ∈ l ∧ p.1 ≠ k := by
  simp [erase, List.mem_filter]

theorem get_erase_self (k : κ) (l : List (κ × α)) : get k (erase k l) = none := by
  rw [get_none_iff]
  intro p hp
  exact (mem_erase.1 hp).2

theorem erase_cons_self (k : κ) (v : α) (r : List (κ × α)) : erase k ((k, v) :: r) = erase k r := by
  simp [erase]

theorem erase_cons_ne {a k : κ} (h : a ≠ k) (v : α) (r : List (κ × α)) :
    erase k ((a, v) :: r) = (a, v) :: erase k r := by
  simp [erase, h]

theorem get_erase_ne {k k' : κ} (h : k' ≠ k) : ∀ (l : List (κ × α)), get k' (erase k l) = get k' l
  | [] => rfl
  | (a, v) :: r => by
    by_cases ha : a = k
    · subst ha
      rw [erase_cons_self, get_erase_ne h r, get_cons, if_neg (Ne.symm h)]
    · rw [erase_cons_ne ha, get_cons, get_cons, get_erase_ne h r]

theorem erase_of_get_none {k : κ} {l : List (κ × α)} (h : get k l = none) : erase k l = l := by
  rw [get_none_iff] at h
  simp only [erase]
  rw [List.filter_eq_self]
  intro p hp
  simpa using h p hp

theorem length_erase_of_get : ∀ {l : List (κ × α)}, NoDup l → ∀ {k : κ} {x : α}, get k l = some x →
    (erase k l).length + 1 = l.length
  | (a, v) :: r, hd, k, x, hg => by
    have hd' := List.nodup_cons.1 hd
    rw [get_cons] at hg
    by_cases ha : a = k
    · subst ha
      have hnot : get a r = none :=
        get_none_iff.2 fun q hq heq => hd'.1 (heq ▸ List.mem_map_of_mem (f := (·.1)) hq)
      rw [erase_cons_self, erase_of_get_none hnot, List.length_cons]
    · rw [if_neg ha] at hg
      rw [erase_cons_ne ha, List.length_cons, List.length_cons, length_erase_of_get hd'.2 hg]

theorem set_eq (k : κ) (v : α) (l : List (κ × α)) : set k v l = (k, v) :: erase k l := by
  unfold set
  split
  · rfl
  · rename_i h
    have : get k l = none := by
      cases hh : get k l with
      | none => rfl
      | some _ => simp [hh] at h
    rw [erase_of_get_none this]

theorem get_set_self (k : κ) (v : α) (l : List (κ × α)) : get k (set k v l) = some v := by
  rw [set_eq, get_cons, if_pos rfl]

theorem get_set_ne {k k' : κ} (h : k' ≠ k) (v : α) (l : List (κ × α)) :
    get k' (set k v l) = get k' l := by
  rw [set_eq, get_cons, if_neg (fun e => h e.symm), get_erase_ne h]

theorem mem_set {k : κ} {v : α} {p : κ × α} {l : List (κ × α)} :
    p ∈ set k v l ↔ p = (k, v) ∨ (p ∈ l ∧ p.1 ≠ k) := by
  rw [set_eq, List.mem_cons, mem_erase]

theorem length_erase_le (k : κ) (l : List (κ × α)) : (erase k l).length ≤ l.length :=
  List.length_filter_le _ _

theorem length_set_le (k : κ) (v : α) (l : List (κ × α)) : (set k v l).length ≤ l.length + 1 := by
  rw [set_eq, List.length_cons]
  exact Nat.succ_le_succ (length_erase_le k l)

theorem contains_iff {k : κ} {l : List (κ × α)} : contains k l = true ↔ ∃ x, get k l = some x := by
  unfold contains
  cases get k l <;> simp

theorem length_erase_lt_of_contains {k : κ} {l : List (κ × α)} (h : contains k l = true) :
    (erase k l).length + 1 ≤ l.length := by
  obtain ⟨x, hx⟩ := contains_iff.1 h
  exact List.length_filter_lt_length_iff_exists.2 ⟨_, mem_of_get hx, by simp⟩

theorem length_set_le_of_contains {k : κ} (v : α) {l : List (κ × α)} (h : contains k l = true) :
    (set k v l).length ≤ l.length := by
  rw [set_eq, List.length_cons]
  exact length_erase_lt_of_contains h

omit [DecidableEq κ] in
theorem noDup_filter {l : List (κ × α)} (p : κ × α → Bool) (h : NoDup l) : NoDup (l.filter p) := by
  unfold NoDup at *
  exact List.Nodup.sublist (List.Sublist.map _ List.filter_sublist) h

theorem noDup_erase {l : List (κ × α)} (k : κ) (h : NoDup l) : NoDup (erase k l) :=
  noDup_filter _ h

theorem noDup_set {l : List (κ × α)} (k : κ) (v : α) (h : NoDup l) : NoDup (set k v l) := by
  rw [set_eq]
  unfold NoDup
  rw [List.map_cons, List.nodup_cons]
  refine ⟨?_, noDup_erase k h⟩
  intro hm
  obtain ⟨p, hp, hk⟩ := List.mem_map.1 hm
  exact (mem_erase.1 hp).2 hk

omit [DecidableEq κ] in
theorem noDup_nil : NoDup ([] : List (κ × α)) := by simp [NoDup]

theorem get_eq_some_iff {l : List (κ × α)} (hd : NoDup l) {k : κ} {x : α} :
    get k l = some x ↔ (k, x) ∈ l :=
  ⟨mem_of_get, get_of_mem hd⟩

theorem get_filter {l : List (κ × α)} (hd : NoDup l) (p : κ × α → Bool) (k : κ) :
    get k (l.filter p) = (get k l).filter fun x => p (k, x) := by
  ext x
  rw [get_eq_some_iff (noDup_filter p hd), List.mem_filter, Option.filter_eq_some_iff, get_eq_some_iff hd]

end AL
end Basic

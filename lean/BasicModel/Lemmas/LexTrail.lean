import BasicModel.Lemmas.LexList
/-
  Two complements to Lemmas/LexList.  Trailing white space that is not a BASIC blank (a carriage return, a no-break
  space, …): it is lexed as one `Unknown` token, which `trim_end` removes again.  The printed text of a remark-free
  canonical list in front of ANY text `tail` (`CanonRawT tail`, `lexFrom_printTokens_tail`): the iterator gives the raw
  tokens back and goes on at `tail`.
-/
namespace Basic
namespace Lex

/-- Unicode white space other than blank and tab -/
def isOddWhite (c : Char) : Bool := isUniWhite c && !isWs c

theorem oddWhite_toNat (c : Char) (h : isOddWhite c = true) :
    (10 ≤ c.toNat ∧ c.toNat ≤ 13) ∨ c.toNat = 0x85 ∨ c.toNat = 0xA0 ∨ 0x1680 ≤ c.toNat := by
  simp only [isOddWhite, Bool.and_eq_true, Bool.not_eq_true'] at h
  obtain ⟨h1, h2⟩ := h
  have h2' : ¬ (c.toNat = 32 ∨ c.toNat = 9) := by
    intro hh; have := (isWs_iff c).2 hh; rw [h2] at this; exact absurd this (by simp)
  simp only [isUniWhite, Bool.or_eq_true, Bool.and_eq_true, decide_eq_true_eq] at h1
  omega

theorem oddWhite_classes (c : Char) (h : isOddWhite c = true) :
    isAlpha c = false ∧ isDigit c = false ∧ isWs c = false ∧ c ≠ '.' ∧ c ≠ '"' ∧ c ≠ '&' ∧
      matchMinutia [c] = none := by
  have hn := oddWhite_toNat c h
  refine ⟨?_, ?_, ?_, ?_, ?_, ?_, ?_⟩
  · rw [Bool.eq_false_iff, Ne, isAlpha_iff]; omega
  · rw [Bool.eq_false_iff, Ne, isDigit_iff]; omega
  · rw [Bool.eq_false_iff, Ne, isWs_iff]; omega
  · rw [Ne, char_eq_iff]; have : '.'.toNat = 46 := rfl; omega
  · rw [Ne, char_eq_iff]; have : '"'.toNat = 34 := rfl; omega
  · rw [Ne, char_eq_iff]; have : '&'.toNat = 38 := rfl; omega
  · cases hm : matchMinutia [c] with
    | none => rfl
    | some t =>
      obtain ⟨c', e, hm'⟩ := matchMinutia_some _ _ hm
      cases e
      rw [(by decide : ∀ p ∈ minutiaTable, isOddWhite p.1 = false) _ hm'] at h
      cases h

theorem minutia_white (c : Char) (w : List Char) (hw : ∀ x ∈ c :: w, isOddWhite x = true) :
    minutia (c :: w) = (.unknown (c :: w), []) := by
  have hs := span_append nADW w []
    (fun x hx => by
      obtain ⟨h1, h2, h3, -⟩ := oddWhite_classes x (hw x (by simp [hx]))
      simp [nADW, isADW, h1, h2, h3])
    (by intro x hx; simp at hx)
  rw [List.append_nil] at hs
  rw [minutia_eq, (oddWhite_classes c (hw c (by simp))).2.2.2.2.2.2, hs.1, hs.2]

theorem lexFrom_white (w : List Char) (hw : ∀ c ∈ w, isOddWhite c = true) (hne : w ≠ []) :
    lexFrom w false = [.unknown w] := by
  cases w with
  | nil => contradiction
  | cons c w =>
    have hc := oddWhite_classes c (hw c (by simp))
    rw [lexFrom_cons]
    simp only [hc.1, hc.2.1, hc.2.2.1, hc.2.2.2.1, hc.2.2.2.2.1, hc.2.2.2.2.2.1, minutia_white c w hw]
    simp

theorem trimEndStr_white (w : List Char) (hw : ∀ c ∈ w, isOddWhite c = true) : trimEndStr w = [] := by
  have : ∀ c ∈ w.reverse, isUniWhite c = true := by
    intro c hc
    have := hw c (List.mem_reverse.1 hc)
    simp only [isOddWhite, Bool.and_eq_true] at this; exact this.1
  have hd := (span_append isUniWhite w.reverse [] this (by simp)).2
  rw [List.append_nil] at hd
  simp [trimEndStr, hd]

/-- `CanonRaw` without remarks and relative to a text that follows the printed list -/
def CanonRawT (tail : List Char) : List Token → Prop
  | [] => True
  | t :: rest =>
    t ≠ .word .rem1 ∧ t ≠ .word .rem2 ∧ Printable t ∧ Follows t (printTokens rest ++ tail) ∧
      CanonRawT tail rest

theorem lexFrom_printTokens_tail (tail : List Char) (ts : List Token) (h : CanonRawT tail ts) :
    lexFrom (printTokens ts ++ tail) false = ts.flatMap rawOf ++ lexFrom tail false := by
  induction ts with
  | nil => rfl
  | cons t rest ih =>
    obtain ⟨h1, h2, hp, hf, hc⟩ := h
    rw [printTokens_cons, List.flatMap_cons, List.append_assoc, lexFrom_token t _ hp hf h1 h2, ih hc,
      List.append_assoc]

theorem rawOf_not_unknown (t : Token) (h : Printable t) : ∀ x ∈ rawOf t, ∀ s, x ≠ .unknown s := by
  intro x hx s e
  subst e
  cases t with
  | unknown s' => exact h
  | operator o => cases o <;> simp [rawOf] at hx
  | _ => simp [rawOf] at hx

theorem raw_no_unknown (tail : List Char) (ts : List Token) (h : CanonRawT tail ts) :
    ∀ x ∈ ts.flatMap rawOf, ∀ s, x ≠ .unknown s := by
  induction ts with
  | nil => intro x hx; simp at hx
  | cons t rest ih =>
    intro x hx
    rw [List.flatMap_cons, List.mem_append] at hx
    rcases hx with hx | hx
    · exact rawOf_not_unknown t h.2.2.1 x hx
    · exact ih h.2.2.2.2 x hx

end Lex
end Basic

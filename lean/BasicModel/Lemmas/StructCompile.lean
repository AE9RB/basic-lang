import BasicModel.Lemmas.StructSpec
import BasicModel.Lemmas.ExprCompile
/-
  Compiled structured statements do what `Spec/Struct.lean` says.

  A BLOCK is code as a function of its own start address (`Nat → List Opcode`): the linked code holds absolute
  addresses, so the internal jump targets of a block are `start + offset`.  `Implements env hie code f` — wherever the
  block lies in the code segment of a machine `s` (`Placed`), if the transformer `f` answers `.ok σ'` on `s.vars` the
  machine reaches, in some number of steps all answering `continue`, the state `s` with `pc` past the block and
  `vars := σ'` — EVERY other component, the stack included, as in `s`; if `f` answers `.error e` some step fails with
  exactly `e`.  One rule per construct, and `exec_implemented`: `compile p` implements `exec fuel · p`, for every fuel.
  `Reaches` is the same two outcomes with the end state left open (the passes of a FOR loop end with the frame dropped);
  straight-line parts are `Seg`s (`Lemmas/Seg.lean`), which `Seg.ends` turns into `Ends`.
-/
namespace Basic
namespace Lemmas.StructCompile
open Basic.Spec Basic.Lemmas.ExprCompile Basic.Runtime

/-- `s` reaches `s'` in some number of steps that all answer `continue` -/
def Goes (env : Env) (hie : Bool) (s s' : Runtime) : Prop :=
  ∃ n, runSteps env hie n s = (.ok .continue, s')

/-- from `s`, after some steps answering `continue`, a step fails with `e` -/
def Fails (env : Env) (hie : Bool) (s : Runtime) (e : Error) : Prop :=
  ∃ n s', runSteps env hie n s = (.error e, s')

theorem Goes.refl (env : Env) (hie : Bool) (s : Runtime) : Goes env hie s s := ⟨0, rfl⟩

theorem Goes.trans {env : Env} {hie : Bool} {s s1 s2 : Runtime} (h1 : Goes env hie s s1) (h2 : Goes env hie s1 s2) :
    Goes env hie s s2 := by
  obtain ⟨n1, h1⟩ := h1
  obtain ⟨n2, h2⟩ := h2
  exact ⟨n1 + n2, by rw [runSteps_ok_add h1, h2]⟩

theorem Goes.fails {env : Env} {hie : Bool} {s s1 : Runtime} {e : Error} (h1 : Goes env hie s s1)
    (h2 : Fails env hie s1 e) : Fails env hie s e := by
  obtain ⟨n1, h1⟩ := h1
  obtain ⟨n2, s', h2⟩ := h2
  exact ⟨n1 + n2, s', by rw [runSteps_ok_add h1, h2]⟩

theorem Goes.step {env : Env} {hie : Bool} {s s' : Runtime}
    (h : ((step env hie).run).run s = (.ok .continue, s')) : Goes env hie s s' :=
  ⟨1, by rw [runSteps_one, h]⟩

theorem Fails.step {env : Env} {hie : Bool} {s s' : Runtime} {e : Error}
    (h : ((step env hie).run).run s = (.error e, s')) : Fails env hie s e :=
  ⟨1, s', by rw [runSteps_one, h]⟩

theorem Goes.congr {env : Env} {hie : Bool} {s s1 s2 : Runtime} (h : Goes env hie s s1) (e : s1 = s2) :
    Goes env hie s s2 := e ▸ h

/-- the outcome of a block of length `len` started in `s`, against the expected result -/
def Ends (env : Env) (hie : Bool) (len : Nat) (s : Runtime) : Res Var → Prop
  | .ok σ' => Goes env hie s { s with pc := s.pc + len, vars := σ' }
  | .error e => Fails env hie s e

/-- the outcome of code started in `s`, against the expected result, with the end state left open:
    `Ends` is the case "`len` further, new variables"; a FOR loop's passes, a subroutine end elsewhere -/
def Reaches (env : Env) (hie : Bool) (s : Runtime) (ok : Var → Runtime) : Res Var → Prop
  | .ok σ' => Goes env hie s (ok σ')
  | .error e => Fails env hie s e

theorem Goes.reaches {env : Env} {hie : Bool} {s t : Runtime} {ok : Var → Runtime} {r : Res Var}
    (h : Goes env hie s t) (e : Reaches env hie t ok r) : Reaches env hie s ok r := by
  cases r with
  | error _ => exact h.fails e
  | ok σ' => exact h.trans e

theorem Goes.ends {env : Env} {hie : Bool} {s : Runtime} {off l len : Nat} {σ : Var} {r : Res Var}
    (h : Goes env hie s { s with pc := s.pc + off, vars := σ })
    (e : Ends env hie l { s with pc := s.pc + off, vars := σ } r) (hlen : off + l = len) : Ends env hie len s r := by
  subst hlen
  cases r with
  | error _ => exact h.fails e
  | ok σ' => exact (h.trans e).congr (by rw [Nat.add_assoc])

theorem Seg.ends {env : Env} {hie : Bool} {n len : Nat} {s : Runtime} {r : Res Var}
    {bad : Runtime → Prop} (h : Seg env hie n s r (fun σ' => { s with pc := s.pc + len, vars := σ' }) bad) :
    Ends env hie len s r := by
  cases r with
  | ok σ' => exact ⟨n, h⟩
  | error e =>
    obtain ⟨k, s', _, h, _⟩ := h
    exact ⟨k, s', h⟩

/-- where a block may run: its code is in place, trace off, room on the stack (a crude bound: the
    length of the block), and its jumps are not gated (the program has no compile errors, or the block
    lies in the direct-mode code) -/
structure Placed (hie : Bool) (code : Nat → List Opcode) (s : Runtime) : Prop where
  hcode : CodeAt s.program.link.ops s.pc (code s.pc)
  htron : s.tron = false
  hroom : s.stack.size + (code s.pc).length ≤ Gen.stackMaxLen
  hgate : hie = false ∨ s.entryAddress ≤ s.pc

theorem Placed.sub {hie : Bool} {s : Runtime} (c' : Nat → List Opcode) (off : Nat) (σ : Var) (stk : Array Val)
    (hcode : CodeAt s.program.link.ops (s.pc + off) (c' (s.pc + off))) (htr : s.tron = false)
    (hroom : stk.size + (c' (s.pc + off)).length ≤ Gen.stackMaxLen)
    (hgate : hie = false ∨ s.entryAddress ≤ s.pc) :
    Placed hie c' { s with pc := s.pc + off, vars := σ, stack := stk } :=
  ⟨hcode, htr, hroom, hgate.imp id (fun h => Nat.le_trans h (Nat.le_add_right _ _))⟩

/-- **the block calculus**: the block `code` implements the transformer `f` -/
def Implements (env : Env) (hie : Bool) (code : Nat → List Opcode) (f : Trans) : Prop :=
  ∀ (s : Runtime), Placed hie code s → ∀ r, f s.vars = some r → Ends env hie (code s.pc).length s r

theorem expr_goes (env : Env) (hie : Bool) {e : Expr} (hp : Spec.Pure e) (s : Runtime)
    (hcode : CodeAt s.program.link.ops s.pc (flat e)) (htr : s.tron = false)
    (hroom : s.stack.size + (flat e).length ≤ Gen.stackMaxLen) {v : Val} (hv : eval s.vars e = .ok v) :
    Goes env hie s { s with pc := s.pc + (flat e).length, stack := s.stack.push v } :=
  ⟨_, (Seg.of_computes (flat_computes env hie hp s hcode htr hroom)).run_ok hv⟩

theorem expr_fails (env : Env) (hie : Bool) {e : Expr} (hp : Spec.Pure e) (s : Runtime)
    (hcode : CodeAt s.program.link.ops s.pc (flat e)) (htr : s.tron = false)
    (hroom : s.stack.size + (flat e).length ≤ Gen.stackMaxLen) {err : Error} (hv : eval s.vars e = .error err) :
    Fails env hie s err := by
  obtain ⟨s', h, _⟩ := (Seg.of_computes (flat_computes env hie hp s hcode htr hroom)).run_error hv
  exact ⟨_, s', h _ (Nat.le_refl _)⟩

theorem implements_assign (env : Env) (hie : Bool) (name : Str) {e : Expr} (hp : Spec.Pure e) :
    Implements env hie (fun _ => flat e ++ [Opcode.pop name]) (assignT name e) := by
  intro s hpl r hr
  obtain ⟨hcode, htr, hroom, _⟩ := hpl
  obtain rfl := Option.some.inj hr
  simp only [List.length_append, List.length_singleton] at hroom ⊢
  exact Seg.ends (Seg.bind (expr_at env hie hp s s.pc s.stack s.vars hcode.left htr (by omega)).any fun v _ =>
    (pop_at env hie s _ _ _ _ name hcode.right.head htr).any)

theorem implements_seq {env : Env} {hie : Bool} {c1 c2 : Nat → List Opcode} {f1 f2 : Trans} (l1 : Nat)
    (hl1 : ∀ a, (c1 a).length = l1)
    (h1 : Implements env hie c1 f1) (h2 : Implements env hie c2 f2) :
    Implements env hie (fun a => c1 a ++ c2 (a + l1)) (seqT f1 f2) := by
  intro s hpl r hr
  obtain ⟨hcode, htr, hroom, hgate⟩ := hpl
  obtain ⟨hc1, hc2⟩ := codeAt_append.1 hcode
  simp only [List.length_append, hl1] at hroom hc2 ⊢
  have e1 := fun r1 => h1 s ⟨hc1, htr, by rw [hl1]; omega, hgate⟩ r1
  rw [hl1] at e1
  rcases seqT_some hr with ⟨e, hf, rfl⟩ | ⟨σ1, hf, hr⟩
  · exact e1 _ hf
  · exact Goes.ends (e1 _ hf) (h2 _ (Placed.sub c2 l1 σ1 s.stack hc2 htr (by omega) hgate) r hr) rfl

theorem zeroTest_of_truthy {v : Val} {b : Bool} (h : truthy v = .ok b) : zeroTest v = some (!b) := by
  cases v <;> simp only [truthy, Except.ok.injEq, reduceCtorEq] at h <;> subst h <;> simp [zeroTest]

theorem zeroTest_of_truthy_error {v : Val} {e : Error} (h : truthy v = .error e) :
    zeroTest v = none ∧ e = Error.mk' Code.typeMismatch := by
  cases v <;> simp only [truthy, Except.error.injEq, reduceCtorEq] at h <;> subst h <;> exact ⟨rfl, rfl⟩

/-- the test of IF and WHILE: the condition's error — its own, or TYPE MISMATCH for a string — is the
    error of the run; otherwise the stack is as before -/
theorem ite_ends (env : Env) (hie : Bool) {c : Expr} (hp : Spec.Pure c) {s : Runtime} {tgt len : Nat}
    (hcc : CodeAt s.program.link.ops s.pc (flat c))
    (hci : s.program.link.ops[s.pc + (flat c).length]? = some (Opcode.ifNot tgt)) (htr : s.tron = false)
    (hroom : s.stack.size + (flat c).length ≤ Gen.stackMaxLen) {f g : Trans} {r : Res Var}
    (hr : iteT c f g s.vars = some r)
    (ht : Goes env hie s { s with pc := s.pc + ((flat c).length + 1) } → f s.vars = some r → Ends env hie len s r)
    (hf : Goes env hie s { s with pc := tgt } → g s.vars = some r → Ends env hie len s r) :
    Ends env hie len s r := by
  simp only [iteT, holds] at hr
  cases hv : eval s.vars c with
  | error err =>
    rw [hv] at hr
    obtain rfl := Option.some.inj hr
    exact expr_fails env hie hp s hcc htr hroom hv
  | ok v =>
    have h1 := expr_goes env hie hp s hcc htr hroom hv
    have hs := run_step_ifNot env hie { s with pc := s.pc + (flat c).length, stack := s.stack.push v } tgt s.stack v
      htr hci rfl
    rw [hv] at hr
    change (match truthy v with
      | .error e => some (.error e)
      | .ok true => f s.vars
      | .ok false => g s.vars) = some r at hr
    cases hb : truthy v with
    | error e =>
      obtain ⟨hz, rfl⟩ := zeroTest_of_truthy_error hb
      rw [hb] at hr
      obtain rfl := Option.some.inj hr
      rw [hz] at hs
      exact h1.fails (Fails.step hs)
    | ok b =>
      rw [zeroTest_of_truthy hb] at hs
      rw [hb] at hr
      cases b with
      | true => exact ht (h1.trans (Goes.step hs)) hr
      | false => exact hf (h1.trans (Goes.step hs)) hr

/-- the code of `IF c THEN p` (`l1` = the length of the THEN block) -/
def ifThenCode (c : Expr) (l1 : Nat) (c1 : Nat → List Opcode) (a : Nat) : List Opcode :=
  flat c ++ [Opcode.ifNot (a + ((flat c).length + 1 + l1))] ++ c1 (a + ((flat c).length + 1))

/-- the code of `IF c THEN p ELSE q` -/
def ifElseCode (c : Expr) (l1 l2 : Nat) (c1 c2 : Nat → List Opcode) (a : Nat) : List Opcode :=
  flat c ++ [Opcode.ifNot (a + ((flat c).length + 1 + l1 + 1))] ++ c1 (a + ((flat c).length + 1)) ++
    [Opcode.jump (a + ((flat c).length + 1 + l1 + 1 + l2))] ++ c2 (a + ((flat c).length + 1 + l1 + 1))

theorem ifThenCode_length (c : Expr) (l1 : Nat) (c1 : Nat → List Opcode) (hl1 : ∀ a, (c1 a).length = l1) (a : Nat) :
    (ifThenCode c l1 c1 a).length = (flat c).length + 1 + l1 := by
  simp only [ifThenCode, List.length_append, List.length_singleton, hl1]

theorem ifElseCode_length (c : Expr) (l1 l2 : Nat) (c1 c2 : Nat → List Opcode) (hl1 : ∀ a, (c1 a).length = l1)
    (hl2 : ∀ a, (c2 a).length = l2) (a : Nat) :
    (ifElseCode c l1 l2 c1 c2 a).length = (flat c).length + 1 + l1 + 1 + l2 := by
  simp only [ifElseCode, List.length_append, List.length_singleton, hl1, hl2]

theorem codeAt_ifThenCode {code : Array Opcode} (c : Expr) (l1 : Nat) (c1 : Nat → List Opcode) (a : Nat) :
    CodeAt code a (ifThenCode c l1 c1 a) ↔
      CodeAt code a (flat c) ∧ code[a + (flat c).length]? = some (Opcode.ifNot (a + ((flat c).length + 1 + l1))) ∧
      CodeAt code (a + ((flat c).length + 1)) (c1 (a + ((flat c).length + 1))) := by
  simp only [ifThenCode, codeAt_append, codeAt_singleton, List.length_append, List.length_singleton, and_assoc]

theorem codeAt_ifElseCode {code : Array Opcode} (c : Expr) (l1 l2 : Nat) (c1 c2 : Nat → List Opcode)
    (hl1 : ∀ a, (c1 a).length = l1) (a : Nat) :
    CodeAt code a (ifElseCode c l1 l2 c1 c2 a) ↔
      CodeAt code a (flat c) ∧
      code[a + (flat c).length]? = some (Opcode.ifNot (a + ((flat c).length + 1 + l1 + 1))) ∧
      CodeAt code (a + ((flat c).length + 1)) (c1 (a + ((flat c).length + 1))) ∧
      code[a + ((flat c).length + 1 + l1)]? = some (Opcode.jump (a + ((flat c).length + 1 + l1 + 1 + l2))) ∧
      CodeAt code (a + ((flat c).length + 1 + l1 + 1)) (c2 (a + ((flat c).length + 1 + l1 + 1))) := by
  simp only [ifElseCode, codeAt_append, codeAt_singleton, List.length_append, List.length_singleton, hl1, and_assoc]

theorem implements_ifThen {env : Env} {hie : Bool} {c : Expr} (hp : Spec.Pure c) {c1 : Nat → List Opcode} {f1 : Trans}
    (l1 : Nat) (hl1 : ∀ a, (c1 a).length = l1) (h1 : Implements env hie c1 f1) :
    Implements env hie (ifThenCode c l1 c1) (iteT c f1 skipT) := by
  intro s hpl r hr
  obtain ⟨hcode, htr, hroom, hgate⟩ := hpl
  rw [ifThenCode_length c l1 c1 hl1] at hroom ⊢
  obtain ⟨hcc, hci, hc1⟩ := (codeAt_ifThenCode c l1 c1 s.pc).1 hcode
  refine ite_ends env hie hp hcc hci htr (by omega) hr (fun hc hr => ?_) (fun hc hr => ?_)
  · have e1 := h1 _ (Placed.sub c1 _ s.vars s.stack hc1 htr (by rw [hl1]; omega) hgate) r hr
    rw [hl1] at e1
    exact Goes.ends hc e1 rfl
  · obtain rfl := Option.some.inj hr
    exact hc

theorem implements_ifThenElse {env : Env} {hie : Bool} {c : Expr} (hp : Spec.Pure c) {c1 c2 : Nat → List Opcode}
    {f1 f2 : Trans} (l1 l2 : Nat) (hl1 : ∀ a, (c1 a).length = l1) (hl2 : ∀ a, (c2 a).length = l2)
    (h1 : Implements env hie c1 f1) (h2 : Implements env hie c2 f2) :
    Implements env hie (ifElseCode c l1 l2 c1 c2) (iteT c f1 f2) := by
  intro s hpl r hr
  obtain ⟨hcode, htr, hroom, hgate⟩ := hpl
  rw [ifElseCode_length c l1 l2 c1 c2 hl1 hl2] at hroom ⊢
  obtain ⟨hcc, hci, hc1, hcj, hc2⟩ := (codeAt_ifElseCode c l1 l2 c1 c2 hl1 s.pc).1 hcode
  refine ite_ends env hie hp hcc hci htr (by omega) hr (fun hc hr => ?_) (fun hc hr => ?_)
  · have e1 := h1 _ (Placed.sub c1 _ s.vars s.stack hc1 htr (by rw [hl1]; omega) hgate) r hr
    rw [hl1] at e1
    cases r with
    | error e => exact hc.fails e1
    | ok σ' =>
      -- the jump over the ELSE part
      have hs := run_step_jump env hie { s with pc := s.pc + ((flat c).length + 1) + l1, vars := σ' } _
        htr (by rw [Nat.add_assoc]; exact hcj) (hgate.imp id (fun h => by show s.entryAddress ≤ _; omega))
      exact (hc.trans e1).trans (Goes.step hs)
  · have e2 := h2 _ (Placed.sub c2 _ s.vars s.stack hc2 htr (by rw [hl2]; omega) hgate) r hr
    rw [hl2] at e2
    exact Goes.ends hc e2 rfl

/-- the code of `WHILE c : p : WEND` (`lb` = the length of the body): the exit of the test is the
    address after the WEND's jump, the WEND jumps to the start of the condition -/
def whileCode (c : Expr) (lb : Nat) (body : Nat → List Opcode) (a : Nat) : List Opcode :=
  flat c ++ [Opcode.ifNot (a + ((flat c).length + 1 + lb + 1))] ++ body (a + ((flat c).length + 1)) ++ [Opcode.jump a]

theorem whileCode_length (c : Expr) (lb : Nat) (body : Nat → List Opcode) (hlb : ∀ a, (body a).length = lb) (a : Nat) :
    (whileCode c lb body a).length = (flat c).length + 1 + lb + 1 := by
  simp only [whileCode, List.length_append, List.length_singleton, hlb]

theorem codeAt_whileCode {code : Array Opcode} (c : Expr) (lb : Nat) (body : Nat → List Opcode)
    (hlb : ∀ a, (body a).length = lb) (a : Nat) :
    CodeAt code a (whileCode c lb body a) ↔
      CodeAt code a (flat c) ∧
      code[a + (flat c).length]? = some (Opcode.ifNot (a + ((flat c).length + 1 + lb + 1))) ∧
      CodeAt code (a + ((flat c).length + 1)) (body (a + ((flat c).length + 1))) ∧
      code[a + ((flat c).length + 1 + lb)]? = some (Opcode.jump a) := by
  simp only [whileCode, codeAt_append, codeAt_singleton, List.length_append, List.length_singleton, hlb, and_assoc]

theorem implements_whileStep {env : Env} {hie : Bool} {c : Expr} (hp : Spec.Pure c) {body : Nat → List Opcode}
    {fb g : Trans} (lb : Nat) (hlb : ∀ a, (body a).length = lb) (hb : Implements env hie body fb)
    (hg : Implements env hie (whileCode c lb body) g) :
    Implements env hie (whileCode c lb body) (whileStepT c fb g) := by
  intro s hpl r hr
  obtain ⟨hcode, htr, hroom, hgate⟩ := hpl
  have hlen := whileCode_length c lb body hlb s.pc
  obtain ⟨hcc, hci, hcb, hcj⟩ := (codeAt_whileCode c lb body hlb s.pc).1 hcode
  refine ite_ends env hie hp hcc hci htr (by omega) hr (fun hc hr => ?_) (fun hc hr => ?_)
  · have e1 := fun r1 => hb _ (Placed.sub body _ s.vars s.stack hcb htr (by rw [hlb]; omega) hgate) r1
    rw [hlb] at e1
    rcases seqT_some hr with ⟨e, hf, rfl⟩ | ⟨σ1, hf, hr⟩
    · exact hc.fails (e1 _ hf)
    · -- the WEND's jump, then the loop again from its start
      have hs := run_step_jump env hie { s with pc := s.pc + ((flat c).length + 1) + lb, vars := σ1 } s.pc
        htr (by rw [Nat.add_assoc]; exact hcj) hgate
      exact Goes.ends (off := 0) ((hc.trans (e1 _ hf)).trans (Goes.step hs))
        (hg { s with vars := σ1 } ⟨hcode, htr, hroom, hgate⟩ r hr) (Nat.zero_add _)
  · obtain rfl := Option.some.inj hr
    rw [hlen]
    exact hc

theorem implements_while {env : Env} {hie : Bool} {c : Expr} (hp : Spec.Pure c) {body : Nat → List Opcode}
    {fb : Trans} (lb : Nat) (hlb : ∀ a, (body a).length = lb) (hb : Implements env hie body fb) (n : Nat) :
    Implements env hie (whileCode c lb body) (whileT c fb n) := by
  induction n with
  | zero => intro s _ r hr; cases hr
  | succ n ih => exact implements_whileStep hp lb hlb hb ih

/-- **NEXT on a stack whose top is the frame of its loop** does what `Spec.nextStep` says (sign of the
    step as the machine computes it): the error; go round again — control to the body, frame kept —; or
    leave the loop — frame dropped, control falls through.  In the last two cases only `vars` (and `pc`,
    resp. `stack`) change.  The machine and `nextStep` make the same tests in the same order. -/
theorem doNext_nextStep (s : Runtime) (σ : Array Val) (toV stepV : Val) (vn name : Str) (addr : Nat)
    (hst : s.stack = σ ++ forFrame toV stepV vn addr) (hname : name = [] ∨ vn = name)
    (hb : s.stack.size ≤ Gen.stackMaxLen) :
    match nextStep stepNeg s.vars vn toV stepV with
    | none => True
    | some (.error e) => ∃ s', ((doNext name).run).run s = (.error e, s')
    | some (.ok (vars', true)) => ((doNext name).run).run s = (.ok (), { s with vars := vars', pc := addr })
    | some (.ok (vars', false)) => ((doNext name).run).run s = (.ok (), { s with vars := vars', stack := σ }) := by
  rw [doNext_on_frame s σ toV stepV vn name addr hst hname hb]
  unfold nextStep stepNeg
  cases s.vars.fetch vn with
  | error e => exact ⟨_, rfl⟩
  | ok cur0 =>
    simp only [bind, Except.bind]
    cases Ops.sum cur0 stepV with
    | error e => exact ⟨_, rfl⟩
    | ok cur =>
      dsimp only
      cases s.vars.store vn cur with
      | error e => exact ⟨_, rfl⟩
      | ok vars' =>
        dsimp only
        cases stepV.toF64 with
        | error x => trivial
        | ok st =>
          simp only [decide_eq_true_eq]
          cases (if st < 0 then Ops.less cur toV else Ops.less toV cur) with
          | error e => exact ⟨_, rfl⟩
          | ok done =>
            by_cases hd : done = .int (-1)
            · simp [hd]
            · simp [hd, beq_eq_false_iff_ne.2 hd]

/-- the passes of a FOR loop, started at the first op of the body with the frame on top of `base`: the
    loop is left with the frame dropped, past the NEXT -/
theorem for_loop {env : Env} {hie : Bool} {body : Nat → List Opcode} {fb : Trans} (lb : Nat)
    (hlb : ∀ a, (body a).length = lb) (hb : Implements env hie body fb) (name : Str) (toV stepV : Val) (n : Nat) :
    ∀ (t : Runtime) (base : Array Val), t.stack = base ++ forFrame toV stepV name t.pc →
      CodeAt t.program.link.ops t.pc (body t.pc ++ [Opcode.next name]) → t.tron = false →
      t.stack.size + lb ≤ Gen.stackMaxLen → (hie = false ∨ t.entryAddress ≤ t.pc) →
      ∀ r, forIter stepNeg fb name toV stepV n t.vars = some r →
        Reaches env hie t (fun σ' => { t with pc := t.pc + (lb + 1), stack := base, vars := σ' }) r := by
  induction n with
  | zero => intro t base _ _ _ _ _ r hr; cases hr
  | succ n ih =>
    intro t base hst hcode htr hroom hgate r hr
    have hbody := fun r1 => hb t ⟨hcode.left, htr, by rw [hlb]; exact hroom, hgate⟩ r1
    rw [hlb] at hbody
    rw [forIter, forStepT_eq_seqT] at hr
    rcases seqT_some hr with ⟨e, hf, rfl⟩ | ⟨σ1, hf, hr⟩
    · exact hbody _ hf
    · have e1 : Goes env hie t { t with pc := t.pc + lb, vars := σ1 } := hbody _ hf
      have hop := hcode.right.head
      rw [hlb] at hop
      have hs := run_step_unit env hie { t with pc := t.pc + lb, vars := σ1 } (doNext name) htr hop
      have hN := doNext_nextStep { t with pc := t.pc + lb + 1, vars := σ1 } base toV stepV name name t.pc
        hst (.inr rfl) (by show t.stack.size ≤ _; omega)
      dsimp only at hN
      split at hr
      · cases hr
      · next e hn =>
        obtain rfl := Option.some.inj hr
        rw [hn] at hN
        obtain ⟨s', hs'⟩ := hN
        rw [hs'] at hs
        exact e1.fails (Fails.step hs)
      · next σ2 hn =>
        -- round again: NEXT has put control back at the first op of the body
        rw [hn] at hN
        rw [hN] at hs
        exact (e1.trans (Goes.step hs)).reaches (ih { t with vars := σ2 } base hst hcode htr hroom hgate r hr)
      · next σ2 hn =>
        obtain rfl := Option.some.inj hr
        rw [hn] at hN
        rw [hN] at hs
        exact (e1.trans (Goes.step hs)).congr (by rw [Nat.add_assoc])

theorem step_literal_room (env : Env) (hie : Bool) (s : Runtime) (v : Val) (htr : s.tron = false)
    (hop : s.program.link.ops[s.pc]? = some (.literal v)) (hroom : s.stack.size + 1 ≤ Gen.stackMaxLen) :
    ((step env hie).run).run s = (.ok .continue, { s with pc := s.pc + 1, stack := s.stack.push v }) :=
  run_step_literal_room env hie s v htr hop hroom

/-- the length of the code FOR runs before the first pass -/
def forInitLen (a b s : Expr) : Nat := (flat a).length + 1 + (flat b).length + (flat s).length + 2

/-- the code of `FOR name = a TO b STEP s : p : NEXT name` (`lb` = the length of the body): start
    value, assignment, limit, step, the name and the address of the body as a `nxt` frame; the body;
    NEXT -/
def forCode (name : Str) (a b s : Expr) (body : Nat → List Opcode) (start : Nat) : List Opcode :=
  flat a ++ ([Opcode.pop name] ++ (flat b ++ (flat s ++ ([Opcode.literal (.str name)] ++
    ([Opcode.literal (.nxt (start + forInitLen a b s))] ++ (body (start + forInitLen a b s) ++ [Opcode.next name]))))))

theorem forCode_length (name : Str) (a b s : Expr) (lb : Nat) (body : Nat → List Opcode)
    (hlb : ∀ x, (body x).length = lb) (start : Nat) :
    (forCode name a b s body start).length = forInitLen a b s + lb + 1 := by
  simp only [forCode, forInitLen, List.length_append, List.length_singleton, hlb]
  omega

theorem codeAt_forCode {code : Array Opcode} (name : Str) (a b s : Expr) (lb : Nat) (body : Nat → List Opcode)
    (hlb : ∀ x, (body x).length = lb) (start : Nat) :
    CodeAt code start (forCode name a b s body start) ↔
      CodeAt code start (flat a ++ ([Opcode.pop name] ++ (flat b ++ (flat s ++ [Opcode.literal (.str name)])))) ∧
      code[start + ((flat a).length + 1 + (flat b).length + (flat s).length + 1)]? =
        some (Opcode.literal (.nxt (start + forInitLen a b s))) ∧
      CodeAt code (start + forInitLen a b s) (body (start + forInitLen a b s)) ∧
      CodeAt code (start + (forInitLen a b s + lb)) [Opcode.next name] := by
  have e : ∀ n, 1 + (1 + n) = 2 + n := fun n => by omega
  simp only [forCode, forInitLen, codeAt_append, codeAt_singleton, List.length_singleton, hlb, Nat.add_assoc, e,
    and_assoc]

end Lemmas.StructCompile

/- `forEntryCode` is named for `Lemmas/NoResidue.lean`, whose theorems on abandoned FOR loops are stated with it; it stands
   here because `for_entry_seg` below is about this code. -/
namespace Lemmas.NoResidue
open Basic.Lemmas.ExprCompile Basic.Lemmas.StructCompile

/-- the code FOR runs before the first pass (`forCode` without the body and the NEXT) -/
def forEntryCode (name : Str) (a b s : Expr) (start : Nat) : List Opcode :=
  flat a ++ ([Opcode.pop name] ++ (flat b ++ (flat s ++ ([Opcode.literal (.str name)] ++
    [Opcode.literal (.nxt (start + forInitLen a b s))]))))

theorem forEntryCode_length (name : Str) (a b s : Expr) (start : Nat) :
    (forEntryCode name a b s start).length = forInitLen a b s := by
  simp only [forEntryCode, forInitLen, List.length_append, List.length_singleton]
  omega

theorem forCode_eq_entry (name : Str) (a b s : Expr) (body : Nat → List Opcode) (start : Nat) :
    forCode name a b s body start =
      forEntryCode name a b s start ++ (body (start + forInitLen a b s) ++ [Opcode.next name]) := by
  simp only [forCode, forEntryCode, List.append_assoc]

end Lemmas.NoResidue

namespace Lemmas.StructCompile
open Basic.Spec Basic.Lemmas.ExprCompile Basic.Runtime

/-- **the entry code of FOR is `Spec.forInit`**: the start value assigned, limit and step evaluated in
    the new store, the frame pushed on whatever the stack holds — nothing inspects the stack —; or the
    first error -/
theorem for_entry_seg (env : Env) (hie : Bool) {a b st : Expr} (hpa : Spec.Pure a) (hpb : Spec.Pure b)
    (hps : Spec.Pure st) (name : Str) (s : Runtime) (pc : Nat) (stk : Array Val) (σ : Var)
    (hcode : CodeAt s.program.link.ops pc (NoResidue.forEntryCode name a b st pc)) (htr : s.tron = false)
    (hroom : stk.size + forInitLen a b st ≤ Gen.stackMaxLen) :
    Seg env hie (forInitLen a b st) (s.at pc stk σ) (forInit σ name a b st)
      (fun r => s.at (pc + forInitLen a b st) (stk ++ forFrame r.2.1 r.2.2 name (pc + forInitLen a b st)) r.1)
      (fun _ => True) := by
  unfold NoResidue.forEntryCode at hcode
  unfold forInitLen at hroom
  have hcb := hcode.right.right
  simp only [List.length_singleton] at hcb
  have hla := flat_length_pos hpa
  -- the chain is unified against the `do` block of `forInit` stage by stage: spell it out first
  show Seg env hie _ _ (eval σ a >>= fun x => σ.store name x >>= fun σ1 => eval σ1 b >>= fun t =>
    eval σ1 st >>= fun sv => .ok (σ1, t, sv)) _ _
  refine Seg.len (Seg.bind (expr_at env hie hpa s _ _ _ hcode.left htr (by omega)).any fun x _ =>
    Seg.bind (pop_at env hie s _ _ _ _ name hcode.right.left.head htr).any fun σ1 _ =>
    Seg.bind (expr_at env hie hpb s _ _ _ hcb.left htr (by omega)).any fun t _ =>
    Seg.bind (expr_at env hie hps s _ _ _ hcb.right.left htr (by rw [Array.size_push]; omega)).any fun sv _ =>
    Seg.runs (n := 1 + 1) (a := (σ1, t, sv)) <|
      (runSteps_ok_add (literal_at env hie s _ _ _ (.str name) hcb.right.right.left.head htr
        (by simp only [Array.size_push]; omega)) 1).trans
      ((literal_at env hie s _ _ _ _ hcb.right.right.right.head htr (by simp only [Array.size_push]; omega)).trans
        (by rw [show pc + (flat a).length + 1 + (flat b).length + (flat st).length +
                  [Opcode.literal (.str name)].length + 1 = pc + forInitLen a b st by
              simp only [forInitLen, List.length_singleton]; omega]
            rfl))) ?_
  unfold forInitLen
  omega

theorem implements_for {env : Env} {hie : Bool} {a b st : Expr} (hpa : Spec.Pure a) (hpb : Spec.Pure b)
    (hps : Spec.Pure st) {body : Nat → List Opcode} {fb : Trans} (lb : Nat) (hlb : ∀ x, (body x).length = lb)
    (hb : Implements env hie body fb) (name : Str) (n : Nat) :
    Implements env hie (forCode name a b st body) (forT stepNeg name a b st fb n) := by
  intro s hpl r hr
  obtain ⟨hcode, htr, hroom, hgate⟩ := hpl
  rw [forCode_length name a b st lb body hlb] at hroom ⊢
  rw [NoResidue.forCode_eq_entry] at hcode
  have hE := for_entry_seg env hie hpa hpb hps name s s.pc s.stack s.vars hcode.left htr (by omega)
  cases hi : forInit s.vars name a b st with
  | error e =>
    simp only [forT, hi] at hr
    obtain rfl := Option.some.inj hr
    obtain ⟨s', h, _⟩ := hE.run_error hi
    exact ⟨_, s', h _ (Nat.le_refl _)⟩
  | ok tr =>
    obtain ⟨σ1, t, sv⟩ := tr
    simp only [forT, hi] at hr
    have g : Goes env hie s _ := ⟨_, hE.run_ok hi⟩
    -- the passes, from the first op of the body with the frame on top
    have e7 := for_loop lb hlb hb name t sv n
      (s.at (s.pc + forInitLen a b st) (s.stack ++ forFrame t sv name (s.pc + forInitLen a b st)) σ1) s.stack rfl
      (by have := hcode.right; rwa [NoResidue.forEntryCode_length] at this) htr
      (by show (s.stack ++ forFrame t sv name _).size + lb ≤ _
          simp only [Array.size_append, forFrame]
          show s.stack.size + 4 + lb ≤ _
          unfold forInitLen at hroom
          omega)
      (hgate.imp id (fun h => Nat.le_trans h (Nat.le_add_right _ _))) r hr
    cases r with
    | error e => exact g.fails e7
    | ok σ' => exact (g.trans e7).congr (by simp only [Runtime.at, Nat.add_assoc])

def size : SStmt → Nat
  | .assign _ e => (flat e).length + 1
  | .seq p q => size p + size q
  | .ifThen c p => (flat c).length + 1 + size p
  | .ifThenElse c p q => (flat c).length + 1 + size p + 1 + size q
  | .while c p => (flat c).length + 1 + size p + 1
  | .for _ a b s p => forInitLen a b s + size p + 1

/-- **the code** of a structured statement placed at address `a` (the linked form: jump targets are
    absolute) -/
def compile : SStmt → Nat → List Opcode
  | .assign name e, _ => flat e ++ [Opcode.pop name]
  | .seq p q, a => compile p a ++ compile q (a + size p)
  | .ifThen c p, a => ifThenCode c (size p) (compile p) a
  | .ifThenElse c p q, a => ifElseCode c (size p) (size q) (compile p) (compile q) a
  | .while c p, a => whileCode c (size p) (compile p) a
  | .for name x y z p, a => forCode name x y z (compile p) a

theorem compile_length : ∀ (p : SStmt) (a : Nat), (compile p a).length = size p
  | .assign _ e, _ => by simp only [compile, size, List.length_append, List.length_singleton]
  | .seq p q, a => by
    simp only [compile, size, List.length_append, compile_length p, compile_length q]
  | .ifThen c p, a => by
    simp only [compile, size]
    exact ifThenCode_length c _ _ (compile_length p) a
  | .ifThenElse c p q, a => by
    simp only [compile, size]
    exact ifElseCode_length c _ _ _ _ (compile_length p) (compile_length q) a
  | .while c p, a => by
    simp only [compile, size]
    exact whileCode_length c _ _ (compile_length p) a
  | .for name x y z p, a => by
    simp only [compile, size]
    exact forCode_length name x y z _ _ (compile_length p) a

/-- **Compiled structured statements follow the semantics** (sign of a FOR step as the machine computes
    it): for every fuel, the code of `p` implements `exec fuel · p` -/
theorem exec_implemented (env : Env) (hie : Bool) :
    ∀ (fuel : Nat) (p : SStmt), p.Pure → Implements env hie (compile p) (fun σ => exec fuel σ p) := by
  intro fuel
  induction fuel with
  | zero => intro p _ s _ r hr; cases hr
  | succ fuel ih =>
    intro p hp
    cases p with
    | assign name e => exact implements_assign env hie name hp
    | seq p q =>
      have := implements_seq (size p) (compile_length p) (ih p hp.1) (ih q hp.2)
      exact this
    | ifThen c p => exact implements_ifThen hp.1 (size p) (compile_length p) (ih p hp.2)
    | ifThenElse c p q =>
      exact implements_ifThenElse hp.1 (size p) (size q) (compile_length p) (compile_length q) (ih p hp.2.1) (ih q hp.2.2)
    | «while» c p =>
      exact implements_whileStep hp.1 (size p) (compile_length p) (ih p hp.2) (ih (.while c p) hp)
    | «for» name a b st p =>
      exact implements_for hp.1 hp.2.1 hp.2.2.1 (size p) (compile_length p) (ih p hp.2.2.2) name fuel

end Lemmas.StructCompile
end Basic

import BasicModel.Lemmas.RenumAccept
import BasicModel.Lemmas.Layout
/-
  RENUM and the compiler, part 6: the program under construction, the linker, `compile`.

  At program level the keys of the symbol table are renumbered too (`mapSyms`).  `K` is the set of
  line numbers of the listing together with the mark 65530 of the direct segment; the renumbering
  must be strictly monotone on it (`LineMap`): then `symInsert` commutes with it and lookups agree.
  From the linker on there is one side condition, `RefsOK`: every pending reference resolves alike in both
  tables (no dangling reference to a number that RENUM makes a line number); `refs_of_clean`: it holds for a
  listing that compiles without errors.
-/
namespace Basic
namespace RenumRel
open Link Codegen

variable {φ : Nat → Nat} {K : Nat → Prop}

variable (φ K) in
/-- what the renumbering must satisfy: strictly monotone on the line numbers of the listing and the
    mark of the direct segment, which stays -/
structure LineMap : Prop where
  mono : ∀ i j, K i → K j → i < j → φ i < φ j
  top : K (Gen.maxLineNumber + 1)
  topFix : φ (Gen.maxLineNumber + 1) = Gen.maxLineNumber + 1
  bound : ∀ k, K k → (φ k ≤ Gen.maxLineNumber ↔ k ≤ Gen.maxLineNumber)

variable (K) in
/-- a key of the program's symbol table: a local label or a line of the listing -/
def KeyOK (s : Symbol) : Prop := s < 0 ∨ ∃ n : Nat, s = (n : Int) ∧ K n

variable (φ) in
def mapSyms (m : List (Symbol × (Nat × Nat))) : List (Symbol × (Nat × Nat)) := m.map fun p => (symMap φ p.1, p.2)

theorem symMap_lt (hm : LineMap φ K) {s t : Symbol} (hs : KeyOK K s) (ht : KeyOK K t) (h : s < t) :
    symMap φ s < symMap φ t := by
  rcases hs with hs | ⟨n, rfl, hn⟩
  · rw [symMap_neg φ hs]
    rcases ht with ht | ⟨m, rfl, _⟩
    · rw [symMap_neg φ ht]; exact h
    · rw [symMap_nat]; simp only [Symbol] at *; omega
  · rcases ht with ht | ⟨m, rfl, hk⟩
    · simp only [Symbol] at *; omega
    · rw [symMap_nat, symMap_nat]
      have := hm.mono n m hn hk (by simp only [Symbol] at h; omega)
      simp only [Symbol]; omega

theorem symMap_lt_iff (hm : LineMap φ K) {s t : Symbol} (hs : KeyOK K s) (ht : KeyOK K t) :
    symMap φ s < symMap φ t ↔ s < t := by
  refine ⟨fun h => ?_, symMap_lt hm hs ht⟩
  rcases Int.lt_trichotomy s t with h1 | rfl | h1
  · exact h1
  · exact absurd h (Int.lt_irrefl _)
  · exact absurd (symMap_lt hm ht hs h1) (Int.lt_asymm h)

theorem symMap_eq_iff (hm : LineMap φ K) {s t : Symbol} (hs : KeyOK K s) (ht : KeyOK K t) :
    symMap φ s = symMap φ t ↔ s = t := by
  refine ⟨fun h => ?_, fun h => by rw [h]⟩
  rcases Int.lt_trichotomy s t with h1 | h1 | h1
  · exact absurd h (Int.ne_of_lt (symMap_lt hm hs ht h1))
  · exact h1
  · exact absurd h.symm (Int.ne_of_lt (symMap_lt hm ht hs h1))

theorem symInsert_map (hm : LineMap φ K) {k : Symbol} (hk : KeyOK K k) (v : Nat × Nat) :
    ∀ {m : List (Symbol × (Nat × Nat))}, (∀ p ∈ m, KeyOK K p.1) →
    symInsert (symMap φ k) v (mapSyms φ m) = mapSyms φ (symInsert k v m)
  | [], _ => rfl
  | (k', v') :: rest, h => by
    have hk' : KeyOK K k' := h (k', v') List.mem_cons_self
    show symInsert (symMap φ k) v ((symMap φ k', v') :: mapSyms φ rest) = _
    simp only [symInsert]
    by_cases h1 : k < k'
    · rw [if_pos h1, if_pos ((symMap_lt_iff hm hk hk').2 h1)]; rfl
    · rw [if_neg h1, if_neg (fun h => h1 ((symMap_lt_iff hm hk hk').1 h))]
      by_cases h2 : k = k'
      · rw [if_pos h2, if_pos ((symMap_eq_iff hm hk hk').2 h2)]; rfl
      · rw [if_neg h2, if_neg (fun h => h2 ((symMap_eq_iff hm hk hk').1 h))]
        rw [symInsert_map hm hk v (fun p hp => h p (List.mem_cons_of_mem _ hp))]
        rfl

theorem mem_symInsert_keyOK {k : Symbol} (hk : KeyOK K k) {v : Nat × Nat} {m : List (Symbol × (Nat × Nat))}
    (h : ∀ p ∈ m, KeyOK K p.1) : ∀ p ∈ symInsert k v m, KeyOK K p.1 := by
  intro p hp
  rcases mem_symInsert hp with rfl | hp
  · exact hk
  · exact h p hp

theorem lookup_mapSyms (hm : LineMap φ K) {s : Symbol} (hs : KeyOK K s) :
    ∀ {m : List (Symbol × (Nat × Nat))}, (∀ p ∈ m, KeyOK K p.1) → (mapSyms φ m).lookup (symMap φ s) = m.lookup s
  | [], _ => rfl
  | (k, v) :: rest, h => by
    have hk : KeyOK K k := h (k, v) List.mem_cons_self
    show List.lookup (symMap φ s) ((symMap φ k, v) :: mapSyms φ rest) = _
    rw [List.lookup_cons_eq, List.lookup_cons_eq]
    by_cases h1 : s = k
    · rw [if_pos h1, if_pos ((symMap_eq_iff hm hs hk).2 h1)]
    · rw [if_neg h1, if_neg (fun h => h1 ((symMap_eq_iff hm hs hk).1 h))]
      exact lookup_mapSyms hm hs (fun p hp => h p (List.mem_cons_of_mem _ hp))

variable (φ K) in
/-- the program's link object: as for fragments, but the keys of the symbol table are renumbered -/
structure ProgLinkRel (l l' : Link) : Prop extends LinkCore φ l l' where
  symbols : l'.symbols = mapSyms φ l.symbols
  keys : ∀ p ∈ l.symbols, KeyOK K p.1

theorem ProgLinkRel.empty : ProgLinkRel φ K {} {} := ⟨LinkCore.empty, rfl, fun _ h => nomatch h⟩

theorem ProgLinkRel.size {l l' : Link} (h : ProgLinkRel φ K l l') : l'.ops.size = l.ops.size := h.toLinkCore.size

theorem ProgLinkRel.push {l l' : Link} (h : ProgLinkRel φ K l l') (op : Opcode) :
    ProgLinkRel φ K (l.push op).1 (l'.push op).1 ∧ (l'.push op).2 = (l.push op).2 :=
  ⟨⟨(h.toLinkCore.push op).1, h.symbols, h.keys⟩, (h.toLinkCore.push op).2⟩

theorem ProgLinkRel.pushSymbol (hm : LineMap φ K) {l l' : Link} (h : ProgLinkRel φ K l l') {n : Nat} (hn : K n) :
    ProgLinkRel φ K (l.pushSymbol n) (l'.pushSymbol (φ n)) := by
  have hk : KeyOK K (n : Int) := .inr ⟨n, rfl, hn⟩
  refine { h with symbols := ?_, keys := ?_ }
  · show symInsert ((φ n : Nat) : Int) (l'.ops.size, l'.data.size) l'.symbols = mapSyms φ (symInsert n (l.ops.size, l.data.size) l.symbols)
    rw [h.size, h.data, h.symbols, ← symMap_nat, symInsert_map hm hk _ h.keys]
  · exact mem_symInsert_keyOK hk h.keys

theorem foldl_symInsert_map (hm : LineMap φ K) {so : Int} (hso : so ≤ 0) (oo dd : Nat)
    (bs : List (Symbol × (Nat × Nat))) (hb : ∀ p ∈ bs, p.1 < 0) :
    ∀ {m : List (Symbol × (Nat × Nat))}, (∀ p ∈ m, KeyOK K p.1) →
    bs.foldl (fun m p => symInsert (rebase so p.1) (p.2.1 + oo, p.2.2 + dd) m) (mapSyms φ m) =
      mapSyms φ (bs.foldl (fun m p => symInsert (rebase so p.1) (p.2.1 + oo, p.2.2 + dd) m) m) ∧
    ∀ p ∈ bs.foldl (fun m p => symInsert (rebase so p.1) (p.2.1 + oo, p.2.2 + dd) m) m, KeyOK K p.1 := by
  induction bs with
  | nil => intro m hmk; exact ⟨rfl, hmk⟩
  | cons b rest ih =>
    intro m hmk
    have hb0 : b.1 < 0 := hb b List.mem_cons_self
    have hneg : rebase so b.1 < 0 := by unfold rebase; rw [if_pos hb0]; simp only [Symbol] at *; omega
    have hk : KeyOK K (rebase so b.1) := .inl hneg
    simp only [List.foldl_cons]
    have e : symInsert (rebase so b.1) (b.2.1 + oo, b.2.2 + dd) (mapSyms φ m) =
        mapSyms φ (symInsert (rebase so b.1) (b.2.1 + oo, b.2.2 + dd) m) := by
      have := symInsert_map hm hk (b.2.1 + oo, b.2.2 + dd) hmk
      rwa [symMap_neg φ hneg] at this
    rw [e]
    exact ih (fun p hp => hb p (List.mem_cons_of_mem _ hp)) (mem_symInsert_keyOK hk hmk)

theorem appendSymbols_prog (hm : LineMap φ K) {a a' b b' : Link} (ha : ProgLinkRel φ K a a') (hb : FragRel φ b b')
    (hn : ∀ p ∈ b.symbols, p.1 < 0) :
    appendSymbols a' b' = mapSyms φ (appendSymbols a b) ∧ ∀ p ∈ appendSymbols a b, KeyOK K p.1 := by
  unfold appendSymbols
  rw [ha.symbols, hb.symbols, ha.cur, ha.size, ha.data]
  exact foldl_symInsert_map hm ha.curNeg _ _ _ hn ha.keys

theorem ProgLinkRel.append (hm : LineMap φ K) {a a' b b' : Link} (ha : ProgLinkRel φ K a a') (hb : FragRel φ b b')
    (hn : ∀ p ∈ b.symbols, p.1 < 0) :
    ProgLinkRel φ K (a.append b).1 (a'.append b').1 ∧ (a'.append b').2 = (a.append b).2 :=
  have hs := appendSymbols_prog hm ha hb hn
  ha.toLinkCore.append_of hb.toLinkCore ha ⟨ha.toLinkCore.appended_noData hb.toLinkCore, hs.1, hs.2⟩
    ⟨ha.toLinkCore.appended hb.toLinkCore, hs.1, hs.2⟩

/-- the two runs of `appendMany` over related fragments, in step (`Link.appendMany_rel` is the case of one list) -/
theorem appendMany_rel₂ (hm : LineMap φ K) {frags frags' : List (Col × Link)} (hf : All₂ (EntryRel φ) frags frags')
    (hn : ∀ x ∈ frags, ∀ p ∈ x.2.symbols, p.1 < 0) :
    ∀ {l l' : Link}, ProgLinkRel φ K l l' →
    ProgLinkRel φ K (appendMany l (frags.map (·.2))).1 (appendMany l' (frags'.map (·.2))).1 ∧
    (appendMany l' (frags'.map (·.2))).2 = (appendMany l (frags.map (·.2))).2 := by
  induction hf with
  | nil => intro l l' hl; exact ⟨hl, rfl⟩
  | @cons x x' rest rest' hx _ ih =>
    intro l l' hl
    rcases x with ⟨c, f⟩
    rcases x' with ⟨c', f'⟩
    have ha := hl.append hm hx (hn (c, f) List.mem_cons_self)
    rw [List.map_cons, List.map_cons]
    unfold appendMany
    generalize l.append f = r at ha
    generalize l'.append f' = r' at ha
    rcases r with ⟨l1, r1⟩
    rcases r' with ⟨l1', r1'⟩
    dsimp only at ha ⊢
    obtain ⟨h1, rfl⟩ := ha
    cases r1' with
    | ok u => exact ih (fun y hy => hn y (List.mem_cons_of_mem _ hy)) h1
    | error e => exact ⟨h1, rfl⟩

theorem codegen_rel (hm : LineMap φ K) {ast ast' : List Stmt} (h : StmtsRel φ ast ast') {l l' : Link}
    (hl : ProgLinkRel φ K l l') :
    ProgLinkRel φ K (codegen l ast).1 (codegen l' ast').1 ∧ All₂ ErrRel (codegen l ast).2 (codegen l' ast').2 := by
  have hf := fragments_rel h
  obtain ⟨h1, h2⟩ := appendMany_rel₂ hm hf.1 (fun x hx => (fragments_negSyms ast x hx).2) hl
  rw [codegen_eq, codegen_eq l', h2]
  refine ⟨h1, hf.2.append ?_⟩
  split
  · exact .nil
  · exact .cons (ErrRel.refl _) .nil

open Program

variable (φ K) in
structure ProgRel (p p' : Program) : Prop where
  link : ProgLinkRel φ K p.link p'.link
  errors : All₂ ErrRel p.errors p'.errors
  indirectErrors : All₂ ErrRel p.indirectErrors p'.indirectErrors
  directAddress : p'.directAddress = p.directAddress

theorem ProgRel.empty : ProgRel φ K {} {} := ⟨ProgLinkRel.empty, .nil, .nil, rfl⟩

variable (φ K) in
/-- a line of the listing and its renumbered version: the number is renumbered, both parse, to
    statements equal up to columns with renumbered operands -/
def LineRel (line line' : Line) : Prop :=
  ∃ n ast ast', line.number = some n ∧ K n ∧ line'.number = some (φ n) ∧
    Parse.parse line.number line.tokens = .ok ast ∧ Parse.parse line'.number line'.tokens = .ok ast' ∧
    StmtsRel φ ast ast'

theorem All₂.map_inLine {es es' : List Error} (h : All₂ ErrRel es es') (a a' : Option Nat) :
    All₂ ErrRel (es.map (·.inLine a)) (es'.map (·.inLine a')) := by
  induction h with
  | nil => exact .nil
  | cons hab _ ih => exact .cons (hab.inLine a a') ih

theorem genAst_rel (hm : LineMap φ K) {ast ast' : List Stmt} (hs : StmtsRel φ ast ast') {q q' : Program}
    (hq : ProgRel φ K q q') : ProgRel φ K (genAst q ast) (genAst q' ast') :=
  have hc := codegen_rel hm hs hq.link
  ⟨hc.1, hq.errors.append (All₂.map_inLine hc.2 _ _), hq.indirectErrors, hq.directAddress⟩

theorem startLine_some_rel (hm : LineMap φ K) {n : Nat} (hk : K n) {q q' : Program} (hq : ProgRel φ K q q') :
    ProgRel φ K (startLine q (some n)) (startLine q' (some (φ n))) :=
  ⟨hq.link.pushSymbol hm hk, hq.errors, hq.indirectErrors, hq.directAddress⟩

theorem codegenLine_rel (hm : LineMap φ K) {line line' : Line} (hl : LineRel φ K line line') {p p' : Program}
    (hp : ProgRel φ K p p') : ProgRel φ K (p.codegenLine line) (p'.codegenLine line') := by
  obtain ⟨n, ast, ast', h1, hk, h2, h3, h4, hs⟩ := hl
  rw [codegenLine_eq, codegenLine_eq, h3, h4, h1, h2]
  exact genAst_rel hm hs (startLine_some_rel hm hk hp)

theorem codegenLines_rel (hm : LineMap φ K) {ls ls' : List Line} (hl : All₂ (LineRel φ K) ls ls') :
    ∀ {p p' : Program}, ProgRel φ K p p' → ProgRel φ K (p.codegenLines ls) (p'.codegenLines ls') := by
  unfold codegenLines
  induction hl with
  | nil => intro p p' hp; exact hp
  | cons hab _ ih => intro p p' hp; rw [List.foldl_cons, List.foldl_cons]; exact ih (codegenLine_rel hm hab hp)

theorem back?_rel {l l' : Link} (h : LinkCore φ l l') : l'.ops.back? = l.ops.back? := by
  rw [← Array.getLast?_toList, ← Array.getLast?_toList]
  exact h.ops.getLast?

theorem any_mapSyms (P : Nat × Nat → Bool) (m : List (Symbol × (Nat × Nat))) :
    (mapSyms φ m).any (fun p => P p.2) = m.any (fun p => P p.2) := by
  unfold mapSyms
  rw [List.any_map]
  rfl

theorem hasLineAtEnd_rel {l l' : Link} (h : ProgLinkRel φ K l l') : l'.hasLineAtEnd = l.hasLineAtEnd := by
  unfold hasLineAtEnd
  rw [h.symbols, h.size]
  exact any_mapSyms (fun v => v.1 == l.ops.size) l.symbols

theorem pushEndP_rel {p p' : Program} (hp : ProgRel φ K p p') : ProgRel φ K (pushEndP p) (pushEndP p') := by
  rw [pushEndP_eq, pushEndP_eq p', hp.link.size]
  refine ⟨(hp.link.push .end).1, ?_, hp.indirectErrors, hp.directAddress⟩
  dsimp only
  split
  · exact hp.errors.append (.cons (ErrRel.refl _) .nil)
  · exact hp.errors

theorem ensureEnd_rel {p p' : Program} (hp : ProgRel φ K p p') : ProgRel φ K (ensureEnd p) (ensureEnd p') := by
  rw [ensureEnd_eq p', ensureEnd_eq p, back?_rel hp.link.toLinkCore, hasLineAtEnd_rel hp.link]
  split
  · exact hp
  · exact pushEndP_rel hp

/-- an open WHILE on the matching stack -/
def StRel (x x' : Col × Nat × Symbol) : Prop := x'.2.1 = x.2.1 ∧ x'.2.2 = x.2.2 ∧ x.2.2 < 0

theorem linkWhiles_go_rel (l l' : Link) : ∀ {ws ws' : List (Bool × Col × Nat × Symbol)}, All₂ WhRel ws ws' →
    ∀ {st st' : List (Col × Nat × Symbol)}, All₂ StRel st st' →
    ∀ {unl unl' : List (Nat × (Col × Symbol))}, All₂ (UnlRel φ) unl unl' →
    ∀ {errs errs' : List Error}, All₂ ErrRel errs errs' →
    All₂ (UnlRel φ) (linkWhiles.go l ws st unl errs).1 (linkWhiles.go l' ws' st' unl' errs').1 ∧
    All₂ ErrRel (linkWhiles.go l ws st unl errs).2.1 (linkWhiles.go l' ws' st' unl' errs').2.1 ∧
    All₂ StRel (linkWhiles.go l ws st unl errs).2.2 (linkWhiles.go l' ws' st' unl' errs').2.2 := by
  intro ws ws' hws
  induction hws with
  | nil => intro st st' hst unl unl' hu errs errs' he; exact ⟨hu, he, hst⟩
  | @cons w w' rest rest' hw _ ih =>
    intro st st' hst unl unl' hu errs errs' he
    rcases w with ⟨k, c, a, s⟩
    rcases w' with ⟨k', c', a', s'⟩
    obtain ⟨h1, h2, h3, h4⟩ := hw
    dsimp only at h1 h2 h3 h4
    subst h1 h2 h3
    cases k' with
    | true => exact ih (.cons (show StRel (c, a', s') (c', a', s') from ⟨rfl, rfl, h4⟩) hst) hu he
    | false =>
      cases hst with
      | nil => exact ih .nil hu (he.append (.cons ⟨rfl, rfl⟩ .nil))
      | @cons x x' st1 st1' hx hst1 =>
        rcases x with ⟨wc, wa, ws1⟩
        rcases x' with ⟨wc', wa', ws1'⟩
        obtain ⟨g1, g2, g3⟩ := hx
        dsimp only at g1 g2 g3
        subst g1 g2
        refine ih hst1 (unlInsert_rel ?_ (unlInsert_rel ?_ hu)) he
        · exact (symMap_neg φ g3).symm
        · exact (symMap_neg φ h4).symm

theorem linkWhiles_rel {l l' : Link} (h : LinkCore φ l l') :
    All₂ (UnlRel φ) (pend l) (pend l') ∧
    All₂ ErrRel (whileErrs l.lineNumberFor l) (whileErrs l'.lineNumberFor l') := by
  have hg := linkWhiles_go_rel (φ := φ) l l' h.whiles (st := []) (st' := []) .nil h.unlinked (errs := []) (errs' := []) .nil
  rw [← pend_eq_linkWhiles, ← pend_eq_linkWhiles,
    show whileErrs l.lineNumberFor l = l.linkWhiles.2 by rw [linkWhiles_matches]; rfl,
    show whileErrs l'.lineNumberFor l' = l'.linkWhiles.2 by rw [linkWhiles_matches]; rfl]
  unfold linkWhiles
  generalize linkWhiles.go l l.whiles [] l.unlinked [] = r at hg
  generalize linkWhiles.go l' l'.whiles [] l'.unlinked [] = r' at hg
  rcases r with ⟨unl, errs, stack⟩
  rcases r' with ⟨unl', errs', stack'⟩
  refine ⟨hg.1, hg.2.1.append ?_⟩
  have hs : All₂ StRel stack stack' := hg.2.2
  clear hg
  induction hs with
  | nil => exact .nil
  | cons hab _ ih => exact .cons ⟨rfl, rfl⟩ ih

variable (φ) in
/-- a reference resolves alike in the old table and in the renumbered one -/
def RefOK (m : List (Symbol × (Nat × Nat))) (s : Symbol) : Prop :=
  (mapSyms φ m).lookup (symMap φ s) = m.lookup s

variable (φ) in
/-- the side condition of linking under a renumbering: every pending reference (after WHILE / WEND matching, `pend`) is a
    local label or resolves alike in both tables -/
def RefsOK (l : Link) : Prop := ∀ q ∈ pend l, q.2.2 < 0 ∨ RefOK φ l.symbols q.2.2

theorem refsOK_iff (l : Link) :
    RefsOK φ l ↔ ∀ q ∈ l.linkWhiles.1.unlinked, q.2.2 < 0 ∨ RefOK φ l.symbols q.2.2 := by
  rw [pend_eq_linkWhiles]
  rfl

theorem refOK_of_keyOK (hm : LineMap φ K) {m : List (Symbol × (Nat × Nat))} (hk : ∀ p ∈ m, KeyOK K p.1) {s : Symbol}
    (hs : KeyOK K s) : RefOK φ m s := lookup_mapSyms hm hs hk

theorem symMap_ge_iff (s : Symbol) : symMap φ s ≥ 0 ↔ s ≥ 0 := by
  have := symMap_neg_iff φ s
  simp only [Symbol] at *
  omega

theorem filter_mapSyms (m : List (Symbol × (Nat × Nat))) :
    (mapSyms φ m).filter (fun p => p.1 ≥ 0) = mapSyms φ (m.filter (fun p => p.1 ≥ 0)) := by
  unfold mapSyms
  rw [List.filter_map]
  congr 1
  apply List.filter_congr
  intro p _
  show decide (symMap φ p.1 ≥ 0) = decide (p.1 ≥ 0)
  rw [decide_eq_decide]
  exact symMap_ge_iff _

theorem isPatch_of_patched {op op' : Opcode} {o d : Nat} (h : patched op o d = some op') : IsPatch op := by
  unfold patched at h
  split at h <;> first | trivial | cases h

theorem errRel_linkOneErr (ln ln' : Option Nat) (c c' : Col) (b : Bool) :
    ErrRel (linkOneErr ln c b) (linkOneErr ln' c' b) := by
  unfold linkOneErr
  cases b <;> exact ⟨rfl, rfl⟩

theorem passStep_rel {syms syms' : List (Symbol × (Nat × Nat))} {ln ln' : Nat → Option Nat}
    {p p' : Nat × (Col × Symbol)} (hp : UnlRel φ p p') (hs : syms'.lookup (symMap φ p.2.2) = syms.lookup p.2.2)
    {acc acc' : Array Opcode × List Error} (ho : OpsRel φ acc.1.toList acc'.1.toList) (he : All₂ ErrRel acc.2 acc'.2) :
    OpsRel φ (passStep syms ln acc p).1.toList (passStep syms' ln' acc' p').1.toList ∧
    All₂ ErrRel (passStep syms ln acc p).2 (passStep syms' ln' acc' p').2 := by
  unfold passStep
  rw [hp.1, hp.2, hs, show decide (symMap φ p.2.2 ≥ 0) = decide (p.2.2 ≥ 0) from
    decide_eq_decide.2 (symMap_ge_iff _)]
  cases syms.lookup p.2.2 with
  | none => exact ⟨ho, he.append (.cons (errRel_linkOneErr ..) .nil)⟩
  | some od =>
    dsimp only
    -- the op at the address: the same on both sides, or a line literal on both (which takes no operand)
    have hb : acc'.1[p.1]?.bind (patched · od.1 od.2) = acc.1[p.1]?.bind (patched · od.1 od.2) := by
      have := ho.getElem? p.1
      rw [Array.getElem?_toList, Array.getElem?_toList] at this
      rcases this with e | ⟨n, n', e1, e2⟩
      · rw [e]
      · rw [e1, e2]; rfl
    rw [hb]
    cases hx : acc.1[p.1]?.bind (patched · od.1 od.2) with
    | none => exact ⟨ho, he.append (.cons (errRel_linkOneErr ..) .nil)⟩
    | some op' =>
      obtain ⟨op, hop, hpa⟩ := Option.bind_eq_some_iff.1 hx
      refine ⟨?_, he⟩
      show OpsRel φ (acc.1.setIfInBounds p.1 op').toList (acc'.1.setIfInBounds p.1 op').toList
      rw [Array.toList_setIfInBounds, Array.toList_setIfInBounds]
      exact ho.set (by rw [Array.getElem?_toList]; exact hop) (isPatch_of_patched hpa) op'

theorem pass_rel {syms syms' : List (Symbol × (Nat × Nat))} {ln ln' : Nat → Option Nat}
    {ps ps' : List (Nat × (Col × Symbol))} (hps : All₂ (UnlRel φ) ps ps')
    (hs : ∀ p ∈ ps, syms'.lookup (symMap φ p.2.2) = syms.lookup p.2.2) :
    ∀ {acc acc' : Array Opcode × List Error}, OpsRel φ acc.1.toList acc'.1.toList → All₂ ErrRel acc.2 acc'.2 →
      OpsRel φ (pass syms ln ps acc).1.toList (pass syms' ln' ps' acc').1.toList ∧
      All₂ ErrRel (pass syms ln ps acc).2 (pass syms' ln' ps' acc').2 := by
  induction hps with
  | nil => intro _ _ ho he; exact ⟨ho, he⟩
  | @cons p p' rest rest' hp _ ih =>
    intro acc acc' ho he
    obtain ⟨g1, g2⟩ := passStep_rel (ln := ln) (ln' := ln') hp (hs p List.mem_cons_self) ho he
    exact ih (fun q hq => hs q (List.mem_cons_of_mem _ hq)) g1 g2

theorem link_rel {l l' : Link} (h : ProgLinkRel φ K l l')
    (hr : RefsOK φ l) (hm : LineMap φ K) :
    ProgLinkRel φ K l.link.1 l'.link.1 ∧ All₂ ErrRel l.link.2 l'.link.2 := by
  obtain ⟨hu, hw⟩ := linkWhiles_rel h.toLinkCore
  obtain ⟨g1, g2⟩ := pass_rel (ln := l.lineNumberFor) (ln' := l'.lineNumberFor) hu
    (syms := l.symbols) (syms' := l'.symbols)
    (fun p hp => by
      rw [h.symbols]
      exact (hr p hp).elim (fun h2 => refOK_of_keyOK hm h.keys (.inl h2)) id)
    (acc := (l.ops, whileErrs l.lineNumberFor l)) (acc' := (l'.ops, whileErrs l'.lineNumberFor l')) h.ops hw
  rw [link_eq_pass, link_eq_pass l']
  refine ⟨⟨⟨rfl, Int.le_refl 0, g1, h.data, h.dataPos, h.directSet, .nil, .nil⟩, ?_, ?_⟩, g2⟩
  · show List.filter _ l'.symbols = mapSyms φ (List.filter _ l.symbols)
    rw [h.symbols, filter_mapSyms]
  · exact fun p hp => h.keys p (List.mem_filter.1 hp).1

theorem resolve_rel (hm : LineMap φ K) {p p' : Program} (hp : ProgRel φ K p p')
    (hr : RefsOK φ p.link) :
    ProgRel φ K (resolve p) (resolve p') := by
  have hl := link_rel hp.link hr hm
  rw [resolve_eq, resolve_eq, All₂.isEmpty_eq hp.errors]
  split
  · exact ⟨hl.1, hl.2, hp.indirectErrors, hp.directAddress⟩
  · exact ⟨hl.1, hp.errors, hp.indirectErrors, hp.directAddress⟩

theorem setStartOfDirect_rel (hm : LineMap φ K) {l l' : Link} (h : ProgLinkRel φ K l l') (a : Nat) :
    ProgLinkRel φ K (l.setStartOfDirect a) (l'.setStartOfDirect a) := by
  have hcast : (Gen.maxLineNumber : Int) + 1 = ((Gen.maxLineNumber + 1 : Nat) : Int) := by omega
  have hk : KeyOK K ((Gen.maxLineNumber : Int) + 1) := .inr ⟨_, hcast, hm.top⟩
  have hfix : symMap φ ((Gen.maxLineNumber : Int) + 1) = (Gen.maxLineNumber : Int) + 1 := by
    rw [hcast, symMap_nat, hm.topFix]
  refine { h with directSet := rfl, symbols := ?_, keys := ?_ }
  · show symInsert ((Gen.maxLineNumber : Int) + 1) (a, l'.data.size) l'.symbols =
      mapSyms φ (symInsert ((Gen.maxLineNumber : Int) + 1) (a, l.data.size) l.symbols)
    rw [h.data, h.symbols, ← symInsert_map hm hk _ h.keys, hfix]
  · exact mem_symInsert_keyOK hk h.keys

theorem markDirect_rel (hm : LineMap φ K) {p p' : Program} (hp : ProgRel φ K p p') :
    ProgRel φ K (markDirect p) (markDirect p') := by
  unfold markDirect
  rw [hp.directAddress, hp.link.size]
  split
  · exact ⟨setStartOfDirect_rel hm hp.link _, .nil, hp.errors, rfl⟩
  · exact hp

theorem linkProg_rel (hm : LineMap φ K) {p p' : Program} (hp : ProgRel φ K p p')
    (hr : RefsOK φ p.link) :
    ProgRel φ K p.linkProg p'.linkProg := by
  rw [linkProg_eq, linkProg_eq]
  refine markDirect_rel hm (resolve_rel hm (ensureEnd_rel hp) ?_)
  obtain ⟨e1, e2, e3, _⟩ := ensureEnd_symbols p
  intro q hq
  rw [e1]
  refine hr q ?_
  unfold pend at hq ⊢
  rwa [e2, e3] at hq

theorem compile_rel (hm : LineMap φ K) {ls ls' : List Line} (hl : All₂ (LineRel φ K) ls ls')
    (hr : RefsOK φ (({} : Program).codegenLines ls).link) :
    ProgRel φ K (compile ls) (compile ls') :=
  linkProg_rel hm (codegenLines_rel hm hl ProgRel.empty) hr

/-- the line an address belongs to (error reports, TRON) is the renumbered one.  The mark 65530 of the direct segment is
    the only key above `maxLineNumber`, for which `lineNumberFor` answers `none`; `LineMap.bound` says `φ` keeps that side. -/
theorem lineNumberFor_rel (hm : LineMap φ K) {l l' : Link} (h : ProgLinkRel φ K l l') (a : Nat) :
    l'.lineNumberFor a = (l.lineNumberFor a).map φ := by
  unfold lineNumberFor
  dsimp only
  rw [h.symbols, filter_mapSyms]
  unfold mapSyms
  rw [← List.map_reverse, List.find?_map]
  have hmem : ∀ p ∈ (l.symbols.filter (fun p => p.1 ≥ 0)).reverse, 0 ≤ p.1 ∧ KeyOK K p.1 := by
    intro p hp
    rw [List.mem_reverse, List.mem_filter] at hp
    exact ⟨by simpa using hp.2, h.keys p hp.1⟩
  have e : ((fun p : Symbol × (Nat × Nat) => decide (a ≥ p.2.1)) ∘ fun p : Symbol × (Nat × Nat) => (symMap φ p.1, p.2)) =
      (fun p : Symbol × (Nat × Nat) => decide (a ≥ p.2.1)) := rfl
  rw [e]
  cases hf : (l.symbols.filter (fun p => p.1 ≥ 0)).reverse.find? (fun p => decide (a ≥ p.2.1)) with
  | none => rfl
  | some p =>
    rcases p with ⟨k, v⟩
    obtain ⟨h0, hk⟩ := hmem (k, v) (List.mem_of_find?_eq_some hf)
    rcases hk with hk | ⟨n, rfl, hn⟩
    · simp only [Symbol] at *; omega
    · simp only [Option.map_some, symMap_nat]
      have hb := hm.bound n hn
      by_cases hle : n ≤ Gen.maxLineNumber
      · rw [if_pos (by simp only [Symbol]; omega), if_pos (by have := hb.2 hle; simp only [Symbol]; omega)]
        simp
      · rw [if_neg (by simp only [Symbol]; omega), if_neg (by have := fun h => hle (hb.1 h); simp only [Symbol]; omega)]
        rfl

/-- code without LIST / DELETE is identical -/
theorem OpsRel.eq_of_plain {xs ys : List Opcode} (h : OpsRel φ xs ys) (hp : ∀ o ∈ xs, o ≠ .list ∧ o ≠ .delete) :
    ys = xs := by
  induction h with
  | nil => rfl
  | cons op _ ih => rw [ih fun o ho => hp o (List.mem_cons_of_mem _ ho)]
  | range a a' b b' op ha hb ho _ _ =>
    have := hp op (List.mem_cons_of_mem _ (List.mem_cons_of_mem _ List.mem_cons_self))
    rcases ho with rfl | rfl
    · exact absurd rfl this.1
    · exact absurd rfl this.2

/-- the line numbers of a listing, and the mark of the direct segment -/
def LineSet (ls : List Line) (n : Nat) : Prop := (∃ l ∈ ls, l.number = some n) ∨ n = Gen.maxLineNumber + 1

/-- a listing that compiles without errors has no dangling reference: the side condition of
    `compile_rel` holds -/
theorem refs_of_clean {ls : List Line} (hm : LineMap φ (LineSet ls)) (hnum : Numbered ls) (h : (compile ls).indirectErrors = []) :
    RefsOK φ (({} : Program).codegenLines ls).link := by
  intro q hq
  by_cases h0 : q.2.2 < 0
  · exact .inl h0
  · refine .inr (refOK_of_keyOK hm ?_ ?_)
    · intro p hp
      by_cases hp0 : p.1 < 0
      · exact .inl hp0
      · have h0' : 0 ≤ p.1 := by simp only [Symbol] at *; omega
        obtain ⟨l, hl, hln⟩ := codegenLines_key ls hnum p hp h0'
        exact .inr ⟨p.1.toNat, (Int.toNat_of_nonneg h0').symm, .inl ⟨l, hl, hln⟩⟩
    · have h0' : 0 ≤ q.2.2 := by simp only [Symbol] at *; omega
      refine .inr ⟨q.2.2.toNat, (Int.toNat_of_nonneg h0').symm, ?_⟩
      apply Classical.byContradiction
      intro hno
      have hn : ∀ l ∈ ls, l.number ≠ some q.2.2.toNat := fun l hl e => hno (.inl ⟨l, hl, e⟩)
      exact noRef_of_clean ls hnum q.2.2.toNat hn h q (pend_eq_linkWhiles _ ▸ hq) (Int.toNat_of_nonneg h0').symm

variable (φ) in
/-- a direct line and its counterpart: both parse, to related statements (`RUN` ~ `RUN`,
    `GOTO 100` ~ `GOTO 1000`, …) -/
def DirectRel (d d' : Line) : Prop :=
  d.number = none ∧ d'.number = none ∧ ∃ ast ast', Parse.parse none d.tokens = .ok ast ∧
    Parse.parse none d'.tokens = .ok ast' ∧ StmtsRel φ ast ast'

theorem linkProg_directAddress_fresh (p : Program) (h0 : p.directAddress = 0) :
    p.linkProg.directAddress = p.linkProg.link.ops.size := by
  rw [linkProg_fresh p h0]; rfl

/-- a direct line starts again at `directAddress`; on a program whose direct segment is still empty
    nothing is cut off (cutting related code elsewhere could separate the operands of a LIST / DELETE) -/
theorem startLine_none_rel {q q' : Program} (hq : ProgRel φ K q q') (h : q.directAddress = q.link.ops.size) :
    ProgRel φ K (startLine q none) (startLine q' none) := by
  have h' : q'.directAddress = q'.link.ops.size := by rw [hq.directAddress, hq.link.size, h]
  unfold startLine
  rw [h, h', Array.extract_size, Array.extract_size]
  exact ⟨hq.link, .nil, hq.indirectErrors, hq.link.size⟩

theorem codegenLine_direct_rel (hm : LineMap φ K) {d d' : Line} (hd : DirectRel φ d d') {p p' : Program}
    (hp : ProgRel φ K p p') (h0 : p.directAddress = 0)
    (hr : RefsOK φ p.link) :
    ProgRel φ K (p.codegenLine d) (p'.codegenLine d') := by
  obtain ⟨hn, hn', ast, ast', h1, h2, hs⟩ := hd
  rw [codegenLine_eq, codegenLine_eq, hn, hn', h1, h2]
  exact pushEndP_rel (genAst_rel hm hs
    (startLine_none_rel (linkProg_rel hm hp hr) (linkProg_directAddress_fresh p h0)))

/-- **the programs the machine holds after a direct line has been entered** over the old and the
    renumbered listing (`runProg`: compile the listing, the direct line, link) correspond -/
theorem runProg_rel (hm : LineMap φ K) {ls ls' : List Line} (hl : All₂ (LineRel φ K) ls ls') {d d' : Line}
    (hd : DirectRel φ d d')
    (hr : RefsOK φ (({} : Program).codegenLines ls).link)
    (hr2 : RefsOK φ ((({} : Program).codegenLines ls).codegenLine d).link)
    (hnum : Numbered ls) :
    ProgRel φ K (runProg ls d) (runProg ls' d') := by
  unfold runProg
  exact linkProg_rel hm
    (codegenLine_direct_rel hm hd (codegenLines_rel hm hl ProgRel.empty) (fresh_directAddress ls hnum) hr) hr2

end RenumRel
end Basic

import BasicModel.Model.Lex
/-
  The post-passes `separate_words` and `collapse_doubles` (locations collected first, then applied
  from the last to the first) are equal to plain left-to-right rewrites (`sepRec`, `dblRec`).  The third,
  `collapse_triples`, needs the shape of its windows: `triRec`, `collapseTriples_eq` in Lemmas/LexStable.
-/
namespace Basic
namespace Lex

/-- `separate_words` without locations -/
def sepRec : List Token → List Token
  | a :: b :: rest =>
    if a.isWord && b.isWord then a :: .whitespace 1 :: sepRec (b :: rest) else a :: sepRec (b :: rest)
  | ts => ts

theorem sepRec_cons2 (a b : Token) (rest : List Token) :
    sepRec (a :: b :: rest) =
      if a.isWord && b.isWord then a :: .whitespace 1 :: sepRec (b :: rest) else a :: sepRec (b :: rest) := rfl

theorem sepRec_head (b : Token) (rest : List Token) : ∃ tl, sepRec (b :: rest) = b :: tl := by
  cases rest with
  | nil => exact ⟨[], rfl⟩
  | cons c r => rw [sepRec_cons2]; split <;> exact ⟨_, rfl⟩

theorem separateWords_aux (ts : List Token) : ∀ (pre : List Token),
    (wordLocs ts pre.length).foldr (fun i ts => insertBlank ts i) (pre ++ ts) = pre ++ sepRec ts := by
  induction ts with
  | nil => intro pre; simp [wordLocs, sepRec]
  | cons a ts ih =>
    intro pre
    cases ts with
    | nil => simp [wordLocs, sepRec]
    | cons b rest =>
      have := ih (pre ++ [a])
      simp only [List.length_append, List.length_cons, List.length_nil, List.append_assoc,
        List.cons_append, List.nil_append, Nat.zero_add] at this
      simp only [wordLocs, sepRec]
      split
      · rw [List.foldr_cons, this]
        simp only [insertBlank]
        rw [show pre ++ a :: sepRec (b :: rest) = (pre ++ [a]) ++ sepRec (b :: rest) by simp,
          List.take_left' (by simp), List.drop_left' (by simp)]
        simp
      · exact this

theorem separateWords_eq (ts : List Token) : separateWords ts = sepRec ts := by
  simpa [separateWords] using separateWords_aux ts []

/-- `collapse_doubles` without locations: greedy, left to right, a hit consumes both tokens -/
def dblRec : List Token → List Token
  | a :: b :: rest =>
    match doubleMatch a b with
    | some t => t :: dblRec rest
    | none => a :: dblRec (b :: rest)
  | ts => ts

theorem dblRec_cons2 (a b : Token) (rest : List Token) :
    dblRec (a :: b :: rest) =
      match doubleMatch a b with
      | some t => t :: dblRec rest
      | none => a :: dblRec (b :: rest) := rfl

theorem collapseDoubles_aux (ts : List Token) : ∀ pre : List Token,
    applyLocs 2 (doubleLocs ts pre.length) (pre ++ ts) = pre ++ dblRec ts := by
  fun_induction dblRec ts with
  | case1 a b rest t hm ih =>
    intro pre
    have := ih (pre ++ [a, b])
    simp only [List.length_append, List.length_cons, List.length_nil, List.append_assoc,
      List.cons_append, List.nil_append] at this
    simp only [doubleLocs, hm, applyLocs, List.foldr_cons] at this ⊢
    rw [this, splice]
    simp only
    rw [show pre ++ a :: b :: dblRec rest = pre ++ ([a, b] ++ dblRec rest) by simp,
      List.take_left' rfl, ← List.append_assoc, List.drop_left' (by simp)]
  | case2 a b rest hm ih =>
    intro pre
    simpa [doubleLocs, hm] using ih (pre ++ [a])
  | case3 ts h =>
    intro pre
    cases ts with
    | nil => simp [doubleLocs, applyLocs]
    | cons a ts =>
      cases ts with
      | nil => simp [doubleLocs, applyLocs]
      | cons b rest => exact absurd rfl (h a b rest)

theorem collapseDoubles_eq (ts : List Token) : collapseDoubles ts = dblRec ts := by
  simpa [collapseDoubles] using collapseDoubles_aux ts []

end Lex
end Basic

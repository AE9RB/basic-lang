import BasicModel.Lemmas.StepAll
/-
  `executeLoop` as a pure function with an instruction counter.

  `sliceRun env h n s` runs at most `n` steps and returns
    * `.ok none`     — the quantum is exhausted (all `n` steps returned `continue`),
    * `.ok (some e)` — a step returned the event `e`,
    * `.error e`     — a step threw,
  together with the final state and the number of steps executed.  `executeLoop` maps `none` to
  `Event.running`, which is why the distinction has to be made here: CONT, INPUT and LIST also
  return `Event.running`, as an event.

  `slice` is `sliceRun` with the flag `executeLoop` reads (`executeLoop_run`).  A relation with
  outcome that holds of every step holds of the slice (`sliceRun_out`), hence its footprint
  `executeLoop_oeff`.
-/
namespace Basic
namespace Runtime

def sliceRun (env : Env) (h : Bool) : Nat → Runtime → Except Error (Option Event) × Runtime × Nat
  | 0, s => (.ok none, s, 0)
  | k+1, s =>
    match (step env h).run.run s with
    | (.ok .continue, s') => let r := sliceRun env h k s'; (r.1, r.2.1, r.2.2 + 1)
    | (.ok (.event e), s') => (.ok (some e), s', 1)
    | (.error e, s') => (.error e, s', 1)

/-- the flag `executeLoop` reads once at the start of a slice -/
def hasIndirectErrors (s : Runtime) : Bool := !s.listing.indirectErrors.isEmpty

def slice (env : Env) (n : Nat) (s : Runtime) : Except Error (Option Event) × Runtime × Nat :=
  sliceRun env (hasIndirectErrors s) n s

/-- what `executeLoop` reports for a slice result -/
def toEvent : Except Error (Option Event) → Except Error Event
  | .ok none => .ok .running
  | .ok (some e) => .ok e
  | .error e => .error e

theorem sliceRun_succ (env : Env) (h : Bool) (k : Nat) (s : Runtime) :
    sliceRun env h (k + 1) s =
      match (step env h).run.run s with
      | (.ok .continue, s') => let r := sliceRun env h k s'; (r.1, r.2.1, r.2.2 + 1)
      | (.ok (.event e), s') => (.ok (some e), s', 1)
      | (.error e, s') => (.error e, s', 1) := by
  rw [sliceRun]

theorem loop_run (env : Env) (h : Bool) (n : Nat) (s : Runtime) :
    (executeLoop.loop env h n).run.run s =
      (toEvent (sliceRun env h n s).1, (sliceRun env h n s).2.1) := by
  induction n generalizing s with
  | zero => rfl
  | succ k ih =>
    unfold executeLoop.loop sliceRun
    rw [run_bind]
    rcases hs : (step env h).run.run s with ⟨r, s'⟩
    rcases r with e | st
    · rfl
    · cases st with
      | «continue» => exact ih s'
      | event e => rfl

theorem executeLoop_run (env : Env) (n : Nat) (s : Runtime) :
    (executeLoop env n).run.run s = (toEvent (slice env n s).1, (slice env n s).2.1) := by
  unfold executeLoop
  rw [run_bind_ok (run_get s)]
  exact loop_run env _ n s

theorem sliceRun_steps_le (env : Env) (h : Bool) (n : Nat) (s : Runtime) :
    (sliceRun env h n s).2.2 ≤ n := by
  induction n generalizing s with
  | zero => exact Nat.le_refl 0
  | succ k ih =>
    unfold sliceRun
    split
    · exact Nat.succ_le_succ (ih _)
    · exact Nat.succ_le_succ (Nat.zero_le k)
    · exact Nat.succ_le_succ (Nat.zero_le k)

/-- a slice that uses up its quantum has executed `n` steps, each of them calm -/
theorem sliceRun_none (env : Env) (h : Bool) (n : Nat) (s : Runtime)
    (hr : (sliceRun env h n s).1 = .ok none) :
    (sliceRun env h n s).2.2 = n ∧ Calm s (sliceRun env h n s).2.1 := by
  induction n generalizing s with
  | zero => exact ⟨rfl, FrameRel.refl s⟩
  | succ k ih =>
    unfold sliceRun at hr ⊢
    split
    · rename_i s' heq
      rw [heq] at hr
      exact ⟨congrArg (· + 1) (ih s' hr).1, FrameRel.trans (step_continue_calm heq) (ih s' hr).2⟩
    · rename_i e s' heq; rw [heq] at hr; cases hr
    · rename_i e s' heq; rw [heq] at hr; cases hr

theorem sliceRun_out {R : Runtime → Option Error → Runtime → Prop} [OutRel R] {env : Env} {h : Bool}
    (hstep : ∀ s, R s (fate ((step env h).run.run s).1) ((step env h).run.run s).2) (n : Nat) (s : Runtime) :
    R s (fate (sliceRun env h n s).1) (sliceRun env h n s).2.1 := by
  induction n generalizing s with
  | zero => exact OutRel.refl s
  | succ k ih =>
    have hw := hstep s
    rw [sliceRun_succ]
    rcases hs : (step env h).run.run s with ⟨r, s'⟩
    rw [hs] at hw
    rcases r with e | st
    · exact hw
    · cases st with
      | «continue» => exact OutRel.trans hw (ih s')
      | event e => exact hw

theorem fate_toEvent (r : Except Error (Option Event)) : fate (toEvent r) = fate r := by
  rcases r with e | o
  · rfl
  · cases o <;> rfl

theorem executeLoop_out {R : Runtime → Option Error → Runtime → Prop} [OutRel R] {env : Env}
    (hstep : ∀ h s, R s (fate ((step env h).run.run s).1) ((step env h).run.run s).2) (n : Nat) (s : Runtime) :
    R s (fate ((executeLoop env n).run.run s).1) ((executeLoop env n).run.run s).2 := by
  rw [executeLoop_run, fate_toEvent]; exact sliceRun_out (hstep _) n s

theorem executeLoop_frame {R : Runtime → Runtime → Prop} [FrameRel R] {env : Env}
    (hstep : ∀ h s, R s ((step env h).run.run s).2) (n : Nat) (s : Runtime) :
    R s ((executeLoop env n).run.run s).2 :=
  haveI := OutRel.of_frameRel R
  executeLoop_out (R := fun s _ t => R s t) hstep n s

/-- the footprint of a slice with its outcome: in particular an error it ends in is no fault, and the
    stack bound is kept -/
theorem executeLoop_oeff (env : Env) (n : Nat) (s : Runtime) :
    OEff env Kind.any s (fate ((executeLoop env n).run.run s).1) ((executeLoop env n).run.run s).2 :=
  executeLoop_out (step_oeff_any env) n s

theorem executeLoop_no_fault (env : Env) (n : Nat) (s : Runtime) (e : Error)
    (he : ((executeLoop env n).run.run s).1 = .error e) : e.isFault = false :=
  (executeLoop_oeff env n s).no_fault he

theorem sliceRun_add (env : Env) (h : Bool) (m n : Nat) (s : Runtime) :
    sliceRun env h (m + n) s =
      match sliceRun env h m s with
      | (.ok none, s', c) => let r := sliceRun env h n s'; (r.1, r.2.1, c + r.2.2)
      | r => r := by
  induction m generalizing s with
  | zero =>
    rw [Nat.zero_add]
    show _ = ((sliceRun env h n s).1, (sliceRun env h n s).2.1, 0 + (sliceRun env h n s).2.2)
    rw [Nat.zero_add]
  | succ k ih =>
    rw [Nat.succ_add, sliceRun_succ env h (k + n) s, sliceRun_succ env h k s]
    rcases hs : (step env h).run.run s with ⟨r, s'⟩
    rcases r with e | st
    · rfl
    · cases st with
      | event e => rfl
      | «continue» =>
        dsimp only
        rw [ih s']
        rcases hk : sliceRun env h k s' with ⟨r, t, c⟩
        rcases r with e | o
        · rfl
        · cases o with
          | some e => rfl
          | none => dsimp only; rw [Nat.add_right_comm]

theorem slice_none_calm (env : Env) (n : Nat) (s : Runtime)
    (hr : (slice env n s).1 = .ok none) : Calm s (slice env n s).2.1 :=
  (sliceRun_none env _ n s hr).2

theorem sliceRun_running_state (env : Env) (h : Bool) (n : Nat) (s : Runtime)
    (hr : (sliceRun env h n s).1 = .ok (some .running)) : (sliceRun env h n s).2.1.state ≠ .running := by
  induction n generalizing s with
  | zero => cases hr
  | succ k ih =>
    rw [sliceRun_succ] at hr ⊢
    split
    · rename_i s' heq; rw [heq] at hr; exact ih s' hr
    · rename_i e s' heq
      rw [heq] at hr
      have : e = .running := by injection hr with hr; injection hr
      subst this
      exact step_running_state heq
    · rename_i e s' heq; rw [heq] at hr; cases hr

/-- `executeLoop` returning `Event.running` in state `running` means: quantum exhausted -/
theorem slice_exhausted_of_running (env : Env) (n : Nat) (s : Runtime)
    (hr : toEvent (slice env n s).1 = .ok .running) (hs : (slice env n s).2.1.state = .running) :
    (slice env n s).1 = .ok none := by
  rcases h1 : (slice env n s).1 with e | o
  · rw [h1] at hr; cases hr
  · cases o with
    | none => rfl
    | some e =>
      rw [h1] at hr
      have : e = .running := by injection hr
      subst this
      exact absurd hs (sliceRun_running_state env _ n s h1)

end Runtime
end Basic

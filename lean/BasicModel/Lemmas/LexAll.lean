import BasicModel.Lemmas.LexAllPass
import BasicModel.Lemmas.LexTrail
/-
  C05 for ALL strings: the theorems about `lex` and `relist`.

  A `Chain` without word or `REM` clash is lexed back token by token from its printed text (`chain_relex`).  For
  direct lines the line-number prefix `[ \t]*[0-9]*` of a text can be read off its token list
  (`numPrefix_tokDigits`), and neither the post-passes nor the splitting of the two-character comparison
  operators by the printer/scanner change it; so the listing of a line without number is again a line without
  number (`lex_printTokens_direct`).  Hence `lex_relist_eq`: the listing of a line lexes to the same number and
  to what the passes make of the raw form of the line's own tokens; where the passes rebuild the list
  (`postPasses_stable`) the listing is a fixed point (`lex_relist_all`).
-/
namespace Basic
namespace Lex

/-- after `REM`: nothing, or one final `Unknown` token (the remark text) -/
def remTailOk : List Token → Bool
  | [] => true
  | [.unknown _] => true
  | _ => false

/-- a `REM` that is followed by something else than its remark text: text glued to `REM`
    (`REMARK` is `REM` + `ARK`), or a `REM` that was not the first word of its run of letters
    (`AREM:X`), so that the rest of the line was lexed as code -/
def remClash : List Token → Bool
  | [] => false
  | t :: rest => (t == .word .rem1 && !remTailOk rest) || remClash rest

theorem endOk_tail (a b : Token) (rest : List Token) : endOk (a :: b :: rest) = endOk (b :: rest) := by
  simp [endOk, List.getLast?_cons_cons]

theorem chain_relex (ts : List Token) : Chain ts → remClash ts = false → wordClash ts = false →
    endOk ts = true → lexFrom (printTokens ts) false = ts.flatMap rawOf := by
  induction ts with
  | nil => intros; rfl
  | cons a tl ih =>
    intro hc hr hw he
    cases tl with
    | nil =>
      by_cases h1 : a = .word .rem1
      · exact relex_remTail a [] (Or.inl h1) (Or.inl rfl) (fun _ c hc => by simp [printTokens] at hc)
      by_cases h2 : a = .word .rem2
      · exact relex_remTail a [] (Or.inr h2) (Or.inl rfl) (fun _ c hc => by simp [printTokens] at hc)
      have := tok_rescan a hc h1 h2 [] trivial
      simpa [printTokens] using this
    | cons b rest =>
      have hrem : ∀ u, a = .word .rem1 ∨ a = .word .rem2 → b = .unknown u → rest = [] → u ≠ [] →
          (a = .word .rem1 → ∀ c ∈ u.head?, isAlpha c = false) →
          lexFrom (printTokens (a :: b :: rest)) false = (a :: b :: rest).flatMap rawOf := by
        intro u ha e2 e3 hne hh
        subst e2; subst e3
        exact relex_remTail a _ ha (Or.inr ⟨u, rfl, hne⟩) (by simpa [printTokens, Token.text] using hh)
      rcases hc with ⟨hra, hrest, u, hu, hne, hh⟩ | ⟨h1, h2, h3, h4⟩
      · exact hrem u hra hu hrest hne hh
      · by_cases ha : a = .word .rem1
        · -- `REM` in a normal link: only the remark text may follow
          have hr' : remTailOk (b :: rest) = true := by
            subst ha
            simp only [remClash, beq_self_eq_true, Bool.true_and, Bool.or_eq_false_iff,
              Bool.not_eq_false'] at hr
            exact hr.1
          obtain ⟨u, hb, hrest⟩ : ∃ u, b = .unknown u ∧ rest = [] := by
            cases rest with
            | nil =>
              cases b with
              | unknown u => exact ⟨u, rfl, rfl⟩
              | _ => simp [remTailOk] at hr'
            | cons c r => simp [remTailOk] at hr'
          have hne : u ≠ [] := by
            subst hb; subst hrest
            simp only [endOk, List.getLast?_cons_cons, List.getLast?_singleton, Bool.and_eq_true,
              beq_iff_eq, Bool.not_eq_true', List.isEmpty_eq_false_iff] at he
            exact he.2
          refine hrem u (Or.inl ha) hb hrest hne fun _ => ?_
          subst hb; subst ha
          unfold Adj at h3
          simp only [Token.isWord, Bool.and_false, Bool.false_eq_true, if_false] at h3
          intro c hc
          have : fc (.unknown u) = some c := by simpa [fc, Token.text] using hc
          rw [this] at h3
          exact h3
        · have hcb : Chain (b :: rest) := by
            rcases h4 with e | h4
            · exact absurd e ha
            · exact h4
          simp only [wordClash, Bool.or_eq_false_iff] at hw
          have hbnd : Bnd a (fc b) := by
            unfold Adj at h3; rw [if_neg (by simp [hw.1])] at h3; exact h3
          have hbt : b.text ≠ [] := by
            obtain ⟨c, r, e, -⟩ := tok_text_head b (chain_head_tok b rest hcb)
            rw [e]; simp
          have hhead : (printTokens (b :: rest)).head? = fc b := by
            rw [printTokens_cons, fc]
            exact head_append_ne _ _ hbt
          have hrb : remClash (b :: rest) = false := by
            simp only [remClash, Bool.or_eq_false_iff] at hr
            simpa [remClash] using hr.2
          rw [printTokens_cons, tok_rescan a h2 ha h1 _ (by rw [hhead]; exact hbnd),
            ih hcb hrb hw.2 (by rw [← endOk_tail a b rest]; exact he)]
          simp [List.flatMap_cons]

theorem lex_printLine_some (n : Nat) (hn : n ≤ 65529) (ts : List Token)
    (hre : lexFrom (printTokens ts) false = ts.flatMap rawOf) :
    lex (printLine (some n) ts) = (some n, postPasses (ts.flatMap rawOf)) := by
  rw [printLine, lex_listed n hn, hre]

theorem lex_print_chain_numbered (n : Nat) (hn : n ≤ 65529) (ts : List Token) (hc : Chain ts)
    (h1 : tripleClash ts = false) (h2 : doubleClash ts = false) (h3 : wordClash ts = false)
    (h4 : endOk ts = true) (h5 : remClash ts = false) : lex (printLine (some n) ts) = (some n, ts) := by
  rw [lex_printLine_some n hn ts (chain_relex ts hc h5 h3 h4), postPasses_stable ts h1 h2 h3 h4]

/-- the digits that `BasicLexer::lex` hands to `parse::<u16>` (`splitLineNumber_eq`) -/
def numPrefix (x : Str) : Str := (x.dropWhile isWs).takeWhile isDigit

theorem splitLineNumber_congr (x y : Str) (h : numPrefix x = numPrefix y)
    (hx : (splitLineNumber x).1 = none) : splitLineNumber y = (none, y) := by
  rw [splitLineNumber_eq] at hx ⊢
  rw [show (y.dropWhile isWs).takeWhile isDigit = (x.dropWhile isWs).takeWhile isDigit from h.symm]
  cases hp : Fmt.parseU16 ((x.dropWhile isWs).takeWhile isDigit) with
  | none => rfl
  | some num =>
    rw [hp] at hx
    simp only at hx ⊢
    by_cases hn : num ≤ maxLineNumber
    · rw [if_pos hn] at hx; cases hx
    · rw [if_neg hn]

def litDigits : Token → Str
  | .literal (.single s) => s.takeWhile isDigit
  | .literal (.double s) => s.takeWhile isDigit
  | .literal (.integer s) => s.takeWhile isDigit
  | _ => []

def headDigits : List Token → Str
  | [] => []
  | t :: _ => litDigits t

def tokDigits : List Token → Str
  | [] => []
  | t :: rest => if isBlank t then headDigits rest else litDigits t

theorem tokDigits_nonblank (l : List Token) (h : ∀ t ∈ l.head?, isBlank t = false) :
    tokDigits l = headDigits l := by
  cases l with
  | nil => rfl
  | cons t rest => simp [tokDigits, headDigits, h t (by simp)]

theorem takeWhile_map_foldED (l : List Char) : (l.map foldED).takeWhile isDigit = l.takeWhile isDigit := by
  induction l with
  | nil => rfl
  | cons c l ih =>
    simp only [List.map_cons, List.takeWhile_cons, isDigit_foldED]
    cases hd : isDigit c with
    | false => rfl
    | true =>
      simp [(plain_of_isDigit c hd).1, ih]

theorem litDigits_numTok (t : Token) (u : Str) (h : numTok t u) : litDigits t = u.takeWhile isDigit := by
  rcases h with h | h | h <;> subst h <;> rfl

theorem matchMinutia_plain (s : Str) (t : Token) (h : matchMinutia s = some t) :
    litDigits t = [] ∧ isBlank t = false := by
  obtain ⟨c, -, hm⟩ := matchMinutia_some s t h
  exact (by decide : ∀ p ∈ minutiaTable, litDigits p.2 = [] ∧ isBlank p.2 = false) _ hm

/-- the first token of a turn on a text that starts with no blank: a numeral that starts with the digits the text starts
    with, or (the text starting with no digit) a token that is neither a numeral nor a blank run -/
theorem Turn.headDigits {cs cs' : List Char} {q : List Token} {rm : Bool} (h : Turn cs q cs' rm)
    (hy : ∀ c ∈ cs.head?, isWs c = false) :
    ∃ t ts, q = t :: ts ∧ litDigits t = cs.takeWhile isDigit ∧ isBlank t = false := by
  have plain : ∀ (pk : Char) (cs : List Char) (t : Token) (ts : List Token), isDigit pk = false →
      litDigits t = [] ∧ isBlank t = false →
      ∃ t' ts', t :: ts = t' :: ts' ∧ litDigits t' = (pk :: cs).takeWhile isDigit ∧ isBlank t' = false :=
    fun pk cs t ts hd ht => ⟨t, ts, rfl, by rw [ht.1, List.takeWhile_cons, hd]; rfl, ht.2⟩
  cases h with
  | ws pk cs h => exact absurd h (by rw [hy pk rfl]; decide)
  | num pk cs h =>
    obtain ⟨k, -, h1, -, h3⟩ :=
      numberLoop_consumed (pk :: cs) [] 0 false false (by simp) (not_PB_of_numHead pk cs h)
    refine ⟨_, _, rfl, ?_, ?_⟩
    · rw [show (number (pk :: cs)).1 = (numberLoop (pk :: cs) [] 0 false false).1 from rfl,
        litDigits_numTok _ _ h1, List.nil_append, takeWhile_map_foldED]
      exact takeWhile_take isDigit k (pk :: cs) h3
    · rw [show (number (pk :: cs)).1 = (numberLoop (pk :: cs) [] 0 false false).1 from rfl]
      rcases h1 with h | h | h <;> rw [h] <;> rfl
  | alpha pk cs t ts h e =>
    refine plain pk cs t ts (not_isDigit_of_isAlpha pk h) ?_
    rcases (alphabetic_spec pk cs h).1.toks t (by rw [e]; exact List.mem_cons_self) with hk | ⟨i, rfl, -⟩
    · cases t <;> first | exact ⟨rfl, rfl⟩ | exact absurd hk (by simp [isKwTok])
    · exact ⟨rfl, rfl⟩
  | str cs => exact plain '"' cs _ [] (by decide) ⟨rfl, rfl⟩
  | radix cs =>
    refine plain '&' cs _ [] (by decide) ?_
    unfold Lex.radix
    split <;> exact ⟨rfl, rfl⟩
  | min pk cs h =>
    refine plain pk cs _ [] (isMinStart_classes pk h).2.1 ?_
    rcases minutia_spec pk cs h with ⟨t, hm, hmin⟩ | ⟨-, u, cs', hmin, -⟩ <;> rw [hmin]
    · exact matchMinutia_plain _ _ hm
    · exact ⟨rfl, rfl⟩

theorem headDigits_lexFrom (y : Str) (hy : ∀ c ∈ y.head?, isWs c = false) :
    headDigits (lexFrom y false) = y.takeWhile isDigit ∧ ∀ t ∈ (lexFrom y false).head?, isBlank t = false := by
  cases y with
  | nil => exact ⟨rfl, by intro t ht; simp at ht⟩
  | cons d r =>
    obtain ⟨q, cs', rm, ht, -⟩ := turn_total d r
    obtain ⟨t, ts, rfl, h1, h2⟩ := ht.headDigits hy
    rw [ht.lex]
    exact ⟨h1, fun t' ht' => Option.some.inj ht' ▸ h2⟩

theorem numPrefix_tokDigits (x : Str) : numPrefix x = tokDigits (lexFrom x false) := by
  rw [numPrefix]
  cases x with
  | nil => rfl
  | cons c r =>
    by_cases hws : isWs c = true
    · rw [lexFrom_ws c r hws]
      simp only [whitespace, tokDigits, isBlank, if_true, List.dropWhile_cons, hws]
      exact ((headDigits_lexFrom (r.dropWhile isWs) (dropWhile_head_not isWs r)).1).symm
    · have hws' : isWs c = false := by simpa using hws
      obtain ⟨h1, h2⟩ := headDigits_lexFrom (c :: r) (by intro x hx; simp at hx; subst hx; exact hws')
      rw [tokDigits_nonblank _ h2, h1]
      simp [hws']

theorem tokDigits_pass (f : List Token → List Token) (F1 : f [] = [])
    (F2 : ∀ n rest, f (.whitespace n :: rest) = .whitespace n :: f rest ∨
      (f (.whitespace n :: rest) = [] ∧ f rest = []))
    (F3 : ∀ t rest, isBlank t = false → (f (t :: rest) = [] ∧ litDigits t = []) ∨
      ∃ t' r', f (t :: rest) = t' :: r' ∧ isBlank t' = false ∧ litDigits t' = litDigits t) :
    ∀ l, tokDigits (f l) = tokDigits l := by
  have F4 : ∀ rest, headDigits (f rest) = headDigits rest := by
    intro rest
    cases rest with
    | nil => rw [F1]
    | cons t r =>
      cases hb : isBlank t with
      | true =>
        obtain ⟨n, rfl⟩ : ∃ n, t = .whitespace n := by
          cases t <;> first | exact ⟨_, rfl⟩ | exact absurd hb (by simp [isBlank])
        rcases F2 n r with e | ⟨e, -⟩ <;> rw [e] <;> rfl
      | false =>
        rcases F3 t r hb with ⟨e, hd⟩ | ⟨t', r', e, -, hd⟩
        · rw [e]; simp [headDigits, hd]
        · rw [e]; simp [headDigits, hd]
  intro l
  cases l with
  | nil => rw [F1]
  | cons t rest =>
    cases hb : isBlank t with
    | true =>
      obtain ⟨n, rfl⟩ : ∃ n, t = .whitespace n := by
        cases t <;> first | exact ⟨_, rfl⟩ | exact absurd hb (by simp [isBlank])
      rcases F2 n rest with e | ⟨e, e2⟩
      · rw [e]; simp only [tokDigits, isBlank, if_true]; exact F4 rest
      · rw [e]
        have := F4 rest
        rw [e2] at this
        simp only [tokDigits, isBlank, if_true]
        exact this
    | false =>
      rcases F3 t rest hb with ⟨e, hd⟩ | ⟨t', r', e, hb', hd⟩
      · rw [e]; simp [tokDigits, hb, hd]
      · rw [e]; simp [tokDigits, hb, hb', hd]

theorem tokDigits_trimEnd (l : List Token) : tokDigits (trimEnd l) = tokDigits l := by
  apply tokDigits_pass trimEnd rfl
  · intro n rest
    rw [trimEnd_cons]
    by_cases h : trimEnd rest = []
    · right
      rw [if_pos h]
      exact ⟨by simp [trimEnd, trimEndRev], h⟩
    · left; rw [if_neg h]
  · intro t rest hb
    rw [trimEnd_cons]
    by_cases h : trimEnd rest = []
    · rw [if_pos h]
      cases t with
      | whitespace n => exact absurd hb (by simp [isBlank])
      | unknown s =>
        by_cases he : (trimEndStr s).isEmpty = true
        · left; simp [trimEnd, trimEndRev, he, litDigits]
        · right; exact ⟨.unknown (trimEndStr s), [], by simp [trimEnd, trimEndRev, he], rfl, rfl⟩
      | _ => right; exact ⟨_, [], by simp [trimEnd, trimEndRev], hb, rfl⟩
    · right; exact ⟨t, trimEnd rest, by rw [if_neg h], hb, rfl⟩

theorem litDigits_cmp (t : Token) (h : isCmp t = true) : litDigits t = [] ∧ isBlank t = false := by
  cases t <;> first | exact ⟨rfl, rfl⟩ | exact absurd h (by simp [isCmp])

theorem tokDigits_triRec (l : List Token) : tokDigits (triRec l) = tokDigits l := by
  apply tokDigits_pass triRec rfl
  · intro n rest
    left
    exact triRec_cons_of_none _ _ fun y z _ _ => tripleMatch_ws_la n y z
  · intro t rest hb
    right
    cases rest with
    | nil => exact ⟨t, [], rfl, hb, rfl⟩
    | cons b r =>
      cases r with
      | nil => exact ⟨t, [b], rfl, hb, rfl⟩
      | cons c r' =>
        rw [triRec]
        cases hm : tripleMatch t b c with
        | none => exact ⟨t, _, rfl, hb, rfl⟩
        | some T =>
          refine ⟨T, _, rfl, ?_⟩
          obtain ⟨-, hcase⟩ := tripleMatch_some t b c T hm
          rcases hcase with ⟨h1, -, h3⟩ | ⟨e, (⟨-, e2⟩ | ⟨-, e2⟩)⟩
          · rw [(litDigits_cmp T h3).1, (litDigits_cmp t (isCmp_of_isRawCmp t h1)).1]
            exact ⟨(litDigits_cmp T h3).2, rfl⟩
          · subst e; subst e2; exact ⟨rfl, rfl⟩
          · subst e; subst e2; exact ⟨rfl, rfl⟩

theorem doubleMatch_ws (n : Nat) (y : Token) : doubleMatch (.whitespace n) y = none :=
  doubleMatch_of_not_cmp_left _ _ rfl

theorem tokDigits_dblRec (l : List Token) : tokDigits (dblRec l) = tokDigits l := by
  apply tokDigits_pass dblRec rfl
  · intro n rest; left
    cases rest with
    | nil => rfl
    | cons b r => rw [dblRec_cons2, doubleMatch_ws]
  · intro t rest hb
    right
    cases rest with
    | nil => exact ⟨t, [], rfl, hb, rfl⟩
    | cons b r =>
      rw [dblRec_cons2]
      cases hm : doubleMatch t b with
      | none => exact ⟨t, _, rfl, hb, rfl⟩
      | some T =>
        obtain ⟨h1, -, h3⟩ := doubleMatch_some t b T hm
        refine ⟨T, _, rfl, (litDigits_cmp T h3).2, ?_⟩
        rw [(litDigits_cmp T h3).1, (litDigits_cmp t (isCmp_of_isRawCmp t h1)).1]

theorem tokDigits_sepRec (l : List Token) : tokDigits (sepRec l) = tokDigits l := by
  apply tokDigits_pass sepRec rfl
  · intro n rest; left
    cases rest with
    | nil => rfl
    | cons b r => rw [sepRec_cons2]; simp [Token.isWord]
  · intro t rest hb
    right
    obtain ⟨tl, e⟩ := sepRec_head t rest
    exact ⟨t, tl, e, hb, rfl⟩

theorem tokDigits_raw (l : List Token) : tokDigits (l.flatMap rawOf) = tokDigits l := by
  apply tokDigits_pass (fun l => l.flatMap rawOf) rfl
  · intro n rest; left; rfl
  · intro t rest hb
    right
    simp only [List.flatMap_cons]
    rcases rawOf_shape t with e | ⟨x1, x2, e, -, hc, -, hb1⟩
    · exact ⟨t, _, by rw [e]; rfl, hb, rfl⟩
    · refine ⟨x1, x2 :: rest.flatMap rawOf, by rw [e]; rfl, hb1, ?_⟩
      rw [(litDigits_cmp t hc).1]
      cases t with
      | operator o => cases o <;> simp [rawOf] at e <;> (rw [← e.1]; rfl)
      | _ => simp [isCmp] at hc

theorem tokDigits_postPasses (l : List Token) : tokDigits ((postPasses l).flatMap rawOf) = tokDigits l := by
  rw [tokDigits_raw]
  unfold postPasses
  rw [separateWords_eq, tokDigits_sepRec, collapseDoubles_eq, tokDigits_dblRec, collapseTriples_eq,
    tokDigits_triRec, tokDigits_trimEnd]

-- from here on `(lex s).2` meets lemmas about `postPasses l`; left open, the unifier walks into the four passes
seal postPasses

/-- direct lines: the listing of a line without number is again a line without number (the line-number prefix of a
    text can be read off its token list, and neither the passes nor the printer change it) -/
theorem lex_printTokens_direct (s : Str) (hs : (splitLineNumber s).1 = none)
    (hre : lexFrom (printTokens (postPasses (lexFrom s false))) false =
      (postPasses (lexFrom s false)).flatMap rawOf) :
    lex (printTokens (postPasses (lexFrom s false))) =
      (none, postPasses ((postPasses (lexFrom s false)).flatMap rawOf)) := by
  have hnp : numPrefix s = numPrefix (printTokens (postPasses (lexFrom s false))) := by
    rw [numPrefix_tokDigits, numPrefix_tokDigits, hre, tokDigits_postPasses]
  simp only [lex, splitLineNumber_congr s _ hnp hs, rawTokens_eq, hre]

theorem lex_print_chain_direct (s : Str) (hs : (splitLineNumber s).1 = none)
    (h1 : tripleClash (postPasses (lexFrom s false)) = false)
    (h2 : doubleClash (postPasses (lexFrom s false)) = false)
    (h5 : remClash (postPasses (lexFrom s false)) = false) :
    lex (printTokens (postPasses (lexFrom s false))) = (none, postPasses (lexFrom s false)) := by
  have h3 := wordClash_postPasses (lexFrom s false)
  have h4 := endOk_postPasses (lexFrom s false)
  rw [lex_printTokens_direct s hs (chain_relex _ (chain_postPasses _ (rawTokens_chain s)) h5 h3 h4),
    postPasses_stable _ h1 h2 h3 h4]

-- `Chain` unfolds by matching on its argument: left open, elaborating `Chain (lex s).2` runs the whole
-- lexer symbolically to find the head of the list
seal Chain

theorem lex_chain (s : Str) : Chain (lex s).2 := chain_postPasses _ (rawTokens_chain _)

theorem lex_wordClash (s : Str) : wordClash (lex s).2 = false := wordClash_postPasses _

theorem lex_endOk (s : Str) : endOk (lex s).2 = true := endOk_postPasses _

/-- the listing of every line, lexed (every line without `REM` clash): the same number, and the tokens are what the
    passes make of the raw form of the line's own tokens.  Listing is a fixed point exactly when the passes
    rebuild the list; `postPasses_stable` gives that from the two clash predicates. -/
theorem lex_relist_eq (s : Str) (h3 : remClash (lex s).2 = false) :
    lex (relist s) = ((lex s).1, postPasses ((lex s).2.flatMap rawOf)) := by
  have hre := chain_relex _ (lex_chain s) h3 (lex_wordClash s) (lex_endOk s)
  unfold relist
  cases hn : (lex s).1 with
  | none =>
    have hs : (splitLineNumber s).1 = none := hn
    have e : (lex s).2 = postPasses (lexFrom s false) := by
      simp only [lex, splitLineNumber_none s hs, rawTokens_eq]
    rw [e] at hre ⊢
    exact lex_printTokens_direct s hs hre
  | some n => exact lex_printLine_some n (splitLineNumber_le s n hn) _ hre

/-- the fixed-point theorem for all strings (under the three exclusions) -/
theorem lex_relist_all (s : Str) (h1 : tripleClash (lex s).2 = false) (h2 : doubleClash (lex s).2 = false)
    (h3 : remClash (lex s).2 = false) : lex (relist s) = lex s := by
  have h := lex_relist_eq s h3
  rw [postPasses_stable _ h1 h2 (lex_wordClash s) (lex_endOk s)] at h
  exact h

theorem relist_idempotent_all (s : Str) (h1 : tripleClash (lex s).2 = false)
    (h2 : doubleClash (lex s).2 = false) (h3 : remClash (lex s).2 = false) :
    relist (relist s) = relist s := by
  unfold relist
  rw [show lex (printLine (lex s).1 (lex s).2) = lex s from lex_relist_all s h1 h2 h3]

theorem canonRaw_remClash (ts : List Token) (h : CanonRaw ts) : remClash ts = false := by
  induction ts with
  | nil => rfl
  | cons t rest ih =>
    unfold CanonRaw at h
    by_cases h1 : t = .word .rem1
    · subst h1
      simp only [if_true] at h
      rcases h with rfl | ⟨s, rfl, -⟩ <;> rfl
    · by_cases h2 : t = .word .rem2
      · subst h2
        simp only [h1, if_false, if_true] at h
        rcases h with rfl | ⟨s, rfl, -⟩ <;> rfl
      · simp only [h1, h2, if_false] at h
        simp [remClash, h1, ih h.2.2]

/-- the canonical lists of `LexList` are the case of `lex_relist_eq` in which the passes have nothing to do: a line whose
    tokens are canonical lexes, listed, to itself -/
theorem relist_of_canon (s : Str) (h : Canon (lex s).2) : lex (relist s) = lex s := by
  rw [lex_relist_eq s (canonRaw_remClash _ h.1), h.2]

end Lex
end Basic

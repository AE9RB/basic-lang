import BasicModel.Lemmas.ParseWalk
import BasicModel.Lemmas.ParseLines
/-
  The parser never answers the `fault` that stands for an exhausted native stack:
  `parseTokens_never_faults`, read off `ParseWalk.parseTokens_spec` with the names forgotten
  (`G := False`).  The examples show that the fault IS reachable with too little fuel.  `NF` and
  `nf_statement` say the same of the statement parser alone, from any state; kept for their
  statements, nothing here uses them.
-/
namespace Basic
namespace Lemmas.ParseNoFault
open Parse

def NF {α} (m : PM α) (s : PState) (Q : α → PState → Prop) : Prop :=
  match m s with
  | .ok (a, s') => Q a s'
  | .error e => e.isFault = false

theorem NF.of_spec {α} [ParseNames.HasOk α] {m : PM α} {pre : Prop} {need : PState → Prop}
    {R : PState → α → PState → Prop} [ParseWalk.Spec False m pre need R] (s : PState) (h : need s) :
    NF m s (R s) :=
  (ParseWalk.Spec.run (G := False) (m := m) s nofun nofun).mono (fun _ _ h => h.1) (fun _ he => he h)

theorem nf_statement (f : Nat) (s : PState) (h : 2 * rem s + 4 ≤ f) :
    NF (statement f) s (fun _ s' => rem s' + 1 ≤ rem s) := NF.of_spec (m := statement f) s h

/-- The parser never runs out of fuel (never reports the `fault` that stands for a Rust panic):
every error of `parseTokens` is an ordinary BASIC error. -/
theorem parseTokens_never_faults (ts : List Token) (e : Error)
    (h : Parse.parseTokens ts = .error e) : e.isFault = false := by
  have := ParseWalk.parseTokens_spec False ts nofun
  rw [h] at this
  exact this

theorem parse_never_faults (ln : Option Nat) (ts : List Token) (e : Error)
    (h : Parse.parse ln ts = .error e) : e.isFault = false := by
  unfold parse at h
  split at h
  · cases h
  · next e' heq =>
    cases h
    exact parseTokens_never_faults ts e' heq

def errInfo {α} : Except Error α → Option (Nat × Bool)
  | .error e => some (e.code, e.isFault)
  | .ok _ => none

/-- `PRINT ((` fails, with an ordinary syntax error -/
example : errInfo (parseTokens [.word .print, .lparen, .lparen]) = some (Code.syntaxError, false) := by
  simp [parse_eval, errInfo, Token.text, show Word.print.text = "PRINT".toList from rfl]
  decide

/-- `PRINT ((((((((((((` (nesting depth 12) fails with a syntax error, not with a fault
(the statement parsers are defined by well-founded recursion, so they are unfolded with their
equation lemmas; the rest is evaluated by the kernel) -/
example : errInfo (parseTokens (.word .print :: List.replicate 12 .lparen)) =
    some (Code.syntaxError, false) := by
  unfold parseTokens
  simp only [fuelFor, List.length_cons, List.length_replicate]
  simp only [fun a b => statements.eq_2 a b 97, statement.eq_2 96]
  decide +kernel

/-- the fault is reachable in the model when the fuel is too small for the input: the theorem
is a statement about `fuelFor`, not a by-product of the modelling -/
example : errInfo ((descend 3 [] 0).run { toks := List.replicate 12 .lparen }) =
    some (Code.fault, true) := rfl

/-- `IF 1 THEN PRINT` (statement recursion through `ifStmt`) parses -/
example : (parseTokens [.word .if, .literal (.integer ['1']), .word .then, .word .print]).toBool
    = true := by
  simp [parse_eval, Token.text, Literal.text, i16_one, Except.toBool,
    show Word.if.text = "IF".toList from rfl, show Word.then.text = "THEN".toList from rfl,
    show Word.print.text = "PRINT".toList from rfl]

end Lemmas.ParseNoFault
end Basic

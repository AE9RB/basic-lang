import BasicModel.Lemmas.LexCanon
import BasicModel.Lemmas.LexNumber
/-
  Whole lines: the iterator inverts the printer on canonical token lists.
-/
namespace Basic
namespace Lex

/-- token lists whose printed text is lexed back token by token: every token printable, every
    token followed by text it cannot absorb; a remark marker may only be followed by the remark
    text (one `Unknown`), which after `REM` must not start with a letter, digit or type suffix -/
def CanonRaw : List Token → Prop
  | [] => True
  | t :: rest =>
    if t = .word .rem1 then rest = [] ∨ ∃ s, rest = [.unknown s] ∧ s ≠ [] ∧ AlphaBoundary s
    else if t = .word .rem2 then rest = [] ∨ ∃ s, rest = [.unknown s] ∧ s ≠ []
    else Printable t ∧ Follows t (printTokens rest) ∧ CanonRaw rest

theorem rawOf_rem (w : Word) : rawOf (.word w) = [.word w] := rfl

theorem lexFrom_remTail (t : Token) (ts : List Token) (ht : t = .word .rem1 ∨ t = .word .rem2)
    (hts : ts = [] ∨ ∃ s, ts = [.unknown s] ∧ s ≠ [])
    (hb : t = .word .rem1 → ∀ c ∈ (printTokens ts).head?, isAlpha c = false) :
    lexFrom (t.text ++ printTokens ts) false = t :: ts := by
  have key : lexFrom (t.text ++ printTokens ts) false = t :: lexFrom (printTokens ts) true := by
    rcases ht with e | e <;> subst e
    · exact lexFrom_keyword_na _ rem_in_keywords _ (hb rfl)
    · exact lexFrom_minutia_one '\'' _ _ rfl
  rw [key]
  rcases hts with e | ⟨s, e, hs⟩ <;> subst e
  · rfl
  · rw [show printTokens [.unknown s] = s by simp [printTokens, Token.text], lexFrom_remark s hs]

theorem relex_remTail (t : Token) (ts : List Token) (ht : t = .word .rem1 ∨ t = .word .rem2)
    (hts : ts = [] ∨ ∃ s, ts = [.unknown s] ∧ s ≠ [])
    (hb : t = .word .rem1 → ∀ c ∈ (printTokens ts).head?, isAlpha c = false) :
    lexFrom (printTokens (t :: ts)) false = (t :: ts).flatMap rawOf := by
  rw [printTokens_cons, lexFrom_remTail t ts ht hts hb]
  rcases ht with rfl | rfl <;> rcases hts with rfl | ⟨s, rfl, -⟩ <;> rfl

/-- the iterator inverts the printer on `CanonRaw` lists (comparison operators come back as their
    two halves; the post-passes put them together again) -/
theorem lexFrom_printTokens (ts : List Token) (h : CanonRaw ts) :
    lexFrom (printTokens ts) false = ts.flatMap rawOf := by
  induction ts with
  | nil => rfl
  | cons t rest ih =>
    unfold CanonRaw at h
    by_cases h1 : t = .word .rem1
    · subst h1
      simp only [if_true] at h
      refine relex_remTail _ rest (Or.inl rfl) (h.imp id fun ⟨s, e, hs, _⟩ => ⟨s, e, hs⟩) fun _ => ?_
      rcases h with e | ⟨s, e, -, hb⟩ <;> subst e
      · intro c hc
        simp [printTokens] at hc
      · intro c hc
        exact (hb c (by simpa [printTokens, Token.text] using hc)).1
    · by_cases h2 : t = .word .rem2
      · subst h2
        simp only [h1, if_false, if_true] at h
        exact relex_remTail _ rest (Or.inr rfl) h fun e => absurd e (by decide)
      · simp only [h1, h2, if_false] at h
        obtain ⟨hp, hf, hc⟩ := h
        rw [printTokens_cons, List.flatMap_cons, lexFrom_token t _ hp hf h1 h2, ih hc]

/-- the text of a direct line starts with a character that is neither a digit nor a blank -/
def StartsPlain (cs : List Char) : Prop := ∀ c ∈ cs.head?, isDigit c = false ∧ isWs c = false

instance (cs : List Char) : Decidable (StartsPlain cs) := by
  unfold StartsPlain; infer_instance

/-- canonical token lists: lexed back token by token, and left alone by the four post-passes -/
def Canon (ts : List Token) : Prop := CanonRaw ts ∧ postPasses (ts.flatMap rawOf) = ts

theorem lex_startsPlain (s : Str) (h : StartsPlain s) : lex s = (none, postPasses (lexFrom s false)) := by
  cases s with
  | nil => simp only [lex, splitLineNumber_nil, rawTokens_eq]
  | cons c cs => exact lex_plain c cs (h c rfl).1 (h c rfl).2

theorem lex_listed (n : Nat) (h : n ≤ 65529) (t : Str) :
    lex (RStd.natDigits n ++ ' ' :: t) = (some n, postPasses (lexFrom t false)) := by
  simp only [lex, splitLineNumber_listed n h, rawTokens_eq]

theorem lex_print_direct (ts : List Token) (h : Canon ts) (h0 : StartsPlain (printTokens ts)) :
    lex (printLine none ts) = (none, ts) := by
  rw [printLine, lex_startsPlain _ h0, lexFrom_printTokens ts h.1, h.2]

theorem lex_print_numbered (n : Nat) (hn : n ≤ 65529) (ts : List Token) (h : Canon ts) :
    lex (printLine (some n) ts) = (some n, ts) := by
  rw [printLine, lex_listed n hn, lexFrom_printTokens ts h.1, h.2]

end Lex
end Basic

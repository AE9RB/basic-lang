import BasicModel.Lemmas.Session
import BasicModel.Lemmas.Slice
/-
  The footprint of `execute`: around the slice only the bookkeeping of the protocol moves
  (`executePre_eff`, `finishLoop_eff`).  `execute_frame`: a frame relation kept by that bookkeeping and by
  every step is kept by `execute`; `execute_eff` is its reading for the footprint itself.  `sched` closes the
  goal for one update of the bookkeeping.
-/
namespace Basic
namespace Runtime

instance {env : Env} : Acts env executeInput [.stack, .col] := ⟨by unfold executeInput; does⟩

section
variable {env : Env} {K : Kind → Prop}

/-- closes `Eff env K s t` where `t` is `s` with fields of the protocol replaced (`state`, `cont`,
    `contPc`, `pc`, `entryAddress`, `printCol`, `stack`, `tr`), as one `Prim.sched`; its two side goals
    by: the new `state` / `cont` is the old `state`, the old `cont`, or no error — or an error that a
    hypothesis in the context says is no fault -/
macro "sched" : tactic =>
  `(tactic| (refine Eff.prim (Prim.sched _ _ _ _ _ _ _ _ _ ?_ ?_) (by first | assumption | trivial) <;>
      first
        | exact Or.inl rfl
        | exact Or.inr (Or.inl rfl)
        | exact Or.inr (Or.inr ⟨nofun, trivial⟩)
        | exact Or.inr (Or.inr ⟨nofun, by first | exact Eq.refl false | assumption⟩)))

theorem readyPrompt_eff (hs : K .sched) (s : Runtime) : Eff env K s (readyPrompt s).1 := by
  by_cases he : s.entryAddress = 0
  · rw [readyPrompt_zero s he]; exact .refl s
  · rw [readyPrompt_pos s he]; sched

theorem executePre_eff (hk : K .stack) (hc : K .col) (hs : K .sched) (s : Runtime) :
    Eff env K s (executePre s).1 := by
  unfold executePre
  split
  · sched
  · have := readyPrompt_eff (env := env) hs s
    split <;> rename_i heq <;> rw [heq] at this <;> exact this
  · sched
  · split <;> sched
  · have hq := ((Acts.does (env := env) (m := executeInput)).run s).mono (Among.pair hk hc)
    generalize executeInput.run.run s = x at hq ⊢
    rcases x with ⟨r, s'⟩
    cases r with
    | ok e => exact hq.eff
    | error e =>
      have he : e.isFault = false := hq.error_no_fault
      exact .trans hq.eff (by sched)
  · sched
  · split
    · sched
    · exact .refl s
  · split
    · sched
    · exact .refl s
  · exact .refl s
  · exact .refl s

/-- `finishLoop` records the error of the slice, which is no fault -/
theorem finishLoop_eff (hs : K .sched) (r : Except Error Event) (s : Runtime)
    (hr : ∀ e, r = .error e → e.isFault = false) : Eff env K s (finishLoop r s).1 := by
  cases r with
  | ok ev =>
    by_cases h : s.state = .stopped ∧ ev = .stopped
    · have := readyPrompt_eff (env := env) hs s
      rw [h.2, finishLoop_stopped s h.1]
      split <;> rename_i heq <;> rw [heq] at this <;> exact this
    · rw [finishLoop_ok ev s h]; exact .refl s
  | error e =>
    have herr : e.isFault = false := hr e rfl
    rw [finishLoop_error]
    split
    · sched
    · split <;> sched

/-- `execute` keeps a frame relation that every step keeps and that the bookkeeping around the slice keeps:
    updates of the kinds `stack`, `col` and `sched`, so `K` has to admit these three -/
theorem execute_frame {R : Runtime → Runtime → Prop} [FrameRel R] (hk : K .stack) (hc : K .col) (hs : K .sched)
    (he : ∀ {s t}, Eff env K s t → R s t) (hstep : ∀ h s, R s ((step env h).run.run s).2)
    (s : Runtime) (n : Nat) : R s (execute env s n).1 := by
  rw [execute_eq]
  have hp := he (executePre_eff hk hc hs s)
  generalize executePre s = x at hp ⊢
  rcases x with ⟨s', o⟩
  cases o with
  | some e => exact hp
  | none =>
    refine FrameRel.trans hp (?_ : R s' (executeRest env s' n).1)
    unfold executeRest
    split
    · refine he ?_
      split <;> sched
    · exact FrameRel.trans (executeLoop_frame hstep n s') (he (finishLoop_eff hs _ _ (executeLoop_no_fault env n s')))

end

theorem execute_eff (env : Env) (s : Runtime) (n : Nat) : Eff env Kind.any s (execute env s n).1 :=
  execute_frame (K := Kind.any) trivial trivial trivial id (step_eff_any env) s n

end Runtime
end Basic

import BasicModel.Model.Program
import BasicModel.Lemmas.GenInv
import BasicModel.Lemmas.GenClean
import BasicModel.Lemmas.LinkPass
import BasicModel.Lemmas.Program
/-
  The data segment of a compiled program (C09): the vocabulary (`constOf`, `stmtsData`, `dataOf`), and what the
  generator does on the way.  Every statement other than DATA and IF leaves the data of the fragment under construction
  and the statement stack alone (`kdInv`, an instance of the calculus of `Lemmas/GenInv.lean`; quantified over the
  initial data and stack it gives a frame fact, `kd_step`); the variable and expression stacks stay data-free through
  every visit, reports or not (`dInv`, `accept_dstk`); on the clean path errors are only added, so when nothing is
  reported for a node nothing was reported for its children (`accept_clean_ind`).  The two generators that move data,
  the DATA loop and IF, are read backwards from a successful run (`append_loop`, `if_gen`).

  Behind that, for whole listings: `Numbered`, `DataLits`, what compiling a line does to the reports (`codegenLine_errors`;
  what `linkProg` does to data and reports is in `Lemmas/Program.lean`), `dataOf` read off the tokens (`tokData`,
  `dataOf_filter`), the fragment of `RESTORE [n]` (`restoreTarget`, `restoreFrag`, `acceptStmt_restore`), and the checks by
  which a concrete listing meets the hypotheses (`numberedB`, `dataLitsB`, `Parses`: lines with their parses, related by `All2`).
-/
namespace Basic
namespace DataOrder
open Link Codegen
variable {α β : Type}

/-- "the fragment under construction has data `d0`, stack fragments have none, the statement stack is `st0`" -/
def kdInv (d0 : Array Val) (st0 : Array (Col × Link)) : Inv where
  C := fun l => l.data = d0
  E := fun l => l.data = #[]
  S := T
  K := fun st => st = st0

theorem kdOk (d0 : Array Val) (st0 : Array (Col × Link)) : Ok (kdInv d0 st0) where
  push := fun _ _ h => h
  nextSymbol := fun _ h => h
  pushSymbol := fun _ _ h => h
  append := fun a b ha hb => append_ind a b ha fun _ =>
    ⟨by show a.data ++ b.data = d0; rw [show b.data = #[] from hb, Array.append_empty]; exact ha, ha⟩

theorem kdMark (d0 : Array Val) (st0 : Array (Col × Link)) : MarkOk (kdInv d0 st0) :=
  ⟨fun _ _ _ _ h => h, fun _ _ _ _ h => h⟩

theorem kdRef (d0 : Array Val) (st0 : Array (Col × Link)) : RefOk (kdInv d0 st0) :=
  RefOk.of (kdOk d0 st0) (fun _ _ _ h => h)

/-- the variable and expression stacks carry no data -/
structure DStk (g : GState) : Prop where
  var : ∀ v ∈ g.var.toList, v.link.data = #[]
  expr : ∀ x ∈ g.expr.toList, x.2.data = #[]

theorem DStk.empty : DStk {} := ⟨fun _ h => (nomatch h), fun _ h => (nomatch h)⟩

/-- what a successful run of a generator function proved in the calculus for every `kdInv` does to a
    state: the stacks stay data-free, the data of the fragment under construction and the statement
    stack are untouched -/
theorem kd_step {m : GM α} {Q : α → Prop} (hm : ∀ d0 st0, PH (kdInv d0 st0) m Q) {g g1 : GState} {a : α}
    (hg : DStk g) (h : m.run.run g = (.ok a, g1)) :
    DStk g1 ∧ g1.cur.data = g.cur.data ∧ g1.stmt = g.stmt ∧ Q a := by
  have h' := (hm g.cur.data g.stmt).run g ⟨rfl, hg.var, hg.expr, fun _ _ => trivial, rfl⟩
  rw [h] at h'
  exact ⟨⟨h'.1.var, h'.1.expr⟩, h'.1.cur, h'.1.stk, h'.2 a rfl⟩

def ErrExt (s s' : VState) : Prop := ∃ l, s'.errors = s.errors ++ l

theorem ErrExt.refl (s : VState) : ErrExt s s := ⟨[], (List.append_nil _).symm⟩

theorem ErrExt.trans {a b c : VState} (h1 : ErrExt a b) (h2 : ErrExt b c) : ErrExt a c := by
  obtain ⟨l1, e1⟩ := h1
  obtain ⟨l2, e2⟩ := h2
  exact ⟨l1 ++ l2, by rw [e2, e1, List.append_assoc]⟩

theorem ErrExt.clean {a b c : VState} (h1 : ErrExt a b) (h2 : ErrExt b c) (h : c.errors = a.errors) :
    b.errors = a.errors ∧ c.errors = b.errors := by
  obtain ⟨l1, e1⟩ := h1
  obtain ⟨l2, e2⟩ := h2
  rw [e2, e1] at h
  have hl := congrArg List.length h
  simp only [List.length_append] at hl
  rw [List.eq_nil_of_length_eq_zero (show l1.length = 0 by omega)] at e1
  rw [List.eq_nil_of_length_eq_zero (show l2.length = 0 by omega)] at e2
  exact ⟨e1.trans (List.append_nil _), e2.trans (List.append_nil _)⟩

theorem append_singleton_ne {l : List Error} {e : Error} : l ++ [e] ≠ l := by
  intro h
  have := congrArg List.length h
  simp at this

/-- a visit adds one error (the run failed) or none -/
theorem visit_errExt (n : Node) (s : VState) : ErrExt s (visit n s) := by
  cases n <;> simp only [visit, visitVariable, visitExpression, visitStatement] <;> split
  all_goals first | exact ErrExt.refl _ | exact ⟨[_], rfl⟩

theorem _root_.Basic.Codegen.Chain.clean {C : Node → VState → VState → Prop} {ns : List Node} {s s' : VState}
    (h : Chain (fun n s s' => ErrExt s s' ∧ (s'.errors = s.errors → C n s s')) ns s s') :
    ErrExt s s' ∧ (s'.errors = s.errors → Chain C ns s s') := by
  induction h with
  | nil => exact ⟨ErrExt.refl _, fun _ => .nil _⟩
  | cons h _ ih =>
    refine ⟨h.1.trans ih.1, fun hcl => ?_⟩
    obtain ⟨e1, e2⟩ := h.1.clean ih.1 hcl
    exact .cons (h.2 e1) (ih.2 e2)

/-- **the clean path**: when nothing is reported for a node, nothing was reported for any of its children,
    and what holds of the children's clean visits may be assumed for the node's own (`s'` is where the
    children lead) -/
theorem accept_clean_ind {C : Node → VState → VState → Prop}
    (step : ∀ n s s', Chain C n.kids s s' → s'.errors = s.errors → (visit n s').errors = s'.errors →
      C n s (visit n s'))
    (n : Node) (s : VState) : ErrExt s (accept n s) ∧ ((accept n s).errors = s.errors → C n s (accept n s)) :=
  accept_ind (P := fun n s s' => ErrExt s s' ∧ (s'.errors = s.errors → C n s s')) (fun n s s' hc => by
    refine ⟨hc.clean.1.trans (visit_errExt n s'), fun hcl => ?_⟩
    obtain ⟨hk, ho⟩ := hc.clean.1.clean (visit_errExt n s') hcl
    exact step n s s' (hc.clean.2 hk) hk ho) n s

theorem acceptAll_clean {C : Node → VState → VState → Prop}
    (h : ∀ n s, ErrExt s (accept n s) ∧ ((accept n s).errors = s.errors → C n s (accept n s))) (ns : List Node)
    (s : VState) : ErrExt s (acceptAll ns s) ∧ ((acceptAll ns s).errors = s.errors → Chain C ns s (acceptAll ns s)) :=
  Chain.clean (acceptAll_ch h ns s)

/-- the value of a literal -/
def litVal : Expr → Option Val
  | .single _ b => some (.sng b)
  | .double _ b => some (.dbl b)
  | .integer _ n => some (.int n)
  | .string _ s => some (.str s)
  | _ => none

/-- a DATA constant: a literal, or a numeric literal under one unary minus (negated as
    `transformToData` does, with `Ops.negate`) -/
def constOf : Expr → Option Val
  | .neg _ e =>
    match litVal e with
    | some v => (match Ops.negate v with | .ok nv => some nv | .error _ => none)
    | none => none
  | e => litVal e

/-- the constants of one DATA statement, left to right, up to the first item that is not a constant
    (codegen reports that item and stops the statement; the earlier constants stay) -/
def constsOf : List Expr → List Val
  | [] => []
  | e :: es => match constOf e with
    | some v => v :: constsOf es
    | none => []

mutual
/-- the constants of a statement: DATA, also inside the branches of IF (THEN branch first) -/
def stmtData : Stmt → List Val
  | .data _ es => constsOf es
  | .«if» _ _ th el => stmtsData th ++ stmtsData el
  | _ => []
def stmtsData : List Stmt → List Val
  | [] => []
  | st :: sts => stmtData st ++ stmtsData sts
end

mutual
/-- every DATA item is a constant -/
def stmtLit : Stmt → Bool
  | .data _ es => es.all fun e => (constOf e).isSome
  | .«if» _ _ th el => stmtsLit th && stmtsLit el
  | _ => true
def stmtsLit : List Stmt → Bool
  | [] => true
  | st :: sts => stmtLit st && stmtsLit sts
end

example : stmtsData [.data (0,0) [.integer (0,0) 1, .neg (0,0) (.integer (0,0) 2)], .end (0,0),
    .«if» (0,0) (.integer (0,0) 1) [.data (0,0) [.string (0,0) ['A']]] [.data (0,0) [.integer (0,0) 5]]] =
    [.int 1, .int (-2), .str ['A'], .int 5] := by decide

/-- the variable and expression stacks stay data-free through every visit, reports or not (DATA turns a
    fragment into data, but that fragment has been popped) -/
def dInv : GInv where
  C := T
  V := fun v => v.link.data = #[]
  E := fun l => l.data = #[]
  S := T
  K := T
  Y := T
  N := T
  A := T
  R := T

theorem dInv_closed : Closed dInv T := by
  have es : ExprCl (dInv.withC T) :=
    ⟨.of_true fun _ => trivial, fun _ _ _ _ => trivial, fun _ _ _ _ => trivial, fun _ h => h, fun _ _ => trivial,
     fun _ _ _ _ => trivial, trivial⟩
  have l : LabelCl (dInv.withC T) := ⟨fun _ _ => ⟨trivial, trivial⟩, fun _ _ _ _ => trivial⟩
  exact {
    expr := ⟨.of_true fun _ => trivial, fun _ _ h _ => h, (kdOk #[] #[]).append, fun _ h => h, fun _ _ => trivial,
      fun _ _ _ _ => trivial, trivial⟩
    stmt := es, label := l
    ref := RefCl.of es l fun _ _ _ _ _ _ => trivial
    mark := ⟨fun _ _ _ _ _ => trivial, fun _ _ _ _ _ => trivial⟩
    td := fun _ _ _ _ _ => trivial
    pop := fun _ _ _ => trivial
    appS := fun _ _ _ _ => trivial
    nilE := rfl, nilS := trivial
    done := fun _ _ => trivial
    var := fun _ _ _ _ h _ _ => h
    stk := fun _ _ _ _ => trivial }

theorem visit_dstk (n : Node) (s : VState) (h : DStk s.g) : DStk (visit n s).g :=
  have r := visit_keeps dInv_closed (C' := T) n (fun v _ => .of_true (fun _ => trivial) (fun _ => trivial) v) s
    ⟨trivial, h.var, h.expr, fun _ _ => trivial, trivial⟩
  ⟨r.var, r.expr⟩

theorem accept_dstk (n : Node) (s : VState) : DStk s.g → DStk (accept n s).g :=
  accept_inv (W := fun _ => True) (fun _ _ _ _ => trivial) (fun n s _ => visit_dstk n s) n s trivial

/-- the effect of visiting statements whose constants are `d`: the other stacks stay data-free, errors
    are only added (the middle conjunct is `ErrExt s s'`), and when none is added exactly `n` fragments are
    pushed, carrying `d` -/
def StEff (n : Nat) (d : List Val) (s s' : VState) : Prop :=
  DStk s.g → DStk s'.g ∧ (∃ l, s'.errors = s.errors ++ l) ∧
    (s'.errors = s.errors → ∃ frs : List (Col × Link), frs.length = n ∧ s'.g.stmt = s.g.stmt ++ frs.toArray ∧
      (frs.map (·.2.data.toList)).flatten = d)

theorem kd_genStatement_plain (st : Stmt) (hp : Stmt.plain st = true) :
    ∀ d0 st0, PH (kdInv d0 st0) (genStatement st) T :=
  fun d0 st0 => ph_genStatement_plain (kdOk d0 st0) (kdRef d0 st0) (kdMark d0 st0) st hp

theorem acceptExpr_lit : ∀ (e : Expr) (v : Val), litVal e = some v → ∀ s : VState,
    ∃ c, acceptExpr e s = { s with g := { s.g with expr := s.g.expr.push (c, { ops := #[.literal v] }) } }
  | .single c _, _, rfl, _ => ⟨c, rfl⟩
  | .double c _, _, rfl, _ => ⟨c, rfl⟩
  | .integer c _, _, rfl, _ => ⟨c, rfl⟩
  | .string c _, _, rfl, _ => ⟨c, rfl⟩

inductive All2 {γ δ : Type} (R : γ → δ → Prop) : List γ → List δ → Prop
  | nil : All2 R [] []
  | cons {a b as bs} : R a b → All2 R as bs → All2 R (a :: as) (b :: bs)

theorem All2.length {γ δ : Type} {R : γ → δ → Prop} {as : List γ} {bs : List δ} (h : All2 R as bs) :
    as.length = bs.length := by
  induction h with
  | nil => rfl
  | cons _ _ ih => simp [ih]

/-- the loop of DATA, when it succeeds: every fragment passed the check `r`, and the data of the fragments `f x` appended
    is what the fragment under construction gained -/
theorem append_loop (r : Col × Link → Except Error Unit) (f : Col × Link → Link) :
    ∀ (frs : List (Col × Link)) (g g' : GState) (u : PUnit),
    (forIn frs PUnit.unit fun (x : Col × Link) (_ : PUnit) => (do
        liftE (r x)
        lappend (f x)
        pure (ForInStep.yield PUnit.unit) : GM (ForInStep PUnit))).run.run g = (.ok u, g') →
    (∀ x ∈ frs, r x = .ok ()) ∧
      g'.cur.data.toList = g.cur.data.toList ++ (frs.map fun x => (f x).data.toList).flatten ∧
      g'.stmt = g.stmt ∧ g'.var = g.var ∧ g'.expr = g.expr
  | [], g, g', u, hr => by
    rw [List.forIn_nil] at hr
    cases hr
    exact ⟨fun _ h => (nomatch h), by simp, rfl, rfl, rfl⟩
  | fr :: frs, g, g', u, hr => by
    rw [List.forIn_cons, grun_bind] at hr
    simp only [grun_bind, grun_liftE, grun_lappend, grun_pure] at hr
    cases hc : r fr with
    | error e => rw [hc] at hr; cases hr
    | ok w =>
      rw [hc] at hr
      dsimp only at hr
      cases ha : (g.cur.append (f fr)).2 with
      | error e => rw [ha] at hr; cases hr
      | ok w' =>
        rw [ha] at hr
        dsimp only at hr
        obtain ⟨i0, i1, i2, i3, i4⟩ := append_loop r f frs _ _ _ hr
        refine ⟨fun x hx => ?_, ?_, i2, i3, i4⟩
        · rcases List.mem_cons.1 hx with rfl | hx
          · exact hc
          · exact i0 x hx
        · rw [i1]
          show (g.cur.append (f fr)).1.data.toList ++ _ = _
          rw [append_data ha]
          simp

/-- `append_loop` without a check: IF appending its branches, an array variable its subscripts -/
theorem stmt_loop (frs : List (Col × Link)) (g g' : GState) (u : PUnit)
    (hr : (forIn frs PUnit.unit fun (x : Col × Link) (_ : PUnit) => (do
        lappend x.snd
        pure (ForInStep.yield PUnit.unit) : GM (ForInStep PUnit))).run.run g = (.ok u, g')) :
    g'.cur.data.toList = g.cur.data.toList ++ (frs.map (·.2.data.toList)).flatten ∧
      g'.stmt = g.stmt ∧ g'.var = g.var ∧ g'.expr = g.expr :=
  (append_loop (fun _ => .ok ()) (·.2) frs g g' u hr).2

/-- `kd_step` under a bind: data and statement stack are still `d` and `st` when the rest runs -/
theorem kd_bind {m : GM α} {f : α → GM β} {Q : α → Prop} (hm : ∀ d0 st0, PH (kdInv d0 st0) m Q)
    {g g2 : GState} {b : β} {d : Array Val} {st : Array (Col × Link)}
    (hg : DStk g ∧ g.cur.data = d ∧ g.stmt = st) (h : (m >>= f).run.run g = (.ok b, g2)) :
    ∃ a g1, Q a ∧ (DStk g1 ∧ g1.cur.data = d ∧ g1.stmt = st) ∧ (f a).run.run g1 = (.ok b, g2) := by
  obtain ⟨a, g1, h1, h2⟩ := bind_ok_inv h
  obtain ⟨k1, k2, k3, k4⟩ := kd_step hm hg.1 h1
  exact ⟨a, g1, k4, ⟨k1, k2.trans hg.2.1, k3.trans hg.2.2⟩, h2⟩

/-- **IF**: when the generator succeeds on a statement stack that ends with the fragments of the THEN
    branch followed by those of the ELSE branch, it removes them and the new fragment carries their
    data in that order -/
theorem if_gen (c : Col) (p : Expr) (th el : List Stmt) (g : GState) (pre : Array (Col × Link))
    (thf elf : List (Col × Link)) (hst : g.stmt = pre ++ thf.toArray ++ elf.toArray)
    (hth : thf.length = th.length) (hel : elf.length = el.length) (hg : DStk g) (a : Col) (g' : GState)
    (h : (genStatement (.«if» c p th el)).run.run g = (.ok a, g')) :
    g'.stmt = pre ∧
    g'.cur.data.toList = g.cur.data.toList ++ (thf.map (·.2.data.toList)).flatten ++ (elf.map (·.2.data.toList)).flatten := by
  simp only [genStatement] at h
  obtain ⟨x, g1, k1q, k1, h⟩ := kd_bind (Q := fun x => x.2.data = #[]) (fun _ _ => .of_gen h_popExpr) ⟨hg, rfl, hst⟩ h
  obtain ⟨_, g2, -, k2, h⟩ := kd_bind (fun d0 st0 => .of_gen (h_lappend (kdOk d0 st0).expr x.2 k1q)) k1 h
  obtain ⟨sym, g3, -, k3, h⟩ := kd_bind (fun d0 st0 => .of_gen (h_lnextSymbol (kdOk d0 st0).label).any) k2 h
  obtain ⟨_, g4, -, ⟨k4d, k4c, k4s⟩, h⟩ := kd_bind (fun d0 st0 => (kdRef d0 st0).pushIfnot c sym) k3 h
  rw [← hel, ← hth, grun_bind_ok (popNStmt_run g4 _ elf k4s), grun_bind_ok (popNStmt_run _ pre thf rfl)] at h
  obtain ⟨_, g5, h5, h⟩ := bind_ok_inv h
  obtain ⟨l1, l2, l3, l4⟩ := stmt_loop thf _ _ _ h5
  have k5 : DStk g5 ∧ g5.cur.data = g5.cur.data ∧ g5.stmt = pre := ⟨⟨by rw [l3]; exact k4d.var, by rw [l4]; exact k4d.expr⟩, rfl, l2⟩
  have l1' : g5.cur.data.toList = g.cur.data.toList ++ (thf.map (·.2.data.toList)).flatten := by
    rw [l1]
    show g4.cur.data.toList ++ _ = _
    rw [k4c]
  by_cases hz : elf.length = 0
  · rw [if_pos hz] at h
    obtain ⟨_, g6, -, ⟨-, k6c, k6s⟩, h⟩ :=
      kd_bind (fun d0 st0 => .of_gen (h_lpushSymbol (kdOk d0 st0).label sym trivial)) k5 h
    cases h
    rw [k6c, l1', List.eq_nil_of_length_eq_zero hz]
    exact ⟨k6s, by simp⟩
  · rw [if_neg hz] at h
    obtain ⟨fin, g6, -, k6, h⟩ := kd_bind (fun d0 st0 => .of_gen (h_lnextSymbol (kdOk d0 st0).label).any) k5 h
    obtain ⟨_, g7, -, k7, h⟩ := kd_bind (fun d0 st0 => (kdRef d0 st0).pushJump c fin) k6 h
    obtain ⟨_, g8, -, ⟨k8d, k8c, k8s⟩, h⟩ :=
      kd_bind (fun d0 st0 => .of_gen (h_lpushSymbol (kdOk d0 st0).label sym trivial)) k7 h
    obtain ⟨_, g9, h9, h⟩ := bind_ok_inv h
    obtain ⟨m1, m2, m3, m4⟩ := stmt_loop elf _ _ _ h9
    have k9 : DStk g9 ∧ g9.cur.data = g9.cur.data ∧ g9.stmt = pre :=
      ⟨⟨by rw [m3]; exact k8d.var, by rw [m4]; exact k8d.expr⟩, rfl, m2.trans k8s⟩
    obtain ⟨_, g10, -, ⟨-, k10c, k10s⟩, h⟩ :=
      kd_bind (fun d0 st0 => .of_gen (h_lpushSymbol (kdOk d0 st0).label fin trivial)) k9 h
    cases h
    rw [k10c, m1, k8c, l1']
    exact ⟨k10s, rfl⟩

theorem stmtData_plain (st : Stmt) (hp : Stmt.plain st = true) : stmtData st = [] := by
  cases st <;> first | rfl | cases hp

/-- the constants of a numbered line: those of its statements if it parses, none if it does not -/
def lineData (line : Line) : List Val :=
  match Parse.parse line.number line.tokens with
  | .ok ast => stmtsData ast
  | .error _ => []

/-- **the data sequence of a listing**: the constants of every DATA statement, in line order, left
    to right within a line -/
def dataOf (lines : List Line) : List Val := lines.flatMap lineData

def Numbered (ls : List Line) : Prop := ∀ l ∈ ls, ∃ n : Nat, l.number = some n

/-- every DATA item of every line that parses is a constant (a syntactic, decidable condition) -/
def DataLits (lines : List Line) : Prop :=
  ∀ l ∈ lines, ∀ ast, Parse.parse l.number l.tokens = .ok ast → stmtsLit ast = true

theorem codegenLine_errors (p : Program) (line : Line) (n : Nat) (hn : line.number = some n) :
    (∃ new, (p.codegenLine line).errors = p.errors ++ new) ∧
    ((p.codegenLine line).errors = p.errors →
      ∃ ast, Parse.parse line.number line.tokens = .ok ast ∧ (Codegen.codegen (p.link.pushSymbol n) ast).2 = []) := by
  cases hp : Parse.parse line.number line.tokens with
  | error e =>
    rw [Program.codegenLine_numbered p line n hn, Program.genNumbered_error (hn ▸ hp)]
    exact ⟨⟨[e], rfl⟩, fun hc => absurd hc append_singleton_ne⟩
  | ok ast =>
    rw [Program.codegenLine_numbered p line n hn, Program.genNumbered_ok (hn ▸ hp)]
    refine ⟨⟨_, rfl⟩, fun hc => ⟨ast, rfl, ?_⟩⟩
    have := congrArg List.length hc
    simp only [Program.genAst, Program.startLine, List.length_append, List.length_map] at this
    exact List.eq_nil_of_length_eq_zero (by omega)

/-- the constants of a token list (the line number plays no role: `parse` uses it only to label errors) -/
def tokData (ts : List Token) : List Val :=
  match Parse.parseTokens ts with
  | .ok ast => stmtsData ast
  | .error _ => []

theorem lineData_eq_tokData (line : Line) : lineData line = tokData line.tokens := by
  unfold lineData tokData Parse.parse
  cases Parse.parseTokens line.tokens <;> rfl

def carriesData (line : Line) : Bool := !(lineData line).isEmpty

theorem dataOf_filter (lines : List Line) : dataOf lines = dataOf (lines.filter carriesData) := by
  unfold dataOf
  induction lines with
  | nil => rfl
  | cons l ls ih =>
    by_cases h : carriesData l = true
    · rw [List.filter_cons_of_pos h, List.flatMap_cons, List.flatMap_cons, ih]
    · rw [List.filter_cons_of_neg h, List.flatMap_cons, ih]
      have : lineData l = [] := by
        unfold carriesData at h
        cases hl : lineData l with
        | nil => rfl
        | cons a b => rw [hl] at h; exact absurd rfl h
      rw [this, List.nil_append]

/-- `dataOf` sees only the token lists of the lines that carry constants, in listing order: line
    numbers, and the code lines in between, play no role -/
theorem dataOf_eq_tokens (lines : List Line) : dataOf lines = ((lines.filter carriesData).map (·.tokens)).flatMap tokData := by
  rw [dataOf_filter]
  unfold dataOf
  induction lines.filter carriesData with
  | nil => rfl
  | cons l ls ih => rw [List.flatMap_cons, List.map_cons, List.flatMap_cons, ih, lineData_eq_tokData]

/-- the line a RESTORE operand names (`none`: plain RESTORE — the parser supplies −1 — or not a line number) -/
def restoreTarget (bits : UInt32) : Option Nat :=
  match (Val.sng bits).toLineNumber with
  | .ok ln => ln
  | .error _ => none

/-- the fragment of `RESTORE [n]`: one instruction `restore 0`; with an operand, a pending reference
    to the line's symbol, to be patched by the linker with the line's **data** address -/
def restoreFrag (sub : Col) : Option Nat → Link
  | some n => { ops := #[.restore 0], unlinked := [(0, (sub, (n : Int)))] }
  | none => { ops := #[.restore 0] }

theorem acceptExpr_single (c2 : Col) (bits : UInt32) (s : VState) :
    acceptExpr (.single c2 bits) s =
      { s with g := { s.g with expr := s.g.expr.push (c2, { ops := #[.literal (.sng bits)] }) } } :=
  rfl

theorem pushRestore_clean (sub : Col) (ln : Option Nat) (v : Array VarItem) (ex st : Array (Col × Link)) :
    Clean (pushRestore sub ln) ⟨v, ex, st, {}⟩ () ⟨v, ex, st, restoreFrag sub ln⟩ := by
  unfold pushRestore
  cases ln with
  | none =>
    simp only [Option.isSome_none, Bool.false_eq_true, if_false]
    exact .lpush ..
  | some n =>
    simp only [Option.isSome_some, if_true, symbolForLineNumber]
    exact .bind (.liftE rfl _) (.bind (.laddUnlinked ..) (.lpush ..))

theorem acceptStmt_restore (c c2 : Col) (bits : UInt32) (s : VState) :
    acceptStmt (.restore c (.single c2 bits)) s =
      { s with g := { s.g with stmt := s.g.stmt.push (c, restoreFrag c2 (restoreTarget bits)) } } := by
  obtain ⟨⟨v, ex, st, cur⟩, errs⟩ := s
  have h : Clean (genStatement (.restore c (.single c2 bits))) ⟨v, ex.push (c2, { ops := #[.literal (.sng bits)] }), st, {}⟩ c
      ⟨v, ex, st, restoreFrag c2 (restoreTarget bits)⟩ :=
    .bind (.popExpr ..) (.bind (pushRestore_clean ..) (.pure ..))
  rw [acceptStmt, acceptExpr_single]
  exact visitStatement_clean h (by cases restoreTarget bits <;> exact ⟨show 1 ≤ Gen.stackMaxLen by decide, Nat.zero_le _, rfl⟩) cur errs

def numberedB (ls : List Line) : Bool := ls.all fun l => l.number.isSome

theorem numbered_of_check (ls : List Line) (h : numberedB ls = true) : Numbered ls := by
  intro l hl
  have := List.all_eq_true.1 h l hl
  cases hn : l.number with
  | none => rw [hn] at this; cases this
  | some n => exact ⟨n, rfl⟩

def dataLitsB (ls : List Line) : Bool :=
  ls.all fun l => match Parse.parse l.number l.tokens with
    | .ok ast => stmtsLit ast
    | .error _ => true

theorem dataLits_of_check (ls : List Line) (h : dataLitsB ls = true) : DataLits ls := by
  intro l hl ast hp
  have := List.all_eq_true.1 h l hl
  rw [hp] at this
  exact this

/-! Concrete listings are checked on their parses: the kernel does not evaluate the parser. -/

def Parses (ls : List Line) (asts : List (List Stmt)) : Prop :=
  All2 (fun l ast => Parse.parse l.number l.tokens = .ok ast) ls asts

theorem dataOf_of_parses : ∀ (ls : List Line) (asts : List (List Stmt)), Parses ls asts →
    dataOf ls = asts.flatMap stmtsData
  | [], [], _ => rfl
  | l :: ls, ast :: asts, h => by
    cases h with
    | cons h1 h2 =>
      have ih := dataOf_of_parses ls asts h2
      unfold dataOf at ih ⊢
      rw [List.flatMap_cons, List.flatMap_cons, ih]
      unfold lineData
      rw [h1]

/-- `10 READ A` / `20 DATA 7,-8` / `30 PRINT A` / `40 DATA "X"` -/
def exRead : Line := ⟨some 10, [.word .read, .whitespace 1, .ident (.plain ['A'])]⟩
def exData1 : Line := ⟨some 20, [.word .data, .whitespace 1, .literal (.integer ['7']), .comma, .operator .minus,
  .literal (.integer ['8'])]⟩
def exPrint : Line := ⟨some 30, [.word .print, .whitespace 1, .ident (.plain ['A'])]⟩
def exData2 : Line := ⟨some 40, [.word .data, .whitespace 1, .literal (.string ['X'])]⟩

end DataOrder
end Basic

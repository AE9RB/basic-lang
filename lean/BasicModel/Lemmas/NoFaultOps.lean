import BasicModel.Model.Runtime
import BasicModel.Lemmas.NameOk
/-
  No operator, built-in function, conversion or store operation returns the fault code.  Since
  fix D21 (`Var.tyOf` looks the DEFtype table up with a checked index) this holds for the variable
  store with ANY name, and since fix D22 (`Var.defTy` refuses a range whose ends are not letters)
  for DEFtype too: `Model/Var.lean` contains no fault.

  `NFE x`: the result `x : Res α` is not a fault.  A small calculus, applied by the tactic `nfe`, walks
  through the definitions; the results proved so far are instances of the class `Safe`, which is how the
  walk finds them.
-/
namespace Basic

structure NFE {α : Type} (x : Res α) : Prop where
  out : ∀ e, x = .error e → e.isFault = false

namespace NFE
variable {α β : Type}

theorem ok (a : α) : NFE (.ok a : Res α) := ⟨fun _ h => nomatch h⟩
theorem pure (a : α) : NFE (Pure.pure a : Res α) := ⟨fun _ h => nomatch h⟩
theorem err (c : Nat) (h : (c == Code.fault) = false) : NFE (err c : Res α) := by
  constructor; intro e he; cases he; exact h
theorem errMsg (c : Nat) (m : String) (h : (c == Code.fault) = false) : NFE (errMsg c m : Res α) := by
  constructor; intro e he; cases he; exact h
theorem error (e : Error) (h : e.isFault = false) : NFE (.error e : Res α) := by
  constructor; intro e' he; cases he; exact h
theorem bind {x : Res α} {f : α → Res β} (hx : NFE x) (hf : ∀ a, NFE (f a)) : NFE (x >>= f) := by
  constructor
  intro e he
  cases x with
  | error e' => cases he; exact hx.out e rfl
  | ok a => exact (hf a).out e he
theorem bind' {x : Res α} {f : α → Res β} (hx : NFE x) (hf : ∀ a, x = .ok a → NFE (f a)) : NFE (x >>= f) := by
  constructor
  intro e he
  cases x with
  | error e' => cases he; exact hx.out e rfl
  | ok a => exact (hf a rfl).out e he
theorem map {x : Res α} {f : α → β} (hx : NFE x) : NFE (f <$> x) := by
  constructor
  intro e he
  cases x with
  | error e' => cases he; exact hx.out e rfl
  | ok a => cases he

end NFE

/-- `NFE r` as a class, for the results proved so far: the walks (`nfe` below, and the rule for
    `liftE` of the walk through the machine, `Runtime.DoesAt.lift_seq` in `Lemmas/Frame`) find the
    lemma by unification -/
class Safe {α : Type} (r : Res α) : Prop where
  nfe : NFE r

/-- one step of the walk through a definition over `Res`.  Facts about sub-terms are supplied by a `have`
    in front of the call (`assumption`) or as instances of `Safe`. -/
macro "nfe_step" : tactic => `(tactic| first
  | with_reducible exact NFE.ok _
  | with_reducible exact NFE.pure _
  | ((with_reducible refine NFE.err _ ?_); decide)
  | ((with_reducible refine NFE.errMsg _ _ ?_); decide)
  | assumption
  | exact Safe.nfe
  | with_reducible apply NFE.bind
  | with_reducible apply NFE.map
  | intro _
  | split)

macro "nfe" : tactic => `(tactic| (try dsimp only
                                   repeat' nfe_step))

theorem nfe_toI16 (v : Val) : NFE v.toI16 := by unfold Val.toI16; nfe
instance (v : Val) : Safe v.toI16 := ⟨nfe_toI16 v⟩
theorem nfe_toUnsigned (a b c : Nat) (v : Val) : NFE (Val.toUnsigned a b c v) := by unfold Val.toUnsigned; nfe
theorem nfe_toU16 (v : Val) : NFE v.toU16 := nfe_toUnsigned _ _ _ v
theorem nfe_toU32 (v : Val) : NFE v.toU32 := nfe_toUnsigned _ _ _ v
theorem nfe_toUsize (v : Val) : NFE v.toUsize := nfe_toUnsigned _ _ _ v
instance (v : Val) : Safe v.toU16 := ⟨nfe_toU16 v⟩
instance (v : Val) : Safe v.toU32 := ⟨nfe_toU32 v⟩
instance (v : Val) : Safe v.toUsize := ⟨nfe_toUsize v⟩
theorem nfe_toF32 (v : Val) : NFE v.toF32 := by unfold Val.toF32; nfe
theorem nfe_toF64 (v : Val) : NFE v.toF64 := by unfold Val.toF64; nfe
theorem nfe_toStr (v : Val) : NFE v.toStr := by unfold Val.toStr; nfe
instance (v : Val) : Safe v.toF32 := ⟨nfe_toF32 v⟩
instance (v : Val) : Safe v.toF64 := ⟨nfe_toF64 v⟩
instance (v : Val) : Safe v.toStr := ⟨nfe_toStr v⟩
theorem nfe_toLineNumber (v : Val) : NFE v.toLineNumber := by unfold Val.toLineNumber; nfe
theorem nfe_ofLineNumber (n : Option Nat) : NFE (Val.ofLineNumber n) := by unfold Val.ofLineNumber; nfe
theorem nfe_ofUsize (n : Nat) : NFE (Val.ofUsize n) := by unfold Val.ofUsize; nfe
instance (v : Val) : Safe v.toLineNumber := ⟨nfe_toLineNumber v⟩
instance (n : Nat) : Safe (Val.ofUsize n) := ⟨nfe_ofUsize n⟩

namespace Ops

theorem nfe_negate (v : Val) : NFE (negate v) := by unfold negate; nfe
theorem nfe_power (a b : Val) : NFE (power a b) := by unfold power; nfe
theorem nfe_ofChecked (o : Option Int16) : NFE (ofChecked o) := by unfold ofChecked; nfe
theorem nfe_arith (fi : Int16 → Int16 → Res Val) (fs : Float32 → Float32 → Float32) (fd : Float → Float → Float)
    (hfi : ∀ l r, NFE (fi l r)) (a b : Val) : NFE (arith fi fs fd a b) := by
  unfold arith; nfe
  exact hfi _ _
theorem nfe_multiply (a b : Val) : NFE (multiply a b) := nfe_arith _ _ _ (fun _ _ => nfe_ofChecked _) a b
theorem nfe_divide (a b : Val) : NFE (divide a b) := nfe_arith _ _ _ (fun _ _ => NFE.ok _) a b
theorem nfe_subtract (a b : Val) : NFE (subtract a b) := nfe_arith _ _ _ (fun _ _ => nfe_ofChecked _) a b
theorem nfe_sum (a b : Val) : NFE (sum a b) := by
  unfold sum
  split
  · exact NFE.ok _
  · exact NFE.err _ (by decide)
  · exact nfe_arith _ _ _ (fun _ _ => nfe_ofChecked _) _ _
instance (a b : Val) : Safe (Ops.sum a b) := ⟨Ops.nfe_sum a b⟩
theorem nfe_divint (a b : Val) : NFE (divint a b) := by unfold divint; nfe
theorem nfe_remainder (a b : Val) : NFE (remainder a b) := by unfold remainder; nfe
theorem nfe_equalBool (a b : Val) : NFE (equalBool a b) := by unfold equalBool; nfe
theorem nfe_lessBool (a b : Val) : NFE (lessBool a b) := by unfold lessBool; nfe
theorem nfe_lessEqualBool (a b : Val) : NFE (lessEqualBool a b) := by unfold lessEqualBool; nfe
instance (a b : Val) : Safe (equalBool a b) := ⟨nfe_equalBool a b⟩
instance (a b : Val) : Safe (lessBool a b) := ⟨nfe_lessBool a b⟩
instance (a b : Val) : Safe (lessEqualBool a b) := ⟨nfe_lessEqualBool a b⟩
theorem nfe_equal (a b : Val) : NFE (equal a b) := by unfold equal; nfe
theorem nfe_notEqual (a b : Val) : NFE (notEqual a b) := by unfold notEqual; nfe
theorem nfe_less (a b : Val) : NFE (less a b) := by unfold less; nfe
instance (a b : Val) : Safe (Ops.less a b) := ⟨Ops.nfe_less a b⟩
theorem nfe_greater (a b : Val) : NFE (greater a b) := by unfold greater; nfe
theorem nfe_lessEqual (a b : Val) : NFE (lessEqual a b) := by unfold lessEqual; nfe
theorem nfe_greaterEqual (a b : Val) : NFE (greaterEqual a b) := by unfold greaterEqual; nfe
theorem nfe_logic2 (f : Int16 → Int16 → Int16) (a b : Val) : NFE (logic2 f a b) := by unfold logic2; nfe
theorem nfe_and (a b : Val) : NFE (Ops.and a b) := nfe_logic2 _ a b
theorem nfe_or (a b : Val) : NFE (Ops.or a b) := nfe_logic2 _ a b
theorem nfe_xor (a b : Val) : NFE (Ops.xor a b) := nfe_logic2 _ a b
theorem nfe_imp (a b : Val) : NFE (Ops.imp a b) := nfe_logic2 _ a b
theorem nfe_eqv (a b : Val) : NFE (Ops.eqv a b) := nfe_logic2 _ a b
theorem nfe_not (a : Val) : NFE (Ops.not a) := by unfold Ops.not; nfe

end Ops

namespace Func

theorem nfe_num1 (fs : Float32 → Float32) (fd : Float → Float) (v : Val) : NFE (num1 fs fd v) := by
  unfold num1; nfe
theorem nfe_abs (v : Val) : NFE (abs v) := by unfold abs; nfe
theorem nfe_asc (v : Val) : NFE (asc v) := by unfold asc; nfe
theorem nfe_atn (v : Val) : NFE (atn v) := nfe_num1 _ _ v
theorem nfe_cos (v : Val) : NFE (cos v) := nfe_num1 _ _ v
theorem nfe_exp (v : Val) : NFE (exp v) := nfe_num1 _ _ v
theorem nfe_log (v : Val) : NFE (log v) := nfe_num1 _ _ v
theorem nfe_sin (v : Val) : NFE (sin v) := nfe_num1 _ _ v
theorem nfe_sqr (v : Val) : NFE (sqr v) := nfe_num1 _ _ v
theorem nfe_tan (v : Val) : NFE (tan v) := nfe_num1 _ _ v
theorem nfe_cdbl (v : Val) : NFE (cdbl v) := by unfold cdbl; nfe
theorem nfe_csng (v : Val) : NFE (csng v) := by unfold csng; nfe
theorem nfe_chr (v : Val) : NFE (chr v) := by unfold chr; nfe
theorem nfe_cint (v : Val) : NFE (cint v) := by unfold cint; nfe
theorem nfe_fix (v : Val) : NFE (fix v) := by unfold fix; nfe
theorem nfe_int (v : Val) : NFE (int v) := by unfold int; nfe
theorem nfe_hex (v : Val) : NFE (hex v) := by unfold hex; nfe
theorem nfe_oct (v : Val) : NFE (oct v) := by unfold oct; nfe
theorem nfe_instr (args : List Val) : NFE (instr args) := by unfold instr; nfe
instance (l : List Val) : Safe (Func.instr l) := ⟨Func.nfe_instr l⟩
theorem nfe_left (a b : Val) : NFE (left a b) := by unfold left; nfe
theorem nfe_len (a : Val) : NFE (len a) := by unfold len; nfe
theorem nfe_mid (args : List Val) : NFE (mid args) := by unfold mid; nfe
instance (l : List Val) : Safe (Func.mid l) := ⟨Func.nfe_mid l⟩
theorem nfe_pos (c : Nat) : NFE (pos c) := by unfold pos; nfe
instance (c : Nat) : Safe (Func.pos c) := ⟨Func.nfe_pos c⟩
theorem nfe_right (a b : Val) : NFE (right a b) := by unfold right; nfe
theorem nfe_sgn (v : Val) : NFE (sgn v) := by unfold sgn; nfe
theorem nfe_spc (v : Val) : NFE (spc v) := by unfold spc; nfe
theorem nfe_str (v : Val) : NFE (str v) := by unfold str; nfe
theorem nfe_string (a b : Val) : NFE (string a b) := by unfold string; nfe
theorem nfe_tab (c : Nat) (v : Val) : NFE (tab c v) := by unfold tab; nfe
instance (c : Nat) (v : Val) : Safe (Func.tab c v) := ⟨Func.nfe_tab c v⟩
theorem nfe_val (v : Val) : NFE (val v) := by unfold val; nfe
theorem nfe_rnd (st : Nat × Nat × Nat) (args : List Val) : NFE (rnd st args) := by unfold rnd; nfe
instance (st : Nat × Nat × Nat) (l : List Val) : Safe (Func.rnd st l) := ⟨Func.nfe_rnd st l⟩

end Func
namespace Var

theorem letterIndex_lt {c : Char} (h1 : 65 ≤ c.toNat) (h2 : c.toNat ≤ 90) : letterIndex c < 26 := by
  unfold letterIndex
  rw [if_pos h1]
  omega

/-- the type table is looked up with a checked index (fix D21): never a fault, for any name -/
theorem nfe_tyOf (v : Var) (name : Str) : NFE (v.tyOf name) := by
  unfold tyOf
  cases suffixTy name with
  | some t => exact NFE.ok _
  | none =>
    dsimp only
    cases name with
    | nil => exact NFE.ok _
    | cons c r => dsimp only; split <;> exact NFE.ok _

theorem nfe_fetch (v : Var) (name : Str) : NFE (v.fetch name) := by
  have := nfe_tyOf v name
  unfold fetch; nfe
instance (v : Var) (n : Str) : Safe (v.fetch n) := ⟨Var.nfe_fetch v n⟩

theorem nfe_insertString (v : Var) (n : Str) (x : Val) : NFE (v.insertString n x) := by unfold insertString; nfe
theorem nfe_insertInteger (v : Var) (n : Str) (x : Val) : NFE (v.insertInteger n x) := by unfold insertInteger; nfe
theorem nfe_insertSingle (v : Var) (n : Str) (x : Val) : NFE (v.insertSingle n x) := by unfold insertSingle; nfe
theorem nfe_insertDouble (v : Var) (n : Str) (x : Val) : NFE (v.insertDouble n x) := by unfold insertDouble; nfe
theorem nfe_insertTy (v : Var) (t : VarTy) (n : Str) (x : Val) : NFE (v.insertTy t n x) := by
  cases t
  · exact nfe_insertInteger v n x
  · exact nfe_insertSingle v n x
  · exact nfe_insertDouble v n x
  · exact nfe_insertString v n x

theorem nfe_store (v : Var) (name : Str) (x : Val) : NFE (v.store name x) := by
  have := nfe_tyOf v name
  have hi := fun t => nfe_insertTy v t name x
  unfold store; nfe
  exact hi _
instance (v : Var) (n : Str) (x : Val) : Safe (v.store n x) := ⟨Var.nfe_store v n x⟩

theorem nfe_vecValToVecI16 (l : List Val) : NFE (vecValToVecI16 l) := by
  induction l with
  | nil => unfold vecValToVecI16; exact NFE.ok _
  | cons x r ih =>
    unfold vecValToVecI16
    split
    · nfe
    · rename_i e he
      split
      · exact NFE.err _ (by decide)
      · exact NFE.error _ ((nfe_toI16 x).out e he)

theorem letter1_arrayKey {name : Str} (h : Letter1 name) (idx : List Int16) : Letter1 (arrayKey name idx) := by
  unfold arrayKey
  rw [List.append_assoc]
  exact h.append _

theorem nfe_buildArrayKey_tail (name : Str) (vd : Var × List Int16) (requested : List Int16) :
    NFE (if vd.2.length ≠ requested.length then (vd.1, (err Code.subscriptOutOfRange : Res Str))
      else if withinBounds requested vd.2 then (vd.1, .ok (arrayKey name requested))
      else (vd.1, err Code.subscriptOutOfRange)).2 := by
  by_cases h1 : vd.2.length ≠ requested.length
  · rw [if_pos h1]; exact NFE.err _ (by decide)
  · rw [if_neg h1]
    by_cases h2 : withinBounds requested vd.2 = true
    · rw [if_pos h2]; exact NFE.ok _
    · rw [if_neg h2]; exact NFE.err _ (by decide)

theorem nfe_buildArrayKey (v : Var) (name : Str) (arr : List Val) : NFE (v.buildArrayKey name arr).2 := by
  unfold buildArrayKey
  split
  · rename_i e he
    exact NFE.error _ ((nfe_vecValToVecI16 arr).out e he)
  · exact nfe_buildArrayKey_tail name _ _

theorem nfe_storeArray (v : Var) (name : Str) (arr : List Val) (x : Val) : NFE (v.storeArray name arr x).2 := by
  have hb := nfe_buildArrayKey v name arr
  unfold storeArray
  generalize v.buildArrayKey name arr = r at hb
  obtain ⟨v', rk⟩ := r
  cases rk with
  | error e => dsimp only; exact NFE.error _ (hb.out e rfl)
  | ok key =>
    dsimp only
    have hs := nfe_store v' key x
    generalize v'.store key x = rs at hs
    cases rs with
    | ok _ => dsimp only; exact NFE.ok _
    | error e => dsimp only; exact NFE.error _ (hs.out e rfl)
instance (v : Var) (n : Str) (a : List Val) (x : Val) : Safe (v.storeArray n a x).2 := ⟨Var.nfe_storeArray v n a x⟩

theorem nfe_fetchArray (v : Var) (name : Str) (arr : List Val) : NFE (v.fetchArray name arr).2 := by
  have hb := nfe_buildArrayKey v name arr
  unfold fetchArray
  generalize v.buildArrayKey name arr = r at hb
  obtain ⟨v', rk⟩ := r
  cases rk with
  | error e => dsimp only; exact NFE.error _ (hb.out e rfl)
  | ok key => dsimp only; exact nfe_fetch v' key
instance (v : Var) (n : Str) (a : List Val) : Safe (v.fetchArray n a).2 := ⟨Var.nfe_fetchArray v n a⟩

theorem nfe_eraseArray (v : Var) (name : Str) : NFE (v.eraseArray name) := by unfold eraseArray; nfe
instance (v : Var) (n : Str) : Safe (v.eraseArray n) := ⟨Var.nfe_eraseArray v n⟩
theorem nfe_dimensionArray (v : Var) (name : Str) (arr : List Val) : NFE (v.dimensionArray name arr) := by
  have := nfe_vecValToVecI16 arr
  unfold dimensionArray; nfe
instance (v : Var) (n : Str) (a : List Val) : Safe (v.dimensionArray n a) := ⟨Var.nfe_dimensionArray v n a⟩

/-- DEFtype never faults (fix D22: the range is refused unless both ends are letters) -/
theorem nfe_defTy (v : Var) (t : VarTy) (frm to : Val) : NFE (v.defTy t frm to) := by
  unfold defTy; nfe
instance (v : Var) (t : VarTy) (a b : Val) : Safe (v.defTy t a b) := ⟨Var.nfe_defTy v t a b⟩

end Var

theorem Link.nfe_readData (l : Link) : NFE l.readData.2 := by
  unfold Link.readData
  split
  · exact NFE.ok _
  · exact NFE.error _ rfl
instance (l : Link) : Safe l.readData.2 := ⟨Link.nfe_readData l⟩

namespace Listing

theorem nfe_renumGo (a b c : Nat) : ∀ (l : List Nat) (x y : Nat), NFE (renumGo a b c l x y) := by
  intro l
  induction l with
  | nil => intro x y; unfold renumGo; exact NFE.ok _
  | cons ln r ih =>
    intro x y
    unfold renumGo
    nfe
    all_goals exact ih _ _

theorem nfe_renumPlan (keys : List Nat) (a b c : Nat) : NFE (renumPlan keys a b c) := by
  unfold renumPlan
  split
  · exact NFE.err _ (by decide)
  · exact nfe_renumGo _ _ _ _ _ _

theorem nfe_renum (f : List (Nat × Nat) → Line → Line) (l : Listing) (a b c : Nat) : NFE (l.renum f a b c) := by
  have := nfe_renumPlan (l.source.map (·.1)) a b c
  unfold renum; nfe
instance (f : List (Nat × Nat) → Line → Line) (l : Listing) (a b c : Nat) : Safe (l.renum f a b c) :=
  ⟨Listing.nfe_renum f l a b c⟩

end Listing

/-- NEXT lifts `if step < 0 then Ops.less cur to else Ops.less to cur` -/
instance {α : Type} (c : Prop) [Decidable c] (a b : Res α) [Safe a] [Safe b] : Safe (if c then a else b) := by
  split <;> assumption

/-- a component of a pair that a `match` has taken apart -/
theorem Safe.of_eq {α β : Type} {p : β × Res α} {b : β} {r : Res α} [h : Safe p.2] (e : p = (b, r)) : Safe r := by
  subst e; exact h

namespace Runtime

/- `Safe.of_eq` for a caller that has the pair equation and wants `NFE` itself -/
theorem nfe_of_storeArray {vs vs' : Var} {name : Str} {arr : List Val} {x : Val} {r : Res Unit}
    (heq : vs.storeArray name arr x = (vs', r)) : NFE r :=
  (Safe.of_eq heq).nfe

theorem nfe_of_fetchArray {vs vs' : Var} {name : Str} {arr : List Val} {r : Res Val}
    (heq : vs.fetchArray name arr = (vs', r)) : NFE r :=
  (Safe.of_eq heq).nfe

end Runtime
end Basic

import BasicModel.Lemmas.NameOk
import BasicModel.Lemmas.ParseRun
/-
  One walk through the parser (`Model/Parse.lean`) for its two invariants.

  * `wp m s Q E`: `m` run from `s` ends in `Q a s'` or fails with an error satisfying `E`.
  * `Spec G m pre need R`: the contract of a parser function.  From any state `s` it relates `s`,
    the result and the final state by `R` (how many of the `rem s` unread tokens it consumes at
    least); it fails with the `fault` error only if `need s` (enough fuel for `rem s`) is false; and,
    under the flag `G`, it takes fine arguments (`pre`) and fine tokens to a fine result and fine
    tokens.  `G := False` forgets the names (`ParseNoFault.lean`), `G := True` keeps them
    (`ParseNames.lean`; `Pres` there is that half of a contract alone).
  * Contracts are instances, so that the one rule for a call, `Spec.tail`, finds the contract of
    the function called by unification.

  `rem`, `osz` and the `HasOk` vocabulary keep the namespaces of the two uses.
-/
namespace Basic
namespace Lemmas.ParseNoFault
open Parse

/-- number of tokens not yet consumed, counting the look-ahead -/
def rem (s : PState) : Nat := s.toks.length + (if s.peeked.isSome then 1 else 0)

def osz {α} : Option α → Nat
  | some _ => 1
  | none => 0

@[simp] theorem osz_some {α} (a : α) : osz (some a) = 1 := rfl
@[simp] theorem osz_none {α} : osz (none : Option α) = 0 := rfl

end Lemmas.ParseNoFault

namespace Lemmas.ParseNames
open Parse

class HasOk (α : Type) where
  ok : α → Prop

export HasOk (ok)

def TokOk (t : Token) : Prop := ∀ i, t = .ident i → Letter1 i.name
def StOk (s : PState) : Prop := (∀ t ∈ s.toks, TokOk t) ∧ (∀ t, s.peeked = some t → TokOk t)

instance : HasOk Token := ⟨TokOk⟩
instance : HasOk TIdent := ⟨fun i => Letter1 i.name⟩
instance : HasOk Variable := ⟨VarOk⟩
instance : HasOk Expr := ⟨ExprOk⟩
instance : HasOk Stmt := ⟨StmtOk⟩
instance : HasOk PState := ⟨StOk⟩
instance : HasOk Unit := ⟨fun _ => True⟩
instance : HasOk Bool := ⟨fun _ => True⟩
instance : HasOk Nat := ⟨fun _ => True⟩
instance : HasOk Char := ⟨fun _ => True⟩
instance : HasOk Str := ⟨fun _ => True⟩
instance {α} [HasOk α] : HasOk (Option α) := ⟨fun o => ∀ a, o = some a → ok a⟩
instance {α} [HasOk α] : HasOk (List α) := ⟨fun l => ∀ a ∈ l, ok a⟩
instance {α β} [HasOk α] [HasOk β] : HasOk (α × β) := ⟨fun p => ok p.1 ∧ ok p.2⟩

/-- unfold `ok` at every type (at an instance it is the instance's predicate by projection, so `simp only [ok]` needs no
    lemma per type), and the AST predicates at constructors -/
macro "ok_simp" : tactic => `(tactic|
  simp_all only [ok, TokOk, VarOk, ExprOk, Parse.lineExpr, exprsOk_iff, stmtsOk_iff, StmtOk, VarsOk, NameOk,
    Option.some.injEq, Token.ident.injEq, forall_eq', forall_eq, and_self, and_true, true_and, implies_true,
    reduceCtorEq, false_implies, List.mem_cons, List.mem_nil_iff, or_false, forall_eq_or_imp, List.not_mem_nil,
    List.mem_append, List.mem_singleton, or_true, true_or, List.mem_map, forall_exists_index,
    forall_apply_eq_imp_iff₂, or_imp, forall_and])

end Lemmas.ParseNames

namespace Lemmas.ParseWalk
open Parse ParseNoFault ParseNames

def wp {α} (m : PM α) (s : PState) (Q : α → PState → Prop) (E : Error → Prop) : Prop :=
  match m s with
  | .ok (a, s') => Q a s'
  | .error e => E e

section
variable {α β : Type} {s : PState} {Q : α → PState → Prop} {E : Error → Prop} {need : Prop}

theorem wp.pure {a : α} (h : Q a s) : wp (pure a) s Q E := h

theorem wp.bind {x : PM α} {k : α → PM β} {Q : β → PState → Prop}
    (h : wp x s (fun a s' => wp (k a) s' Q E) E) : wp (x >>= k) s Q E := by
  unfold wp at h ⊢
  show match (x s >>= fun p => k p.1 p.2) with | .ok (a, s') => Q a s' | .error e => E e
  cases hx : x s with
  | error e => rw [hx] at h; exact h
  | ok p => rw [hx] at h; exact h

theorem wp.mono {m : PM α} {Q' : α → PState → Prop} {E' : Error → Prop} (h : wp m s Q E)
    (hq : ∀ a s', Q a s' → Q' a s') (he : ∀ e, E e → E' e) : wp m s Q' E' := by
  unfold wp at h ⊢
  split
  · next a s' heq => rw [heq] at h; exact hq _ _ h
  · next e heq => rw [heq] at h; exact he _ h

theorem wp.throw {e : Error} (h : e.isFault = false) :
    wp (throw e : PM α) s Q (fun e => need → e.isFault = false) := fun _ => h

theorem wp.fail {code : Nat} {c : Col} {msg : String} (h : (code == Code.fault) = false) :
    wp (fail code c msg : PM α) s Q (fun e => need → e.isFault = false) := fun _ => h

theorem wp.failHere {code : Nat} {msg : String} (h : (code == Code.fault) = false) :
    wp (failHere code msg : PM α) s Q (fun e => need → e.isFault = false) := fun _ => h

/-- running out of fuel is accounted for by `need` being false -/
theorem wp.outOfFuel (h : ¬ need) : wp (outOfFuel : PM α) s Q (fun e => need → e.isFault = false) :=
  fun hn => absurd hn h

end

class Spec (G : Prop) {α : Type} [HasOk α] (m : PM α) (pre : outParam Prop)
    (need : outParam (PState → Prop)) (R : outParam (PState → α → PState → Prop)) : Prop where
  run : ∀ s, (G → pre) → (G → StOk s) →
    wp m s (fun a s' => R s a s' ∧ (G → ok a) ∧ (G → StOk s'))
      (fun e => need s → e.isFault = false)

section
variable (G : Prop) {α : Type} [HasOk α] {m : PM α} {pre : Prop} {need : PState → Prop}
  {R : PState → α → PState → Prop} {s : PState} {Q : α → PState → Prop} {need0 : Prop}

/-- a call of a function with a contract: its precondition, its fuel, then the rest of the walk
with what the contract gives -/
theorem Spec.tail [Spec G m pre need R] (hpre : G → pre) (hs : G → StOk s) (hneed : need0 → need s)
    (hk : ∀ a s', R s a s' → (G → ok a) → (G → StOk s') → Q a s') :
    wp m s Q (fun e => need0 → e.isFault = false) :=
  (Spec.run (G := G) (m := m) s hpre hs).mono (fun a s' h => hk a s' h.1 h.2.1 h.2.2)
    (fun _ h hn => h (hneed hn))

/-- an inner block with an assertion `R'` of its own: the rest of the walk is done once, from the
assertion, not once for every way through the block -/
theorem wp.seq {β : Type} {x : PM α} {k : α → PM β} {Q : β → PState → Prop} {E : Error → Prop}
    (R' : α → PState → Prop) (hx : wp x s (fun a s' => R' a s' ∧ (G → ok a) ∧ (G → StOk s')) E)
    (hk : ∀ a s', R' a s' → (G → ok a) → (G → StOk s') → wp (k a) s' Q E) : wp (x >>= k) s Q E :=
  wp.bind (hx.mono (fun a s' h => hk a s' h.1 h.2.1 h.2.2) fun _ h => h)

end

/-- a side condition on values: an assumption, or by unfolding `ok` -/
macro "ok_side" : tactic => `(tactic| first | assumption | exact fun _ => trivial | (intro _; ok_simp; done))

macro "rem_side" : tactic => `(tactic| first | exact trivial | omega)

set_option hygiene false in
/-- One step of a walk, chosen by the shape of the goal: a bind, a `pure`, a call (`Spec.tail`),
the end of the walk, an error, a case distinction (after which `osz` of the case computes).
Unhygienic: `G` is whatever `G` is in scope where the walk is run. -/
macro "wp_step" : tactic => `(tactic| first
  | with_reducible refine wp.bind ?_
  | with_reducible refine wp.pure ?_
  | (with_reducible refine Spec.tail G ?_ ?_ ?_ (fun _ _ _ _ _ => ?_)
     · ok_side
     · assumption
     · intro _; rem_side)
  | (with_reducible refine ⟨?_, ?_, ?_⟩
     · rem_side
     · ok_side
     · assumption)
  | with_reducible exact wp.fail (by decide)
  | with_reducible exact wp.failHere (by decide)
  | with_reducible exact wp.throw (by decide)
  | (split <;> try simp only [osz_some, osz_none] at *))

macro "wp_walk" : tactic => `(tactic| repeat' wp_step)

theorem nextLoop_length (ts : List Token) (r : Bool) (cs ce : Nat) :
    (nextLoop ts r cs ce).2.1.length + osz (nextLoop ts r cs ce).1 ≤ ts.length ∧
    (nextLoop ts r cs ce).2.1.length ≤ ts.length - 1 := by
  induction ts generalizing r cs ce with
  | nil => simp [nextLoop]
  | cons t ts ih =>
    unfold nextLoop
    simp only []
    split
    · have := ih (r || isRem t) ce ce
      simp only [List.length_cons]; omega
    · split
      · have := ih (r || isRem (Token.whitespace ‹_›)) ce (ce + (Token.whitespace ‹_›).text.length)
        simp only [List.length_cons]; omega
      · simp

theorem nextLoop_ok (ts : List Token) (rem : Bool) (cs ce : Nat) (h : ∀ t ∈ ts, TokOk t) :
    (∀ t, (nextLoop ts rem cs ce).1 = some t → TokOk t) ∧ (∀ t ∈ (nextLoop ts rem cs ce).2.1, TokOk t) := by
  induction ts generalizing rem cs ce with
  | nil => simp [nextLoop]
  | cons t ts ih =>
    have ht : TokOk t := h t (by simp)
    have hts : ∀ t ∈ ts, TokOk t := fun t' h' => h t' (by simp [h'])
    unfold nextLoop
    dsimp only
    split
    · exact ih _ _ _ hts
    · split
      · exact ih _ _ _ hts
      · refine ⟨?_, hts⟩
        intro t' h'
        cases h'
        exact ht

variable (G : Prop)

instance next_spec : Spec G next True (fun _ => True)
    (fun s t s' => rem s' + osz t ≤ rem s ∧ rem s' ≤ rem s - 1) := by
  refine ⟨fun s _ hs => ?_⟩
  rcases s with ⟨toks, _ | p, r, cs, ce⟩
  · have h := nextLoop_length toks r cs ce
    refine ⟨?_, fun g => (nextLoop_ok toks r cs ce (hs g).1).1, fun g => ⟨(nextLoop_ok toks r cs ce (hs g).1).2, nofun⟩⟩
    simp only [rem, Option.isSome_none, Bool.false_eq_true, if_false] at h ⊢
    omega
  · exact ⟨by simp [rem], fun g t ht => (hs g).2 t ht, fun g => ⟨(hs g).1, nofun⟩⟩

instance peek_spec : Spec G peek True (fun _ => True)
    (fun s t s' => rem s' ≤ rem s ∧ osz t ≤ rem s') := by
  refine ⟨fun s _ hs => ?_⟩
  rcases s with ⟨toks, _ | p, r, cs, ce⟩
  · have h := nextLoop_length toks r cs ce
    have ho := fun g => nextLoop_ok toks r cs ce (hs g).1
    rcases hq : nextLoop toks r cs ce with ⟨t, ts, r', cs', ce'⟩
    rw [hq] at h ho
    have hp : peek ⟨toks, none, r, cs, ce⟩ = .ok (t, ⟨ts, t, r', cs', ce'⟩) := by
      rw [show peek _ = peek.run _ from rfl, ParseRun.peek_run]
      simp only [ParseRun.tok, ParseRun.pk, ParseRun.adv, hq]
    unfold wp
    rw [hp]
    refine ⟨?_, fun g => (ho g).1, fun g => ⟨(ho g).2, (ho g).1⟩⟩
    cases t <;> simp [rem] at h ⊢ <;> omega
  · exact ⟨by simp [rem], fun g t ht => (hs g).2 t ht, hs⟩

instance col_spec : Spec G col True (fun _ => True) (fun s _ s' => rem s' = rem s) :=
  ⟨fun _ _ hs => ⟨rfl, fun _ => ⟨trivial, trivial⟩, hs⟩⟩

instance maybe_spec (tok : Token) : Spec G (maybe tok) True (fun _ => True)
    (fun s _ s' => rem s' ≤ rem s) := by
  refine ⟨fun s _ hs => ?_⟩
  unfold maybe
  wp_walk

instance expect_spec (tok : Token) : Spec G (expect tok) True (fun _ => True)
    (fun s _ s' => rem s' + 1 ≤ rem s) := by
  refine ⟨fun s _ hs => ?_⟩
  unfold expect
  wp_walk

instance literal_spec (c : Col) (l : Literal) : Spec G (literal c l) True (fun _ => True)
    (fun s _ s' => rem s' = rem s) := by
  refine ⟨fun s _ hs => ?_⟩
  unfold literal
  cases l <;> wp_walk

/- Fuel is a depth bound, and every level of the recursion consumes a token at least every other
   call: `2 * rem s + c` levels suffice. -/

abbrev DescendSpec (f : Nat) : Prop := ∀ vm p,
  Spec G (descend f vm p) (ok vm) (fun s => 2 * rem s + 2 ≤ f) (fun s _ s' => rem s' + 1 ≤ rem s)
abbrev BinLoopSpec (f : Nat) : Prop := ∀ vm p l,
  Spec G (binLoop f vm p l) (ok vm ∧ ok l) (fun s => 2 * rem s + 1 ≤ f) (fun s _ s' => rem s' ≤ rem s)
abbrev ExprListSpec (f : Nat) : Prop := ∀ vm,
  Spec G (exprList f vm) (ok vm) (fun s => 2 * rem s + 3 ≤ f) (fun s _ s' => rem s' + 1 ≤ rem s)

theorem lookup_ok (vm : VarMap) (i : TIdent) (v : Variable) (h : ok vm) (hl : vm.lookup i = some v) : ok v := by
  induction vm with
  | nil => cases hl
  | cons p vm ih =>
    obtain ⟨k, w⟩ := p
    simp only [List.lookup] at hl
    split at hl
    · cases hl; exact (h (k, v) (by simp)).2
    · exact ih (fun a ha => h a (by simp [ha])) hl

theorem descend_step (f : Nat) [hd : DescendSpec G f] [hb : BinLoopSpec G f] [he : ExprListSpec G f] :
    DescendSpec G (f+1) := by
  refine fun vm p => ⟨fun s hvm hs => ?_⟩
  simp only [descend]
  wp_walk
  have hv := fun g => lookup_ok vm _ _ (hvm g) (by assumption)
  wp_walk

theorem binLoop_step (f : Nat) [hd : DescendSpec G f] [hb : BinLoopSpec G f] : BinLoopSpec G (f+1) := by
  refine fun vm p l => ⟨fun s hvm hs => ?_⟩
  simp only [binLoop]
  wp_walk

theorem exprList_step (f : Nat) [hd : DescendSpec G f] [he : ExprListSpec G f] : ExprListSpec G (f+1) := by
  refine fun vm => ⟨fun s hvm hs => ?_⟩
  simp only [exprList]
  wp_walk

theorem expr_spec (f : Nat) : DescendSpec G f ∧ BinLoopSpec G f ∧ ExprListSpec G f := by
  induction f with
  | zero =>
    refine ⟨fun vm p => ⟨fun s _ _ => ?_⟩, fun vm p l => ⟨fun s _ _ => ?_⟩, fun vm => ⟨fun s _ _ => ?_⟩⟩
    · rw [descend]; exact wp.outOfFuel (by omega)
    · rw [binLoop]; exact wp.outOfFuel (by omega)
    · rw [exprList]; exact wp.outOfFuel (by omega)
  | succ f ih =>
    obtain ⟨hd, hb, he⟩ := ih
    exact ⟨descend_step G f, binLoop_step G f, exprList_step G f⟩

-- `binLoop` is called inside the mutual block only: it needs no instance
instance descend_spec (f : Nat) : DescendSpec G f := (expr_spec G f).1
instance exprList_spec (f : Nat) : ExprListSpec G f := (expr_spec G f).2.2

theorem ok_nil {α} [HasOk α] : ok ([] : List α) := nofun

instance expression_spec (f : Nat) : Spec G (expression f) True (fun s => 2 * rem s + 2 ≤ f)
    (fun s _ s' => rem s' + 1 ≤ rem s) :=
  ⟨fun s _ hs => Spec.run (m := descend f [] 0) s (fun _ => ok_nil) hs⟩

instance printList_spec (fuel n : Nat) (lf : Bool) (acc : List Expr) :
    Spec G (printList fuel n lf acc) (ok acc) (fun s => rem s + 1 ≤ n ∧ 2 * rem s + 2 ≤ fuel)
      (fun s _ s' => rem s' ≤ rem s) := by
  induction n generalizing lf acc with
  | zero => exact ⟨fun s _ _ => by rw [printList]; exact wp.outOfFuel (by omega)⟩
  | succ n ih =>
    refine ⟨fun s hacc hs => ?_⟩
    rw [printList]
    have hTab : Letter1 (TIdent.string "TAB".toList).name := by decide
    wp_walk

instance expectIdent_spec : Spec G expectIdent True (fun _ => True) (fun s _ s' => rem s' + 1 ≤ rem s) := by
  refine ⟨fun s _ hs => ?_⟩
  unfold expectIdent
  wp_walk

instance identList_spec (n : Nat) (ex : Bool) (acc : List (Col × TIdent)) :
    Spec G (identList n ex acc) (ok acc) (fun s => rem s + 1 ≤ n) (fun s _ s' => rem s' ≤ rem s) := by
  induction n generalizing ex acc with
  | zero => exact ⟨fun s _ _ => by rw [identList]; exact wp.outOfFuel (by omega)⟩
  | succ n ih =>
    refine ⟨fun s hacc hs => ?_⟩
    rw [identList]
    wp_walk

instance expectVar_spec (fuel : Nat) : Spec G (expectVar fuel) True (fun s => 2 * rem s + 2 ≤ fuel)
    (fun s _ s' => rem s' + 1 ≤ rem s) := by
  refine ⟨fun s _ hs => ?_⟩
  unfold expectVar
  wp_walk

instance varList_spec (fuel n : Nat) : Spec G (varList fuel n) True
    (fun s => rem s + 1 ≤ n ∧ 2 * rem s + 2 ≤ fuel) (fun s _ s' => rem s' + 1 ≤ rem s) := by
  induction n with
  | zero => exact ⟨fun s _ _ => by rw [varList]; exact wp.outOfFuel (by omega)⟩
  | succ n ih =>
    refine ⟨fun s _ hs => ?_⟩
    rw [varList]
    wp_walk

instance maybeLineNumber_spec : Spec G maybeLineNumber True (fun _ => True)
    (fun s r s' => rem s' + osz r ≤ rem s) := by
  refine ⟨fun s _ hs => ?_⟩
  unfold maybeLineNumber
  wp_walk
  all_goals exact ⟨by simp only [osz_some, osz_none]; omega, by ok_side, by assumption⟩

instance expectLineNumber_spec : Spec G expectLineNumber True (fun _ => True)
    (fun s _ s' => rem s' + 1 ≤ rem s) := by
  refine ⟨fun s _ hs => ?_⟩
  unfold expectLineNumber
  wp_walk

instance lineNumberList_spec (n : Nat) (ex : Bool) (acc : List Expr) :
    Spec G (lineNumberList n ex acc) (ok acc) (fun s => rem s + 1 ≤ n) (fun s _ s' => rem s' ≤ rem s) := by
  induction n generalizing ex acc with
  | zero => exact ⟨fun s _ _ => by rw [lineNumberList]; exact wp.outOfFuel (by omega)⟩
  | succ n ih =>
    refine ⟨fun s hacc hs => ?_⟩
    rw [lineNumberList]
    wp_walk

instance lineNumberRange_spec : Spec G lineNumberRange True (fun _ => True) (fun s _ s' => rem s' ≤ rem s) := by
  refine ⟨fun s _ hs => ?_⟩
  unfold lineNumberRange
  wp_walk

instance varRange_spec : Spec G varRange True (fun _ => True) (fun s _ s' => rem s' ≤ rem s) := by
  refine ⟨fun s _ hs => ?_⟩
  unfold varRange
  wp_walk

instance skipToEnd_spec (n : Nat) : Spec G (skipToEnd n) True (fun s => rem s + 1 ≤ n)
    (fun s _ s' => rem s' ≤ rem s) := by
  induction n with
  | zero => exact ⟨fun s _ _ => by rw [skipToEnd]; exact wp.outOfFuel (by omega)⟩
  | succ n ih =>
    refine ⟨fun s _ hs => ?_⟩
    rw [skipToEnd]
    refine wp.bind (Spec.tail G (fun _ => trivial) hs (fun _ => trivial) fun t s1 h1 _ hs1 => ?_)
    -- a token that is not an end is a token: the `next` below consumes it
    cases t with
    | none => exact wp.pure ⟨h1.1, fun _ => trivial, hs1⟩
    | some t => wp_walk

theorem mangle_name (f p : TIdent) : (mangle f p).name = f.name ++ '.' :: p.name := by
  cases p <;> rfl

theorem mangle_ok (f p : TIdent) (hf : Letter1 f.name) : Letter1 (mangle f p).name := by
  rw [mangle_name]; exact hf.append _

instance letStmt_spec (f : Nat) (b : Bool) : Spec G (letStmt f b) True (fun s => 2 * rem s + 2 ≤ f)
    (fun s _ s' => rem s' + 1 ≤ rem s) := by
  refine ⟨fun s _ hs => ?_⟩
  unfold letStmt
  wp_step
  wp_step
  wp_step
  wp_step
  split
  · wp_walk
  · -- `isMid` is the `match` just split; where it is `false` the `if isMid` is decided, and the `MID$` arm is not
    -- walked a second time
    rw [if_neg Bool.false_ne_true]
    wp_walk

instance inputStmt_spec (f : Nat) : Spec G (inputStmt f) True (fun s => 2 * rem s + 2 ≤ f)
    (fun s _ s' => rem s' ≤ rem s) := by
  refine ⟨fun s _ hs => ?_⟩
  unfold inputStmt
  wp_step
  wp_step
  refine wp.seq G (fun _ s' => rem s' ≤ rem s) ?_ fun _ _ _ _ _ => ?_
  · wp_walk
  refine wp.seq G (fun _ s' => rem s' ≤ rem s) ?_ fun _ _ _ _ _ => ?_
  · wp_walk
  wp_walk

instance renumStmt_spec : Spec G renumStmt True (fun _ => True) (fun s _ s' => rem s' ≤ rem s) := by
  refine ⟨fun s _ hs => ?_⟩
  unfold renumStmt
  wp_step
  wp_step
  refine wp.seq G (fun _ s' => rem s' ≤ rem s) ?_ fun _ _ _ _ _ => ?_
  · wp_walk
  refine wp.seq G (fun _ s' => rem s' ≤ rem s) ?_ fun _ _ _ _ _ => ?_
  · wp_walk
  wp_walk

theorem vm_foldl_ok (fn : TIdent) (hf : Letter1 fn.name) (ids : List (Col × TIdent)) (hids : ok ids) :
    ∀ m : VarMap, ok m →
      ok (ids.foldl (fun m (p : Col × TIdent) => (p.2, Variable.unary p.1 (mangle fn p.2)) :: m) m) := by
  induction ids with
  | nil => intro m hm; exact hm
  | cons p ids ih =>
    intro m hm
    simp only [List.foldl_cons]
    apply ih (fun a ha => hids a (by simp [ha]))
    intro a ha
    simp only [List.mem_cons] at ha
    rcases ha with rfl | ha
    · exact ⟨(hids p (by simp)).2, (mangle_ok fn p.2 hf).nameOk⟩
    · exact hm a ha

theorem params_ok (fn : TIdent) (hf : Letter1 fn.name) (ids : List (Col × TIdent)) :
    VarsOk (ids.map fun p => Variable.unary p.1 (mangle fn p.2)) := by
  intro v hv
  simp only [List.mem_map] at hv
  obtain ⟨p, _, rfl⟩ := hv
  exact (mangle_ok fn p.2 hf).nameOk

instance defStmt_spec (f : Nat) : Spec G (defStmt f) True (fun s => 2 * rem s + 2 ≤ f)
    (fun s _ s' => rem s' ≤ rem s) := by
  refine ⟨fun s _ hs => ?_⟩
  unfold defStmt
  wp_walk
  -- the walk stops at the body, parsed with the parameter map
  have hfn := fun g => ‹G → ok (some (Token.ident _))› g _ rfl _ rfl
  have hvm := fun g => vm_foldl_ok _ (hfn g) _ (‹G → ok (_ : List (Col × TIdent))› g) [] ok_nil
  wp_walk
  exact ⟨by omega, fun g => ⟨(hfn g).nameOk, params_ok _ (hfn g) _, ‹G → ok (_ : Expr)› g⟩, by assumption⟩

abbrev StatementsSpec (f : Nat) : Prop := ∀ ec acc,
  Spec G (statements f ec acc) (ok acc) (fun s => 2 * rem s + 5 ≤ f) (fun s _ s' => rem s' ≤ rem s)
abbrev StatementSpec (f : Nat) : Prop :=
  Spec G (statement f) True (fun s => 2 * rem s + 4 ≤ f) (fun s _ s' => rem s' + 1 ≤ rem s)

instance ifStmt_spec (f : Nat) [hss : StatementsSpec G f] : Spec G (ifStmt f) True
    (fun s => 2 * rem s + 5 ≤ f) (fun s _ s' => rem s' ≤ rem s) := by
  refine ⟨fun s _ hs => ?_⟩
  unfold ifStmt
  wp_step
  wp_step
  wp_step
  wp_step
  refine wp.seq G (fun _ s' => rem s' ≤ rem s) ?_ fun _ _ _ _ _ => ?_
  · wp_walk
  wp_walk

theorem statements_step (f : Nat) [hss : StatementsSpec G f] [hst : StatementSpec G f] :
    StatementsSpec G (f+1) := by
  refine fun ec acc => ⟨fun s hacc hs => ?_⟩
  rw [statements]
  wp_walk

theorem unary_map_ok (ids : List (Col × TIdent)) (h : ok ids) :
    VarsOk (ids.map fun x => Variable.unary x.1 x.2) := by
  intro v hv
  simp only [List.mem_map] at hv
  obtain ⟨p, hp, rfl⟩ := hv
  exact (h p hp).2.nameOk

theorem statement_step (f : Nat) [hss : StatementsSpec G f] : StatementSpec G (f+1) := by
  refine ⟨fun s _ hs => ?_⟩
  rw [statement]
  wp_walk
  · exact wp.throw rfl
  · exact ⟨by omega, fun g => unary_map_ok _ (‹G → ok (_ : List (Col × TIdent))› g), by assumption⟩
  · exact ⟨by omega, fun _ v hv => List.mem_singleton.1 hv ▸ NameOk.nil, by assumption⟩
  · exact ⟨by omega, fun g => unary_map_ok _ (‹G → ok (_ : List (Col × TIdent))› g), by assumption⟩

theorem stmt_spec (f : Nat) : StatementsSpec G f ∧ StatementSpec G f := by
  induction f with
  | zero =>
    refine ⟨fun ec acc => ⟨fun s _ _ => ?_⟩, ⟨fun s _ _ => ?_⟩⟩
    · rw [statements]; exact wp.outOfFuel (by omega)
    · rw [statement]; exact wp.outOfFuel (by omega)
  | succ f ih =>
    obtain ⟨hss, hst⟩ := ih
    exact ⟨statements_step G f, statement_step G f⟩

instance statements_spec (f : Nat) : StatementsSpec G f := (stmt_spec G f).1
instance statement_spec (f : Nat) : StatementSpec G f := (stmt_spec G f).2

section
variable {α : Type} {m : PM α} {s : PState} {Q : α → PState → Prop} {E : Error → Prop}

theorem wp.run_ok (h : wp m s Q E) {a : α} (hr : (m.run s).map (·.1) = .ok a) : ∃ s', Q a s' := by
  unfold wp at h
  simp only [StateT.run] at hr
  cases hm : m s with
  | ok p => rw [hm] at h hr; cases hr; exact ⟨p.2, h⟩
  | error e => rw [hm] at hr; cases hr

theorem wp.run_error (h : wp m s Q E) {e : Error} (hr : (m.run s).map (·.1) = .error e) : E e := by
  unfold wp at h
  simp only [StateT.run] at hr
  cases hm : m s with
  | ok p => rw [hm] at hr; cases hr
  | error e' => rw [hm] at h hr; cases hr; exact h

end

theorem parseTokens_spec (ts : List Token) (hts : G → StOk { toks := ts }) :
    match parseTokens ts with
    | .ok ast => G → ok ast
    | .error e => e.isFault = false := by
  have h0 : rem { toks := ts } = ts.length := by simp [rem]
  have hf : fuelFor ts = 6 * ts.length + 20 := rfl
  have hw : wp _ { toks := ts } (fun a s' => rem s' ≤ rem { toks := ts } ∧ (G → ok a) ∧ (G → StOk s'))
      (fun e => 2 * rem { toks := ts } + 5 ≤ fuelFor ts → e.isFault = false) :=
    show wp (do
      match ← peek with
      | some (.literal (.integer _)) | some (.literal (.single _)) | some (.literal (.double _)) =>
        failHere Code.undefinedLine "INVALID LINE NUMBER"
      | _ => statements (fuelFor ts) false []) _ _ _ by wp_walk
  cases hp : parseTokens ts with
  | ok ast => exact (hw.run_ok hp).elim fun _ h => h.2.1
  | error e => exact hw.run_error hp (by omega)

end Lemmas.ParseWalk
end Basic

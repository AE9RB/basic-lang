import BasicModel.Lemmas.RenumRel
import BasicModel.Lemmas.Codegen
/-
  RENUM and the compiler, part 2: syntax trees related by a renumbering generate related fragments.

  `StmtRel φ st st'`: the same statement up to columns, every line-number operand renumbered by `φ`.
  `GR P m m' Q`: a relational Hoare triple for two runs of generator code (`GM`): from states related
  by `P` both runs succeed with results and states related by `Q`, or both fail with errors of the
  same kind (`ErrRel`) in related states.  The triple of a `do` block is put together bind by bind, in
  the order of the program text: `GRs.seq` (the relation of the results is used afterwards),
  `GRs.seq_any` (it is not), `GRs.seq_same` (the same result on both sides), `GRs.ite`, `GRs.forLoop`.
-/
namespace Basic
namespace RenumRel
open Link Codegen

variable (φ : Nat → Nat)

mutual
inductive VarRel : Variable → Variable → Prop
  | unary (c c' : Col) (i : TIdent) : VarRel (.unary c i) (.unary c' i)
  | array (c c' : Col) (i : TIdent) {es es' : List Expr} : ExprsRel es es' → VarRel (.array c i es) (.array c' i es')
inductive ExprRel : Expr → Expr → Prop
  | var {v v' : Variable} : VarRel v v' → ExprRel (.var v) (.var v')
  | single (c c' : Col) (b : UInt32) : ExprRel (.single c b) (.single c' b)
  | double (c c' : Col) (b : UInt64) : ExprRel (.double c b) (.double c' b)
  | integer (c c' : Col) (n : Int16) : ExprRel (.integer c n) (.integer c' n)
  | string (c c' : Col) (s : Str) : ExprRel (.string c s) (.string c' s)
  | neg (c c' : Col) {e e' : Expr} : ExprRel e e' → ExprRel (.neg c e) (.neg c' e')
  | not (c c' : Col) {e e' : Expr} : ExprRel e e' → ExprRel (.not c e) (.not c' e')
  | bin (op : BinOp) (c c' : Col) {l l' r r' : Expr} : ExprRel l l' → ExprRel r r' →
      ExprRel (.bin op c l r) (.bin op c' l' r')
inductive ExprsRel : List Expr → List Expr → Prop
  | nil : ExprsRel [] []
  | cons {e e' : Expr} {es es' : List Expr} : ExprRel e e' → ExprsRel es es' → ExprsRel (e :: es) (e' :: es')
end

def litVal : Expr → Option Val
  | .single _ b => some (.sng b)
  | .double _ b => some (.dbl b)
  | .integer _ n => some (.int n)
  | .string _ s => some (.str s)
  | _ => none

def leafCol : Expr → Col
  | .single c _ | .double c _ | .integer c _ | .string c _ => c
  | _ => (0, 0)

/-- a line-number operand (GOTO, GOSUB, THEN/ELSE n, ON lists, RESTORE n, RUN n): a literal whose line
    number `n` (as the generator reads it, `Val.toLineNumber`) has become `φ n`; or a literal that is
    no line number (the "no line" mark of a bare RESTORE / RUN, the file name of RUN "…"), unchanged -/
inductive OperandRel : Expr → Expr → Prop
  | line {e e' : Expr} {v v' : Val} {n : Nat} : litVal e = some v → litVal e' = some v' →
      v.toLineNumber = .ok (some n) → v'.toLineNumber = .ok (some (φ n)) → OperandRel e e'
  | other {e e' : Expr} {v : Val} : litVal e = some v → litVal e' = some v →
      (∀ n, v.toLineNumber ≠ .ok (some n)) → OperandRel e e'

/-- an operand of LIST / DELETE (the parser only produces valid line numbers here): renumbered, or a
    literal that stays as it is (the bounds 0 and 65529 which the parser supplies for an open range are
    not written in the source, so RENUM keeps them) -/
inductive RangeOperandRel : Expr → Expr → Prop
  | line {e e' : Expr} {v v' : Val} {n : Nat} : litVal e = some v → litVal e' = some v' →
      v.toLineNumber = .ok (some n) → v'.toLineNumber = .ok (some (φ n)) → RangeOperandRel e e'
  | kept {e e' : Expr} {v : Val} {n : Nat} : litVal e = some v → litVal e' = some v →
      v.toLineNumber = .ok (some n) → RangeOperandRel e e'

mutual
inductive StmtRel : Stmt → Stmt → Prop
  | clear (c c' : Col) : StmtRel (.clear c) (.clear c')
  | cls (c c' : Col) : StmtRel (.cls c) (.cls c')
  | cont (c c' : Col) : StmtRel (.cont c) (.cont c')
  | data (c c' : Col) {es es' : List Expr} : ExprsRel es es' → StmtRel (.data c es) (.data c' es')
  | «def» (c c' : Col) {v v' : Variable} {ps ps' : List Variable} {e e' : Expr} : VarRel v v' →
      All₂ VarRel ps ps' → ExprRel e e' → StmtRel (.def c v ps e) (.def c' v' ps' e')
  | defdbl (c c' : Col) {a a' b b' : Variable} : VarRel a a' → VarRel b b' → StmtRel (.defdbl c a b) (.defdbl c' a' b')
  | defint (c c' : Col) {a a' b b' : Variable} : VarRel a a' → VarRel b b' → StmtRel (.defint c a b) (.defint c' a' b')
  | defsng (c c' : Col) {a a' b b' : Variable} : VarRel a a' → VarRel b b' → StmtRel (.defsng c a b) (.defsng c' a' b')
  | defstr (c c' : Col) {a a' b b' : Variable} : VarRel a a' → VarRel b b' → StmtRel (.defstr c a b) (.defstr c' a' b')
  | delete (c c' : Col) {a a' b b' : Expr} : RangeOperandRel φ a a' → RangeOperandRel φ b b' →
      StmtRel (.delete c a b) (.delete c' a' b')
  | dim (c c' : Col) {vs vs' : List Variable} : All₂ VarRel vs vs' → StmtRel (.dim c vs) (.dim c' vs')
  | «end» (c c' : Col) : StmtRel (.end c) (.end c')
  | erase (c c' : Col) {vs vs' : List Variable} : All₂ VarRel vs vs' → StmtRel (.erase c vs) (.erase c' vs')
  | «for» (c c' : Col) {v v' : Variable} {a a' b b' s s' : Expr} : VarRel v v' → ExprRel a a' → ExprRel b b' →
      ExprRel s s' → StmtRel (.for c v a b s) (.for c' v' a' b' s')
  | gosub (c c' : Col) {e e' : Expr} : OperandRel φ e e' → StmtRel (.gosub c e) (.gosub c' e')
  | goto (c c' : Col) {e e' : Expr} : OperandRel φ e e' → StmtRel (.goto c e) (.goto c' e')
  | «if» (c c' : Col) {p p' : Expr} {th th' el el' : List Stmt} : ExprRel p p' → StmtsRel th th' →
      StmtsRel el el' → StmtRel (.if c p th el) (.if c' p' th' el')
  | input (c c' : Col) {e1 e1' e2 e2' : Expr} {vs vs' : List Variable} : ExprRel e1 e1' → ExprRel e2 e2' →
      All₂ VarRel vs vs' → StmtRel (.input c e1 e2 vs) (.input c' e1' e2' vs')
  | «let» (c c' : Col) {v v' : Variable} {e e' : Expr} : VarRel v v' → ExprRel e e' →
      StmtRel (.let c v e) (.let c' v' e')
  | list (c c' : Col) {a a' b b' : Expr} : RangeOperandRel φ a a' → RangeOperandRel φ b b' →
      StmtRel (.list c a b) (.list c' a' b')
  | load (c c' : Col) {e e' : Expr} : ExprRel e e' → StmtRel (.load c e) (.load c' e')
  | mid (c c' : Col) {v v' : Variable} {e1 e1' e2 e2' e3 e3' : Expr} : VarRel v v' → ExprRel e1 e1' →
      ExprRel e2 e2' → ExprRel e3 e3' → StmtRel (.mid c v e1 e2 e3) (.mid c' v' e1' e2' e3')
  | new (c c' : Col) : StmtRel (.new c) (.new c')
  | next (c c' : Col) {vs vs' : List Variable} : All₂ VarRel vs vs' → StmtRel (.next c vs) (.next c' vs')
  | onGoto (c c' : Col) {e e' : Expr} {ls ls' : List Expr} : ExprRel e e' → All₂ (OperandRel φ) ls ls' →
      StmtRel (.onGoto c e ls) (.onGoto c' e' ls')
  | onGosub (c c' : Col) {e e' : Expr} {ls ls' : List Expr} : ExprRel e e' → All₂ (OperandRel φ) ls ls' →
      StmtRel (.onGosub c e ls) (.onGosub c' e' ls')
  | print (c c' : Col) {es es' : List Expr} : ExprsRel es es' → StmtRel (.print c es) (.print c' es')
  | read (c c' : Col) {vs vs' : List Variable} : All₂ VarRel vs vs' → StmtRel (.read c vs) (.read c' vs')
  | renum (c c' : Col) {a a' b b' s s' : Expr} : ExprRel a a' → ExprRel b b' → ExprRel s s' →
      StmtRel (.renum c a b s) (.renum c' a' b' s')
  | restore (c c' : Col) {e e' : Expr} : OperandRel φ e e' → StmtRel (.restore c e) (.restore c' e')
  | «return» (c c' : Col) : StmtRel (.return c) (.return c')
  | run (c c' : Col) {e e' : Expr} : OperandRel φ e e' → StmtRel (.run c e) (.run c' e')
  | save (c c' : Col) {e e' : Expr} : ExprRel e e' → StmtRel (.save c e) (.save c' e')
  | stop (c c' : Col) : StmtRel (.stop c) (.stop c')
  | swap (c c' : Col) {a a' b b' : Variable} : VarRel a a' → VarRel b b' → StmtRel (.swap c a b) (.swap c' a' b')
  | troff (c c' : Col) : StmtRel (.troff c) (.troff c')
  | tron (c c' : Col) : StmtRel (.tron c) (.tron c')
  | wend (c c' : Col) : StmtRel (.wend c) (.wend c')
  | «while» (c c' : Col) {e e' : Expr} : ExprRel e e' → StmtRel (.while c e) (.while c' e')
inductive StmtsRel : List Stmt → List Stmt → Prop
  | nil : StmtsRel [] []
  | cons {st st' : Stmt} {sts sts' : List Stmt} : StmtRel st st' → StmtsRel sts sts' →
      StmtsRel (st :: sts) (st' :: sts')
end

variable {φ}

theorem ExprsRel.length_eq : ∀ {es es' : List Expr}, ExprsRel es es' → es'.length = es.length
  | _, _, .nil => rfl
  | _, _, .cons _ h => by simp only [List.length_cons, ExprsRel.length_eq h]

theorem StmtsRel.length_eq : ∀ {es es' : List Stmt}, StmtsRel φ es es' → es'.length = es.length
  | _, _, .nil => rfl
  | _, _, .cons _ h => by simp only [List.length_cons, StmtsRel.length_eq h]

/-- errors of the same kind: code and message; line and column are free -/
def ErrRel (e e' : Error) : Prop := e'.code = e.code ∧ e'.msg = e.msg

theorem ErrRel.refl (e : Error) : ErrRel e e := ⟨rfl, rfl⟩
theorem ErrRel.inCol {e e' : Error} (h : ErrRel e e') (a b a' b' : Nat) : ErrRel (e.inCol a b) (e'.inCol a' b') := h
theorem ErrRel.inLine {e e' : Error} (h : ErrRel e e') (a a' : Option Nat) : ErrRel (e.inLine a) (e'.inLine a') := h

variable (φ)

structure VarItemRel (v v' : VarItem) : Prop where
  name : v'.name = v.name
  argLen : v'.argLen = v.argLen
  link : FragRel φ v.link v'.link

abbrev EntryRel (x x' : Col × Link) : Prop := FragRel φ x.2 x'.2

structure GRel (g g' : GState) : Prop where
  var : All₂ (VarItemRel φ) g.var.toList g'.var.toList
  expr : All₂ (EntryRel φ) g.expr.toList g'.expr.toList
  stmt : All₂ (EntryRel φ) g.stmt.toList g'.stmt.toList
  cur : FragRel φ g.cur g'.cur

variable {φ}

theorem GRel.empty : GRel φ {} {} := ⟨.nil, .nil, .nil, FragRel.empty⟩

theorem GRel.setCur {g g' : GState} (h : GRel φ g g') {l l' : Link} (hl : FragRel φ l l') :
    GRel φ { g with cur := l } { g' with cur := l' } := { h with cur := hl }

@[elab_as_elim]
theorem VarItemRel.elim {C : VarItem → VarItem → Prop} {v v' : VarItem} (h : VarItemRel φ v v')
    (hc : ∀ c c' name a l l', FragRel φ l l' → C ⟨c, name, l, a⟩ ⟨c', name, l', a⟩) : C v v' := by
  obtain ⟨c, name, l, a⟩ := v
  obtain ⟨c', name', l', a'⟩ := v'
  obtain ⟨hn, ha, hl⟩ := h
  dsimp only at hn ha
  subst hn ha
  exact hc c c' _ _ l l' hl

variable {α α' β β' : Type}

variable (φ) in
/-- two outcomes of generator runs correspond: both succeed with `Q` of the values and final states, or
    both fail with related errors and related states -/
def Out (Q : α → α' → GState → GState → Prop) (r : Except Error α × GState) (r' : Except Error α' × GState) : Prop :=
  match r, r' with
  | (.ok a, g), (.ok a', g') => Q a a' g g'
  | (.error e, g), (.error e', g') => ErrRel e e' ∧ GRel φ g g'
  | _, _ => False

variable (φ) in
/-- a relational Hoare triple for two generator computations: from states related by `P` the outcomes
    correspond (`Out`) with postcondition `Q` -/
structure GR (P : GState → GState → Prop) (m : GM α) (m' : GM α') (Q : α → α' → GState → GState → Prop) : Prop where
  run : ∀ g g', P g g' → Out φ Q (m.run.run g) (m'.run.run g')

variable (φ) in
/-- the postcondition "values related by `R`, states related by `GRel φ`" -/
def S (R : α → α' → Prop) : α → α' → GState → GState → Prop := fun a a' g g' => R a a' ∧ GRel φ g g'

variable (φ) in
/-- the usual triple: `GRel φ` before, `GRel φ` and `R` of the values after -/
abbrev GRs (m : GM α) (m' : GM α') (R : α → α' → Prop) : Prop := GR φ (GRel φ) m m' (S φ R)

/-- the relation of values that says nothing (for computations run for their effect on the state) -/
abbrev TT {α α' : Type} : α → α' → Prop := fun _ _ => True

theorem GRs.ret {R : α → α' → Prop} {a : α} {a' : α'} (h : R a a') : GRs φ (pure a : GM α) (pure a' : GM α') R :=
  ⟨fun _ _ hg => ⟨h, hg⟩⟩

theorem GRs.thr {R : α → α' → Prop} {e e' : Error} (he : ErrRel e e') :
    GRs φ (throw e : GM α) (throw e' : GM α') R :=
  ⟨fun _ _ hg => ⟨he, hg⟩⟩

theorem GRs.lift₂ {R : α → α' → Prop} {r : Except Error α} {r' : Except Error α'}
    (h : match r, r' with
      | .ok a, .ok a' => R a a'
      | .error e, .error e' => ErrRel e e'
      | _, _ => False) : GRs φ (liftE r : GM α) (liftE r' : GM α') R := by
  constructor
  intro g g' hg
  rw [grun_liftE, grun_liftE]
  cases r <;> cases r' <;> first | exact h.elim | exact ⟨h, hg⟩

theorem GRs.lift (r : Except Error α) : GRs φ (liftE r : GM α) (liftE r : GM α) fun a a' => a' = a ∧ True :=
  GRs.lift₂ (by
    cases r with
    | ok a => exact ⟨rfl, trivial⟩
    | error e => exact ErrRel.refl e)

theorem GR.conseq {P P' : GState → GState → Prop} {Q Q' : α → α' → GState → GState → Prop} {m : GM α} {m' : GM α'}
    (h : GR φ P m m' Q) (hp : ∀ g g', P' g g' → P g g') (hq : ∀ a a' g g', Q a a' g g' → Q' a a' g g') :
    GR φ P' m m' Q' := by
  constructor
  intro g g' hg
  have h1 := h.run g g' (hp g g' hg)
  unfold Out at h1 ⊢
  rcases hm : m.run.run g with ⟨r, g1⟩
  rcases hm' : m'.run.run g' with ⟨r', g1'⟩
  rw [hm, hm'] at h1
  cases r <;> cases r' <;> first | exact h1 | exact hq _ _ _ _ h1

theorem GRs.weaken {R R' : α → α' → Prop} {m : GM α} {m' : GM α'} (h : GRs φ m m' R) (hr : ∀ a a', R a a' → R' a a') :
    GRs φ m m' R' := h.conseq (fun _ _ h => h) fun a a' _ _ h => ⟨hr a a' h.1, h.2⟩

theorem GRs.any {R : α → α' → Prop} {m : GM α} {m' : GM α'} (h : GRs φ m m' R) : GRs φ m m' TT :=
  h.weaken fun _ _ _ => trivial

theorem GRs.seq {R : α → α' → Prop} {R' : β → β' → Prop} {m : GM α} {m' : GM α'} {f : α → GM β} {f' : α' → GM β'}
    (hm : GRs φ m m' R) (hf : ∀ a a', R a a' → GRs φ (f a) (f' a') R') : GRs φ (m >>= f) (m' >>= f') R' := by
  constructor
  intro g g' hg
  have h1 := hm.run g g' hg
  rw [grun_bind, grun_bind]
  unfold Out at h1
  rcases h : m.run.run g with ⟨r, g1⟩
  rcases h' : m'.run.run g' with ⟨r', g1'⟩
  rw [h, h'] at h1
  cases r with
  | ok a =>
    cases r' with
    | ok a' => exact (hf a a' h1.1).run g1 g1' h1.2
    | error e' => exact h1.elim
  | error e =>
    cases r' with
    | ok a' => exact h1.elim
    | error e' => exact h1

theorem GRs.seq_any {R' : β → β' → Prop} {m : GM α} {m' : GM α'} {f : α → GM β} {f' : α' → GM β'}
    (hm : GRs φ m m' TT) (hf : ∀ a a', GRs φ (f a) (f' a') R') : GRs φ (m >>= f) (m' >>= f') R' :=
  GRs.seq hm fun a a' _ => hf a a'

theorem GRs.seq_same {P : α → Prop} {R' : β → β' → Prop} {m m' : GM α} {f : α → GM β} {f' : α → GM β'}
    (hm : GRs φ m m' fun a a' => a' = a ∧ P a) (hf : ∀ a, P a → GRs φ (f a) (f' a) R') :
    GRs φ (m >>= f) (m' >>= f') R' :=
  GRs.seq hm fun a _ h => h.1 ▸ hf a h.2

theorem GRs.ite {R : α → α' → Prop} {p : Prop} [Decidable p] {t e : GM α} {t' e' : GM α'}
    (ht : p → GRs φ t t' R) (he : ¬ p → GRs φ e e' R) :
    GRs φ (if p then t else e) (if p then t' else e') R := by
  split
  · exact ht ‹_›
  · exact he ‹_›

theorem GRs.mod {f f' : GState → GState} (h : ∀ g g', GRel φ g g' → GRel φ (f g) (f' g')) :
    GRs φ (modify f : GM Unit) (modify f' : GM Unit) TT :=
  ⟨fun g g' hg => ⟨trivial, h g g' hg⟩⟩

abbrev StepRel {β β' : Type} : ForInStep β → ForInStep β' → Prop := fun r r' =>
  (∃ x x', r = .done x ∧ r' = .done x') ∨ (∃ x x', r = .yield x ∧ r' = .yield x')

theorem StepRel.yield {β β' : Type} (x : β) (x' : β') : StepRel (ForInStep.yield x) (ForInStep.yield x') :=
  .inr ⟨x, x', rfl, rfl⟩

/-- loops over lists related element by element; the loop variables are free -/
theorem GRs.forLoop {γ γ' : Type} {R : γ → γ' → Prop} {l : List γ} {l' : List γ'} (hl : All₂ R l l')
    {init : β} {init' : β'} {f : γ → β → GM (ForInStep β)} {f' : γ' → β' → GM (ForInStep β')}
    (hf : ∀ a a', R a a' → ∀ b b', GRs φ (f a b) (f' a' b') StepRel) :
    GRs φ (forIn l init f) (forIn l' init' f') TT := by
  induction hl generalizing init init' with
  | nil => exact GRs.ret trivial
  | cons hab _ ih =>
    rw [List.forIn_cons, List.forIn_cons]
    refine GRs.seq (hf _ _ hab init init') ?_
    intro r r' hr
    rcases hr with ⟨x, x', rfl, rfl⟩ | ⟨x, x', rfl, rfl⟩
    · exact GRs.ret trivial
    · exact ih

theorem gr_popExpr : GRs φ popExpr popExpr (EntryRel φ) := by
  constructor
  intro g g' hg
  simp only [popExpr, grun_bind, grun_get]
  rw [← Array.getLast?_toList, ← Array.getLast?_toList]
  rcases hg.expr.last with ⟨h1, h2⟩ | ⟨x, y, h1, h2, hxy, hd⟩
  · rw [h1, h2]; exact ⟨ErrRel.refl _, hg⟩
  · rw [h1, h2]
    refine ⟨hxy, { hg with expr := ?_ }⟩
    show All₂ _ g.expr.pop.toList g'.expr.pop.toList
    rw [Array.toList_pop, Array.toList_pop]
    exact hd

theorem gr_popVar : GRs φ popVar popVar (VarItemRel φ) := by
  constructor
  intro g g' hg
  simp only [popVar, grun_bind, grun_get]
  rw [← Array.getLast?_toList, ← Array.getLast?_toList]
  rcases hg.var.last with ⟨h1, h2⟩ | ⟨x, y, h1, h2, hxy, hd⟩
  · rw [h1, h2]; exact ⟨ErrRel.refl _, hg⟩
  · rw [h1, h2]
    refine ⟨hxy, { hg with var := ?_ }⟩
    show All₂ _ g.var.pop.toList g'.var.pop.toList
    rw [Array.toList_pop, Array.toList_pop]
    exact hd

theorem gr_popNExpr {n n' : Nat} (hn : n' = n) : GRs φ (popNExpr n) (popNExpr n') (All₂ (EntryRel φ)) := by
  subst hn
  constructor
  intro g g' hg
  simp only [popNExpr, grun_bind, grun_get]
  rw [hg.expr.size_eq]
  split
  · exact ⟨ErrRel.refl _, hg⟩
  · exact ⟨All₂.extract hg.expr _ _, { hg with expr := All₂.extract hg.expr _ _ }⟩

theorem gr_popNVar {n n' : Nat} (hn : n' = n) : GRs φ (popNVar n) (popNVar n') (All₂ (VarItemRel φ)) := by
  subst hn
  constructor
  intro g g' hg
  simp only [popNVar, grun_bind, grun_get]
  rw [hg.var.size_eq]
  split
  · exact ⟨ErrRel.refl _, hg⟩
  · exact ⟨All₂.extract hg.var _ _, { hg with var := All₂.extract hg.var _ _ }⟩

theorem gr_popNStmt {n n' : Nat} (hn : n' = n) : GRs φ (popNStmt n) (popNStmt n') (All₂ (EntryRel φ)) := by
  subst hn
  constructor
  intro g g' hg
  simp only [popNStmt, grun_bind, grun_get]
  rw [hg.stmt.size_eq]
  split
  · exact ⟨ErrRel.refl _, hg⟩
  · exact ⟨All₂.extract hg.stmt _ _, { hg with stmt := All₂.extract hg.stmt _ _ }⟩

theorem gr_lpush (op : Opcode) : GRs φ (lpush op) (lpush op) TT := by
  constructor
  intro g g' hg
  simp only [lpush, grun_bind, grun_get, grun_set, grun_liftE]
  have h := hg.cur.push op
  rw [h.2]
  cases (g.cur.push op).2 with
  | ok u => exact ⟨trivial, hg.setCur h.1⟩
  | error e => exact ⟨ErrRel.refl e, hg.setCur h.1⟩

theorem gr_lappend {f f' : Link} (hf : FragRel φ f f') : GRs φ (lappend f) (lappend f') TT := by
  constructor
  intro g g' hg
  simp only [lappend, grun_bind, grun_get, grun_set, grun_liftE]
  have h := hg.cur.append hf
  rw [h.2]
  cases (g.cur.append f).2 with
  | ok u => exact ⟨trivial, hg.setCur h.1⟩
  | error e => exact ⟨ErrRel.refl e, hg.setCur h.1⟩

theorem gr_lnextSymbol : GRs φ lnextSymbol lnextSymbol (fun s s' => s' = s ∧ s < 0) := by
  constructor
  intro g g' hg
  simp only [lnextSymbol, grun_bind, grun_get, grun_set, grun_pure]
  have h := hg.cur.nextSymbol
  exact ⟨⟨h.2.1, h.2.2⟩, hg.setCur h.1⟩

theorem gr_lpushSymbol (sym : Symbol) : GRs φ (lpushSymbol sym) (lpushSymbol sym) TT :=
  GRs.mod fun _ _ hg => hg.setCur (hg.cur.pushSymbol sym)

theorem gr_laddUnlinked (c c' : Col) {sym sym' : Symbol} (hs : sym' = symMap φ sym) :
    GRs φ (laddUnlinked c sym) (laddUnlinked c' sym') TT :=
  GRs.mod fun _ _ hg => hg.setCur (hg.cur.addUnlinked c c' hs)

theorem gr_lenVal (n : Nat) : GRs φ (lenVal n) (lenVal n) fun v v' => v' = v ∧ True := GRs.lift _

/-- a pending reference and the instruction it will patch: `push_jump`, `push_ifnot`, `push_return_val` -/
theorem gr_pushRef (op : Opcode) (c c' : Col) {sym sym' : Symbol} (hs : sym' = symMap φ sym) :
    GRs φ (do laddUnlinked c sym; lpush op) (do laddUnlinked c' sym'; lpush op) TT :=
  GRs.seq_any (gr_laddUnlinked c c' hs) fun _ _ => gr_lpush op

theorem gr_pushJump (c c' : Col) {sym : Symbol} (hs : sym < 0) : GRs φ (pushJump c sym) (pushJump c' sym) TT :=
  gr_pushRef _ c c' (symMap_neg φ hs).symm
theorem gr_pushIfnot (c c' : Col) {sym : Symbol} (hs : sym < 0) : GRs φ (pushIfnot c sym) (pushIfnot c' sym) TT :=
  gr_pushRef _ c c' (symMap_neg φ hs).symm
theorem gr_pushReturnVal (c c' : Col) {sym : Symbol} (hs : sym < 0) :
    GRs φ (pushReturnVal c sym) (pushReturnVal c' sym) TT :=
  gr_pushRef _ c c' (symMap_neg φ hs).symm

inductive LnRel (φ : Nat → Nat) : Option Nat → Option Nat → Prop
  | line (n : Nat) : LnRel φ (some n) (some (φ n))
  | none : LnRel φ none none

theorem gr_symbolFor {ln ln' : Option Nat} (h : LnRel φ ln ln') :
    GRs φ (liftE (Link.symbolForLineNumber ln)) (liftE (Link.symbolForLineNumber ln')) (fun s s' => s' = symMap φ s) := by
  cases h with
  | line n => exact GRs.lift₂ (symMap_nat φ n).symm
  | none => exact GRs.lift₂ (ErrRel.refl _)

theorem gr_pushGoto (c c' : Col) {ln ln' : Option Nat} (h : LnRel φ ln ln') :
    GRs φ (pushGoto c ln) (pushGoto c' ln') TT :=
  GRs.seq (gr_symbolFor h) fun _ _ hs => gr_pushRef _ c c' hs

theorem gr_pushGosub (c c' : Col) {ln ln' : Option Nat} (h : LnRel φ ln ln') :
    GRs φ (pushGosub c ln) (pushGosub c' ln') TT :=
  GRs.seq_same gr_lnextSymbol fun ret hr =>
  GRs.seq_any (gr_pushReturnVal c c' hr) fun _ _ =>
  GRs.seq (gr_symbolFor h) fun _ _ hs =>
  GRs.seq_any (gr_laddUnlinked c c' hs) fun _ _ =>
  GRs.seq_any (gr_lpush _) fun _ _ => gr_lpushSymbol ret

theorem gr_pushFor (c c' : Col) : GRs φ (pushFor c) (pushFor c') TT :=
  GRs.seq_same gr_lnextSymbol fun nxt hn =>
  GRs.seq_any (gr_laddUnlinked c c' (symMap_neg φ hn).symm) fun _ _ =>
  GRs.seq_any (gr_lpush _) fun _ _ => gr_lpushSymbol nxt

theorem gr_pushRestore (c c' : Col) {ln ln' : Option Nat} (h : LnRel φ ln ln') :
    GRs φ (pushRestore c ln) (pushRestore c' ln') TT := by
  cases h with
  | line n =>
    exact GRs.seq (gr_symbolFor (.line n)) fun _ _ hs =>
      GRs.seq_any (gr_laddUnlinked c c' hs) fun _ _ => gr_lpush _
  | none => exact gr_lpush _

theorem gr_pushRun (c c' : Col) {ln ln' : Option Nat} (h : LnRel φ ln ln') :
    GRs φ (pushRun c ln) (pushRun c' ln') TT := by
  refine GRs.seq_any (gr_lpush _) fun _ _ => ?_
  cases h with
  | line n =>
    exact GRs.seq (gr_symbolFor (.line n)) fun _ _ hs =>
      GRs.seq_any (gr_laddUnlinked c c' hs) fun _ _ => gr_lpush _
  | none => exact gr_lpush _

theorem FragRel.addWhile {l l' : Link} (h : FragRel φ l l') (k : Bool) (c c' : Col) {sym : Symbol} (hs : sym < 0) :
    FragRel φ { l with whiles := l.whiles ++ [(k, c, l.ops.size, sym)] }
      { l' with whiles := l'.whiles ++ [(k, c', l'.ops.size, sym)] } :=
  ⟨h.toLinkCore.addWhile k c c' hs, h.symbols⟩

theorem gr_addWhile (k : Bool) (c c' : Col) {sym : Symbol} (hs : sym < 0) :
    GRs φ (modify fun s => { s with cur := { s.cur with whiles := s.cur.whiles ++ [(k, c, s.cur.ops.size, sym)] } } : GM Unit)
      (modify fun s => { s with cur := { s.cur with whiles := s.cur.whiles ++ [(k, c', s.cur.ops.size, sym)] } } : GM Unit) TT :=
  GRs.mod fun _ _ hg => hg.setCur (hg.cur.addWhile k c c' hs)

theorem gr_pushWend (c c' : Col) : GRs φ (pushWend c) (pushWend c') TT :=
  GRs.seq_same gr_lnextSymbol fun sym hs =>
  GRs.seq_any (gr_addWhile false c c' hs) fun _ _ =>
  GRs.seq_any (gr_lpush _) fun _ _ => gr_lpushSymbol sym

theorem gr_pushWhile (c c' : Col) {e e' : Link} (he : FragRel φ e e') : GRs φ (pushWhile c e) (pushWhile c' e') TT :=
  GRs.seq_same gr_lnextSymbol fun sym hs =>
  GRs.seq_any (gr_lpushSymbol sym) fun _ _ =>
  GRs.seq_any (gr_lappend he) fun _ _ =>
  GRs.seq_any (gr_addWhile true c c' hs) fun _ _ => gr_lpush _

theorem gr_pushDefFn (c c' : Col) (ident : Str) {vars vars' : List Str} (hv : vars' = vars) {e e' : Link}
    (he : FragRel φ e e') : GRs φ (pushDefFn c ident vars e) (pushDefFn c' ident vars' e') TT := by
  subst hv
  exact GRs.seq_same (gr_lenVal _) fun _ _ =>
    GRs.seq_any (gr_lpush _) fun _ _ =>
    GRs.seq_any (gr_lpush _) fun _ _ =>
    GRs.seq_same gr_lnextSymbol fun skip hs =>
    GRs.seq_any (gr_pushJump c c' hs) fun _ _ =>
    GRs.seq_any (GRs.forLoop (All₂.rfl_eq vars') fun v _ hv _ _ => by
      subst hv
      exact GRs.seq_any (gr_lpush _) fun _ _ => GRs.ret (.yield _ _)) fun _ _ =>
    GRs.seq_any (gr_lappend he) fun _ _ =>
    GRs.seq_any (gr_lpush _) fun _ _ => gr_lpushSymbol skip

end RenumRel
end Basic

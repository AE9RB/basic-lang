import BasicModel.Lemmas.DataLits
import BasicModel.Lemmas.LinkPass
import BasicModel.Lemmas.LinkMarks
/-
  WHILE/WEND marks sit on their branches, and pending references lie below the end of the code: the instances `wInv` and
  `rInv` of the calculus of `Lemmas/GenInv.lean`, by its walk of the visitor (`Walk I`, `fragments_inv`).

  `WhilesOps l`: every mark recorded in `l.whiles` points at a `jump 0` / `ifNot 0` of `l.ops`; it holds for every
  fragment the generator builds and for the program image before linking.  Consequence (`link_restore_resolves`): the
  references `linkWhiles` adds never displace the pending reference of a `restore`, so `RESTORE n` is patched to the data
  address of line `n`.  `RefBounded l` (`Lemmas/LinkMarks.lean`): nothing is pending at the end of the code, which is what
  a line that begins with a plain RESTORE needs (`codegen_restore_first`).
-/
namespace Basic
namespace DataOrder
open Link Codegen
variable {α β : Type}

/-- the two instructions a WHILE/WEND mark is attached to, as the generator emits them -/
def MarkOp (op : Opcode) : Prop := op = .jump 0 ∨ op = .ifNot 0

/-- every WHILE/WEND mark of `l` points at its `jump 0` / `ifNot 0` -/
def WhilesOps (l : Link) : Prop := ∀ w ∈ l.whiles, ∃ op, l.ops[w.2.2.1]? = some op ∧ MarkOp op

theorem getElem?_append_of_some {γ : Type} {xs ys : Array γ} {i : Nat} {x : γ} (h : xs[i]? = some x) :
    (xs ++ ys)[i]? = some x := by
  rw [Array.getElem?_append_left (Array.getElem?_eq_some_iff.1 h).1]
  exact h

theorem WhilesOps.empty : WhilesOps {} := fun _ h => nomatch h

theorem WhilesOps.push {l : Link} (h : WhilesOps l) (op : Opcode) : WhilesOps (l.push op).1 := by
  intro w hw
  obtain ⟨o, h1, h2⟩ := h w hw
  exact ⟨o, push_keeps h1 op, h2⟩

theorem WhilesOps.appended {a b : Link} (ha : WhilesOps a) (hb : WhilesOps b) : WhilesOps (appended a b) := by
  intro w hw
  rcases List.mem_append.1 (show w ∈ a.whiles ++ _ from hw) with h | h
  · obtain ⟨o, h1, h2⟩ := ha w h
    exact ⟨o, getElem?_append_of_some h1, h2⟩
  · obtain ⟨q, hq, rfl⟩ := List.mem_map.1 h
    obtain ⟨o, h1, h2⟩ := hb q hq
    refine ⟨o, ?_, h2⟩
    show (a.ops ++ b.ops)[q.2.2.1 + a.ops.size]? = _
    rw [Array.getElem?_append_right (by omega), Nat.add_sub_cancel]
    exact h1

theorem WhilesOps.append {a b : Link} (ha : WhilesOps a) (hb : WhilesOps b) : WhilesOps (a.append b).1 :=
  append_ind a b ha fun _ => ⟨ha.appended hb, ha.appended hb⟩

theorem WhilesOps.mark {l : Link} (h : WhilesOps l) (k : Bool) (c : Col) (s : Symbol) (op : Opcode) (hop : MarkOp op) :
    WhilesOps (({ l with whiles := l.whiles ++ [(k, c, l.ops.size, s)] } : Link).push op).1 := by
  intro w hw
  rcases List.mem_append.1 (show w ∈ l.whiles ++ [(k, c, l.ops.size, s)] from hw) with h' | h'
  · obtain ⟨o, h1, h2⟩ := h w h'
    exact ⟨o, push_keeps h1 op, h2⟩
  · rw [List.mem_singleton] at h'
    subst h'
    refine ⟨op, ?_, hop⟩
    show (l.ops.push op)[l.ops.size]? = some op
    simp

/-- variable and expression fragments carry no marks at all -/
def NoWhiles (l : Link) : Prop := l.whiles = []

theorem NoWhiles.whilesOps {l : Link} (h : NoWhiles l) : WhilesOps l := by
  intro w hw
  rw [show l.whiles = [] from h] at hw
  cases hw

theorem NoWhiles.append {a b : Link} (ha : NoWhiles a) (hb : NoWhiles b) : NoWhiles (a.append b).1 := by
  have : NoWhiles (appended a b) := by
    show a.whiles ++ b.whiles.map _ = []
    rw [show a.whiles = [] from ha, show b.whiles = [] from hb]
    rfl
  exact append_ind a b ha fun _ => ⟨this, this⟩

/-- the invariant: marks on their branches in the fragment under construction and in statement
    fragments; no marks in variable and expression fragments -/
def wInv : Inv where
  C := WhilesOps
  E := NoWhiles
  S := WhilesOps
  K := T

theorem wOk : Ok wInv where
  push := fun _ op h => WhilesOps.push h op
  nextSymbol := fun _ h => h
  pushSymbol := fun _ _ h => h
  append := fun _ _ ha hb => WhilesOps.append ha (NoWhiles.whilesOps hb)

theorem wMark : MarkOk wInv where
  markJump := fun _ k c s h => WhilesOps.mark h k c s _ (.inl rfl)
  markIfNot := fun _ k c s h => WhilesOps.mark h k c s _ (.inr rfl)

theorem wOkE : Ok wInv.ex where
  push := fun _ _ h => h
  nextSymbol := fun _ h => h
  pushSymbol := fun _ _ h => h
  append := fun _ _ ha hb => NoWhiles.append ha hb

theorem nw_transformToData {l : Link} (h : NoWhiles l) (c : Col) : NoWhiles (transformToData l c).1 :=
  transformToData_ind l c h h fun _ => h

theorem wWalk : Walk wInv where
  okC := wOk
  okR := RefOk.of wOk (fun _ _ _ h => h)
  okM := wMark
  okE := wOkE
  td := fun _ c h => nw_transformToData h c
  appS := fun _ _ ha hb => WhilesOps.append ha hb
  emptyC := WhilesOps.empty
  emptyE := rfl
  done := fun _ h => h
  k := fun _ => trivial

theorem fragments_whilesOps (ast : List Stmt) : ∀ x ∈ (acceptStmts ast {}).g.stmt.toList, WhilesOps x.2 :=
  fragments_inv wWalk ast

theorem codegenLines_whilesOps (lines : List Line) (p : Program) (hnum : Numbered lines) (hl : WhilesOps p.link) :
    WhilesOps (p.codegenLines lines).link :=
  Program.codegenLines_inv (P := WhilesOps) (fun _ _ h hf => h.append hf) fragments_whilesOps (fun _ _ h => h) lines p hnum hl

theorem codegenLines_keysDistinct (lines : List Line) (p : Program) (hnum : Numbered lines)
    (hk : KeysDistinct p.link.unlinked) : KeysDistinct (p.codegenLines lines).link.unlinked :=
  Program.codegenLines_inv (P := fun l => KeysDistinct l.unlinked) (Q := T)
    (fun l f h _ => append_ind (P := fun x => KeysDistinct x.unlinked) l f h
      fun _ => ⟨appendUnlinked_distinct h, appendUnlinked_distinct h⟩)
    (fun _ _ _ => trivial) (fun _ _ h => h) lines p hnum hk

/-- the instruction at `a` is `op`; `x = some (c, sym)`: it waits for the symbol `sym`; `x = none`:
    nothing is pending on it -/
def PendingAt (l : Link) (a : Nat) (op : Opcode) (x : Option (Col × Symbol)) : Prop :=
  l.ops[a]? = some op ∧ l.unlinked.lookup a = x

theorem PendingAt.push {l : Link} {a : Nat} {op : Opcode} {x : Option (Col × Symbol)} (h : PendingAt l a op x) (o : Opcode) :
    PendingAt (l.push o).1 a op x := ⟨push_keeps h.1 o, h.2⟩

theorem PendingAt.pushSymbol {l : Link} {a : Nat} {op : Opcode} {x : Option (Col × Symbol)} (h : PendingAt l a op x)
    (s : Symbol) : PendingAt (l.pushSymbol s) a op x := h

theorem PendingAt.append {l : Link} {a : Nat} {op : Opcode} {x : Option (Col × Symbol)} (h : PendingAt l a op x) (f : Link) :
    PendingAt (l.append f).1 a op x := by
  have hlt : a < l.ops.size := (Array.getElem?_eq_some_iff.1 h.1).1
  have happ : PendingAt (appended l f) a op x :=
    ⟨getElem?_append_of_some h.1, (appendUnlinked_lookup_left l f a hlt).trans h.2⟩
  exact append_ind (P := fun l => PendingAt l a op x) l f h fun _ => ⟨happ, happ⟩

theorem PendingAt.codegen {l : Link} {a : Nat} {op : Opcode} {x : Option (Col × Symbol)} (h : PendingAt l a op x)
    (ast : List Stmt) : PendingAt (Codegen.codegen l ast).1 a op x :=
  codegen_ind (P := fun l => PendingAt l a op x) l ast h fun _ x _ h => h.append x.2

theorem PendingAt.codegenLines {a : Nat} {op : Opcode} {x : Option (Col × Symbol)} (lines : List Line) (p : Program)
    (hnum : Numbered lines) (h : PendingAt p.link a op x) : PendingAt (p.codegenLines lines).link a op x :=
  Program.codegenLines_inv (P := fun l => PendingAt l a op x) (Q := fun _ => True) (fun _ f h _ => h.append f)
    (fun _ _ _ => trivial) (fun _ s h => h.pushSymbol s) lines p hnum h

theorem pend_lookup_of_not_markOp {l : Link} (hw : WhilesOps l) {a : Nat} {op : Opcode} (hop : l.ops[a]? = some op)
    (hm : ¬ MarkOp op) : (pend l).lookup a = l.unlinked.lookup a :=
  pend_lookup_other l a fun hmem => by
    obtain ⟨m, hm', e⟩ := List.mem_map.1 hmem
    obtain ⟨o, ho, hmo⟩ := hw m hm'
    rw [e, hop] at ho
    cases ho
    exact hm hmo

theorem link_restore_resolves (l : Link) (hk : KeysDistinct l.unlinked) (hw : WhilesOps l) (a y : Nat) (c : Col)
    (sym : Symbol) (o d : Nat) (hp : PendingAt l a (.restore y) (some (c, sym))) (hsym : l.symbols.lookup sym = some (o, d)) :
    l.link.1.ops[a]? = some (.restore d) :=
  link_ops_some hk ((pend_lookup_of_not_markOp hw hp.1 (by rintro (h | h) <;> cases h)).trans hp.2) hsym hp.1 rfl

theorem link_keeps_unreferenced (l : Link) (hw : WhilesOps l) (a : Nat) (op : Opcode) (hop : l.ops[a]? = some op)
    (hm : ¬ MarkOp op) (hu : l.unlinked.lookup a = none) : l.link.1.ops[a]? = some op :=
  (link_ops_none l a ((pend_lookup_of_not_markOp hw hop hm).trans hu)).trans hop

/-- variable and expression fragments have no pending references -/
def NoRefs (l : Link) : Prop := l.unlinked = []

theorem NoRefs.refBounded {l : Link} (h : NoRefs l) : RefBounded l := by
  intro p hp
  rw [show l.unlinked = [] from h] at hp
  cases hp

theorem NoRefs.append {a b : Link} (ha : NoRefs a) (hb : NoRefs b) : NoRefs (a.append b).1 := by
  have : NoRefs (appended a b) := by
    show appendUnlinked a b = []
    unfold appendUnlinked
    rw [show b.unlinked = [] from hb]
    exact ha
  exact append_ind a b ha fun _ => ⟨this, this⟩

def rInv : Inv := ⟨RefBounded, NoRefs, RefBounded, fun _ => True⟩

theorem rOk : Ok rInv where
  push := fun _ op h => RefBounded.push h op
  nextSymbol := fun _ h => h
  pushSymbol := fun _ _ h => h
  append := fun _ _ ha hb => RefBounded.append ha (NoRefs.refBounded hb)

theorem rMark : MarkOk rInv where
  markJump := fun l _ _ _ h => RefBounded.push (l := { l with whiles := _ }) h _
  markIfNot := fun l _ _ _ h => RefBounded.push (l := { l with whiles := _ }) h _

theorem rOkE : Ok rInv.ex where
  push := fun _ _ h => h
  nextSymbol := fun _ h => h
  pushSymbol := fun _ _ h => h
  append := fun _ _ ha hb => NoRefs.append ha hb

theorem rRef : RefOk rInv := RefOk.of_ref rOk fun _ c s op h => RefBounded.ref h c s op

theorem nr_transformToData {l : Link} (h : NoRefs l) (c : Col) : NoRefs (transformToData l c).1 :=
  transformToData_ind l c h h fun _ => h

theorem rWalk : Walk rInv where
  okC := rOk
  okR := rRef
  okM := rMark
  okE := rOkE
  td := fun _ c h => nr_transformToData h c
  appS := fun _ _ ha hb => RefBounded.append ha hb
  emptyC := RefBounded.empty
  emptyE := rfl
  done := fun _ h => h
  k := fun _ => trivial

theorem fragments_refBounded (ast : List Stmt) : ∀ x ∈ (acceptStmts ast {}).g.stmt.toList, RefBounded x.2 :=
  fragments_inv rWalk ast

theorem codegenLines_refBounded (lines : List Line) (p : Program) (hnum : Numbered lines) (hl : RefBounded p.link) :
    RefBounded (p.codegenLines lines).link :=
  Program.codegenLines_inv (P := RefBounded) (fun _ _ h hf => h.append hf) fragments_refBounded (fun _ _ h => h) lines p hnum hl

/-- appending the fragment of `RESTORE [n]`: the instruction lands at the end of the code, waiting for
    the symbol of line `n` if there is an operand (whether or not the append overflows) -/
theorem pendingAt_append_restore (l : Link) (sub : Col) (ln : Option Nat)
    (hfree : ln = none → l.unlinked.lookup l.ops.size = none) :
    PendingAt (l.append (restoreFrag sub ln)).1 l.ops.size (.restore 0) (ln.map fun n => (sub, (n : Int))) := by
  have hops : (restoreFrag sub ln).ops = #[.restore 0] := by cases ln <;> rfl
  have hdata : (restoreFrag sub ln).data = #[] := by cases ln <;> rfl
  have happ : PendingAt (appended l (restoreFrag sub ln)) l.ops.size (.restore 0) (ln.map fun n => (sub, (n : Int))) := by
    refine ⟨?_, ?_⟩
    · show (l.ops ++ (restoreFrag sub ln).ops)[l.ops.size]? = _
      rw [hops, Array.getElem?_append_right (Nat.le_refl _)]
      simp
    · have := appendUnlinked_lookup_right l (restoreFrag sub ln) 0
      rw [Nat.zero_add] at this
      show (appendUnlinked l (restoreFrag sub ln)).lookup l.ops.size = _
      rw [this]
      cases ln with
      | none =>
        exact hfree rfl
      | some n =>
        simp [restoreFrag, rebase_line l.currentSymbol (n : Int) (Int.natCast_nonneg n)]
  rcases append_cases l (restoreFrag sub ln) with ⟨_, h, _⟩ | ⟨_, e⟩ | ⟨_, _, e⟩ | ⟨_, _, e⟩
  · rw [hdata] at h; exact absurd h (by simp)
  · rw [e]; exact happ
  · rw [e]; exact happ
  · rw [e]; exact happ

/-- **a line that begins with `RESTORE [n]`** (and compiles without a report): its `restore 0` is the
    first instruction of the line; with an operand it waits for line `n`, without one nothing is
    pending on it (given that no stale reference sits at the end of the code compiled so far) -/
theorem codegen_restore_first (link : Link) (c c2 : Col) (bits : UInt32) (rest : List Stmt)
    (hfree : restoreTarget bits = none → link.unlinked.lookup link.ops.size = none)
    (hclean : (Codegen.codegen link (.restore c (.single c2 bits) :: rest)).2 = []) :
    PendingAt (Codegen.codegen link (.restore c (.single c2 bits) :: rest)).1 link.ops.size (.restore 0)
      ((restoreTarget bits).map fun n => (c2, (n : Int))) := by
  obtain ⟨h0, -, -⟩ := Codegen.codegen_silent _ _ hclean
  rw [Codegen.codegen_eq]
  dsimp only
  rw [acceptStmts, acceptStmt_restore] at h0 ⊢
  obtain ⟨frs, -, hst, -⟩ := (acceptStmts_clean rest _ h0).2 (⟨fun _ h => (nomatch h), fun _ h => (nomatch h)⟩ : DStk
    ({ g := { stmt := (#[] : Array (Col × Link)).push (c, restoreFrag c2 (restoreTarget bits)) }, errors := [] } : VState).g)
  have hfr : (acceptStmts rest
      { g := { stmt := (#[] : Array (Col × Link)).push (c, restoreFrag c2 (restoreTarget bits)) }, errors := [] }).g.stmt.toList =
      (c, restoreFrag c2 (restoreTarget bits)) :: frs := by
    rw [hst]; simp
  rw [hfr]
  simp only [List.map_cons, appendMany]
  have h1 := pendingAt_append_restore link c2 (restoreTarget bits) hfree
  rcases hr : link.append (restoreFrag c2 (restoreTarget bits)) with ⟨l', r⟩
  rw [hr] at h1
  cases r with
  | ok u =>
    exact appendMany_ind (P := fun x => PendingAt x.1 _ _ _) _ l' h1 fun _ f _ h => h.append f
  | error e => exact h1

end DataOrder
end Basic

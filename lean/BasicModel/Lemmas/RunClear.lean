import BasicModel.Lemmas.Inv
import BasicModel.Lemmas.LinkPass
/-
  The direct line `RUN` / `RUN n` compiles to code that starts with `Clear`, at `directAddress`.

  The parser's result is a hypothesis, `Parse.parse none line.tokens = .ok [.run c (.single c2 bits)]`
  (what it returns for `RUN` — `bits` = -1.0 — and, via `lineExpr`, for `RUN n`), so that the theorem
  covers every token list that parses to a RUN (any blanks, any operand); for a concrete list the parse
  is computed with the simp set `parse_eval`, as `Parse.parse_restore` (Lemmas/ParseLines) does for RESTORE.
  Everything after the parser is proved: the generator's fragment starts with `Clear` and carries no DATA, `Link.append` puts it
  at the old end of the code, and neither `push End` nor `link` changes a `Clear`.
-/
namespace Basic
namespace Codegen
open Link
variable {α β : Type}

/-- the fragment under construction starts with `Clear` and has no DATA (and no statement
    fragment has been stacked) -/
def StartsClear (g : GState) : Prop := g.cur.ops[0]? = some .clear ∧ g.cur.data = #[] ∧ g.stmt = #[]

structure GK (m : GM α) : Prop where
  run : ∀ g, StartsClear g → StartsClear (m.run.run g).2

theorem GK.ret (a : α) : GK (pure a : GM α) := ⟨fun _ h => h⟩
theorem GK.lift (r : Except Error α) : GK (liftE r : GM α) := ⟨fun g h => by rw [grun_liftE]; exact h⟩
theorem GK.seq {m : GM α} {f : α → GM β} (hm : GK m) (hf : ∀ a, GK (f a)) : GK (m >>= f) := by
  constructor
  intro g hg
  have h1 := hm.run g hg
  rw [grun_bind]
  rcases h : m.run.run g with ⟨r, g'⟩
  rw [h] at h1
  cases r with
  | ok a => exact (hf a).run g' h1
  | error e => exact h1

/-- the generator run for `RUN` / `RUN n`, by evaluation: whatever line number the operand gives, `pushRun` on the
    empty fragment is `Clear`, a `Jump`, and for `RUN n` one pending reference -/
theorem genRun_startsClear (c c2 : Col) (bits : UInt32) :
    StartsClear ((genStatement (.run c (.single c2 bits))).run.run
      { expr := #[(c2, ({ ops := #[.literal (.sng bits)] } : Link))], cur := {} }).2 := by
  have h : ∀ ln : Option Nat,
      StartsClear ((pushRun c2 ln >>= fun _ => (pure (c.1, c2.2) : GM Col)).run.run { expr := #[], cur := {} }).2 := by
    intro ln
    cases ln <;> exact ⟨rfl, rfl, rfl⟩
  simp only [genStatement]
  rw [grun_bind, show popExpr.run.run { expr := #[(c2, ({ ops := #[.literal (.sng bits)] } : Link))], cur := {} } =
        (.ok (c2, ({ ops := #[.literal (.sng bits)] } : Link)), { expr := #[], cur := {} }) from rfl]
  dsimp only
  rw [show stringOfLink ({ ops := #[.literal (.sng bits)] } : Link) = none from rfl]
  dsimp only
  -- plain `RUN` has the operand −1.0, for which `lineNumberOfLink` fails: then `pushRun` gets no line
  cases lineNumberOfLink ({ ops := #[.literal (.sng bits)] } : Link) <;> exact h _

theorem run_fragment (c c2 : Col) (bits : UInt32) :
    ∃ (col : Col) (frag : Link) (errs : List Error),
      (acceptStmts [.run c (.single c2 bits)] {}).g.stmt.toList = [(col, frag)] ∧
      (acceptStmts [.run c (.single c2 bits)] {}).errors = errs ∧
      frag.ops[0]? = some .clear ∧ frag.data = #[] := by
  have e1 : acceptStmts [.run c (.single c2 bits)] {} =
      visitStatement (.run c (.single c2 bits))
        { g := { expr := #[(c2, { ops := #[.literal (.sng bits)] })] }, errors := [] } := rfl
  rw [e1]
  have key := genRun_startsClear c c2 bits
  unfold visitStatement runFresh
  dsimp only
  generalize (genStatement (.run c (.single c2 bits))).run.run
    { expr := #[(c2, ({ ops := #[.literal (.sng bits)] } : Link))], cur := {} } = x at key ⊢
  rcases x with ⟨r, g'⟩
  cases r with
  | ok col =>
    refine ⟨col, g'.cur, _, ?_, rfl, key.1, key.2.1⟩
    show (g'.stmt.push (col, g'.cur)).toList = _
    rw [key.2.2]; rfl
  | error e =>
    refine ⟨(0, 0), g'.cur, _, ?_, rfl, key.1, key.2.1⟩
    show (g'.stmt.push ((0, 0), g'.cur)).toList = _
    rw [key.2.2]; rfl

end Codegen

namespace Link

/-- `link` patches jumps, IFNOTs, return/next literals and RESTOREs — never a `Clear` -/
theorem link_keeps_clear (l : Link) (i : Nat) (h : l.ops[i]? = some .clear) :
    l.link.1.ops[i]? = some .clear :=
  link_ops_inv (P := fun ops => ops[i]? = some .clear) l (fun ops j op o d op' hop hp hi => by
    rw [Array.getElem?_setIfInBounds_ne (fun e => by rw [e, hi] at hop; cases hop; cases hp)]; exact hi) h

/-- in direct mode a DATA-less fragment is appended at the old end of the code -/
theorem append_at_end (l f : Link) (hf : f.data = #[]) :
    (l.append f).1.ops[l.ops.size]? = f.ops[0]? := by
  have h : (l.ops ++ f.ops)[l.ops.size]? = f.ops[0]? := by
    rw [Array.getElem?_append_right (Nat.le_refl _), Nat.sub_self]
  rw [append_eq, hf]
  simp only [Array.isEmpty_empty, Bool.not_true, Bool.and_false, Bool.false_eq_true, if_false]
  split <;> exact h

end Link

namespace Program
open Link

theorem linkProg_keeps_clear (p : Program) (i : Nat) (h : p.link.ops[i]? = some .clear) :
    p.linkProg.link.ops[i]? = some .clear := by
  refine linkProg_ind (P := fun q => q.link.ops[i]? = some .clear) p h ?_ ?_ ?_
  · intro q hq
    rw [pushEndP_link]; exact push_keeps hq Opcode.end
  · intro q hq
    rw [resolve_link]; exact link_keeps_clear q.link i hq
  · intro q hq
    rw [(markDirect_fields q).1]; exact hq

theorem directGen_run_clear (b : Program) (line : Line) (c c2 : Col) (bits : UInt32)
    (hparse : Parse.parse none line.tokens = .ok [.run c (.single c2 bits)]) :
    (directGen b line).link.ops[b.link.ops.size]? = some .clear := by
  obtain ⟨col, frag, errs, h1, h2, h3, h4⟩ := Codegen.run_fragment c c2 bits
  have hcg : (Codegen.codegen b.link [.run c (.single c2 bits)]).1.ops[b.link.ops.size]? = some .clear := by
    rw [Codegen.codegen_eq, h1]
    -- the one fragment is appended, whether or not that succeeds
    show (appendMany b.link [frag]).1.ops[b.link.ops.size]? = some .clear
    have := (append_at_end b.link frag h4).trans h3
    unfold appendMany
    generalize b.link.append frag = x at this
    rcases x with ⟨l', r⟩
    cases r <;> exact this
  rw [directGen_ok hparse, pushEndP_link,
    show ∀ ast, (genAst b ast).link = (Codegen.codegen b.link ast).1 from fun _ => rfl]
  -- with the link a variable: on the term itself `exact` would run the generator to compare the two sides
  generalize (Codegen.codegen b.link [.run c (.single c2 bits)]).1 = l at hcg ⊢
  exact push_keeps hcg Opcode.end

end Program

namespace Runtime

/-- in every state satisfying the invariant, the direct line `RUN` / `RUN n` (given what the
    parser returns for it) starts executing at a `Clear` -/
theorem enterDirect_run_starts_with_clear (s : Runtime) (line : Line) (hn : line.number = none)
    (hi : Inv s) (c c2 : Col) (bits : UInt32)
    (hparse : Parse.parse none line.tokens = .ok [.run c (.single c2 bits)]) :
    (enterDirect s line).program.link.ops[(enterDirect s line).pc]? = some .clear := by
  rw [(enterDirect_fields s line).2.1]
  obtain ⟨d, hp⟩ := enterDirect_program_inv s line hn hi
  rw [hp, Program.withDP_ops, Program.withDP_directAddress]
  unfold Program.runProg
  rw [Program.codegenLine_direct _ line hn]
  have hB := freshBase_based s.listing
  have hda := ((Program.POver.directGen hB line).linkProg hB).1.directAddress
  unfold freshBase at hB hda
  rw [hda, hB.addr]
  exact Program.linkProg_keeps_clear _ _ (Program.directGen_run_clear _ line c c2 bits hparse)

end Runtime
end Basic

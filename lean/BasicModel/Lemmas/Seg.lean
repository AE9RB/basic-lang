import BasicModel.Lemmas.RunSteps
/-
  Straight-line code against the result of a specification.

  `Seg env hie n s r ok bad` — the code that starts at `s`, run against `r : Res α`: when `r = .ok a`
  exactly `n` steps, all answering `continue`, end in `ok a`; when `r = .error e` at most `n` steps end in
  exactly the error `e`, in a state of which `bad` holds.  Specifications of statements are `do` blocks in
  `Res` (`Spec.forInit`, `Spec.bindParams`, `Spec.evalCall` …), and `Seg.bind` composes segments along
  their `>>=`: the split into outcomes is made once, there.

  States are written `s.at pc stk σ` (`Lemmas/Control.lean`): the hypotheses of `pop_at`, `literal_at` … are about the
  machine `s`, so a caller leaves `pc stk σ` to be read off the segment before.  Code with loops is the subject of
  `Lemmas/StructCompile.lean`, which `Seg.ends` (declared there) feeds.
-/
namespace Basic
namespace Lemmas.ExprCompile
open Basic.Runtime

def Seg (env : Env) (hie : Bool) {α : Type} (n : Nat) (s : Runtime) (r : Res α) (ok : α → Runtime)
    (bad : Runtime → Prop) : Prop :=
  match r with
  | .ok a => runSteps env hie n s = (.ok .continue, ok a)
  | .error e => ∃ k s', k ≤ n ∧ runSteps env hie k s = (.error e, s') ∧ bad s'

namespace Seg
variable {env : Env} {hie : Bool} {α β : Type} {n n1 n2 : Nat} {s : Runtime} {r : Res α} {ok : α → Runtime}
  {bad bad' : Runtime → Prop}

theorem nil {a : α} (h : ok a = s) : Seg env hie 0 s (.ok a) ok bad := by
  show (_, s) = (_, ok a)
  rw [h]

theorem runs {a : α} (h : runSteps env hie n s = (.ok .continue, ok a)) : Seg env hie n s (.ok a) ok bad := h

theorem one {a : α} (h : ((step env hie).run).run s = (.ok .continue, ok a)) : Seg env hie 1 s (.ok a) ok bad :=
  (runSteps_one env hie s).trans h

theorem step {s' : Runtime} (h : ((Runtime.step env hie).run).run s = outcome r ok s') :
    Seg env hie 1 s r ok (· = s') := by
  cases r with
  | ok a => exact (runSteps_one env hie s).trans h
  | error e => exact ⟨1, s', Nat.le_refl _, (runSteps_one env hie s).trans h, rfl⟩

/-- sequential composition follows the `>>=` of the specification.  `ok2` cannot mention what earlier
    stages bound: the last stage has to produce the specification's own result. -/
theorem bind {f : α → Res β} {ok2 : β → Runtime} (h1 : Seg env hie n1 s r ok bad)
    (h2 : ∀ a, r = .ok a → Seg env hie n2 (ok a) (f a) ok2 bad) : Seg env hie (n1 + n2) s (r >>= f) ok2 bad := by
  cases r with
  | error e =>
    obtain ⟨k, s', hk, h, hb⟩ := h1
    exact ⟨k, s', by omega, h, hb⟩
  | ok a =>
    have h1 : runSteps env hie n1 s = _ := h1
    have h2 := h2 a rfl
    show Seg env hie (n1 + n2) s (f a) ok2 bad
    cases hf : f a with
    | ok b =>
      rw [hf] at h2
      exact (runSteps_ok_add h1 n2).trans h2
    | error e =>
      rw [hf] at h2
      obtain ⟨k, s', hk, h, hb⟩ := h2
      exact ⟨n1 + k, s', by omega, (runSteps_ok_add h1 k).trans h, hb⟩

theorem mono (h : Seg env hie n s r ok bad) (hb : ∀ e, r = .error e → ∀ s', bad s' → bad' s') :
    Seg env hie n s r ok bad' := by
  cases r with
  | ok a => exact h
  | error e =>
    obtain ⟨k, s', hk, h, hbad⟩ := h
    exact ⟨k, s', hk, h, hb e rfl s' hbad⟩

theorem any (h : Seg env hie n s r ok bad) : Seg env hie n s r ok fun _ => True := h.mono fun _ _ _ _ => trivial

theorem len {m : Nat} (h : Seg env hie n s r ok bad) (hn : n = m) : Seg env hie m s r ok bad := hn ▸ h

theorem run_ok {a : α} (h : Seg env hie n s r ok bad) (hr : r = .ok a) :
    runSteps env hie n s = (.ok .continue, ok a) := by
  subst hr
  exact h

theorem run_error {e : Error} (h : Seg env hie n s r ok bad) (hr : r = .error e) :
    ∃ s', (∀ m, n ≤ m → runSteps env hie m s = (.error e, s')) ∧ bad s' := by
  subst hr
  obtain ⟨k, s', hk, h, hb⟩ := h
  exact ⟨s', fun m hm => runSteps_error_le h (by omega), hb⟩

theorem of_computes {ops : List Opcode} {r : Res Val} (h : Computes env hie ops s r) :
    Seg env hie ops.length s r (fun v => { s with pc := s.pc + ops.length, stack := s.stack.push v })
      (fun s' => ∃ pc' stk', s' = { s with pc := pc', stack := stk' }) := by
  cases r with
  | ok v => exact h.2
  | error err =>
    obtain ⟨stk', hs⟩ := h.stops
    obtain ⟨pc', hrun⟩ := hs.run
    exact ⟨ops.length, _, Nat.le_refl _, hrun _ (Nat.le_refl _), pc', stk', rfl⟩

end Seg

def Moved (s : Runtime) (σ : Var) (s' : Runtime) : Prop := ∃ pc' stk', s' = s.at pc' stk' σ

variable (env : Env) (hie : Bool)

theorem pop_at (s : Runtime) (pc : Nat) (stk : Array Val) (v : Val) (σ : Var) (name : Str)
    (hop : s.program.link.ops[pc]? = some (.pop name)) (htr : s.tron = false) :
    Seg env hie 1 (s.at pc (stk.push v) σ) (σ.store name v) (fun σ' => s.at (pc + 1) stk σ') (Moved s σ) :=
  (Seg.step (run_step_pop env hie (s.at pc (stk.push v) σ) name stk v htr hop rfl)).mono fun _ _ _ h => ⟨_, _, h⟩

theorem literal_at (s : Runtime) (pc : Nat) (stk : Array Val) (σ : Var) (v : Val)
    (hop : s.program.link.ops[pc]? = some (.literal v)) (htr : s.tron = false)
    (hroom : stk.size + 1 ≤ Gen.stackMaxLen) :
    runSteps env hie 1 (s.at pc stk σ) = (.ok .continue, s.at (pc + 1) (stk.push v) σ) :=
  (runSteps_one env hie _).trans (run_step_literal_room env hie (s.at pc stk σ) v htr hop hroom)

/-- RETURN from a function: the value on top of the return address is kept -/
theorem return_at (s : Runtime) (pc r : Nat) (stk : Array Val) (v : Val) (σ : Var)
    (hop : s.program.link.ops[pc]? = some .return) (htr : s.tron = false) (hv : isValue v = true)
    (hb : stk.size + 1 ≤ Gen.stackMaxLen) :
    ((step env hie).run).run (s.at pc ((stk.push (.ret r)).push v) σ) = (.ok .continue, s.at r (stk.push v) σ) :=
  run_step_return_value env hie (s.at pc ((stk.push (.ret r)).push v) σ) stk r v htr hop rfl hv hb

/-- RETURN from a subroutine -/
theorem return_plain_at (s : Runtime) (pc r : Nat) (stk : Array Val) (σ : Var)
    (hop : s.program.link.ops[pc]? = some .return) (htr : s.tron = false) :
    ((step env hie).run).run (s.at pc (stk.push (.ret r)) σ) = (.ok .continue, s.at r stk σ) :=
  run_step_return_plain env hie (s.at pc (stk.push (.ret r)) σ) stk r htr hop rfl

theorem jump_at (s : Runtime) (pc a : Nat) (stk : Array Val) (σ : Var)
    (hop : s.program.link.ops[pc]? = some (.jump a)) (htr : s.tron = false)
    (hgate : hie = false ∨ a ≥ s.entryAddress) :
    ((step env hie).run).run (s.at pc stk σ) = (.ok .continue, s.at a stk σ) :=
  run_step_jump env hie (s.at pc stk σ) a htr hop hgate

/-- `on` with a count and a selector it accepts: onto the selected entry of the table behind it, or past
    the table -/
theorem on_at (s : Runtime) (pc : Nat) (stk : Array Val) (σ : Var) (lenV selV : Val) (len sel : Int16)
    (hop : s.program.link.ops[pc]? = some .on) (htr : s.tron = false)
    (hsel : selV.toI16 = .ok sel) (hlen : lenV.toI16 = .ok len) (h0 : ¬ (sel.toInt < 0 ∨ len.toInt < 0)) :
    runSteps env hie 1 (s.at pc ((stk.push lenV).push selV) σ) =
      (.ok .continue, s.at (if sel.toInt = 0 ∨ sel.toInt > len.toInt then pc + 1 + len.toInt.toNat
                            else pc + 1 + (sel.toInt.toNat - 1)) stk σ) := by
  rw [runSteps_one, run_step_unit env hie (s.at pc ((stk.push lenV).push selV) σ) doOn htr hop,
    run_doOn _ stk lenV selV len sel rfl hsel hlen, if_neg h0]
  split <;> rfl

end Lemmas.ExprCompile
end Basic

import BasicModel.Lemmas.DataOrder
/-
  A program that compiles without a report has constants as DATA items (C09).

  `codegen` reports SYNTAX ERROR "EXPECTED LITERAL" (or the error of the negation) for every DATA
  item whose fragment is not `literal v` / `literal w; neg`; this file shows that, when nothing at
  all is reported, a fragment of one of these two shapes can only come from a literal / a negated
  literal — so the syntactic condition `stmtsLit` of `Lemmas/DataOrder.lean` follows from a clean
  compile, and the data-segment theorems need no hypothesis about the DATA items.

  `ExprShape e ops`: what the code of `e` looks like as far as DATA cares.  `accept_shape` is the one walk along the clean
  path (`accept_clean_ind`): what a clean visit leaves on the three stacks (`CleanShape`: an operand one item on its own
  stack, an expression's fragment with the shape of the expression, a statement one fragment that carries its constants),
  the stacks staying data-free (`CleanEff`).  Read off it: a clean `codegen` has constants as DATA items and appends
  `stmtsData` (`codegen_clean`); then line by line: for a listing each of whose lines compiles without a report
  (`ListingClean`) the data segment of the compiled program is `dataOf` of the listing (`compile_data`).
-/
namespace Basic
namespace DataOrder
open Link Codegen
variable {α β : Type}

/-- not `neg`, not a `literal` -/
def goodOp : Opcode → Bool
  | .neg => false
  | .literal _ => false
  | _ => true

theorem builtin_goodOp {name : Str} {oc : Opcode} {lo hi : Nat} (h : Gen.opcodeAndArity name = some (oc, lo, hi)) :
    goodOp oc = true :=
  table_lookup_ind (P := fun _ v => goodOp v.1 = true) (by decide) h

def EndsGood (l : Link) : Prop := ∃ (ops1 : Array Opcode) (o : Opcode), l.ops = ops1.push o ∧ goodOp o = true

theorem lpush_ok_ends {op : Opcode} {g g' : GState} {u : Unit} (h : (lpush op).run.run g = (.ok u, g'))
    (hop : goodOp op = true) : EndsGood g'.cur ∧ g'.var = g.var ∧ g'.expr = g.expr ∧ g'.stmt = g.stmt := by
  rw [lpush_ok_inv h]
  exact ⟨⟨g.cur.ops, op, rfl, hop⟩, rfl, rfl, rfl⟩

theorem tail_ends {op : Opcode} {b x : β} {g g' : GState} (hop : goodOp op = true)
    (h : (lpush op >>= fun _ => (pure b : GM β)).run.run g = (.ok x, g')) :
    EndsGood g'.cur ∧ g'.var = g.var ∧ g'.expr = g.expr ∧ g'.stmt = g.stmt := by
  obtain ⟨u, g1, h1, h2⟩ := bind_ok_inv h
  obtain ⟨-, e⟩ := pure_ok_inv h2
  rw [← e]
  exact lpush_ok_ends h1 hop

/-- **the code of a variable reference or call ends with a good instruction** (`push`, `pushArr`, `fn`
    or the opcode of a built-in) whenever the generator succeeds, and only the fragment under construction
    has changed: by the closed form, an append and one or two pushes -/
theorem pushAsExpression_ends (v : VarItem) (g g' : GState) (c : Col)
    (h : (pushAsExpression v).run.run g = (.ok c, g')) :
    EndsGood g'.cur ∧ g'.var = g.var ∧ g'.expr = g.expr ∧ g'.stmt = g.stmt := by
  rw [pushAsExpression_eq] at h
  obtain ⟨u1, g1, h1, h⟩ := bind_ok_inv h
  obtain ⟨e1, -⟩ := lappend_ok_inv h1
  obtain ⟨ops, g2, h2, h⟩ := bind_ok_inv h
  rw [grun_liftE] at h2
  obtain ⟨hv, e2⟩ := Prod.mk.inj h2
  subst e2 e1
  obtain ⟨o, hops, ho⟩ := varCode_ok hv
  have hg : goodOp o = true := by
    rcases ho with ⟨rfl, -⟩ | ⟨len, -, rfl | rfl⟩ | ⟨lo, hi, hb⟩
    · rfl
    · rfl
    · rfl
    · exact builtin_goodOp hb
  rcases hops with rfl | ⟨n, rfl⟩
  · simp only [List.forIn_cons, List.forIn_nil, bind_assoc, pure_bind] at h
    exact (tail_ends hg h :)
  · simp only [List.forIn_cons, List.forIn_nil, bind_assoc, pure_bind] at h
    obtain ⟨u3, g3, h3, h⟩ := bind_ok_inv h
    rw [lpush_ok_inv h3] at h
    exact (tail_ends hg h :)

/-- what a successfully generated fragment of `e` looks like, as far as DATA cares: a literal is one
    `literal`; `-e` is the code of `e` followed by `neg`; everything else ends with an instruction that
    is neither `neg` nor a `literal` -/
def ExprShape : Expr → Array Opcode → Prop
  | .single _ b, ops => ops = #[.literal (.sng b)]
  | .double _ b, ops => ops = #[.literal (.dbl b)]
  | .integer _ n, ops => ops = #[.literal (.int n)]
  | .string _ x, ops => ops = #[.literal (.str x)]
  | .neg _ e, ops => ∃ ops1, ExprShape e ops1 ∧ ops = ops1.push .neg
  | .not _ _, ops => ∃ ops1 : Array Opcode, ops = ops1.push .not
  | .bin op _ _ _, ops => ∃ ops1 : Array Opcode, ops = ops1.push (Gen.opcodeOfBinOp op)
  | .var _, ops => ∃ (ops1 : Array Opcode) (o : Opcode), ops = ops1.push o ∧ goodOp o = true

theorem push_eq_one {γ : Type} {xs : Array γ} {x a : γ} (h : xs.push x = #[a]) : xs = #[] ∧ x = a :=
  ((Array.push_eq_push (ys := #[])).1 h).symm

theorem push_eq_two {γ : Type} {xs : Array γ} {x a b : γ} (h : xs.push x = #[a, b]) : xs = #[a] ∧ x = b :=
  ((Array.push_eq_push (ys := #[a])).1 h).symm

theorem goodOp_binOp (op : BinOp) : goodOp (Gen.opcodeOfBinOp op) = true := by cases op <;> rfl

/-- the three kinds of shape: a literal; a negation; code that ends with an instruction that is neither
    `neg` nor a `literal` -/
theorem shape_cases {e : Expr} {ops : Array Opcode} (h : ExprShape e ops) :
    (∃ v, litVal e = some v ∧ ops = #[.literal v]) ∨
    (∃ c e1 ops1, e = .neg c e1 ∧ ExprShape e1 ops1 ∧ ops = ops1.push .neg) ∨
    (∃ (ops1 : Array Opcode) (o : Opcode), ops = ops1.push o ∧ goodOp o = true) := by
  cases e with
  | single c b => exact .inl ⟨_, rfl, h⟩
  | double c b => exact .inl ⟨_, rfl, h⟩
  | integer c n => exact .inl ⟨_, rfl, h⟩
  | string c x => exact .inl ⟨_, rfl, h⟩
  | neg c e1 =>
    obtain ⟨ops1, h1, e⟩ := h
    exact .inr (.inl ⟨c, e1, ops1, rfl, h1, e⟩)
  | not c e1 =>
    obtain ⟨ops1, e⟩ := h
    exact .inr (.inr ⟨ops1, _, e, rfl⟩)
  | bin op c l r =>
    obtain ⟨ops1, e⟩ := h
    exact .inr (.inr ⟨ops1, _, e, goodOp_binOp op⟩)
  | var x => exact .inr (.inr h)

theorem shape_lit {e : Expr} {v : Val} (h : ExprShape e #[.literal v]) : litVal e = some v := by
  rcases shape_cases h with ⟨w, hl, e⟩ | ⟨c, e1, ops1, -, -, e⟩ | ⟨ops1, o, e, hg⟩
  · cases e
    exact hl
  · cases (push_eq_one e.symm).2
  · rw [(push_eq_one e.symm).2] at hg
    cases hg

theorem shape_neg {e : Expr} {w : Val} (h : ExprShape e #[.literal w, .neg]) :
    ∃ c e1, e = .neg c e1 ∧ litVal e1 = some w := by
  rcases shape_cases h with ⟨v, -, e⟩ | ⟨c, e1, ops1, rfl, h1, e⟩ | ⟨ops1, o, e, hg⟩
  · cases e
  · rw [(push_eq_two e.symm).1] at h1
    exact ⟨c, e1, rfl, shape_lit h1⟩
  · rw [(push_eq_two e.symm).2] at hg
    cases hg

theorem unaryExpr_ok (op : Opcode) (c c' : Col) (g g' : GState) (pre : Array (Col × Link)) (f1 : Col × Link)
    (h0 : g.expr = pre.push f1) (hc : g.cur = {}) (h : (unaryExpr op c).run.run g = (.ok c', g')) :
    g'.cur.ops = f1.2.ops.push op ∧ g'.expr = pre ∧ g'.var = g.var ∧ g'.stmt = g.stmt := by
  unfold unaryExpr at h
  rw [grun_bind_ok (popExpr_run g pre f1 h0)] at h
  dsimp only at h
  obtain ⟨u1, g1, h1, h⟩ := bind_ok_inv h
  obtain ⟨e1, a1⟩ := lappend_ok_inv h1
  obtain ⟨u2, g2, h2, h⟩ := bind_ok_inv h
  have e2 := lpush_ok_inv h2
  obtain ⟨-, e3⟩ := pure_ok_inv h
  subst e3; subst e2; subst e1
  refine ⟨?_, rfl, rfl, rfl⟩
  show ((g.cur.append f1.2).1.ops).push op = _
  rw [append_ops a1, hc]
  simp

theorem binaryExpr_ok (op : Opcode) (c' : Col) (g g' : GState) (pre : Array (Col × Link)) (fl fr : Col × Link)
    (h0 : g.expr = (pre.push fl).push fr) (h : (binaryExpr op).run.run g = (.ok c', g')) :
    (∃ ops1 : Array Opcode, g'.cur.ops = ops1.push op) ∧ g'.expr = pre ∧ g'.var = g.var ∧ g'.stmt = g.stmt := by
  unfold binaryExpr at h
  rw [grun_bind_ok (popExpr_run g (pre.push fl) fr h0)] at h
  dsimp only at h
  rw [grun_bind_ok (popExpr_run _ pre fl rfl)] at h
  dsimp only at h
  obtain ⟨u1, g1, h1, h⟩ := bind_ok_inv h
  obtain ⟨e1, -⟩ := lappend_ok_inv h1
  obtain ⟨u2, g2, h2, h⟩ := bind_ok_inv h
  obtain ⟨e2, -⟩ := lappend_ok_inv h2
  obtain ⟨u3, g3, h3, h⟩ := bind_ok_inv h
  have e3 := lpush_ok_inv h3
  obtain ⟨-, e4⟩ := pure_ok_inv h
  subst e4; subst e3; subst e2; subst e1
  exact ⟨⟨_, rfl⟩, rfl, rfl, rfl⟩

/-- a visit that reports nothing: the generator succeeded, and its fragment is the new entry -/
theorem visitVariable_run_of_clean {v : Variable} {s : VState} (hcl : (visitVariable v s).errors = s.errors) :
    ∃ r g', (genVariable v).run.run { s.g with cur := {} } = (.ok r, g') ∧
      (visitVariable v s).g = { g' with cur := s.g.cur, var := g'.var.push ⟨r.1, r.2.1, g'.cur, r.2.2⟩ } := by
  unfold visitVariable runFresh at hcl ⊢
  generalize (genVariable v).run.run { s.g with cur := {} } = x at hcl ⊢
  obtain ⟨r, g'⟩ := x
  cases r with
  | ok a => exact ⟨a, g', rfl, rfl⟩
  | error e => exact absurd hcl append_singleton_ne

theorem visitExpression_run_of_clean {e : Expr} {s : VState} (hcl : (visitExpression e s).errors = s.errors) :
    ∃ c g', (genExpression e).run.run { s.g with cur := {} } = (.ok c, g') ∧
      (visitExpression e s).g = { g' with cur := s.g.cur, expr := g'.expr.push (c, g'.cur) } := by
  unfold visitExpression runFresh at hcl ⊢
  generalize (genExpression e).run.run { s.g with cur := {} } = x at hcl ⊢
  obtain ⟨r, g'⟩ := x
  cases r with
  | ok a => exact ⟨a, g', rfl, rfl⟩
  | error e => exact absurd hcl append_singleton_ne

theorem visitStatement_run_of_clean {st : Stmt} {s : VState} (hcl : (visitStatement st s).errors = s.errors) :
    ∃ c g', (genStatement st).run.run { s.g with cur := {} } = (.ok c, g') := by
  unfold visitStatement runFresh at hcl
  generalize (genStatement st).run.run { s.g with cur := {} } = x at hcl ⊢
  obtain ⟨r, g'⟩ := x
  cases r with
  | ok a => exact ⟨a, g', rfl⟩
  | error e => exact absurd hcl append_singleton_ne

theorem lit_clean {e : Expr} {v : Val} (hl : litVal e = some v) (hs : ExprShape e #[.literal v]) (s : VState) :
    ∃ fr, (acceptExpr e s).g.expr = s.g.expr.push fr ∧ (acceptExpr e s).g.var = s.g.var ∧
      (acceptExpr e s).g.stmt = s.g.stmt ∧ ExprShape e fr.2.ops := by
  obtain ⟨c, h⟩ := acceptExpr_lit e v hl s
  rw [h]
  exact ⟨_, rfl, rfl, rfl, hs⟩

theorem unary_clean {e : Expr} {op : Opcode} {c : Col} (hgen : genExpression e = unaryExpr op c) {s s1 : VState}
    {f1 : Col × Link} (hex : s1.g.expr = s.g.expr.push f1) (hcl : (visitExpression e s1).errors = s1.errors) :
    ∃ fr, (visitExpression e s1).g.expr = s.g.expr.push fr ∧ (visitExpression e s1).g.var = s1.g.var ∧
      (visitExpression e s1).g.stmt = s1.g.stmt ∧ fr.2.ops = f1.2.ops.push op := by
  obtain ⟨a, g', hr, hg⟩ := visitExpression_run_of_clean hcl
  rw [hgen] at hr
  obtain ⟨h1, h2, h3, h4⟩ := unaryExpr_ok op c a ({ s1.g with cur := {} } : GState) g' s.g.expr f1 hex rfl hr
  rw [hg]
  exact ⟨(a, g'.cur), by rw [← h2], h3, h4, h1⟩

theorem eq_one {γ : Type} {xs : Array γ} {a : γ} (hs : xs.size = 1) (h0 : xs[0]? = some a) : xs = #[a] := by
  rcases xs with ⟨_ | ⟨x, _ | ⟨y, l⟩⟩⟩
  · simp at hs
  · simp at h0; rw [h0]
  · simp at hs

theorem eq_two {γ : Type} {xs : Array γ} {a b : γ} (hs : xs.size = 2) (h0 : xs[0]? = some a) (h1 : xs[1]? = some b) :
    xs = #[a, b] := by
  rcases xs with ⟨_ | ⟨x, _ | ⟨y, _ | ⟨z, l⟩⟩⟩⟩
  · simp at hs
  · simp at hs
  · simp at h0 h1; rw [h0, h1]
  · simp at hs

theorem td_cases (l : Link) (c : Col) :
    (∃ v, l.ops = #[.literal v]) ∨ (∃ v, l.ops = #[.literal v, .neg]) ∨
    (transformToData l c).2 = .error (((Error.mk' Code.syntaxError).inCol c.1 c.2).withMsg "EXPECTED LITERAL") := by
  unfold transformToData
  dsimp only
  split
  · rename_i hs
    split
    · rename_i v h0
      exact .inl ⟨v, eq_one hs h0⟩
    · exact .inr (.inr rfl)
  · split
    · rename_i hs
      split
      · rename_i v h0 h1
        exact .inr (.inl ⟨v, eq_two hs h0 h1⟩)
      · exact .inr (.inr rfl)
    · exact .inr (.inr rfl)

theorem td_ok_shape (l : Link) (c : Col) (h : (transformToData l c).2 = .ok ()) :
    (∃ v, l.ops = #[.literal v]) ∨ (∃ w nv, l.ops = #[.literal w, .neg] ∧ Ops.negate w = .ok nv) := by
  rcases td_cases l c with h1 | ⟨w, hw⟩ | he
  · exact .inl h1
  · cases hn : Ops.negate w with
    | ok nv => exact .inr ⟨w, nv, hw, hn⟩
    | error e =>
      have : (transformToData l c).2 = .error e := by
        unfold transformToData
        simp [hw, hn]
      rw [this] at h
      cases h
  · rw [he] at h
    cases h

theorem stmtLit_plain (st : Stmt) (hp : Stmt.plain st = true) : stmtLit st = true := by
  cases st <;> first | rfl | cases hp

/-- a fragment with the shape of `e` that passes `transformToData`: `e` is a constant, and a fragment
    without data becomes that constant -/
theorem td_ok_const {e : Expr} {fr : Col × Link} (hs : ExprShape e fr.2.ops)
    (h : (transformToData fr.2 fr.1).2 = .ok ()) :
    ∃ v, constOf e = some v ∧ (fr.2.data = #[] → (transformToData fr.2 fr.1).1.data = #[v]) := by
  rcases td_ok_shape fr.2 fr.1 h with ⟨v, hv⟩ | ⟨w, nv, hw, hn⟩
  · rw [hv] at hs
    have hl := shape_lit hs
    refine ⟨v, by cases e <;> first | exact hl | (simp [litVal] at hl), fun hd => ?_⟩
    simp [transformToData, hv, pushData, hd]
  · rw [hw] at hs
    obtain ⟨c', e1, rfl, hl⟩ := shape_neg hs
    refine ⟨nv, by simp only [constOf, hl, hn], fun hd => ?_⟩
    simp [transformToData, hw, hn, pushData, hd]

/-- DATA: the items' fragments passed `transformToData`, so the items are constants, and what data-free
    fragments became is `constsOf` -/
theorem consts_of_td : ∀ {es : List Expr} {frs : List (Col × Link)}, All2 (fun e fr => ExprShape e fr.2.ops) es frs →
    (∀ x ∈ frs, (transformToData x.2 x.1).2 = .ok ()) →
    (es.all fun e => (constOf e).isSome) = true ∧ ((∀ x ∈ frs, x.2.data = #[]) →
      (frs.map fun x => (transformToData x.2 x.1).1.data.toList).flatten = constsOf es)
  | _, _, .nil, _ => ⟨rfl, fun _ => rfl⟩
  | _, _, @All2.cons _ _ _ e fr _ _ h1 hs, hall => by
    obtain ⟨i1, i2⟩ := consts_of_td hs fun x hx => hall x (List.mem_cons_of_mem _ hx)
    obtain ⟨v, hv, hdv⟩ := td_ok_const h1 (hall fr List.mem_cons_self)
    rw [List.all_cons, Bool.and_eq_true, hv]
    refine ⟨⟨rfl, i1⟩, fun hd => ?_⟩
    rw [List.map_cons, List.flatten_cons, constsOf, hv, i2 fun x hx => hd x (List.mem_cons_of_mem _ hx),
      hdv (hd fr List.mem_cons_self)]
    rfl

/-- what a clean visit of a node does to the stacks: a variable or an expression pushes one item on its
    stack and leaves the others alone, an expression's fragment has the shape of the expression; a
    statement has constants as DATA items and, on data-free stacks, pushes one fragment that carries them -/
def CleanShape : Node → VState → VState → Prop
  | .var _, s, s' => (∃ item, s'.g.var = s.g.var.push item) ∧ s'.g.expr = s.g.expr ∧ s'.g.stmt = s.g.stmt
  | .expr e, s, s' => ∃ fr, s'.g.expr = s.g.expr.push fr ∧ s'.g.var = s.g.var ∧ s'.g.stmt = s.g.stmt ∧ ExprShape e fr.2.ops
  | .stmt st, s, s' => stmtLit st = true ∧
      (DStk s.g → ∃ fr, s'.g.stmt = s.g.stmt.push fr ∧ fr.2.data.toList = stmtData st)

/-- … and the stacks stay data-free -/
def CleanEff (n : Node) (s s' : VState) : Prop := (DStk s.g → DStk s'.g) ∧ CleanShape n s s'

end DataOrder
namespace Codegen.Chain
open DataOrder

theorem dstk {ns : List Node} {s s' : VState} (hc : Chain CleanEff ns s s') (h : DStk s.g) : DStk s'.g := by
  induction hc with
  | nil => exact h
  | cons h1 _ ih => exact ih (h1.1 h)

theorem operands {ns : List Node} {s s' : VState} (hc : Chain CleanEff ns s s') (hn : ∀ k ∈ ns, k.operand = true) :
    s'.g.stmt = s.g.stmt := by
  induction hc with
  | nil => rfl
  | @cons k _ _ _ _ h1 _ ih =>
    refine (ih fun k hk => hn k (List.mem_cons_of_mem _ hk)).trans ?_
    cases k with
    | var v => exact h1.2.2.2
    | expr e => obtain ⟨-, _, -, -, h, -⟩ := h1; exact h
    | stmt st => cases hn _ List.mem_cons_self

theorem exprs : ∀ (es : List Expr) {s s' : VState}, Chain CleanEff (es.map .expr) s s' →
    ∃ frs : List (Col × Link), frs.length = es.length ∧ s'.g.expr = s.g.expr ++ frs.toArray ∧
      s'.g.var = s.g.var ∧ s'.g.stmt = s.g.stmt ∧ All2 (fun e fr => ExprShape e fr.2.ops) es frs
  | [], _, _, .nil _ => ⟨[], rfl, by simp, rfl, rfl, .nil⟩
  | e :: es, s, s', .cons ⟨_, fr, hex, hvar, hst, hsh⟩ hc => by
    obtain ⟨frs, hlen, hexs, hvars, hsts, hshs⟩ := exprs es hc
    exact ⟨fr :: frs, by simp [hlen], by rw [hexs, hex]; simp, hvars.trans hvar, hsts.trans hst, .cons hsh hshs⟩

/-- a list of statements, visited cleanly from data-free stacks: constants as DATA items, one fragment
    each, carrying the constants in order -/
theorem stmts : ∀ (sts : List Stmt) {s s' : VState}, Chain CleanEff (sts.map .stmt) s s' →
    stmtsLit sts = true ∧ (DStk s.g → ∃ frs : List (Col × Link), frs.length = sts.length ∧
      s'.g.stmt = s.g.stmt ++ frs.toArray ∧ (frs.map (·.2.data.toList)).flatten = stmtsData sts)
  | [], _, _, .nil _ => ⟨rfl, fun _ => ⟨[], rfl, by simp, rfl⟩⟩
  | st :: sts, s, s', .cons ⟨hd, hl, h⟩ hc => by
    obtain ⟨il, i⟩ := stmts sts hc
    refine ⟨by rw [stmtsLit, hl, il]; rfl, fun hs => ?_⟩
    obtain ⟨fr, hst, hdt⟩ := h hs
    obtain ⟨frs, hlen, hsts, hdts⟩ := i (hd hs)
    exact ⟨fr :: frs, by simp [hlen], by rw [hsts, hst]; simp, by rw [List.map_cons, List.flatten_cons, hdt, hdts, stmtsData]⟩

end Codegen.Chain
namespace DataOrder
open Link Codegen
variable {α β : Type}

theorem accept_shape (n : Node) (s : VState) :
    ErrExt s (accept n s) ∧ ((accept n s).errors = s.errors → CleanEff n s (accept n s)) := by
  refine accept_clean_ind (C := CleanEff) (fun n s s' hc _ ho => ⟨fun h => visit_dstk n s' (hc.dstk h), ?_⟩) n s
  rcases n with v | e | st
  · cases v with
    | unary c i => cases hc; exact ⟨⟨_, rfl⟩, rfl, rfl⟩
    | array c i es =>
      obtain ⟨frs, hlen, hex, hvar, hst, -⟩ := Chain.exprs es hc
      obtain ⟨a, g', hr, hg⟩ := visitVariable_run_of_clean ho
      simp only [genVariable] at hr
      rw [← hlen, grun_bind_ok (popNExpr_run ({ s'.g with cur := {} } : GState) s.g.expr frs hex)] at hr
      obtain ⟨u, g1, h1, hr⟩ := bind_ok_inv hr
      obtain ⟨-, hs0, hs1, hs2⟩ := stmt_loop frs _ _ _ h1
      obtain ⟨-, e⟩ := pure_ok_inv hr
      subst e
      show (∃ item, (visitVariable _ _).g.var = _) ∧ (visitVariable _ _).g.expr = _ ∧ (visitVariable _ _).g.stmt = _
      rw [hg]
      exact ⟨⟨_, by rw [hs1, ← hvar]⟩, hs2, hs0.trans hst⟩
  · cases e with
    | single c b => cases hc; exact lit_clean (e := .single c b) rfl (by rw [ExprShape]) s
    | double c b => cases hc; exact lit_clean (e := .double c b) rfl (by rw [ExprShape]) s
    | integer c b => cases hc; exact lit_clean (e := .integer c b) rfl (by rw [ExprShape]) s
    | string c b => cases hc; exact lit_clean (e := .string c b) rfl (by rw [ExprShape]) s
    | neg c e1 =>
      obtain ⟨-, f1, hex, hvar, hst, hsh⟩ := hc.one_inv
      obtain ⟨fr, h1, h2, h3, h4⟩ := unary_clean (e := .neg c e1) rfl hex ho
      exact ⟨fr, h1, h2.trans hvar, h3.trans hst, f1.2.ops, hsh, h4⟩
    | not c e1 =>
      obtain ⟨-, f1, hex, hvar, hst, -⟩ := hc.one_inv
      obtain ⟨fr, h1, h2, h3, h4⟩ := unary_clean (e := .not c e1) rfl hex ho
      exact ⟨fr, h1, h2.trans hvar, h3.trans hst, f1.2.ops, h4⟩
    | bin op c l r =>
      obtain ⟨s1, ⟨-, fl, hexl, hvarl, hstl, -⟩, hn⟩ := hc.cons_inv
      obtain ⟨-, fr, hexr, hvarr, hstr, -⟩ := hn.one_inv
      obtain ⟨a, g', hr, hg⟩ := visitExpression_run_of_clean ho
      simp only [genExpression] at hr
      obtain ⟨⟨ops1, h1⟩, h2, h3, h4⟩ := binaryExpr_ok _ a ({ s'.g with cur := {} } : GState) g'
        s.g.expr fl fr (by show s'.g.expr = _; rw [hexr, hexl]) hr
      show ∃ fr, (visitExpression _ _).g.expr = _ ∧ (visitExpression _ _).g.var = _ ∧ (visitExpression _ _).g.stmt = _ ∧ _
      rw [hg]
      exact ⟨(a, g'.cur), by rw [← h2], h3.trans (hvarr.trans hvarl), h4.trans (hstr.trans hstl), ops1, h1⟩
    | var v =>
      obtain ⟨-, ⟨item, hvar⟩, hex, hst⟩ := hc.one_inv
      obtain ⟨a, g', hr, hg⟩ := visitExpression_run_of_clean ho
      simp only [genExpression] at hr
      rw [grun_bind_ok (popVar_run ({ s'.g with cur := {} } : GState) s.g.var item hvar)] at hr
      obtain ⟨⟨ops1, o, e1, e2⟩, hv', hx', hs'⟩ := pushAsExpression_ends item _ g' a hr
      show ∃ fr, (visitExpression _ _).g.expr = _ ∧ (visitExpression _ _).g.var = _ ∧ (visitExpression _ _).g.stmt = _ ∧ _
      rw [hg]
      exact ⟨(a, g'.cur), by rw [hx', ← hex], hv', hs'.trans hst, ops1, o, e1, e2⟩
  obtain ⟨a, g', hr⟩ := visitStatement_run_of_clean ho
  have hv : (visitStatement st s').g.stmt = g'.stmt.push (a, g'.cur) := by rw [visitStatement_eq, hr]
  by_cases hp : Stmt.plain st = true
  · -- a plain statement: its children are operands, and its generator leaves data and statement stack alone
    refine ⟨stmtLit_plain st hp, fun hs => ⟨(a, g'.cur), ?_, ?_⟩⟩
    all_goals
      obtain ⟨-, h1, h2, -⟩ := kd_step (g := { s'.g with cur := {} }) (kd_genStatement_plain st hp)
        ⟨(hc.dstk hs).var, (hc.dstk hs).expr⟩ hr
    · rw [show visit (.stmt st) s' = visitStatement st s' from rfl, hv, h2]
      exact congrArg (·.push (a, g'.cur)) (hc.operands (Node.kids_operand _ fun c p th el e => by cases e; cases hp))
    · rw [stmtData_plain st hp]; show g'.cur.data.toList = []; rw [h1]
  cases st with
  | data c es =>
    obtain ⟨frs, hlen, hex, -, hst, hsh⟩ := Chain.exprs es hc
    simp only [genStatement] at hr
    rw [← hlen, grun_bind_ok (popNExpr_run ({ s'.g with cur := {} } : GState) s.g.expr frs hex)] at hr
    obtain ⟨u, g1, h1, hr⟩ := bind_ok_inv hr
    obtain ⟨-, e⟩ := pure_ok_inv hr
    subst e
    obtain ⟨i0, i1, i2, -, -⟩ := append_loop _ _ frs _ _ _ h1
    obtain ⟨k1, k2⟩ := consts_of_td hsh i0
    refine ⟨k1, fun hs => ⟨(a, g1.cur), ?_, ?_⟩⟩
    · rw [show visit (.stmt (.data c es)) s' = visitStatement (.data c es) s' from rfl, hv, i2]
      show s'.g.stmt.push _ = _
      rw [hst]
    · show g1.cur.data.toList = constsOf es
      rw [i1, k2 fun x hx => (hc.dstk hs).expr x (by rw [hex]; simp [hx])]
      rfl
  | «if» c p th el =>
    obtain ⟨s1, ⟨hd1, fp, -, -, hstp, -⟩, hc'⟩ := hc.cons_inv
    obtain ⟨s2, hth, hel⟩ := hc'.append_inv
    refine ⟨by rw [stmtLit, (Chain.stmts th hth).1, (Chain.stmts el hel).1]; rfl, fun hs => ?_⟩
    obtain ⟨thf, ht1, ht2, ht3⟩ := (Chain.stmts th hth).2 (hd1 hs)
    obtain ⟨elf, he1, he2, he3⟩ := (Chain.stmts el hel).2 (hth.dstk (hd1 hs))
    obtain ⟨i1, i2⟩ := if_gen c p th el { s'.g with cur := {} } s.g.stmt thf elf (by show s'.g.stmt = _; rw [he2, ht2, hstp])
      ht1 he1 ⟨(hc.dstk hs).var, (hc.dstk hs).expr⟩ a g' hr
    refine ⟨(a, g'.cur), ?_, ?_⟩
    · rw [show visit (.stmt (.if c p th el)) s' = visitStatement (.if c p th el) s' from rfl, hv, i1]
    · show g'.cur.data.toList = _
      rw [i2, ht3, he3, stmtData]
      rfl
  | _ => exact absurd rfl hp

theorem acceptVar_clean : ∀ (v : Variable) (s : VState), (acceptVar v s).errors = s.errors →
    (∃ item, (acceptVar v s).g.var = s.g.var.push item) ∧ (acceptVar v s).g.expr = s.g.expr :=
  fun v s h => have r := ((accept_shape (.var v) s).2 h).2; ⟨r.1, r.2.1⟩

theorem acceptExpr_clean : ∀ (e : Expr) (s : VState), (acceptExpr e s).errors = s.errors →
    ∃ fr, (acceptExpr e s).g.expr = s.g.expr.push fr ∧ (acceptExpr e s).g.var = s.g.var ∧ ExprShape e fr.2.ops :=
  fun e s h => let ⟨fr, h1, h2, _, h4⟩ := ((accept_shape (.expr e) s).2 h).2; ⟨fr, h1, h2, h4⟩

/-- **a statement visited without a report has constants as DATA items**, also inside IF branches -/
theorem stmtLit_of_clean : ∀ (st : Stmt) (s : VState), (acceptStmt st s).errors = s.errors → stmtLit st = true :=
  fun st s h => ((accept_shape (.stmt st) s).2 h).2.1

/-- **the statement visitor and the constants**: visiting a statement whose DATA items are all
    constants, without anything being reported, pushes one fragment carrying `stmtData st` -/
theorem acceptStmt_eff : ∀ (st : Stmt) (s : VState), stmtLit st = true → StEff 1 (stmtData st) s (acceptStmt st s) :=
  fun st s _ hs => ⟨accept_dstk (.stmt st) s hs, (accept_shape (.stmt st) s).1, fun hcl =>
    let ⟨fr, h1, h2⟩ := ((accept_shape (.stmt st) s).2 hcl).2.2 hs
    ⟨[fr], rfl, by rw [show (acceptStmt st s).g.stmt = _ from h1]; simp, by simp [h2]⟩⟩

/-- **a statement list visited without a report**, from data-free stacks: constants as DATA items, one
    fragment per statement, carrying `stmtsData` in order -/
theorem acceptStmts_clean (sts : List Stmt) (s : VState) (hcl : (acceptStmts sts s).errors = s.errors) :
    stmtsLit sts = true ∧ (DStk s.g → ∃ frs : List (Col × Link), frs.length = sts.length ∧
      (acceptStmts sts s).g.stmt = s.g.stmt ++ frs.toArray ∧ (frs.map (·.2.data.toList)).flatten = stmtsData sts) := by
  rw [acceptStmts_all] at hcl ⊢
  exact Chain.stmts sts ((acceptAll_clean accept_shape _ s).2 hcl)

theorem codegen_clean (link : Link) (ast : List Stmt) (h : (Codegen.codegen link ast).2 = []) :
    stmtsLit ast = true ∧ (Codegen.codegen link ast).1.data.toList = link.data.toList ++ stmtsData ast := by
  obtain ⟨h0, h1, -⟩ := Codegen.codegen_silent link ast h
  obtain ⟨hl, o⟩ := acceptStmts_clean ast {} h0
  obtain ⟨frs, -, hst, hq⟩ := o DStk.empty
  refine ⟨hl, ?_⟩
  rw [h1, show (acceptStmts ast {}).g.stmt.toList = frs by rw [hst]; simp, hq]

theorem codegen_data (link : Link) (ast : List Stmt)
    (h : (Codegen.codegen link ast).2 = []) :
    (Codegen.codegen link ast).1.data.toList = link.data.toList ++ stmtsData ast := (codegen_clean link ast h).2

/-- the line, if it parses, compiles without a report -/
def LineClean (p : Program) (line : Line) : Prop :=
  ∀ n ast, line.number = some n → Parse.parse line.number line.tokens = .ok ast →
    (Codegen.codegen (p.link.pushSymbol n) ast).2 = []

/-- every line of the listing, compiled in its turn, either does not parse or compiles without a report.  The program
    is threaded as `codegenLines` threads it (a line's report depends on the link so far only through an `append` that
    overflows), so that induction over the listing can use the definition -/
def ListingClean : Program → List Line → Prop
  | _, [] => True
  | p, l :: ls => LineClean p l ∧ ListingClean (p.codegenLine l) ls

theorem listingClean_prefix : ∀ (pre post : List Line) (p : Program), ListingClean p (pre ++ post) → ListingClean p pre
  | [], _, _, _ => trivial
  | _ :: pre, post, _, h => ⟨h.1, listingClean_prefix pre post _ h.2⟩

theorem listingClean_at : ∀ (pre post : List Line) (hd : Line) (p : Program), ListingClean p (pre ++ hd :: post) →
    LineClean (p.codegenLines pre) hd
  | [], _, _, _, h => h.1
  | _ :: pre, post, hd, _, h => listingClean_at pre post hd _ h.2

theorem codegenLine_data (p : Program) (line : Line) (n : Nat) (hn : line.number = some n) (hok : LineClean p line) :
    (p.codegenLine line).link.data.toList = p.link.data.toList ++ lineData line := by
  unfold lineData
  cases hp : Parse.parse line.number line.tokens with
  | error e =>
    rw [Program.codegenLine_numbered p line n hn, Program.genNumbered_error (hn ▸ hp)]
    exact (List.append_nil _).symm
  | ok ast =>
    rw [Program.codegenLine_numbered p line n hn, Program.genNumbered_ok (hn ▸ hp)]
    exact codegen_data (p.link.pushSymbol n) ast (hok n ast hn hp)

theorem codegenLines_data : ∀ (lines : List Line) (p : Program), Numbered lines → ListingClean p lines →
    (p.codegenLines lines).link.data.toList = p.link.data.toList ++ dataOf lines
  | [], p, _, _ => by simp [Program.codegenLines, dataOf]
  | l :: ls, p, hnum, hok => by
    obtain ⟨n, hn⟩ := hnum l List.mem_cons_self
    show ((p.codegenLine l).codegenLines ls).link.data.toList = _
    rw [codegenLines_data ls _ (fun x hx => hnum x (List.mem_cons_of_mem _ hx)) hok.2, codegenLine_data p l n hn hok.1]
    simp [dataOf]

theorem compile_data (lines : List Line) (hnum : Numbered lines) (hok : ListingClean {} lines) :
    (Program.compile lines).link.data.toList = dataOf lines := by
  unfold Program.compile
  rw [(Program.linkProg_data _).1, codegenLines_data lines {} hnum hok]
  rfl

/-- `ListingClean`, decided on the parses (concrete listings: the kernel does not evaluate the parser) -/
def checkOk : Program → List Line → List (List Stmt) → Bool
  | _, [], [] => true
  | p, l :: ls, ast :: asts =>
    match l.number with
    | some n => (Codegen.codegen (p.link.pushSymbol n) ast).2.isEmpty && checkOk ((p.startLine (some n)).genAst ast) ls asts
    | none => false
  | _, _, _ => false

theorem listingClean_of_check : ∀ (ls : List Line) (asts : List (List Stmt)) (p : Program), Parses ls asts →
    checkOk p ls asts = true → ListingClean p ls
  | [], _, _, _, _ => trivial
  | l :: ls, [], _, h, _ => by cases h
  | l :: ls, ast :: asts, p, h, hc => by
    cases h with
    | cons h1 h2 =>
      unfold checkOk at hc
      cases hn : l.number with
      | none => rw [hn] at hc; cases hc
      | some n =>
        rw [hn] at hc
        simp only [Bool.and_eq_true, List.isEmpty_iff] at hc
        refine ⟨?_, ?_⟩
        · intro n' ast' hn' ha'
          rw [hn] at hn'
          cases hn'
          rw [h1] at ha'
          cases ha'
          exact hc.1
        · rw [Program.codegenLine_numbered p l n hn, Program.genNumbered_ok (hn ▸ h1)]
          exact listingClean_of_check ls asts _ h2 hc.2

theorem codegenLines_errors_nil : ∀ (lines : List Line) (p : Program), Numbered lines →
    (p.codegenLines lines).errors = [] →
    p.errors = [] ∧ ListingClean p lines ∧ (∀ l ∈ lines, ∃ ast, Parse.parse l.number l.tokens = .ok ast)
  | [], p, _, h => ⟨h, trivial, fun _ hl => absurd hl List.not_mem_nil⟩
  | l :: ls, p, hnum, h => by
    obtain ⟨n, hn⟩ := hnum l List.mem_cons_self
    obtain ⟨⟨new, e1⟩, e2⟩ := codegenLine_errors p l n hn
    obtain ⟨i1, i2, i3⟩ := codegenLines_errors_nil ls (p.codegenLine l)
      (fun x hx => hnum x (List.mem_cons_of_mem _ hx)) h
    rw [e1] at i1
    have hp : p.errors = [] := (List.append_eq_nil_iff.1 i1).1
    have hnew : new = [] := (List.append_eq_nil_iff.1 i1).2
    obtain ⟨ast, ha, hc⟩ := e2 (by rw [e1, hnew, List.append_nil])
    refine ⟨hp, ⟨?_, i2⟩, ?_⟩
    · intro n' ast' hn' ha'
      rw [hn] at hn'
      cases hn'
      rw [ha] at ha'
      cases ha'
      exact hc
    · intro x hx
      rcases List.mem_cons.1 hx with rfl | hx
      · exact ⟨ast, ha⟩
      · exact i3 x hx

theorem listingClean_of_compile_clean (lines : List Line) (hnum : Numbered lines)
    (h : (Program.compile lines).indirectErrors = []) :
    ListingClean {} lines ∧ (∀ l ∈ lines, ∃ ast, Parse.parse l.number l.tokens = .ok ast) :=
  (codegenLines_errors_nil lines {} hnum
    (Program.linkProg_indirect _ (Program.codegenLines_directAddress hnum {}) h)).2

theorem compile_data_of_clean (lines : List Line) (hnum : Numbered lines)
    (h : (Program.compile lines).indirectErrors = []) :
    (Program.compile lines).link.data.toList = dataOf lines :=
  compile_data lines hnum (listingClean_of_compile_clean lines hnum h).1

/-- **the data segment of a program that compiles without errors** -/
theorem compile_data_clean (lines : List Line) (hnum : Numbered lines) (hlit : DataLits lines)
    (h : (Program.compile lines).indirectErrors = []) :
    (Program.compile lines).link.data.toList = dataOf lines :=
  compile_data_of_clean lines hnum h

end DataOrder
end Basic

import BasicModel.Model.Var
import Std.Data.String.ToNat
/-
  The decimal printer (`RStd.natDigits`, `showInt`: digits only, never empty, injective, read back by
  `Nat.ofDigitChars`) and, over it, the text of array keys (`name,i1,i2,name`): a comma-free prefix before a
  comma is determined by the whole text, and so are the subscripts (`enc_inj`).
-/
namespace Basic
namespace KeyText
open RStd

theorem natDigits_eq (n : Nat) : natDigits n = Nat.toDigits 10 n := by
  simp [natDigits]

theorem natDigits_inj {a b : Nat} (h : natDigits a = natDigits b) : a = b := by
  unfold natDigits at h
  have h' : toString a = toString b := String.toList_inj.1 h
  simpa using h'

theorem natDigits_value (n : Nat) : Nat.ofDigitChars 10 (natDigits n) 0 = n := by
  rw [natDigits_eq]; exact Nat.ofDigitChars_ten_toDigits

theorem natDigits_ne_nil (n : Nat) : natDigits n ≠ [] := by
  rw [natDigits_eq]; exact Nat.toDigits_ne_nil

theorem isDigit_of_mem_natDigits {n : Nat} {c : Char} (h : c ∈ natDigits n) : c.isDigit = true := by
  rw [natDigits_eq] at h
  exact Nat.isDigit_of_mem_toDigits (by decide) (by decide) h

theorem comma_not_mem_natDigits (n : Nat) : ',' ∉ natDigits n := by
  intro h
  have := isDigit_of_mem_natDigits h
  revert this; decide

theorem minus_not_mem_natDigits (n : Nat) : '-' ∉ natDigits n := by
  intro h
  have := isDigit_of_mem_natDigits h
  revert this; decide

theorem comma_not_mem_showInt (z : Int) : ',' ∉ showInt z := by
  unfold showInt
  split
  · intro h
    rcases List.mem_cons.1 h with h | h
    · revert h; decide
    · exact comma_not_mem_natDigits _ h
  · exact comma_not_mem_natDigits _

theorem showInt_ne_nil (z : Int) : showInt z ≠ [] := by
  unfold showInt
  split
  · simp
  · exact natDigits_ne_nil _

theorem showInt_inj {a b : Int} (h : showInt a = showInt b) : a = b := by
  unfold showInt at h
  by_cases ha : a < 0 <;> by_cases hb : b < 0
  · simp only [ha, hb, if_true, List.cons.injEq, true_and] at h
    have := natDigits_inj h
    omega
  · simp only [ha, hb, if_true, if_false] at h
    exfalso
    apply minus_not_mem_natDigits b.natAbs
    rw [← h]; exact List.mem_cons_self
  · simp only [ha, hb, if_true, if_false] at h
    exfalso
    apply minus_not_mem_natDigits a.natAbs
    rw [h]; exact List.mem_cons_self
  · simp only [ha, hb, if_false] at h
    have := natDigits_inj h
    omega

theorem split_comma : ∀ {a a' r r' : Str}, ',' ∉ a → ',' ∉ a' →
    a ++ ',' :: r = a' ++ ',' :: r' → a = a' ∧ r = r'
  | [], [], _, _, _, _, h => by
    simp only [List.nil_append, List.cons.injEq, true_and] at h
    exact ⟨rfl, h⟩
  | [], c :: a', _, _, _, h2, h => by
    simp only [List.nil_append, List.cons_append, List.cons.injEq] at h
    exact absurd (h.1 ▸ List.mem_cons_self) h2
  | c :: a, [], _, _, h1, _, h => by
    simp only [List.nil_append, List.cons_append, List.cons.injEq] at h
    exact absurd (h.1 ▸ List.mem_cons_self) h1
  | c :: a, c' :: a', r, r', h1, h2, h => by
    simp only [List.cons_append, List.cons.injEq] at h
    have := split_comma (a := a) (a' := a') (fun m => h1 (List.mem_cons_of_mem _ m))
      (fun m => h2 (List.mem_cons_of_mem _ m)) h.2
    exact ⟨by rw [h.1, this.1], this.2⟩

/-- the subscript part of an array key followed by the closing `,name` -/
def enc (idx : List Int16) (name : Str) : Str :=
  idx.flatMap (fun b => ',' :: showInt b.toInt) ++ ',' :: name

theorem arrayKey_eq (name : Str) (idx : List Int16) : Var.arrayKey name idx = name ++ enc idx name := by
  simp [Var.arrayKey, enc]

theorem enc_nil (name : Str) : enc [] name = ',' :: name := rfl

theorem enc_cons (b : Int16) (r : List Int16) (name : Str) :
    enc (b :: r) name = ',' :: (showInt b.toInt ++ enc r name) := by
  simp [enc]

theorem enc_head (idx : List Int16) (name : Str) : ∃ t, enc idx name = ',' :: t := by
  cases idx with
  | nil => exact ⟨name, rfl⟩
  | cons b r => exact ⟨_, enc_cons b r name⟩

theorem comma_mem_enc (idx : List Int16) (name : Str) : ',' ∈ enc idx name := by
  obtain ⟨t, ht⟩ := enc_head idx name
  rw [ht]; exact List.mem_cons_self

theorem enc_inj {name : Str} (hn : ',' ∉ name) :
    ∀ {is is' : List Int16}, enc is name = enc is' name → is = is'
  | [], [], _ => rfl
  | [], b :: r, h => by
    rw [enc_nil, enc_cons] at h
    simp only [List.cons.injEq, true_and] at h
    exfalso
    apply hn
    rw [h]
    exact List.mem_append_right _ (comma_mem_enc r name)
  | b :: r, [], h => by
    rw [enc_nil, enc_cons] at h
    simp only [List.cons.injEq, true_and] at h
    exfalso
    apply hn
    rw [← h]
    exact List.mem_append_right _ (comma_mem_enc r name)
  | a :: r, b :: r', h => by
    rw [enc_cons, enc_cons] at h
    simp only [List.cons.injEq, true_and] at h
    obtain ⟨t, ht⟩ := enc_head r name
    obtain ⟨t', ht'⟩ := enc_head r' name
    rw [ht, ht'] at h
    have hs := split_comma (comma_not_mem_showInt _) (comma_not_mem_showInt _) h
    have hab : a = b := Int16.toInt_inj.1 (showInt_inj hs.1)
    have hr : enc r name = enc r' name := by rw [ht, ht', hs.2]
    rw [hab, enc_inj hn hr]

end KeyText
end Basic

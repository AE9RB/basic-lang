import BasicModel.Thm.C06
/-
  The variable pool (C18): "setting variables back to 0 or the empty string frees their slots".  `Var.store` writes the
  value CONVERTED to the type of the name (`Lemmas.VarPool.convTo`, `store_eq_conv`) and tests THAT for being a default.
  `NoDefaults` — no stored entry holds `0`, `±0.0`, `""` — is kept by every operation of the store and needs no other
  invariant; under it "reads as a default" and "has no slot" coincide (`fetch_default_iff_absent`).  `store` answers
  OUT OF MEMORY exactly for a name the pool does not hold yet, on a pool of more than 65 535 entries (`store_oom_iff`; the
  pool test comes first but refuses new names only: D23, DESIGN.md §13.3), so on ANY pool, a full one included, a
  variable that holds a value can be set back to a default or overwritten.
-/
namespace Basic
namespace Lemmas.VarPool
open Var Thm.C06

def NoDefaults (v : Var) : Prop := ∀ p ∈ v.vars, isDefault p.2 = false

theorem noDefaults_new : NoDefaults Var.new := fun _ h => nomatch h

theorem noDefaults_clear (v : Var) : NoDefaults v.clear := noDefaults_new

theorem noDefaults_of_wf {v : Var} (h : WF v) : NoDefaults v := fun p hp => by
  obtain ⟨_, _, _, hd⟩ := h.typed p hp
  exact hd

theorem noDefaults_congr {v v' : Var} (h : v'.vars = v.vars) (hv : NoDefaults v) : NoDefaults v' := by
  unfold NoDefaults; rw [h]; exact hv

theorem noDefaults_filter {v v' : Var} (f : Str × Val → Bool) (h : v'.vars = v.vars.filter f)
    (hv : NoDefaults v) : NoDefaults v' := by
  intro p hp
  rw [h] at hp
  exact hv p (List.mem_filter.1 hp).1

theorem noDefaults_updateVal {v : Var} (hv : NoDefaults v) (n : Str) (y : Val) : NoDefaults (v.updateVal n y) := by
  intro p hp
  rcases mem_updateVal hp with hp | ⟨rfl, hd⟩
  · exact hv p hp
  · exact hd

/-- `store` (LET, READ, INPUT, NEXT, the parameters of a function call) -/
theorem noDefaults_store {v v' : Var} (hv : NoDefaults v) {n : Str} {x : Val} (h : v.store n x = .ok v') :
    NoDefaults v' := by
  obtain ⟨_, _, y, _, _, rfl⟩ := store_ok h
  exact noDefaults_updateVal hv n y

theorem buildArrayKey_vars (v : Var) (n : Str) (arr : List Val) : (v.buildArrayKey n arr).1.vars = v.vars := by
  rcases buildArrayKey_state v n arr with h | ⟨k, h⟩
  · rw [h]
  · rw [h, autoDim_vars]

theorem noDefaults_storeArray {v : Var} (hv : NoDefaults v) (n : Str) (arr : List Val) (x : Val) :
    NoDefaults (v.storeArray n arr x).1 := by
  have hk := noDefaults_congr (buildArrayKey_vars v n arr) hv
  rcases storeArray_fst v n arr x with h | ⟨key, h⟩
  · rw [h]; exact hk
  · exact noDefaults_store hk h

/-- an array element read (it may insert the automatic dimension) -/
theorem noDefaults_fetchArray {v : Var} (hv : NoDefaults v) (n : Str) (arr : List Val) :
    NoDefaults (v.fetchArray n arr).1 := by
  rw [fetchArray_fst]
  exact noDefaults_congr (buildArrayKey_vars v n arr) hv

theorem noDefaults_dimensionArray {v v' : Var} (hv : NoDefaults v) {n : Str} {arr : List Val}
    (h : v.dimensionArray n arr = .ok v') : NoDefaults v' := by
  obtain ⟨is, _, rfl⟩ := dimensionArray_ok h
  exact hv

theorem noDefaults_eraseArray {v v' : Var} (hv : NoDefaults v) {n : Str} (h : v.eraseArray n = .ok v') :
    NoDefaults v' :=
  noDefaults_filter _ (congrArg Var.vars (erase_ok h)) hv

theorem noDefaults_defTy {v v' : Var} (hv : NoDefaults v) {t : VarTy} {a b : Val} (h : v.defTy t a b = .ok v') :
    NoDefaults v' := by
  obtain ⟨lo, hi, _, rfl⟩ := defTy_ok h
  exact noDefaults_filter _ rfl hv

theorem noDefaults_run (ops : List Thm.C06.Op) : NoDefaults (ops.foldl Thm.C06.step Var.new) :=
  noDefaults_of_wf (wf_run ops)

theorem isDefault_default (t : VarTy) : isDefault t.default = true := by cases t <;> rfl

theorem fetch_absent_isDefault (v : Var) (n : Str) (z : Val) (hg : AL.get n v.vars = none)
    (hf : v.fetch n = .ok z) : isDefault z = true := by
  obtain ⟨t, ht⟩ := fetch_absent hg
  cases ht.symm.trans hf
  exact isDefault_default t

theorem fetch_default_iff_absent {v : Var} (hv : NoDefaults v) (n : Str) (z : Val) (hf : v.fetch n = .ok z) :
    isDefault z = true ↔ AL.get n v.vars = none := by
  constructor
  · intro hz
    cases hg : AL.get n v.vars with
    | none => rfl
    | some y =>
      have : v.fetch n = .ok y := fetch_present v n y hg
      rw [this] at hf
      cases hf
      have := hv _ (AL.mem_of_get hg)
      rw [hz] at this
      cases this
  · intro hg
    exact fetch_absent_isDefault v n z hg hf

theorem toI16_error_code {x : Val} {e : Error} (h : x.toI16 = .error e) :
    e.code = Code.overflow ∨ e.code = Code.typeMismatch := by
  -- a float fails by `Thm.C08.float_to_int` only with OVERFLOW, anything but a number with TYPE MISMATCH
  have float : ∀ x : Val, x.ty = .sng ∨ x.ty = .dbl → x.toI16 = .error e → e.code = Code.overflow := by
    intro x hx h
    rw [Thm.C08.float_to_int x hx] at h
    split at h
    · split at h <;> cases h; rfl
    · cases h; rfl
  cases x with
  | int n => cases h
  | sng b => exact .inl (float _ (.inl rfl) h)
  | dbl b => exact .inl (float _ (.inr rfl) h)
  | _ => cases h; exact .inr rfl

theorem convTo_error_code {t : VarTy} {x : Val} {e : Error} (h : convTo t x = .error e) :
    e.code = Code.overflow ∨ e.code = Code.typeMismatch ∨ e.code = Code.stringTooLong := by
  cases t with
  | integer =>
    rcases toI16_error_code (bind_ok_error (convTo_integer x ▸ h)) with h | h
    · exact .inl h
    · exact .inr (.inl h)
  | single => cases x <;> cases h <;> exact .inr (.inl rfl)
  | double => cases x <;> cases h <;> exact .inr (.inl rfl)
  | string =>
    cases x <;> simp only [convTo, err, errMsg] at h
    case str =>
      split at h
      · cases h; exact .inr (.inr rfl)
      · cases h
    all_goals (cases h; exact .inr (.inl rfl))

theorem store_oom_iff (v : Var) (n : Str) (x : Val) :
    (∃ e, v.store n x = .error e ∧ e.code = Code.outOfMemory) ↔
      (v.vars.length > 65535 ∧ AL.contains n v.vars = false) := by
  rw [store_def]
  split
  · rename_i h
    exact ⟨fun _ => h, fun _ => ⟨_, rfl, rfl⟩⟩
  · rename_i h
    refine ⟨?_, fun h' => absurd h' h⟩
    rintro ⟨e, he, hc⟩
    split at he
    · rename_i t _
      cases hcv : convTo t x with
      | ok y => rw [hcv] at he; cases he
      | error e' =>
        rw [hcv] at he
        cases he
        rcases convTo_error_code hcv with h | h | h <;> (rw [h] at hc; cases hc)
    · cases he
      cases hc

theorem store_held {v : Var} {n : Str} {x y : Val} {t : VarTy} (hc : AL.contains n v.vars = true)
    (ht : v.tyOf n = .ok (some t)) (hy : convTo t x = .ok y) : v.store n x = .ok (v.updateVal n y) := by
  rw [store_eq_conv v n x t (.inr hc) ht, hy]; rfl

theorem store_default_frees_any_pool (v : Var) (n : Str) (x y : Val) (t : VarTy)
    (hc : AL.contains n v.vars = true) (ht : v.tyOf n = .ok (some t)) (hy : convTo t x = .ok y)
    (hd : isDefault y = true) :
    ∃ v', v.store n x = .ok v' ∧ v'.vars = AL.erase n v.vars ∧ AL.get n v'.vars = none ∧
      v'.vars.length + 1 ≤ v.vars.length ∧ (AL.NoDup v.vars → v'.vars.length + 1 = v.vars.length) := by
  have hv : (v.updateVal n y).vars = AL.erase n v.vars := by unfold updateVal; rw [if_pos hd]
  refine ⟨_, store_held hc ht hy, hv, ?_, ?_, ?_⟩
  · rw [hv]; exact AL.get_erase_self n v.vars
  · rw [hv]; exact AL.length_erase_lt_of_contains hc
  · intro hnd
    obtain ⟨old, hold⟩ := AL.contains_iff.1 hc
    rw [hv]; exact AL.length_erase_of_get hnd hold

theorem store_overwrite_any_pool (v : Var) (n : Str) (x y : Val) (t : VarTy)
    (hc : AL.contains n v.vars = true) (ht : v.tyOf n = .ok (some t)) (hy : convTo t x = .ok y)
    (hd : isDefault y = false) :
    ∃ v', v.store n x = .ok v' ∧ v'.vars = AL.set n y v.vars ∧ AL.get n v'.vars = some y ∧
      v'.vars.length ≤ v.vars.length ∧ (AL.NoDup v.vars → v'.vars.length = v.vars.length) := by
  have hv : (v.updateVal n y).vars = AL.set n y v.vars := by
    unfold updateVal; rw [if_neg (by rw [hd]; exact Bool.false_ne_true)]
  refine ⟨_, store_held hc ht hy, hv, ?_, ?_, ?_⟩
  · rw [hv]; exact AL.get_set_self n y v.vars
  · rw [hv]; exact AL.length_set_le_of_contains y hc
  · intro hnd
    obtain ⟨old, hold⟩ := AL.contains_iff.1 hc
    rw [hv, AL.set_eq, List.length_cons]
    exact AL.length_erase_of_get hnd hold

/-- `A% = 5`, then `A% = 0.4` (Single 0.4 = 0x3ECCCCCD): the test is made on the converted value `0` -/
example : convTo .integer (.sng 0x3ECCCCCD) = .ok (.int 0) := by decide
example : ((Var.new.store "A%".toList (.int 5)).toOption.bind
    (fun v => (v.store "A%".toList (.sng 0x3ECCCCCD)).toOption.map (·.vars))) = some [] := by decide
example : ((Var.new.store "A%".toList (.int 5)).toOption.map (·.vars)) = some [("A%".toList, .int 5)] := by decide
/-- `A% = -0.4` converts (floor) to `-1`: not a default, the slot stays -/
example : ((Var.new.store "A%".toList (.sng 0xBECCCCCD)).toOption.map (·.vars)) =
    some [("A%".toList, .int (-1))] := by decide
example : ((Var.new.store "A$".toList (.str ['x'])).toOption.bind
    (fun v => (v.store "A$".toList (.str [])).toOption.map (·.vars))) = some [] := by decide
/-- a pool of 65 536 entries whose first is `A% = 5`: `A% = 0` succeeds and leaves 65 535 entries,
    `A% = 7` succeeds and keeps 65 536, a new name is OUT OF MEMORY -/
def fullPool : Var := { vars := ("A%".toList, .int 5) :: List.replicate 65535 ("B%".toList, Val.int 1) }

theorem fullPool_length : fullPool.vars.length = 65536 := by
  unfold fullPool
  rw [List.length_cons, List.length_replicate]

theorem fullPool_contains : AL.contains "A%".toList fullPool.vars = true := rfl

example : ∃ v', fullPool.store "A%".toList (.int 0) = .ok v' ∧ AL.get "A%".toList v'.vars = none ∧
    v'.vars.length + 1 ≤ 65536 := by
  obtain ⟨v', h1, _, h3, h4, _⟩ := store_default_frees_any_pool fullPool "A%".toList (.int 0) (.int 0) .integer
    fullPool_contains rfl rfl rfl
  exact ⟨v', h1, h3, by rw [← fullPool_length]; exact h4⟩
example : ∃ v', fullPool.store "A%".toList (.int 7) = .ok v' ∧ AL.get "A%".toList v'.vars = some (.int 7) ∧
    v'.vars.length ≤ 65536 := by
  obtain ⟨v', h1, _, h3, h4, _⟩ := store_overwrite_any_pool fullPool "A%".toList (.int 7) (.int 7) .integer
    fullPool_contains rfl rfl rfl
  exact ⟨v', h1, h3, by rw [← fullPool_length]; exact h4⟩
example : fullPool.store "C%".toList (.int 1) = err Code.outOfMemory :=
  store_full fullPool _ _ (by rw [fullPool_length]; decide) (by
    show (AL.get "C%".toList fullPool.vars).isSome = false
    have : AL.get "C%".toList fullPool.vars = none := by
      rw [AL.get_none_iff]
      intro p hp
      simp only [fullPool, List.mem_cons, List.mem_replicate] at hp
      rcases hp with rfl | ⟨_, rfl⟩ <;> decide
    rw [this]; rfl)
example : NoDefaults { vars := [("A%".toList, .int 5)] } := by
  intro p hp
  simp only [List.mem_singleton] at hp
  subst hp; rfl
example : ¬ NoDefaults { vars := [("A%".toList, .int 0)] } := fun h => by
  have := h ("A%".toList, .int 0) (List.mem_singleton.2 rfl)
  cases this

end Lemmas.VarPool
end Basic

import BasicModel.Model.Parse
import BasicModel.Spec.PrecSpec
import BasicModel.Lemmas.ParseRun
/-
  The expression parser (`Parse.descend` / `Parse.binLoop`) on the listing of a tree: the token
  stream seen through the one-token look-ahead (`view`), one-step equations of the two mutually
  recursive functions, and the induction of DESIGN Appendix A, run over the derivation of a legal
  listing (`G_renders`, over `Renders`; `render_renders` puts the minimal listing `Spec.render` under
  it).  `G`, `C_of_G`, `G_all` are the appendix's statement, operand step and conclusion for
  `Spec.render` alone, `descends_plus` the unary plus, which builds no node; they and `level_le_100` are
  kept for their statements, nothing here uses them.

  Fuel: "succeeds" is taken as *for all sufficiently large fuel* (`Descends`, `Loops`); such
  statements compose by taking maxima and give the plain `∃ fuel` at the end, so no monotonicity in
  the fuel is needed.
-/
namespace Basic
namespace Lemmas.ParseExpr
open Parse Lemmas.ParseRun

/-- a token that `nextLoop` hands out as it is: not whitespace, not a remark word -/
def Plain (t : Token) : Prop := (∀ n, t ≠ .whitespace n) ∧ isRem t = false

/-- parser states in which no remark has been seen and no whitespace / remark token is ahead -/
structure Good (st : PState) : Prop where
  rem : st.rem = false
  plain : ∀ t ∈ st.toks, Plain t

def view (st : PState) : List Token :=
  match st.peeked with
  | some t => t :: st.toks
  | none => st.toks

theorem view_nil {st : PState} (h : view st = []) : st.toks = [] ∧ st.peeked = none := by
  unfold view at h
  cases hpk : st.peeked with
  | some t => rw [hpk] at h; cases h
  | none => rw [hpk] at h; exact ⟨h, rfl⟩

/-- a `Good` state reads its `view` -/
theorem good_step {st : PState} (hg : Good st) :
    tok st = (view st).head? ∧ (Good (adv st) ∧ view (adv st) = (view st).tail) ∧
      (Good (pk st) ∧ view (pk st) = view st) := by
  obtain ⟨toks, peeked, rem, cs, ce⟩ := st
  obtain ⟨hr, hp⟩ := hg
  simp only at hr hp
  subst hr
  cases peeked with
  | some t0 => exact ⟨rfl, ⟨⟨rfl, hp⟩, rfl⟩, ⟨rfl, hp⟩, rfl⟩
  | none =>
    cases toks with
    | nil => exact ⟨rfl, ⟨⟨rfl, hp⟩, rfl⟩, ⟨rfl, hp⟩, rfl⟩
    | cons t ts =>
      have hts : ∀ t' ∈ ts, Plain t' := fun t' h' => hp t' (by simp [h'])
      have hn := Lemmas.C19.nextLoop_tok t ts cs ce (hp t (by simp)).2 (hp t (by simp)).1
      refine ⟨?_, ⟨⟨?_, ?_⟩, ?_⟩, ⟨?_, ?_⟩, ?_⟩ <;> simp only [tok, adv, pk, view, hn] <;>
        first | rfl | exact hts

theorem good_pk {st : PState} (hg : Good st) : Good (pk st) ∧ view (pk st) = view st :=
  (good_step hg).2.2

theorem tok_cons {st : PState} {t : Token} {ts : List Token} (hg : Good st) (hv : view st = t :: ts) :
    tok st = some t ∧ Good (adv st) ∧ view (adv st) = ts := by
  obtain ⟨h1, ⟨h2, h3⟩, -⟩ := good_step hg
  rw [hv] at h1 h3
  exact ⟨h1, h2, h3⟩

theorem col_run (st : PState) : col.run st = .ok ((st.cs, st.ce), st) := Lemmas.RangeForms.col_run st

theorem binaryPrec_documented : ∀ op, Gen.binaryPrec op = Spec.documentedPrec op := by
  intro op; cases op <;> rfl

theorem unaryPrec_documented : ∀ op, Gen.unaryPrec op = Spec.documentedUnaryPrec op := by
  intro op; cases op <;> rfl

theorem ofOperator_operatorOf (b : BinOp) : BinOp.ofOperator (Spec.operatorOf b) = some b := by
  cases b <;> rfl

def Descends (vm : VarMap) (p : Nat) (st : PState) (res : Expr × PState) : Prop :=
  ∃ N, ∀ f, N ≤ f → (descend f vm p).run st = .ok res

def Loops (vm : VarMap) (p : Nat) (lhs : Expr) (st : PState) (res : Expr × PState) : Prop :=
  ∃ N, ∀ f, N ≤ f → (binLoop f vm p lhs).run st = .ok res

/-- "sufficiently large" is decided one level down, where the function unfolds -/
theorem Descends.of_succ {vm : VarMap} {p : Nat} {st : PState} {res : Expr × PState} (N : Nat)
    (h : ∀ f, N ≤ f → (descend (f + 1) vm p).run st = .ok res) : Descends vm p st res :=
  ⟨N + 1, fun f hf => by
    obtain ⟨f, rfl⟩ := Nat.exists_eq_add_one.2 (Nat.lt_of_lt_of_le (Nat.succ_pos N) hf)
    exact h f (Nat.le_of_succ_le_succ hf)⟩

theorem Loops.of_succ {vm : VarMap} {p : Nat} {lhs : Expr} {st : PState} {res : Expr × PState} (N : Nat)
    (h : ∀ f, N ≤ f → (binLoop (f + 1) vm p lhs).run st = .ok res) : Loops vm p lhs st res :=
  ⟨N + 1, fun f hf => by
    obtain ⟨f, rfl⟩ := Nat.exists_eq_add_one.2 (Nat.lt_of_lt_of_le (Nat.succ_pos N) hf)
    exact h f (Nat.le_of_succ_le_succ hf)⟩

theorem ok_bind {ε α β} (a : α) (f : α → Except ε β) : (Except.ok a >>= f) = f a := Lemmas.RangeForms.ok_bind a f

theorem descends_lit {vm : VarMap} {p : Nat} {st : PState} {s : Str} {n : Int16} {ts : List Token}
    (hg : Good st) (hv : view st = .literal (.integer s) :: ts)
    (hs : Fmt.parseI16 (numText s) = some n) :
    ∃ c st1, Good st1 ∧ view st1 = ts ∧
      ∀ res, Loops vm p (.integer c n) st1 res → Descends vm p st res := by
  obtain ⟨ht, hg1, hv1⟩ := tok_cons hg hv
  refine ⟨((adv st).cs, (adv st).ce), adv st, hg1, hv1, ?_⟩
  rintro res ⟨N, hN⟩
  refine Descends.of_succ N fun f hf => ?_
  rw [descend]
  simp only [StateT.run_bind, next_run, ht, ok_bind, col_run, literal, hs, StateT.run_pure, pure_bind]
  exact hN f hf

theorem descends_unary {vm : VarMap} {p : Nat} {st : PState} {ts : List Token} {op : Operator}
    {mk : Col → Expr → Expr}
    (hop : (op = .minus ∧ mk = Expr.neg) ∨ (op = .not ∧ mk = Expr.not))
    (hg : Good st) (hv : view st = .operator op :: ts) :
    ∃ c st1, Good st1 ∧ view st1 = ts ∧
      ∀ x st2 res, Descends vm (Spec.documentedUnaryPrec op) st1 (x, st2) →
        Loops vm p (mk c x) st2 res → Descends vm p st res := by
  obtain ⟨ht, hg1, hv1⟩ := tok_cons hg hv
  refine ⟨((adv st).cs, (adv st).ce), adv st, hg1, hv1, ?_⟩
  rintro x st2 res ⟨N1, hN1⟩ ⟨N2, hN2⟩
  refine Descends.of_succ (max N1 N2) fun f hf => ?_
  rw [descend]
  rcases hop with ⟨rfl, rfl⟩ | ⟨rfl, rfl⟩
  all_goals
    simp only [StateT.run_bind, next_run, ht, ok_bind, col_run, unaryPrec_documented, hN1 f (by omega),
      StateT.run_pure, pure_bind]
    exact hN2 f (by omega)

/-- unary plus builds no node -/
theorem descends_plus {vm : VarMap} {p : Nat} {st : PState} {ts : List Token}
    (hg : Good st) (hv : view st = .operator .plus :: ts) :
    ∃ st1, Good st1 ∧ view st1 = ts ∧
      ∀ x st2 res, Descends vm (Spec.documentedUnaryPrec .plus) st1 (x, st2) →
        Loops vm p x st2 res → Descends vm p st res := by
  obtain ⟨ht, hg1, hv1⟩ := tok_cons hg hv
  refine ⟨adv st, hg1, hv1, ?_⟩
  rintro x st2 res ⟨N1, hN1⟩ ⟨N2, hN2⟩
  refine Descends.of_succ (max N1 N2) fun f hf => ?_
  rw [descend]
  simp only [StateT.run_bind, next_run, ht, ok_bind, unaryPrec_documented, hN1 f (by omega)]
  exact hN2 f (by omega)

theorem descends_paren {vm : VarMap} {p : Nat} {st : PState} {ts : List Token}
    (hg : Good st) (hv : view st = .lparen :: ts) :
    ∃ st1, Good st1 ∧ view st1 = ts ∧
      ∀ x st2 st3 res, Descends vm 0 st1 (x, st2) → (expect .rparen).run st2 = .ok ((), st3) →
        Loops vm p x st3 res → Descends vm p st res := by
  obtain ⟨ht, hg1, hv1⟩ := tok_cons hg hv
  refine ⟨adv st, hg1, hv1, ?_⟩
  rintro x st2 st3 res ⟨N1, hN1⟩ he ⟨N2, hN2⟩
  refine Descends.of_succ (max N1 N2) fun f hf => ?_
  rw [descend]
  simp only [StateT.run_bind, next_run, ht, ok_bind, hN1 f (by omega), he, StateT.run_pure, pure_bind]
  exact hN2 f (by omega)

theorem expect_cons {st : PState} {t : Token} {ts : List Token} (hg : Good st)
    (hv : view st = t :: ts) :
    ∃ st1, (expect t).run st = .ok ((), st1) ∧ Good st1 ∧ view st1 = ts := by
  obtain ⟨ht, hg1, hv1⟩ := tok_cons hg hv
  exact ⟨adv st, by rw [expect_run, if_pos ht], hg1, hv1⟩

theorem loops_step {vm : VarMap} {p : Nat} {lhs : Expr} {st : PState} {op : Operator} {b : BinOp}
    {ts : List Token}
    (hg : Good st) (hv : view st = .operator op :: ts) (hp : p < Spec.documentedPrec op)
    (hb : BinOp.ofOperator op = some b) :
    ∃ c st1, Good st1 ∧ view st1 = ts ∧
      ∀ r st2 res, Descends vm (Spec.documentedPrec op) st1 (r, st2) →
        Loops vm p (.bin b c lhs r) st2 res → Loops vm p lhs st res := by
  obtain ⟨ht, hg1, hv1⟩ := tok_cons hg hv
  refine ⟨((adv st).cs, (adv st).ce), adv st, hg1, hv1, ?_⟩
  rintro r st2 res ⟨N1, hN1⟩ ⟨N2, hN2⟩
  refine Loops.of_succ (max N1 N2) fun f hf => ?_
  rw [binLoop]
  simp only [StateT.run_bind, peek_run, ht, ok_bind, binaryPrec_documented, if_neg (Nat.not_le.2 hp),
    next_run, adv_pk, col_run, hN1 f (by omega), hb]
  exact hN2 f (by omega)

/-- the next token is not a binary operator of (documented) precedence above `q` -/
def stops (q : Nat) : List Token → Prop
  | .operator op :: _ => Spec.documentedPrec op ≤ q
  | _ => True

theorem stops_mono {q q' : Nat} {ts : List Token} (h : stops q ts) (hq : q ≤ q') : stops q' ts := by
  match ts, h with
  | .operator op :: _, h => exact Nat.le_trans h hq
  | [], _ => trivial
  | .unknown _ :: _, _ | .whitespace _ :: _, _ | .literal _ :: _, _ | .word _ :: _, _
  | .ident _ :: _, _ | .lparen :: _, _ | .rparen :: _, _ | .comma :: _, _ | .colon :: _, _
  | .semicolon :: _, _ => trivial

theorem loops_stop {vm : VarMap} {p : Nat} {lhs : Expr} {st : PState}
    (hg : Good st) (hs : stops p (view st)) :
    ∃ st1, Good st1 ∧ view st1 = view st ∧ Loops vm p lhs st (lhs, st1) := by
  refine ⟨pk st, (good_pk hg).1, (good_pk hg).2, Loops.of_succ 0 fun f _ => ?_⟩
  rw [binLoop]
  simp only [StateT.run_bind, peek_run, ok_bind, (good_step hg).1]
  rcases hv : view st with _ | ⟨t, ts⟩
  · rfl
  · rw [hv] at hs
    cases t with
    | operator op =>
      simp only [stops] at hs
      simp only [List.head?_cons, binaryPrec_documented, if_pos hs, StateT.run_pure]
      rfl
    | _ => rfl

open Spec in
theorem precOf_pos (b : BinOp) : 1 ≤ precOf b := by cases b <;> decide

open Spec in
theorem precOf_lt_100 (b : BinOp) : precOf b < 100 := by cases b <;> decide

open Spec in
theorem plevel_pos (e : Expr) : 0 < plevel e := by
  cases e <;> simp [plevel]
  exact precOf_pos _

open Spec in
theorem level_le_plevel (e : Expr) : level e ≤ plevel e := by
  cases e <;> simp [level, plevel]

/-- what parsing the rendering of `e` (followed by `t'`) at precedence `p` from `st` achieves: it is
    as if the operator loop stood after a tree `e'` of the same shape with `t'` still to read -/
def Post (vm : VarMap) (p : Nat) (e : Expr) (t' : List Token) (st : PState) : Prop :=
  ∃ e' st', e'.shape = e.shape ∧ Good st' ∧ view st' = t' ∧
    ∀ res, Loops vm p e' st' res → Descends vm p st res

open Spec in
/-- what `G_renders` says of the listing `render lit e`: Appendix A's invariant -/
def G (vm : VarMap) (lit : Int16 → Str) (e : Expr) : Prop :=
  ∀ (p : Nat) (st : PState) (t' : List Token), Good st → view st = render lit e ++ t' →
    p < plevel e → stops (level e) t' → Post vm p e t' st

/-- a parenthesised listing: the inside is parsed at precedence 0 up to the `)`, which is then expected -/
theorem post_paren {vm : VarMap} {p : Nat} {st : PState} {ts t' : List Token} {e : Expr}
    (hg : Good st) (hv : view st = .lparen :: (ts ++ .rparen :: t'))
    (ih : ∀ st1, Good st1 → view st1 = ts ++ .rparen :: t' → Post vm 0 e (.rparen :: t') st1) :
    Post vm p e t' st := by
  obtain ⟨st1, hg1, hv1, hD⟩ := descends_paren (vm := vm) (p := p) hg hv
  obtain ⟨e', st2, hsh, hg2, hv2, hD2⟩ := ih st1 hg1 hv1
  obtain ⟨st2', hg2', hv2', hL⟩ := loops_stop (vm := vm) (p := 0) (lhs := e') hg2 (by rw [hv2]; trivial)
  rw [hv2] at hv2'
  obtain ⟨st3, he, hg3, hv3⟩ := expect_cons hg2' hv2'
  exact ⟨e', st3, hsh, hg3, hv3, fun res h => hD e' st2' st3 res (hD2 _ hL) he h⟩

open Spec in
/-- an operand, parenthesised or not -/
theorem C_of_G {vm : VarMap} {lit : Int16 → Str} {e : Expr} (hG : G vm lit e)
    (q : Nat) (strict : Bool) (p : Nat) (st : PState) (t' : List Token) (hg : Good st)
    (hv : view st = child lit q strict e ++ t') (hp : if strict then p ≤ q else p < q)
    (hs : stops q t') : Post vm p e t' st := by
  unfold child at hv
  cases hn : needsParens q strict e with
  | true =>
    rw [hn, if_pos rfl] at hv
    exact post_paren hg (by rw [hv]; simp) fun st1 hg1 hv1 =>
      hG 0 st1 (.rparen :: t') hg1 hv1 (plevel_pos e) trivial
  | false =>
    rw [hn] at hv
    simp only [Bool.false_eq_true, if_false] at hv
    have hlev : p < level e ∧ q ≤ level e := by
      unfold needsParens at hn
      cases strict with
      | true => simp at hn hp; omega
      | false => simp at hn hp; omega
    exact hG p st t' hg hv (Nat.lt_of_lt_of_le hlev.1 (level_le_plevel e)) (stops_mono hs hlev.2)

open Spec in
theorem level_le_100 (e : Expr) : level e ≤ 100 := by
  cases e <;> simp [level]
  exact Nat.le_of_lt (precOf_lt_100 _)

open Spec in
theorem renders_levels {lit : Int16 → Str} {ok : Int16 → Prop} {e : Expr} {ts : List Token}
    {lv plv : Nat} (h : Renders lit ok e ts lv plv) : lv ≤ plv ∧ 0 < plv := by
  induction h with
  | int => exact ⟨Nat.le_refl _, by decide⟩
  | paren => exact ⟨Nat.le_refl _, by decide⟩
  | neg => exact ⟨by decide, by decide⟩
  | not => exact ⟨by decide, by decide⟩
  | bin op => exact ⟨Nat.le_refl _, precOf_pos op⟩

theorem post_unary {vm : VarMap} {p : Nat} {st : PState} {ts t' : List Token} {op : Operator}
    {mk : Col → Expr → Expr} {c : Col} {x : Expr}
    (hop : (op = .minus ∧ mk = Expr.neg) ∨ (op = .not ∧ mk = Expr.not))
    (hg : Good st) (hv : view st = .operator op :: (ts ++ t'))
    (hs : stops (Spec.documentedUnaryPrec op) t')
    (ih : ∀ st1, Good st1 → view st1 = ts ++ t' → Post vm (Spec.documentedUnaryPrec op) x t' st1) :
    Post vm p (mk c x) t' st := by
  obtain ⟨c1, st1, hg1, hv1, hD⟩ := descends_unary (vm := vm) (p := p) hop hg hv
  obtain ⟨x', st2, hsh, hg2, hv2, hD2⟩ := ih st1 hg1 hv1
  obtain ⟨st2', hg2', hv2', hL⟩ := loops_stop (vm := vm) (lhs := x') hg2 (by rw [hv2]; exact hs)
  refine ⟨mk c1 x', st2', ?_, hg2', hv2'.trans hv2, fun res h => hD x' st2' res (hD2 _ hL) h⟩
  rcases hop with ⟨_, rfl⟩ | ⟨_, rfl⟩ <;> simp [Expr.shape, hsh]

open Spec in
/-- the invariant `G` for every legal listing of `e`, by one induction on the derivation -/
theorem G_renders (vm : VarMap) (lit : Int16 → Str) {e : Expr} {ts : List Token} {lv plv : Nat}
    (hr : Renders lit (fun n => Fmt.parseI16 (numText (lit n)) = some n) e ts lv plv) :
    ∀ (p : Nat) (st : PState) (t' : List Token), Good st → view st = ts ++ t' →
      p < plv → stops lv t' → Post vm p e t' st := by
  induction hr with
  | int c n hn =>
    intro p st t' hg hv _ _
    obtain ⟨c1, st1, hg1, hv1, hD⟩ := descends_lit (vm := vm) (p := p) hg hv hn
    exact ⟨.integer c1 n, st1, rfl, hg1, hv1, hD⟩
  | @paren e ts lv plv hr ih =>
    intro p st t' hg hv _ _
    exact post_paren hg (by rw [hv]; simp) fun st1 hg1 hv1 =>
      ih 0 st1 (.rparen :: t') hg1 hv1 (renders_levels hr).2 trivial
  | @neg c x ts lv plv hr hlv ih =>
    intro p st t' hg hv _ hs
    exact post_unary (.inl ⟨rfl, rfl⟩) hg (by rw [hv]; rfl) hs fun st1 hg1 hv1 => ih 12 st1 t' hg1 hv1
      (Nat.lt_of_lt_of_le hlv (renders_levels hr).1) (stops_mono hs (Nat.le_of_lt hlv))
  | @not c x ts lv plv hr hlv ih =>
    intro p st t' hg hv _ hs
    exact post_unary (.inr ⟨rfl, rfl⟩) hg (by rw [hv]; rfl) hs fun st1 hg1 hv1 => ih 6 st1 t' hg1 hv1
      (Nat.lt_of_lt_of_le hlv (renders_levels hr).1) (stops_mono hs (Nat.le_of_lt hlv))
  | @bin op c l r tl tr lvl plvl lvr plvr hl hr hll hlr ihl ihr =>
    intro p st t' hg hv hp hs
    have hv' : view st = tl ++ (.operator (operatorOf op) :: (tr ++ t')) := by rw [hv]; simp
    obtain ⟨l', st1, hshl, hg1, hv1, hD1⟩ := ihl p st _ hg hv'
      (Nat.lt_of_lt_of_le hp (Nat.le_trans hll (renders_levels hl).1))
      (show stops lvl (.operator (operatorOf op) :: (tr ++ t')) from hll)
    obtain ⟨c1, st2, hg2, hv2, hL⟩ := loops_step (vm := vm) (lhs := l') hg1 hv1
      (show p < documentedPrec (operatorOf op) from hp) (ofOperator_operatorOf op)
    obtain ⟨r', st3, hshr, hg3, hv3, hD2⟩ := ihr (precOf op) st2 t' hg2 hv2
      (Nat.lt_of_lt_of_le hlr (renders_levels hr).1) (stops_mono hs (Nat.le_of_lt hlr))
    obtain ⟨st3', hg3', hv3', hL3⟩ := loops_stop (vm := vm) (p := precOf op) (lhs := r') hg3
      (by rw [hv3]; exact hs)
    refine ⟨.bin op c1 l' r', st3', ?_, hg3', hv3'.trans hv3,
      fun res h => hD1 res (hL r' st3' res (hD2 _ hL3) h)⟩
    simp [Expr.shape, hshl, hshr]

open Spec in
/-- `Spec.render` is one of the legal listings (the one with the fewest parentheses) -/
theorem render_renders (lit : Int16 → Str) {ok : Int16 → Prop} {e : Expr} (hf : Frag ok e) :
    Renders lit ok e (render lit e) (level e) (plevel e) := by
  have operand : ∀ (q : Nat) (strict : Bool) (x : Expr), q < 100 →
      Renders lit ok x (render lit x) (level x) (plevel x) →
      ∃ lv plv, Renders lit ok x (child lit q strict x) lv plv ∧
        (if strict then q < lv else q ≤ lv) := by
    intro q strict x hq hx
    unfold child
    cases hn : needsParens q strict x with
    | true =>
      refine ⟨100, 100, by simpa using Renders.paren hx, ?_⟩
      have : q < 100 ∧ q ≤ 100 := ⟨hq, Nat.le_of_lt hq⟩
      cases strict <;> simp [this.1, this.2]
    | false =>
      refine ⟨level x, plevel x, by simpa using hx, ?_⟩
      unfold needsParens at hn
      cases strict <;> simp at hn ⊢ <;> omega
  induction hf with
  | int c n hn => exact .int c n hn
  | neg c x _ ih =>
    obtain ⟨lv, plv, h, hlv⟩ := operand 12 true x (by decide) ih
    exact .neg c h (by simpa using hlv)
  | not c x _ ih =>
    obtain ⟨lv, plv, h, hlv⟩ := operand 6 true x (by decide) ih
    exact .not c h (by simpa using hlv)
  | bin op c l r _ _ ihl ihr =>
    have hq := precOf_lt_100 op
    obtain ⟨lvl, plvl, hl, hll⟩ := operand (precOf op) false l hq ihl
    obtain ⟨lvr, plvr, hr, hlr⟩ := operand (precOf op) true r hq ihr
    exact .bin op c hl hr (by simpa using hll) (by simpa using hlr)

open Spec in
theorem G_all (vm : VarMap) (lit : Int16 → Str) {e : Expr}
    (hf : Frag (fun n => Fmt.parseI16 (numText (lit n)) = some n) e) : G vm lit e :=
  G_renders vm lit (render_renders lit hf)

end Lemmas.ParseExpr
end Basic

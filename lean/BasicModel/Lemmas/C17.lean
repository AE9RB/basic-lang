import BasicModel.Lemmas.Control
/-
  INPUT replies (C17).  `splitOutside` is the specification "split at the commas outside double quotes", without
  accumulators (`Spec/InputStmt.lean` uses it); the model's accumulator loop computes it (`split_outside`) and
  `joinC` is its left inverse.  Also `doInputReply`'s acceptance block and the unwinding loop of `Runtime.execute`
  on stacks of known shape.
-/
namespace Basic
namespace Lemmas.C17
open Basic.Runtime

/-- put a character in front of the first field -/
def consHead (c : Char) : List Str → List Str
  | [] => [[c]]
  | h :: t => (c :: h) :: t

def appHead (p : Str) : List Str → List Str
  | [] => [p]
  | h :: t => (p ++ h) :: t

/-- Specification: the fields of a reply, split at the commas that are outside double quotes
    (`inq` = "currently inside quotes"); quotes are kept in the fields. -/
def splitOutside : Str → Bool → List Str
  | [], _ => [[]]
  | c :: cs, inq =>
    if c = '"' then consHead c (splitOutside cs (!inq))
    else if c = ',' && !inq then [] :: splitOutside cs inq
    else consHead c (splitOutside cs inq)

/-- number of commas outside double quotes -/
def commasOutside : Str → Bool → Nat
  | [], _ => 0
  | c :: cs, inq =>
    if c = '"' then commasOutside cs (!inq)
    else if c = ',' && !inq then 1 + commasOutside cs inq
    else commasOutside cs inq

theorem consHead_ne_nil (c : Char) (l : List Str) : consHead c l ≠ [] := by
  cases l <;> simp [consHead]

theorem splitOutside_ne_nil (r : Str) (inq : Bool) : splitOutside r inq ≠ [] := by
  cases r with
  | nil => simp [splitOutside]
  | cons c cs =>
    simp only [splitOutside]
    split
    · exact consHead_ne_nil _ _
    · split
      · simp
      · exact consHead_ne_nil _ _

theorem appHead_snoc (p : Str) (c : Char) (l : List Str) :
    appHead (p ++ [c]) l = appHead p (consHead c l) := by
  cases l <;> simp [appHead, consHead]

theorem appHead_nil {l : List Str} (h : l ≠ []) : appHead [] l = l := by
  cases l with
  | nil => exact absurd rfl h
  | cons a t => simp [appHead]

/-- the accumulator loop of `doInputReply`: `acc` holds the fields that are complete, `cur` the current one backwards -/
theorem split_acc (r : Str) (inq : Bool) (cur : Str) (acc : List Str) :
    doInputReply.split r inq cur acc = acc ++ appHead cur.reverse (splitOutside r inq) := by
  induction r generalizing inq cur acc with
  | nil => simp [doInputReply.split, splitOutside, appHead]
  | cons c cs ih =>
    simp only [doInputReply.split, splitOutside]
    split
    · rw [ih, List.reverse_cons, appHead_snoc]
    · split
      · rw [ih, List.reverse_nil, appHead_nil (splitOutside_ne_nil _ _)]
        simp [appHead]
      · rw [ih, List.reverse_cons, appHead_snoc]

theorem split_outside (r : Str) : doInputReply.split r false [] [] = splitOutside r false := by
  rw [split_acc, List.reverse_nil, appHead_nil (splitOutside_ne_nil _ _)]; rfl

def joinC : List Str → Str
  | [] => []
  | [a] => a
  | a :: b :: t => a ++ ',' :: joinC (b :: t)

theorem intercalate_eq_joinC (l : List Str) : List.intercalate [','] l = joinC l := by
  induction l with
  | nil => rfl
  | cons a t ih =>
    cases t with
    | nil => simp [List.intercalate, joinC]
    | cons b t' =>
      have : List.intercalate [','] (a :: b :: t') = a ++ ',' :: List.intercalate [','] (b :: t') := by
        simp [List.intercalate]
      rw [this, ih, joinC]

theorem joinC_consHead (c : Char) {l : List Str} (h : l ≠ []) : joinC (consHead c l) = c :: joinC l := by
  cases l with
  | nil => exact absurd rfl h
  | cons a t => cases t <;> simp [consHead, joinC]

theorem joinC_splitOutside (r : Str) (inq : Bool) : joinC (splitOutside r inq) = r := by
  induction r generalizing inq with
  | nil => rfl
  | cons c cs ih =>
    simp only [splitOutside]
    split
    · rw [joinC_consHead _ (splitOutside_ne_nil _ _), ih]
    · split
      · rename_i h
        have hc : c = ',' := by
          simp only [Bool.and_eq_true, decide_eq_true_eq] at h; exact h.1
        cases hs : splitOutside cs inq with
        | nil => exact absurd hs (splitOutside_ne_nil _ _)
        | cons a t => rw [joinC, ← hs, ih, hc]; rfl
      · rw [joinC_consHead _ (splitOutside_ne_nil _ _), ih]

theorem length_consHead (c : Char) {l : List Str} (h : l ≠ []) : (consHead c l).length = l.length := by
  cases l with
  | nil => exact absurd rfl h
  | cons a t => rfl

theorem length_splitOutside (r : Str) (inq : Bool) :
    (splitOutside r inq).length = 1 + commasOutside r inq := by
  induction r generalizing inq with
  | nil => rfl
  | cons c cs ih =>
    simp only [splitOutside, commasOutside]
    split
    · rw [length_consHead _ (splitOutside_ne_nil _ _), ih]
    · split
      · rw [List.length_cons, ih]; omega
      · rw [length_consHead _ (splitOutside_ne_nil _ _), ih]

theorem mem_consHead {c : Char} {l : List Str} {f : Str} (h : f ∈ consHead c l) :
    (∃ g, f = c :: g ∧ (g ∈ l ∨ (l = [] ∧ g = []))) ∨ f ∈ l := by
  cases l with
  | nil =>
    simp only [consHead, List.mem_singleton] at h
    exact .inl ⟨[], h, .inr ⟨rfl, rfl⟩⟩
  | cons a t =>
    simp only [consHead, List.mem_cons] at h
    rcases h with h | h
    · exact .inl ⟨a, h, .inl (List.mem_cons_self ..)⟩
    · exact .inr (List.mem_cons_of_mem _ h)

theorem splitOutside_no_quotes (r : Str) (hq : '"' ∉ r) :
    ∀ f ∈ splitOutside r false, ',' ∉ f := by
  induction r with
  | nil => intro f hf; simp [splitOutside] at hf; simp [hf]
  | cons c cs ih =>
    have hc : c ≠ '"' := fun h => hq (h ▸ List.mem_cons_self ..)
    have hcs : '"' ∉ cs := fun h => hq (List.mem_cons_of_mem _ h)
    have ih := ih hcs
    intro f hf
    simp only [splitOutside, hc, if_false, Bool.not_false, Bool.and_true, decide_eq_true_eq] at hf
    split at hf
    · rcases List.mem_cons.1 hf with h | h
      · simp [h]
      · exact ih f h
    · rename_i hcomma
      rcases mem_consHead hf with ⟨g, hfg, hg⟩ | h
      · rcases hg with hg | ⟨hnil, _⟩
        · intro hmem
          rw [hfg] at hmem
          rcases List.mem_cons.1 hmem with h | h
          · exact hcomma h.symm
          · exact ih g hg h
        · exact absurd hnil (splitOutside_ne_nil _ _)
      · exact ih f h

theorem commasOutside_no_quotes (r : Str) (hq : '"' ∉ r) : commasOutside r false = r.count ',' := by
  induction r with
  | nil => rfl
  | cons c cs ih =>
    have hc : c ≠ '"' := fun h => hq (h ▸ List.mem_cons_self ..)
    have hcs : '"' ∉ cs := fun h => hq (List.mem_cons_of_mem _ h)
    simp only [commasOutside, hc, if_false, Bool.not_false, Bool.and_true, decide_eq_true_eq, ih hcs,
      List.count_cons]
    by_cases h : c = ','
    · simp [h]; omega
    · simp [h]

-- Copies of `Runtime.run_get` … `Runtime.run_throw` (`Lemmas/RtSplit`), kept for their names.  Where both namespaces
-- are open (`open Basic.Runtime Basic.Lemmas.C17` in `Thm/C17.lean`) the short name `run_get` is ambiguous between the
-- two, which is why the proofs there write `Runtime.run_get` in full.
theorem run_get (s : Runtime) : ((get : RM Runtime).run).run s = (.ok s, s) := rfl
theorem run_set (s' s : Runtime) : ((set s' : RM PUnit).run).run s = (.ok ⟨⟩, s') := rfl
theorem run_modify (f : Runtime → Runtime) (s : Runtime) :
    ((modify f : RM PUnit).run).run s = (.ok ⟨⟩, f s) := rfl
theorem run_throw {α} (e : Error) (s : Runtime) : ((throw e : RM α).run).run s = (.error e, s) := rfl

theorem run_pop_empty (s : Runtime) (h : s.stack = #[]) :
    ((pop).run).run s = (.error underflow, s) := by
  simp only [pop, run_bind, Runtime.run_get, h, Array.back?_empty, Runtime.run_throw]

/-- the acceptance block of `doInputReply`: `ret pc`, then the fields last-to-first -/
theorem run_accept (s : Runtime) (fs : List Str)
    (hroom : s.stack.size + 1 + fs.length ≤ Gen.stackMaxLen) :
    (((do
        let st ← get
        push (.ret st.pc)
        for f in fs.reverse do
          push (.str f)
        modify fun s => { s with state := .inputRunning }) : RM Unit).run).run s =
      (.ok (), { s with stack := s.stack.push (.ret s.pc) ++ (fs.reverse.map Val.str).toArray,
                        state := .inputRunning }) := by
  simp only [run_bind, Runtime.run_get]
  rw [run_push_room _ _ (by omega)]
  simp only []
  rw [run_pushLoop Val.str]
  · simp only [Runtime.run_modify]
  · simp only [Array.size_push, List.length_reverse]; omega

theorem unwind_zero (st : Array Val) : Runtime.execute.unwind 0 st = (st, none) := by
  simp only [Runtime.execute.unwind]

theorem unwind_empty (k : Nat) : Runtime.execute.unwind k #[] = (#[], none) := by
  cases k <;> simp [Runtime.execute.unwind]

theorem unwind_push_ret (k : Nat) (st : Array Val) (a : Nat) :
    Runtime.execute.unwind (k + 1) (st.push (.ret a)) = (st, some a) := by
  simp [Runtime.execute.unwind]

theorem unwind_push_other (k : Nat) (st : Array Val) (v : Val) (hv : ∀ a, v ≠ .ret a) :
    Runtime.execute.unwind (k + 1) (st.push v) = Runtime.execute.unwind k st := by
  cases v <;> first | (exact absurd rfl (hv _)) | simp [Runtime.execute.unwind]

/-- values that are no return address are popped one per round -/
theorem unwind_values (base : Array Val) (vs : List Val) (hvs : ∀ v ∈ vs, ∀ b, v ≠ .ret b) (k : Nat) :
    Runtime.execute.unwind (vs.length + k) (base ++ vs.toArray) = Runtime.execute.unwind k base := by
  -- the loop works from the top, so the induction is over the values top first
  suffices h : ∀ (ws : List Val), (∀ v ∈ ws, ∀ b, v ≠ .ret b) →
      Runtime.execute.unwind (ws.length + k) (base ++ ws.reverse.toArray) = Runtime.execute.unwind k base by
    simpa using h vs.reverse fun v hv => hvs v (List.mem_reverse.1 hv)
  intro ws
  induction ws with
  | nil => intro _; simp
  | cons w ws ih =>
    intro hws
    have : base ++ (w :: ws).reverse.toArray = (base ++ ws.reverse.toArray).push w := by simp
    rw [this, List.length_cons, Nat.add_right_comm, unwind_push_other _ _ _ (hws w (List.mem_cons_self ..))]
    exact ih fun v hv => hws v (List.mem_cons_of_mem _ hv)

theorem unwind_to_ret (st : Array Val) (a : Nat) (vs : List Val)
    (hvs : ∀ v ∈ vs, ∀ b, v ≠ .ret b) (k : Nat) (hk : vs.length + 1 ≤ k) :
    Runtime.execute.unwind k (st.push (.ret a) ++ vs.toArray) = (st, some a) := by
  obtain ⟨j, rfl⟩ : ∃ j, k = vs.length + (j + 1) := ⟨k - vs.length - 1, by omega⟩
  rw [unwind_values _ vs hvs, unwind_push_ret]

theorem unwind_no_ret (st : Array Val) (hst : ∀ v ∈ st.toList, ∀ b, v ≠ .ret b) (k : Nat)
    (hk : st.size ≤ k) :
    Runtime.execute.unwind k st = (#[], none) := by
  obtain ⟨j, rfl⟩ : ∃ j, k = st.toList.length + j := ⟨k - st.size, by simp; omega⟩
  have h := unwind_values #[] st.toList hst j
  rwa [Array.empty_append, Array.toArray_toList, unwind_empty] at h

end Lemmas.C17
end Basic

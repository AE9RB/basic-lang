import BasicModel.Lemmas.DirectFrame
import BasicModel.Lemmas.Enter
/-
  The invariant behind "what runs is always the program that LIST shows" (DESIGN.md, Appendix E,
  clause 4), on the model runtime, and its preservation by every call of the session protocol.

  `Inv s`: when `dirty = false`, the image onto which the next direct line is compiled
  (`Program.base s.program`: the program linked, its code cut back to `directAddress`) is — up to
  the DATA cursor — the image a fresh interpreter builds from the current listing, and the
  diagnostics shown by LIST are those of that compile.  (The direct segment above `directAddress`,
  the direct-mode errors and the DATA cursor are free.)

  It is kept because of `Keep`: what *every* instruction leaves alone — the compiled program up to the
  DATA cursor, and the listing unless `dirty` is set.  Under `Inv`, edited or not, a direct line runs the
  program a fresh interpreter compiles from the current listing, so the state after RUN's CLEAR is the
  fresh interpreter's (`run_state_eq_freshLike`).
-/
namespace Basic

theorem Program.withDP_directAddress (p : Program) (d : Nat) : (p.withDP d).directAddress = p.directAddress := rfl
theorem Program.withDP_ops (p : Program) (d : Nat) : (p.withDP d).link.ops = p.link.ops := rfl
theorem Program.withDP_withDP (p : Program) (a b : Nat) : (p.withDP a).withDP b = p.withDP b := rfl

namespace Runtime

structure Keep (s t : Runtime) : Prop where
  prog : ∃ d, t.program = s.program.withDP d
  edit : (t.listing = s.listing ∧ t.dirty = s.dirty) ∨ t.dirty = true

instance : FrameRel Keep where
  refl s := ⟨⟨s.program.link.dataPos, rfl⟩, .inl ⟨rfl, rfl⟩⟩
  trans {a b c} h1 h2 := by
    obtain ⟨d1, e1⟩ := h1.prog
    obtain ⟨d2, e2⟩ := h2.prog
    refine ⟨⟨d2, by rw [e2, e1]; rfl⟩, ?_⟩
    rcases h2.edit with ⟨l2, k2⟩ | k2
    · rcases h1.edit with ⟨l1, k1⟩ | k1
      · exact .inl ⟨l2.trans l1, k2.trans k1⟩
      · exact .inr (k2.trans k1)
    · exact .inr k2

/-- no update changes the compiled program except for the DATA cursor (READ, RESTORE, CLEAR), and
    none changes the listing without setting `dirty` (DELETE, RENUM, NEW) -/
theorem Keep.of_prim {env : Env} {k : Kind} {s t : Runtime} (p : Prim env k s t) : Keep s t := by
  -- each update replaces fields other than `program`, or sets `dirty`
  cases p <;> refine ⟨⟨_, rfl⟩, ?_⟩ <;> first | exact .inl ⟨rfl, rfl⟩ | exact .inr rfl

theorem step_keep (env : Env) (h : Bool) (s : Runtime) : Keep s ((step env h).run.run s).2 :=
  (step_eff_any env h s).to_all Keep.of_prim

theorem execute_keep (env : Env) (s : Runtime) (n : Nat) : Keep s (execute env s n).1 :=
  (execute_eff env s n).to_all Keep.of_prim

/-- the image onto which a fresh interpreter holding `l` compiles its direct lines: the lines
    compiled from scratch and linked (`Program.compile`), code cut at `directAddress`, no errors -/
def freshBase (l : Listing) : Program := Program.base (({} : Program).codegenLines l.lines)

/-- Appendix E, clause 4.  `base s.program` carries exactly the compiled indirect part: the code
    below `directAddress`, the DATA segment, the line symbols, `indirectErrors`, `directAddress`
    (and the constant fields of a linked image); the DATA cursor is free, and so is everything
    `base` cuts off: the direct segment and the direct-mode errors. -/
structure Inv (s : Runtime) : Prop where
  /-- no WHILE is pending in the program in memory (it has been linked, or is empty) -/
  whiles : s.program.link.whiles = []
  /-- when nothing has been edited since the last compile: the compiled indirect program is the
      one compiling the current listing from scratch gives, and LIST shows its diagnostics -/
  compiled : s.dirty = false →
    (∃ dp, Program.base s.program = (freshBase s.listing).withDP dp) ∧
    s.listing.indirectErrors = (Program.compile s.listing.lines).indirectErrors

theorem freshBase_based (l : Listing) : Program.Based (freshBase l) := Program.based_compile l.lines

theorem freshBase_indirectErrors (l : Listing) :
    (freshBase l).indirectErrors = (Program.compile l.lines).indirectErrors := rfl

/-- `Runtime::default()` -/
theorem inv_init : Inv ({} : Runtime) where
  whiles := rfl
  compiled := fun _ => ⟨⟨(freshBase {}).link.dataPos, rfl⟩, by decide⟩

theorem inv_of_keep {s t : Runtime} (hi : Inv s) (hk : Keep s t) : Inv t := by
  obtain ⟨d, hd⟩ := hk.prog
  refine ⟨by rw [hd]; exact hi.whiles, ?_⟩
  intro ht
  rcases hk.edit with ⟨hl, hdd⟩ | hdt
  · obtain ⟨⟨dp, hb⟩, he⟩ := hi.compiled (hdd ▸ ht)
    rw [hl, hd, Program.base_withDP, hb]
    exact ⟨⟨d, Program.withDP_withDP _ _ _⟩, he⟩
  · rw [hdt] at ht; cases ht

theorem compile_direct_onto (L : Listing) (p : Program) (line : Line) (hn : line.number = none) (d : Nat)
    (hb : Program.base p = (freshBase L).withDP d) :
    Program.base ((p.codegenLine line).linkProg) = (freshBase L).withDP d ∧
    ((p.codegenLine line).linkProg).indirectErrors = (Program.compile L.lines).indirectErrors ∧
    ((p.codegenLine line).linkProg).link.whiles = [] := by
  have hB : Program.Based ((freshBase L).withDP d) := (freshBase_based L).withDP d
  rw [Program.codegenLine_direct p line hn, hb]
  exact ⟨Program.base_directGen hB line, ((Program.POver.directGen hB line).linkProg hB).1.indirectErrors,
    Program.linkProg_whiles _⟩

theorem recompiled_base {s : Runtime} (hi : Inv s) :
    ∃ d, Program.base (recompiled s) = (freshBase s.listing).withDP d :=
  recompiled_ind (P := fun p => ∃ d, Program.base p = (freshBase s.listing).withDP d) s
    (fun hd => (hi.compiled hd).1)
    fun _ => ⟨s.program.link.dataPos, by
      rw [Program.clear_codegenLines s.program hi.whiles, Program.base_withDP]; rfl⟩

theorem inv_enterDirect (s : Runtime) (line : Line) (hn : line.number = none) (hi : Inv s) :
    Inv (enterDirect s line) := by
  obtain ⟨d, hb⟩ := recompiled_base hi
  have h := compile_direct_onto s.listing _ line hn d hb
  rw [← directProgram_eq] at h
  rw [enterDirect_eq]
  exact ⟨h.2.2, fun _ => ⟨⟨d, h.1⟩, h.2.1⟩⟩

theorem inv_enterIndirect (s : Runtime) (line : Line) (hi : Inv s) : Inv (enterIndirect s line) := by
  rw [enterIndirect_eq]
  refine ⟨hi.whiles, ?_⟩
  dsimp only
  cases (s.listing.enterLine line).2
  · rw [Bool.or_false]; exact hi.compiled
  · rw [Bool.or_true]; exact fun h => nomatch h

theorem inv_session (env : Env) : SessionInv env (fun _ => True) Inv where
  prim p h := inv_of_keep h (Keep.of_prim p)
  direct s _ hn h := inv_enterDirect s _ hn h
  indirect s _ h := inv_enterIndirect s _ h
  load _ _ _ hd h := ⟨h.whiles, fun h' => nomatch hd.symm.trans h'⟩

/-- whether or not anything has been edited: the direct line runs the program a fresh interpreter
    would compile from the current listing, up to the DATA cursor -/
theorem directProgram_fresh (s : Runtime) (line : Line) (hn : line.number = none) (hi : Inv s) :
    ∃ d, directProgram s line = (Program.runProg s.listing.lines line).withDP d := by
  obtain ⟨d, hb⟩ := recompiled_base hi
  refine ⟨d, ?_⟩
  have e : Program.base (recompiled s) =
      Program.base ((({} : Program).codegenLines s.listing.lines).withDP d) := by
    rw [Program.base_withDP]; exact hb
  rw [directProgram_eq, Program.codegenLine_congr line hn e, Program.codegenLine_withDP, Program.linkProg_withDP]
  rfl

theorem enterDirect_program_inv (s : Runtime) (line : Line) (hn : line.number = none) (hi : Inv s) :
    ∃ d, (enterDirect s line).program = (Program.runProg s.listing.lines line).withDP d := by
  rw [enterDirect_eq]
  exact directProgram_fresh s line hn hi

theorem enterDirect_fields (s : Runtime) (line : Line) :
    (enterDirect s line).state = .running ∧
    (enterDirect s line).pc = (enterDirect s line).program.directAddress ∧
    (enterDirect s line).listing.indirectErrors = (enterDirect s line).program.indirectErrors ∧
    (enterDirect s line).listing.directErrors = (enterDirect s line).program.errors ∧
    (enterDirect s line).tron = s.tron := by
  rw [enterDirect_eq]
  exact ⟨rfl, rfl, rfl, rfl, rfl⟩

/-- a fresh interpreter (`Runtime::default()`) given the same listing (`set_listing` marks it
    dirty), with the four fields that do not belong to the program's state carried over: the
    prompt text set by the host, TRON, the print column, and `contPc` (dead while `cont = stopped`) -/
def freshLike (s : Runtime) : Runtime :=
  { listing := s.listing, dirty := true, prompt := s.prompt, tron := s.tron, printCol := s.printCol,
    contPc := s.contPc }

theorem directProgram_freshLike (s : Runtime) (line : Line) :
    directProgram (freshLike s) line = Program.runProg s.listing.lines line :=
  directProgram_eq _ _

/-- CLEAR after a direct line whose program is, up to the DATA cursor, the one the fresh interpreter compiles:
    the *whole state* is the fresh interpreter's (CLEAR resets the cursor and everything else the two differ in) -/
theorem clear_enterDirect_eq_freshLike (env : Env) (s : Runtime) (line : Line) (d : Nat)
    (hp : directProgram s line = (Program.runProg s.listing.lines line).withDP d) :
    doClear env (enterDirect s line) = doClear env (enterDirect (freshLike s) line) := by
  rw [enterDirect_eq s line, enterDirect_eq (freshLike s) line, hp, directProgram_freshLike]
  generalize Program.runProg s.listing.lines line = p
  rfl

/-- **A direct line followed by CLEAR, from any state of any history, is that line in a fresh interpreter** (RUN is such
    a line, `RunClear.enterDirect_run_starts_with_clear`).  For a state satisfying
    the invariant (every reachable state) and a direct line (`RUN`, `RUN n`, or any other): after
    the line has been compiled and CLEAR executed, the *whole state* is the one a fresh
    interpreter holding the same listing reaches — no hypothesis on `dirty` -/
theorem run_state_eq_freshLike (env : Env) (s : Runtime) (line : Line) (hn : line.number = none)
    (hi : Inv s) :
    doClear env (enterDirect s line) = doClear env (enterDirect (freshLike s) line) :=
  let ⟨d, hp⟩ := directProgram_fresh s line hn hi
  clear_enterDirect_eq_freshLike env s line d hp

end Runtime
end Basic

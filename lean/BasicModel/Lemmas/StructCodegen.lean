import BasicModel.Lemmas.StructCompile
import BasicModel.Lemmas.GenClean
/-
  The shape of the code the generator (`Model/Codegen.lean`) emits for the structured statements: the statement
  fragments, before linking.  WHILE / WEND and FOR / NEXT are fragments of their own with those of the body in between
  (`whileFrag`, `wendFrag`, `forFrag`, `plain #[next v]`); an IF is one fragment that holds those of its parts (`ifFrag`).
  `FragShape p fs`: `fs` is the fragment list of `p`; `acceptStmts_shape`: visiting `p.stmts` pushes such a list.

  What each generator function does is stated on its clean path (chains of the rules of `Lemmas/GenClean.lean`, without
  bounds); that the fragment fits is asked once per form.
-/
namespace Basic
namespace Lemmas.StructCodegen
open Basic.Spec Basic.Lemmas.ExprCompile Basic.Lemmas.StructCompile
open Basic.Codegen Basic.Link

/-- `WHILE c` -/
def whileFrag (c : Col) (xs : List Opcode) : Link :=
  { currentSymbol := -1, ops := (xs ++ [Opcode.ifNot 0]).toArray, symbols := [(-1, (0, 0))],
    whiles := [(true, c, xs.length, -1)] }

/-- `WEND` -/
def wendFrag (c : Col) : Link :=
  { currentSymbol := -1, ops := #[Opcode.jump 0], symbols := [(-1, (1, 0))], whiles := [(false, c, 0, -1)] }

/-- `FOR name = a TO b STEP s` (`xa`, `xb`, `xs` the codes of the three expressions) -/
def forFrag (col : Col) (name : Str) (xa xb xs : List Opcode) : Link :=
  { currentSymbol := -1,
    ops := (xa ++ ([Opcode.pop name] ++ (xb ++ (xs ++ [Opcode.literal (.str name), Opcode.literal (.nxt 0)])))).toArray,
    unlinked := [(xa.length + 1 + xb.length + xs.length + 1, (col, -1))],
    symbols := [(-1, (xa.length + 1 + xb.length + xs.length + 2, 0))] }

/-- appending fragments in order -/
def appendAllL (l : Link) (fs : List Link) : Link := fs.foldl appended l

/-- the head of an IF fragment: the condition and `ifNot 0` referring to the label −1 -/
def ifHead (c : Col) (xs : List Opcode) : Link :=
  { currentSymbol := -1, ops := (xs ++ [Opcode.ifNot 0]).toArray, unlinked := [(xs.length, (c, -1))] }

/-- `IF c THEN thens [ELSE elses]` (`xs` the code of the condition) -/
def ifFrag (c : Col) (xs : List Opcode) (thens elses : List Link) : Link :=
  let l2 := appendAllL (ifHead c xs) thens
  if elses.length = 0 then l2.pushSymbol (-1)
  else
    let l4 : Link := ((l2.nextSymbol.1.addUnlinked c l2.nextSymbol.2).push (Opcode.jump 0)).1
    let l6 := appendAllL (l4.pushSymbol (-1)) elses
    l6.pushSymbol l2.nextSymbol.2

theorem grows_mark (k : Bool) (c : Col) (sym : Symbol) (l : Link) :
    Grows l { l with whiles := l.whiles ++ [(k, c, l.ops.size, sym)] } := .of_eq rfl rfl rfl

theorem while_gen_clean (c ce : Col) (e : Expr) (v : Array VarItem) (ex st : Array (Col × Link)) (xs : List Opcode) :
    Clean (genStatement (.while c e)) ⟨v, ex.push (ce, plain xs.toArray), st, {}⟩ (c.1, ce.2)
      ⟨v, ex, st, whileFrag c xs⟩ := by
  simp only [genStatement]
  unfold pushWhile
  refine Clean.congr (.bind (.popExpr ..) <| .bind (.bind (.lnextSymbol ..) <| .bind (.lpushSymbol ..) <|
    .bind (.lappend ..) <| .bind (.modifyCur (hf := grows_mark true c _) ..) (.lpush ..)) (.pure ..)) ?_
  simp [whileFrag, appended, appendSymbols, appendUnlinked, appendWhiles, plain, pushSymbol, symInsert,
    Link.nextSymbol, Link.push]

theorem fits_whileFrag (c : Col) (xs : List Opcode) (h : xs.length + 1 ≤ Gen.stackMaxLen) : Fits (whileFrag c xs) :=
  ⟨by simpa [whileFrag] using h, Nat.zero_le _, rfl⟩

theorem while_codegen_shape {e : Expr} (hp : Spec.Pure e) (c : Col) (s : VState)
    (hlen : (flat e).length + 1 ≤ Gen.stackMaxLen) :
    ∃ col, acceptStmt (.while c e) s =
      { s with g := { s.g with stmt := s.g.stmt.push (col, whileFrag c (flat e)) } } := by
  obtain ⟨⟨v, ex, st, cur⟩, errs⟩ := s
  simp only [acceptStmt]
  obtain ⟨ce, he⟩ := compiles_flat hp v ex st cur errs (by omega)
  rw [he]
  exact ⟨(c.1, ce.2), visitStatement_clean (while_gen_clean c ce e v ex st (flat e)) (fits_whileFrag c _ hlen) cur errs⟩

theorem wend_gen_clean (c : Col) (v : Array VarItem) (ex st : Array (Col × Link)) :
    Clean (genStatement (.wend c)) ⟨v, ex, st, {}⟩ c ⟨v, ex, st, wendFrag c⟩ := by
  simp only [genStatement]
  unfold pushWend
  exact .bind (.bind (.lnextSymbol ..) <| .bind (.modifyCur (hf := grows_mark false c _) ..) <| .bind (.lpush ..)
    (.lpushSymbol ..)) (.pure ..)

theorem wend_codegen_shape (c : Col) (s : VState) :
    acceptStmt (.wend c) s = { s with g := { s.g with stmt := s.g.stmt.push (c, wendFrag c) } } := by
  obtain ⟨⟨v, ex, st, cur⟩, errs⟩ := s
  simp only [acceptStmt]
  exact visitStatement_clean (wend_gen_clean c v ex st) ⟨by show 1 ≤ Gen.stackMaxLen; decide, Nat.zero_le _, rfl⟩ cur errs

theorem pushAsPopUnary_clean (c : Col) (name : Str) (l : Link) (hz : isZeroArg name = false) (v : Array VarItem)
    (ex st : Array (Col × Link)) (cur : Link) :
    Clean (pushAsPopUnary ⟨c, name, l, none⟩) ⟨v, ex, st, cur⟩ c ⟨v, ex, st, (cur.push (.pop name)).1⟩ :=
  .bind (.liftE (testForBuiltIn_scalar c name l hz) _) (.bind (.lpush ..) (.pure ..))

theorem pushFor_clean (c : Col) (v : Array VarItem) (ex st : Array (Col × Link)) (cur : Link) :
    Clean (pushFor c) ⟨v, ex, st, cur⟩ ()
      ⟨v, ex, st, (((cur.nextSymbol.1.addUnlinked c (cur.currentSymbol - 1)).push (.literal (.nxt 0))).1).pushSymbol
        (cur.currentSymbol - 1)⟩ :=
  .bind (.lnextSymbol ..) (.bind (.laddUnlinked ..) (.bind (.lpush ..) (.lpushSymbol ..)))

theorem for_gen_clean (c cv ca cb cs : Col) (x : Variable) (a b s : Expr) (name : Str) (hz : isZeroArg name = false)
    (v : Array VarItem) (ex st : Array (Col × Link)) (xa xb xs : List Opcode) :
    Clean (genStatement (.for c x a b s))
        ⟨v.push ⟨cv, name, {}, none⟩,
          ((ex.push (ca, plain xa.toArray)).push (cb, plain xb.toArray)).push (cs, plain xs.toArray), st, {}⟩
      (c.1, cs.2) ⟨v, ex, st, forFrag (c.1, cs.2) name xa xb xs⟩ := by
  simp only [genStatement]
  refine Clean.congr (.bind (.popExpr ..) <| .bind (.popExpr ..) <| .bind (.popExpr ..) <| .bind (.popVar ..) <|
    .bind (.lappend ..) <| .bind (pushAsPopUnary_clean _ _ _ hz ..) <| .bind (.lappend ..) <| .bind (.lappend ..) <|
    .bind (.lpush ..) <| .bind (pushFor_clean ..) <| .pure ..) ?_
  simp only [GState.mk.injEq, true_and]
  simp [forFrag, plain, appended, appendSymbols, appendUnlinked, appendWhiles, addUnlinked, pushSymbol, symInsert,
    unlInsert, Link.nextSymbol, Link.push]
  omega

theorem fits_forFrag (col : Col) (name : Str) (xa xb xs : List Opcode)
    (h : xa.length + 1 + xb.length + xs.length + 2 ≤ Gen.stackMaxLen) : Fits (forFrag col name xa xb xs) :=
  ⟨by simp [forFrag]; omega, Nat.zero_le _, rfl⟩

theorem for_codegen_shape {a b s : Expr} (hpa : Spec.Pure a) (hpb : Spec.Pure b) (hps : Spec.Pure s) (c cv : Col)
    (i : TIdent) (hz : isZeroArg i.name = false) (vs : VState)
    (hlen : (flat a).length + 1 + (flat b).length + (flat s).length + 2 ≤ Gen.stackMaxLen) :
    ∃ col, acceptStmt (.for c (.unary cv i) a b s) vs =
      { vs with g := { vs.g with stmt := vs.g.stmt.push (col, forFrag col i.name (flat a) (flat b) (flat s)) } } := by
  obtain ⟨⟨v, ex, st, cur⟩, errs⟩ := vs
  simp only [acceptStmt]
  rw [acceptVar_unary]
  obtain ⟨ca, ha⟩ := compiles_flat hpa (v.push (scalarItem (cv, i))) ex st cur errs (by omega)
  rw [ha]
  obtain ⟨cb, hb⟩ := compiles_flat hpb (v.push (scalarItem (cv, i))) (ex.push (ca, plain (flat a).toArray)) st cur
    errs (by omega)
  rw [hb]
  obtain ⟨cs, hs⟩ := compiles_flat hps (v.push (scalarItem (cv, i)))
    ((ex.push (ca, plain (flat a).toArray)).push (cb, plain (flat b).toArray)) st cur errs (by omega)
  rw [hs]
  exact ⟨(c.1, cs.2), visitStatement_clean
    (for_gen_clean c cv ca cb cs (.unary cv i) a b s i.name hz v ex st (flat a) (flat b) (flat s))
    (fits_forFrag _ _ _ _ _ hlen) cur errs⟩

theorem next_gen_clean (c cv : Col) (x : Variable) (name : Str) (hz : isZeroArg name = false)
    (v : Array VarItem) (ex st : Array (Col × Link)) :
    Clean (genStatement (.next c [x])) ⟨v ++ [(⟨cv, name, {}, none⟩ : VarItem)].toArray, ex, st, {}⟩ c
      ⟨v, ex, st, plain #[Opcode.next name]⟩ := by
  simp only [genStatement]
  refine .bind (.popNVar (items := [_]) ..) (.bind (a := ⟨⟩) ?_ (.pure ..))
  simp only [List.forIn_cons, List.forIn_nil]
  exact .bind (.bind (.liftE (testForBuiltIn_scalar cv name {} hz) _) <| .bind (.lpush ..) (.pure ..)) (.pure ..)

theorem next_codegen_shape (c cv : Col) (i : TIdent) (hz : isZeroArg i.name = false) (vs : VState) :
    acceptStmt (.next c [.unary cv i]) vs =
      { vs with g := { vs.g with stmt := vs.g.stmt.push (c, plain #[Opcode.next i.name]) } } := by
  obtain ⟨⟨v, ex, st, cur⟩, errs⟩ := vs
  simp only [acceptStmt, acceptVars, List.foldl_cons, List.foldl_nil]
  rw [acceptVar_unary, show v.push (scalarItem (cv, i)) = v ++ [scalarItem (cv, i)].toArray by simp]
  exact visitStatement_clean (next_gen_clean c cv (.unary cv i) i.name hz v ex st)
    ⟨by show 1 ≤ Gen.stackMaxLen; decide, Nat.zero_le _, rfl⟩ cur errs

/-- the size of the code of a fragment list, as `Link.appendMany_ok` asks for it -/
def opsTotal (fs : List Link) : Nat := (fs.map (·.ops.size)).sum

theorem opsTotal_nil : opsTotal [] = 0 := rfl
theorem opsTotal_cons (f : Link) (fs : List Link) : opsTotal (f :: fs) = f.ops.size + opsTotal fs := rfl

theorem opsTotal_append (fs gs : List Link) : opsTotal (fs ++ gs) = opsTotal fs + opsTotal gs := by
  unfold opsTotal
  rw [List.map_append, List.sum_append]

theorem appendAllL_nil (l : Link) : appendAllL l [] = l := rfl
theorem appendAllL_cons (l f : Link) (fs : List Link) : appendAllL l (f :: fs) = appendAllL (appended l f) fs := rfl

theorem appendAllL_append (l : Link) (fs gs : List Link) :
    appendAllL l (fs ++ gs) = appendAllL (appendAllL l fs) gs := by
  unfold appendAllL
  rw [List.foldl_append]

theorem appendAllL_directSet (fs : List Link) (l : Link) : (appendAllL l fs).directSet = l.directSet :=
  List.foldlRecOn fs appended (motive := fun x : Link => x.directSet = l.directSet) rfl fun _ h _ _ => h

theorem appendAllL_ops_size (fs : List Link) : ∀ (l : Link), (appendAllL l fs).ops.size = l.ops.size + opsTotal fs := by
  induction fs with
  | nil => intro l; rfl
  | cons f fs ih =>
    intro l
    rw [appendAllL_cons, ih]
    simp only [appended, Array.size_append, opsTotal_cons]
    omega

theorem appendAllL_data (fs : List Link) (hfs : ∀ f ∈ fs, f.data = #[]) (l : Link) : (appendAllL l fs).data = l.data :=
  List.foldlRecOn fs appended (motive := fun x : Link => x.data = l.data) rfl fun b hb f hf => by
    show b.data ++ f.data = l.data
    rw [hfs f hf, Array.append_empty, hb]

/-- the loop of IF over the fragments of a branch -/
theorem forIn_lappend_clean : ∀ (frs : List (Col × Link)) (v : Array VarItem) (ex st : Array (Col × Link)) (cur : Link),
    Clean (forIn frs PUnit.unit
      (fun (x : Col × Link) (_ : PUnit) => (do lappend x.2; pure (ForInStep.yield PUnit.unit) : GM (ForInStep PUnit))))
      ⟨v, ex, st, cur⟩ ⟨⟩ ⟨v, ex, st, appendAllL cur (frs.map (·.2))⟩
  | [], _, _, _, _ => .pure ..
  | x :: frs, v, ex, st, cur => by
    rw [List.forIn_cons]
    exact .bind (.bind (.lappend ..) (.pure ..)) (forIn_lappend_clean frs ..)

theorem ifHead_eq (c : Col) (xs : List Opcode) :
    (((({} : Link).appended (plain xs.toArray)).nextSymbol.1.addUnlinked c
      ((({} : Link).appended (plain xs.toArray)).currentSymbol - 1)).push (Opcode.ifNot 0)).1 = ifHead c xs := by
  simp [ifHead, plain, appended, appendSymbols, appendUnlinked, appendWhiles, addUnlinked, unlInsert, Link.push,
    Link.nextSymbol]

theorem if_gen_clean (c cp : Col) (p : Expr) (th el : List Stmt) (v : Array VarItem) (ex st : Array (Col × Link))
    (xs : List Opcode) (thens elses : List (Col × Link)) (hth : thens.length = th.length) (hel : elses.length = el.length) :
    Clean (genStatement (.if c p th el)) ⟨v, ex.push (cp, plain xs.toArray), st ++ thens.toArray ++ elses.toArray, {}⟩ c
      ⟨v, ex, st, ifFrag c xs (thens.map (·.2)) (elses.map (·.2))⟩ := by
  simp only [genStatement, ← hth, ← hel]
  unfold pushIfnot pushJump
  have hsym : (({} : Link).appended (plain xs.toArray)).currentSymbol - 1 = (-1 : Int) := rfl
  by_cases he0 : elses.length = 0
  · refine Clean.congr (.bind (.popExpr ..) <| .bind (.lappend ..) <| .bind (.lnextSymbol ..) <|
      .bind (.bind (.laddUnlinked ..) (.lpush ..)) <| .bind (.popNStmt ..) <| .bind (.popNStmt ..) <|
      .bind (forIn_lappend_clean ..) <| .ite_pos he0 <| .bind (.lpushSymbol ..) (.pure ..)) ?_
    dsimp only
    rw [ifHead_eq, hsym]
    simp only [ifFrag, List.length_map, he0, if_true]
  · refine Clean.congr (.bind (.popExpr ..) <| .bind (.lappend ..) <| .bind (.lnextSymbol ..) <|
      .bind (.bind (.laddUnlinked ..) (.lpush ..)) <| .bind (.popNStmt ..) <| .bind (.popNStmt ..) <|
      .bind (forIn_lappend_clean ..) <| .ite_neg he0 <| .bind (.lnextSymbol ..) <|
      .bind (.bind (.laddUnlinked ..) (.lpush ..)) <| .bind (.lpushSymbol ..) <| .bind (forIn_lappend_clean ..) <|
      .bind (.lpushSymbol ..) (.pure ..)) ?_
    dsimp only
    rw [ifHead_eq, hsym]
    simp only [ifFrag, List.length_map, he0, if_false]
    rfl

/-- the structured statements with the columns and identifiers of the AST -/
inductive AStmt where
  | assign (c cv : Col) (i : TIdent) (e : Expr)
  | seq (p q : AStmt)
  | ifThen (c : Col) (cnd : Expr) (p : AStmt)
  | ifThenElse (c : Col) (cnd : Expr) (p q : AStmt)
  /-- `c` the column of WHILE, `cw` that of WEND -/
  | while (c cw : Col) (cnd : Expr) (p : AStmt)
  /-- `c`, `cv` the columns of FOR and of its variable, `cn`, `cnv` those of NEXT and of its variable -/
  | for (c cv cn cnv : Col) (i : TIdent) (a b s : Expr) (p : AStmt)

/-- forgetting the columns -/
def AStmt.erase : AStmt → SStmt
  | .assign _ _ i e => .assign i.name e
  | .seq p q => .seq p.erase q.erase
  | .ifThen _ cnd p => .ifThen cnd p.erase
  | .ifThenElse _ cnd p q => .ifThenElse cnd p.erase q.erase
  | .while _ _ cnd p => .while cnd p.erase
  | .for _ _ _ _ i a b s p => .for i.name a b s p.erase

/-- the statement list of the AST: the statements of one line (or of one THEN / ELSE part) in order;
    WHILE / WEND and FOR / NEXT are statements of their own, IF holds its parts -/
def AStmt.stmts : AStmt → List Stmt
  | .assign c cv i e => [.let c (.unary cv i) e]
  | .seq p q => p.stmts ++ q.stmts
  | .ifThen c cnd p => [.if c cnd p.stmts []]
  | .ifThenElse c cnd p q => [.if c cnd p.stmts q.stmts]
  | .while c cw cnd p => .while c cnd :: (p.stmts ++ [.wend cw])
  | .for c cv cn cnv i a b s p => .for c (.unary cv i) a b s :: (p.stmts ++ [.next cn [.unary cnv i]])

/-- the names are no zero-argument built-ins (DATE$, INKEY$, TIME$) -/
def AStmt.Named : AStmt → Prop
  | .assign _ _ i _ => isZeroArg i.name = false
  | .seq p q => p.Named ∧ q.Named
  | .ifThen _ _ p => p.Named
  | .ifThenElse _ _ p q => p.Named ∧ q.Named
  | .while _ _ _ p => p.Named
  | .for _ _ _ _ i _ _ _ p => isZeroArg i.name = false ∧ p.Named

def AStmt.decNamed : (p : AStmt) → Decidable p.Named
  | .assign _ _ i _ => inferInstanceAs (Decidable (isZeroArg i.name = false))
  | .seq p q => @instDecidableAnd _ _ p.decNamed q.decNamed
  | .ifThen _ _ p => p.decNamed
  | .ifThenElse _ _ p q => @instDecidableAnd _ _ p.decNamed q.decNamed
  | .while _ _ _ p => p.decNamed
  | .for _ _ _ _ _ _ _ _ p => @instDecidableAnd _ _ inferInstance p.decNamed

instance : DecidablePred AStmt.Named := AStmt.decNamed

/-- the statement fragments of a structured statement, in order (the column kept with FOR's pending
    reference is the generator's business) -/
def FragShape : AStmt → List Link → Prop
  | .assign _ _ i e, fs => fs = [plain (flat e ++ [Opcode.pop i.name]).toArray]
  | .seq p q, fs => ∃ f1 f2, fs = f1 ++ f2 ∧ FragShape p f1 ∧ FragShape q f2
  | .ifThen c cnd p, fs => ∃ ft, fs = [ifFrag c (flat cnd) ft []] ∧ FragShape p ft
  | .ifThenElse c cnd p q, fs => ∃ ft fe, fs = [ifFrag c (flat cnd) ft fe] ∧ FragShape p ft ∧ FragShape q fe
  | .while c cw cnd p, fs => ∃ fb, fs = whileFrag c (flat cnd) :: (fb ++ [wendFrag cw]) ∧ FragShape p fb
  | .for _ _ _ _ i a b s p, fs =>
    ∃ col fb, fs = forFrag col i.name (flat a) (flat b) (flat s) :: (fb ++ [plain #[Opcode.next i.name]]) ∧
      FragShape p fb

theorem ifFrag_data (c : Col) (xs : List Opcode) (thens elses : List Link) (ht : ∀ f ∈ thens, f.data = #[])
    (he : ∀ f ∈ elses, f.data = #[]) : (ifFrag c xs thens elses).data = #[] := by
  unfold ifFrag
  dsimp only
  split
  · show (appendAllL _ _).data = #[]
    rw [appendAllL_data _ ht]; rfl
  · show (appendAllL _ _).data = #[]
    rw [appendAllL_data _ he]
    show (appendAllL _ _).data = #[]
    rw [appendAllL_data _ ht]; rfl

theorem ifFrag_ops_size (c : Col) (xs : List Opcode) (thens elses : List Link) :
    (ifFrag c xs thens elses).ops.size =
      if elses.length = 0 then xs.length + 1 + opsTotal thens else xs.length + 1 + opsTotal thens + 1 + opsTotal elses := by
  unfold ifFrag
  dsimp only
  split
  · show (appendAllL _ _).ops.size = _
    rw [appendAllL_ops_size]; simp [ifHead]
  · show (appendAllL _ _).ops.size = _
    rw [appendAllL_ops_size]
    show ((appendAllL _ _).ops.push _).size + _ = _
    rw [Array.size_push, appendAllL_ops_size]; simp [ifHead]

theorem ifFrag_directSet (c : Col) (xs : List Opcode) (thens elses : List Link) :
    (ifFrag c xs thens elses).directSet = false := by
  unfold ifFrag
  dsimp only
  split
  · show (appendAllL _ _).directSet = false
    rw [appendAllL_directSet]; rfl
  · show (appendAllL _ _).directSet = false
    rw [appendAllL_directSet]
    show (appendAllL _ _).directSet = false
    rw [appendAllL_directSet]; rfl

theorem fits_ifFrag (c : Col) (xs : List Opcode) {thens elses : List Link} (ht : ∀ f ∈ thens, f.data = #[])
    (he : ∀ f ∈ elses, f.data = #[]) (hsz : (ifFrag c xs thens elses).ops.size ≤ Gen.stackMaxLen) :
    Fits (ifFrag c xs thens elses) :=
  ⟨hsz, by rw [ifFrag_data _ _ _ _ ht he]; exact Nat.zero_le _, ifFrag_directSet ..⟩

theorem FragShape.data : ∀ {p : AStmt} {fs : List Link}, FragShape p fs → ∀ f ∈ fs, f.data = #[]
  | .assign _ _ _ _, fs, h => by
    simp only [FragShape] at h
    subst h
    simp only [List.forall_mem_singleton]
    rfl
  | .seq p q, fs, h => by
    obtain ⟨f1, f2, rfl, h1, h2⟩ := h
    exact List.forall_mem_append.2 ⟨FragShape.data h1, FragShape.data h2⟩
  | .ifThen c cnd p, fs, h => by
    obtain ⟨ft, rfl, h1⟩ := h
    simp only [List.forall_mem_singleton]
    exact ifFrag_data _ _ _ _ (FragShape.data h1) nofun
  | .ifThenElse c cnd p q, fs, h => by
    obtain ⟨ft, fe, rfl, h1, h2⟩ := h
    simp only [List.forall_mem_singleton]
    exact ifFrag_data _ _ _ _ (FragShape.data h1) (FragShape.data h2)
  | .while c cw cnd p, fs, h => by
    obtain ⟨fb, rfl, h1⟩ := h
    simp only [List.forall_mem_cons, List.forall_mem_append]
    exact ⟨rfl, FragShape.data h1, rfl, nofun⟩
  | .for _ _ _ _ i a b s p, fs, h => by
    obtain ⟨col, fb, rfl, h1⟩ := h
    simp only [List.forall_mem_cons, List.forall_mem_append]
    exact ⟨rfl, FragShape.data h1, rfl, nofun⟩

theorem FragShape.length : ∀ {p : AStmt} {fs : List Link}, FragShape p fs → fs.length = p.stmts.length
  | .assign _ _ _ _, fs, h => by simp only [FragShape] at h; subst h; rfl
  | .seq p q, fs, h => by
    obtain ⟨f1, f2, rfl, h1, h2⟩ := h
    simp only [List.length_append, AStmt.stmts, FragShape.length h1, FragShape.length h2]
  | .ifThen c cnd p, fs, h => by obtain ⟨ft, rfl, h1⟩ := h; rfl
  | .ifThenElse c cnd p q, fs, h => by obtain ⟨ft, fe, rfl, h1, h2⟩ := h; rfl
  | .while c cw cnd p, fs, h => by
    obtain ⟨fb, rfl, h1⟩ := h
    simp only [List.length_cons, List.length_append, List.length_nil, AStmt.stmts, FragShape.length h1]
  | .for _ _ _ _ i a b s p, fs, h => by
    obtain ⟨col, fb, rfl, h1⟩ := h
    simp only [List.length_cons, List.length_append, List.length_nil, AStmt.stmts, FragShape.length h1]

theorem FragShape.ne_nil : ∀ {p : AStmt} {fs : List Link}, FragShape p fs → fs.length ≠ 0
  | .assign _ _ _ _, fs, h => by simp only [FragShape] at h; subst h; simp
  | .seq p q, fs, h => by
    obtain ⟨f1, f2, rfl, h1, h2⟩ := h
    have := FragShape.ne_nil h1
    simp only [List.length_append]; omega
  | .ifThen c cnd p, fs, h => by obtain ⟨ft, rfl, h1⟩ := h; simp
  | .ifThenElse c cnd p q, fs, h => by obtain ⟨ft, fe, rfl, h1, h2⟩ := h; simp
  | .while c cw cnd p, fs, h => by obtain ⟨fb, rfl, h1⟩ := h; simp
  | .for _ _ _ _ i a b s p, fs, h => by obtain ⟨col, fb, rfl, h1⟩ := h; simp

theorem FragShape.opsTotal : ∀ {p : AStmt} {fs : List Link}, FragShape p fs → opsTotal fs = size p.erase
  | .assign _ _ _ _, fs, h => by
    simp only [FragShape] at h
    subst h
    simp [opsTotal_cons, opsTotal_nil, plain, size, AStmt.erase]
  | .seq p q, fs, h => by
    obtain ⟨f1, f2, rfl, h1, h2⟩ := h
    rw [opsTotal_append, FragShape.opsTotal h1, FragShape.opsTotal h2]
    rfl
  | .ifThen c cnd p, fs, h => by
    obtain ⟨ft, rfl, h1⟩ := h
    simp only [opsTotal_cons, opsTotal_nil, ifFrag_ops_size, List.length_nil, if_true, FragShape.opsTotal h1, size,
      AStmt.erase, Nat.add_zero]
  | .ifThenElse c cnd p q, fs, h => by
    obtain ⟨ft, fe, rfl, h1, h2⟩ := h
    simp only [opsTotal_cons, opsTotal_nil, ifFrag_ops_size, FragShape.ne_nil h2, if_false, FragShape.opsTotal h1,
      FragShape.opsTotal h2, size, AStmt.erase, Nat.add_zero]
  | .while c cw cnd p, fs, h => by
    obtain ⟨fb, rfl, h1⟩ := h
    simp only [opsTotal_cons, opsTotal_nil, opsTotal_append, FragShape.opsTotal h1, size, AStmt.erase, whileFrag, wendFrag]
    simp
    omega
  | .for _ _ _ _ i a b s p, fs, h => by
    obtain ⟨col, fb, rfl, h1⟩ := h
    simp only [opsTotal_cons, opsTotal_nil, opsTotal_append, FragShape.opsTotal h1, size, AStmt.erase, forFrag, plain,
      forInitLen]
    simp
    omega

theorem acceptStmts_append (xs ys : List Stmt) (s : VState) :
    acceptStmts (xs ++ ys) s = acceptStmts ys (acceptStmts xs s) := by
  induction xs generalizing s with
  | nil => simp only [List.nil_append, acceptStmts]
  | cons x xs ih => simp only [List.cons_append, acceptStmts, ih]

/-- **Codegen shape of a structured statement.**  Visiting its statement list pushes its fragments
    (`FragShape`) on the statement stack, in order; nothing is reported; the other stacks and the fragment
    under construction are untouched. -/
theorem acceptStmts_shape : ∀ (p : AStmt), p.erase.Pure → p.Named → size p.erase ≤ Gen.stackMaxLen →
    ∀ (v : Array VarItem) (ex st : Array (Col × Link)) (cur : Link) (errs : List Error),
      ∃ frs : List (Col × Link), FragShape p (frs.map (·.2)) ∧
        acceptStmts p.stmts ⟨⟨v, ex, st, cur⟩, errs⟩ = ⟨⟨v, ex, st ++ frs.toArray, cur⟩, errs⟩
  | .assign c cv i e, hp, hn, hsz, v, ex, st, cur, errs => by
    obtain ⟨col, h⟩ := let_codegen_shape hp c cv i hn ⟨⟨v, ex, st, cur⟩, errs⟩ (by simpa [size, AStmt.erase] using hsz)
    refine ⟨[(col, plain (flat e ++ [Opcode.pop i.name]).toArray)], rfl, ?_⟩
    simp only [AStmt.stmts, acceptStmts]
    rw [h]
    simp
  | .seq p q, hp, hn, hsz, v, ex, st, cur, errs => by
    simp only [AStmt.erase, size] at hsz
    obtain ⟨f1, h1, e1⟩ := acceptStmts_shape p hp.1 hn.1 (by omega) v ex st cur errs
    obtain ⟨f2, h2, e2⟩ := acceptStmts_shape q hp.2 hn.2 (by omega) v ex (st ++ f1.toArray) cur errs
    refine ⟨f1 ++ f2, ⟨f1.map (·.2), f2.map (·.2), by simp, h1, h2⟩, ?_⟩
    simp only [AStmt.stmts, acceptStmts_append]
    rw [e1, e2]
    simp
  | .ifThen c cnd p, hp, hn, hsz, v, ex, st, cur, errs => by
    simp only [AStmt.erase, size] at hsz
    obtain ⟨cp, hc⟩ := compiles_flat hp.1 v ex st cur errs (by omega)
    obtain ⟨ft, ht, et⟩ := acceptStmts_shape p hp.2 hn (by omega) v (ex.push (cp, plain (flat cnd).toArray)) st cur errs
    refine ⟨[(c, ifFrag c (flat cnd) (ft.map (·.2)) [])], ⟨ft.map (·.2), rfl, ht⟩, ?_⟩
    simp only [AStmt.stmts, acceptStmts, acceptStmt]
    rw [hc, et]
    have hg := if_gen_clean c cp cnd p.stmts [] v ex st (flat cnd) ft [] (by simpa using FragShape.length ht) rfl
    have hst : st ++ ft.toArray ++ ([] : List (Col × Link)).toArray = st ++ ft.toArray := by simp
    rw [hst] at hg
    rw [visitStatement_clean hg (fits_ifFrag _ _ (FragShape.data ht) nofun
      (by simp only [List.map_nil, ifFrag_ops_size, List.length_nil, if_true, FragShape.opsTotal ht]; omega))]
    simp
  | .ifThenElse c cnd p q, hp, hn, hsz, v, ex, st, cur, errs => by
    simp only [AStmt.erase, size] at hsz
    obtain ⟨cp, hc⟩ := compiles_flat hp.1 v ex st cur errs (by omega)
    obtain ⟨ft, ht, et⟩ := acceptStmts_shape p hp.2.1 hn.1 (by omega) v (ex.push (cp, plain (flat cnd).toArray)) st cur
      errs
    obtain ⟨fe, he, ee⟩ := acceptStmts_shape q hp.2.2 hn.2 (by omega) v (ex.push (cp, plain (flat cnd).toArray))
      (st ++ ft.toArray) cur errs
    refine ⟨[(c, ifFrag c (flat cnd) (ft.map (·.2)) (fe.map (·.2)))], ⟨ft.map (·.2), fe.map (·.2), rfl, ht, he⟩, ?_⟩
    simp only [AStmt.stmts, acceptStmts, acceptStmt]
    rw [hc, et, ee]
    have hne : fe.length ≠ 0 := by simpa using FragShape.ne_nil he
    rw [visitStatement_clean (if_gen_clean c cp cnd p.stmts q.stmts v ex st (flat cnd) ft fe
        (by simpa using FragShape.length ht) (by simpa using FragShape.length he))
      (fits_ifFrag _ _ (FragShape.data ht) (FragShape.data he)
        (by simp only [ifFrag_ops_size, List.length_map, hne, if_false, FragShape.opsTotal ht, FragShape.opsTotal he]
            omega))]
    simp
  | .while c cw cnd p, hp, hn, hsz, v, ex, st, cur, errs => by
    simp only [AStmt.erase, size] at hsz
    obtain ⟨col, hw⟩ := while_codegen_shape hp.1 c ⟨⟨v, ex, st, cur⟩, errs⟩ (by omega)
    obtain ⟨fb, hb, eb⟩ := acceptStmts_shape p hp.2 hn (by omega) v ex (st.push (col, whileFrag c (flat cnd))) cur errs
    refine ⟨(col, whileFrag c (flat cnd)) :: (fb ++ [(cw, wendFrag cw)]), ⟨fb.map (·.2), by simp, hb⟩, ?_⟩
    simp only [AStmt.stmts, acceptStmts, acceptStmts_append]
    rw [hw]
    dsimp only
    rw [eb, wend_codegen_shape]
    simp
  | .for c cv cn cnv i a b s p, hp, hn, hsz, v, ex, st, cur, errs => by
    simp only [AStmt.erase, size, forInitLen] at hsz
    obtain ⟨col, hf⟩ := for_codegen_shape hp.1 hp.2.1 hp.2.2.1 c cv i hn.1 ⟨⟨v, ex, st, cur⟩, errs⟩ (by omega)
    obtain ⟨fb, hb, eb⟩ := acceptStmts_shape p hp.2.2.2 hn.2 (by omega) v ex
      (st.push (col, forFrag col i.name (flat a) (flat b) (flat s))) cur errs
    refine ⟨(col, forFrag col i.name (flat a) (flat b) (flat s)) :: (fb ++ [(cn, plain #[Opcode.next i.name])]),
      ⟨col, fb.map (·.2), by simp, hb⟩, ?_⟩
    simp only [AStmt.stmts, acceptStmts, acceptStmts_append]
    rw [hf]
    dsimp only
    rw [eb, next_codegen_shape _ _ _ hn.1]
    simp

end Lemmas.StructCodegen

end Basic

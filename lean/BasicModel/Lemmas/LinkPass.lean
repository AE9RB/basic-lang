import BasicModel.Lemmas.Link
/-
  `Link::link` in closed form.  The loop of `link` reads two things that it never changes — the symbol
  table and (for its reports) the line of an address — and writes one: the code.  `pass syms ln` is
  that loop over the code alone; `link_eq_pass` says `link` is `pass` at the link's own table, every
  other field being what it was (or emptied).  What the other modules need of `link` is then a fact
  about a fold over an array.
-/
namespace Basic
namespace Link

/-- the reports of `linkWhiles`, their lines taken from `ln` -/
def whileErrs (ln : Nat → Option Nat) (l : Link) : List Error :=
  (Spec.bracketMatch l.whiles).2.1.map (fun e => mkErr Code.wendWithoutWhile (ln e.2.1) e.1) ++
  (Spec.bracketMatch l.whiles).2.2.map (fun w => mkErr Code.whileWithoutWend (ln w.2.1) w.1)

/-- one reference: the op at `p.1` takes the entry of `p.2.2` as its operand, or there is a report -/
def passStep (syms : List (Symbol × (Nat × Nat))) (ln : Nat → Option Nat)
    (acc : Array Opcode × List Error) (p : Nat × (Col × Symbol)) : Array Opcode × List Error :=
  match syms.lookup p.2.2 with
  | none => (acc.1, acc.2 ++ [linkOneErr (ln p.1) p.2.1 (decide (p.2.2 ≥ 0))])
  | some (o, d) =>
    match acc.1[p.1]?.bind (patched · o d) with
    | some op' => (acc.1.setIfInBounds p.1 op', acc.2)
    | none => (acc.1, acc.2 ++ [linkOneErr (ln p.1) p.2.1 false])

def pass (syms : List (Symbol × (Nat × Nat))) (ln : Nat → Option Nat) (ps : List (Nat × (Col × Symbol)))
    (acc : Array Opcode × List Error) : Array Opcode × List Error := ps.foldl (passStep syms ln) acc

theorem pass_cons (syms : List (Symbol × (Nat × Nat))) (ln : Nat → Option Nat) (p : Nat × (Col × Symbol))
    (ps : List (Nat × (Col × Symbol))) (acc : Array Opcode × List Error) :
    pass syms ln (p :: ps) acc = pass syms ln ps (passStep syms ln acc p) := rfl

/-- one iteration of the loop of `Link::link` -/
def linkStep (acc : Link × List Error) (p : Nat × (Col × Symbol)) : Link × List Error :=
  match linkOne acc.1 p.1 p.2.1 p.2.2 with
  | (l, some e) => (l, acc.2 ++ [e])
  | (l, none) => (l, acc.2)

/-- the body of `link` with its loop named -/
theorem link_eq (l : Link) :
    l.link =
      let r := l.linkWhiles.1.unlinked.foldl linkStep ({ l.linkWhiles.1 with unlinked := [] }, l.linkWhiles.2)
      ({ r.1 with symbols := r.1.symbols.filter (fun p => p.1 ≥ 0), currentSymbol := 0 }, r.2) := rfl

theorem linkStep_eq_passStep (l : Link) (es : List Error) (p : Nat × (Col × Symbol)) :
    linkStep (l, es) p =
      ({ l with ops := (passStep l.symbols l.lineNumberFor (l.ops, es) p).1 },
       (passStep l.symbols l.lineNumberFor (l.ops, es) p).2) := by
  unfold linkStep passStep
  rw [linkOne_eq]
  dsimp only
  cases l.symbols.lookup p.2.2 with
  | none => rfl
  | some od =>
    dsimp only
    cases l.ops[p.1]?.bind (patched · od.1 od.2) <;> rfl

theorem foldl_linkStep_eq_pass (ps : List (Nat × (Col × Symbol))) (l : Link) (es : List Error) :
    ps.foldl linkStep (l, es) =
      ({ l with ops := (pass l.symbols l.lineNumberFor ps (l.ops, es)).1 },
       (pass l.symbols l.lineNumberFor ps (l.ops, es)).2) := by
  induction ps generalizing l es with
  | nil => rfl
  | cons p ps ih => rw [List.foldl_cons, linkStep_eq_passStep, ih]; rfl

theorem link_eq_pass (l : Link) :
    l.link =
      ({ l with whiles := [], unlinked := [], currentSymbol := 0,
                symbols := l.symbols.filter (fun p => p.1 ≥ 0),
                ops := (pass l.symbols l.lineNumberFor (pend l) (l.ops, whileErrs l.lineNumberFor l)).1 },
       (pass l.symbols l.lineNumberFor (pend l) (l.ops, whileErrs l.lineNumberFor l)).2) := by
  rw [link_eq, linkWhiles_matches]
  dsimp only
  rw [foldl_linkStep_eq_pass]
  rfl

theorem pass_inv {P : Array Opcode → Prop} (syms : List (Symbol × (Nat × Nat))) (ln : Nat → Option Nat)
    (ps : List (Nat × (Col × Symbol)))
    (hset : ∀ ops, ∀ p ∈ ps, ∀ op o d op', ops[p.1]? = some op → patched op o d = some op' → P ops →
      P (ops.setIfInBounds p.1 op'))
    (acc : Array Opcode × List Error) (h : P acc.1) : P (pass syms ln ps acc).1 :=
  List.foldlRecOn (motive := fun acc : Array Opcode × List Error => P acc.1) ps (passStep syms ln) h
    fun acc h p hp => by
    unfold passStep
    split
    · exact h
    · split
      · rename_i o d _ _ op' hb
        obtain ⟨op, hop, hp'⟩ := Option.bind_eq_some_iff.1 hb
        exact hset _ p hp op o d op' hop hp' h
      · exact h

theorem pass_size (syms : List (Symbol × (Nat × Nat))) (ln : Nat → Option Nat) (ps : List (Nat × (Col × Symbol)))
    (acc : Array Opcode × List Error) : (pass syms ln ps acc).1.size = acc.1.size :=
  pass_inv (P := fun ops => ops.size = acc.1.size) syms ln ps
    (fun _ _ _ _ _ _ _ _ _ h => Array.size_setIfInBounds.trans h) acc rfl

theorem pass_errs_mono (syms : List (Symbol × (Nat × Nat))) (ln : Nat → Option Nat)
    (ps : List (Nat × (Col × Symbol))) (acc : Array Opcode × List Error) (e : Error)
    (h : e ∈ acc.2) : e ∈ (pass syms ln ps acc).2 :=
  List.foldlRecOn (motive := fun acc : Array Opcode × List Error => e ∈ acc.2) ps (passStep syms ln) h
    fun acc h p _ => by
    unfold passStep
    split
    · exact List.mem_append_left _ h
    · split
      · exact h
      · exact List.mem_append_left _ h

theorem pass_errs_nil (syms : List (Symbol × (Nat × Nat))) (ln : Nat → Option Nat)
    (ps : List (Nat × (Col × Symbol))) (acc : Array Opcode × List Error) (h : (pass syms ln ps acc).2 = []) :
    acc.2 = [] :=
  List.eq_nil_iff_forall_not_mem.2 fun e he => by
    have := pass_errs_mono syms ln ps acc e he
    rw [h] at this
    cases this

theorem pass_errs_forall {Q : Error → Prop} (hQ : ∀ ln c b, Q (linkOneErr ln c b))
    (syms : List (Symbol × (Nat × Nat))) (ln : Nat → Option Nat)
    (ps : List (Nat × (Col × Symbol))) (acc : Array Opcode × List Error)
    (h : ∀ e ∈ acc.2, Q e) : ∀ e ∈ (pass syms ln ps acc).2, Q e :=
  List.foldlRecOn (motive := fun acc : Array Opcode × List Error => ∀ e ∈ acc.2, Q e) ps (passStep syms ln) h
    fun acc h q _ e he => by
    have hadd : ∀ x, e ∈ acc.2 ++ [linkOneErr (ln q.1) q.2.1 x] → Q e := fun x he =>
      (List.mem_append.1 he).elim (h e) fun h1 => List.mem_singleton.1 h1 ▸ hQ _ _ _
    unfold passStep at he
    split at he
    · exact hadd _ he
    · split at he
      · exact h e he
      · exact hadd _ he
theorem pass_getElem?_of_no_ref (syms : List (Symbol × (Nat × Nat))) (ln : Nat → Option Nat)
    (ps : List (Nat × (Col × Symbol))) (acc : Array Opcode × List Error) (a : Nat) (ha : ∀ p ∈ ps, p.1 ≠ a) :
    (pass syms ln ps acc).1[a]? = acc.1[a]? :=
  pass_inv (P := fun ops => ops[a]? = acc.1[a]?) syms ln ps
    (fun ops p hp _ _ _ _ _ _ h => by rw [Array.getElem?_setIfInBounds_ne (ha p hp)]; exact h) acc rfl

theorem pass_reports (syms : List (Symbol × (Nat × Nat))) (ln : Nat → Option Nat)
    (ps : List (Nat × (Col × Symbol))) (acc : Array Opcode × List Error)
    {a : Nat} {c : Col} {s : Symbol} (hm : (a, (c, s)) ∈ ps) (hs : syms.lookup s = none) (h0 : 0 ≤ s) :
    mkErr Code.undefinedLine (ln a) c ∈ (pass syms ln ps acc).2 := by
  induction ps generalizing acc with
  | nil => cases hm
  | cons q ps ih =>
    rw [pass_cons]
    rcases List.mem_cons.1 hm with e | hm'
    · subst e
      refine pass_errs_mono _ _ _ _ _ ?_
      unfold passStep
      dsimp only
      rw [hs]
      refine List.mem_append_right _ (List.mem_singleton.2 ?_)
      unfold linkOneErr
      rw [if_pos (decide_eq_true h0)]
    · exact ih _ hm'

/-- the pass looks at the table only under the symbols referred to, and at `ln` only when it reports -/
theorem pass_congr {syms syms' : List (Symbol × (Nat × Nat))} {ln ln' : Nat → Option Nat}
    (ps : List (Nat × (Col × Symbol))) (hs : ∀ p ∈ ps, syms'.lookup p.2.2 = syms.lookup p.2.2)
    (acc acc' : Array Opcode × List Error) (h1 : acc'.1 = acc.1)
    (hl : (ln' = ln ∧ acc'.2 = acc.2) ∨ ((pass syms ln ps acc).2 = [] ∧ acc'.2 = [])) :
    pass syms' ln' ps acc' = pass syms ln ps acc := by
  induction ps generalizing acc acc' with
  | nil =>
    rcases hl with ⟨-, h2⟩ | ⟨h, h2⟩
    · exact Prod.ext h1 h2
    · exact Prod.ext h1 (h2.trans h.symm)
  | cons p ps ih =>
    rw [pass_cons, pass_cons]
    have hs' := fun q hq => hs q (List.mem_cons_of_mem _ hq)
    rw [pass_cons] at hl
    refine ih hs' _ _ ?_ ?_
    · unfold passStep
      rw [hs p List.mem_cons_self, h1]
      split
      · rfl
      · split <;> rfl
    · rcases hl with ⟨e, h2⟩ | ⟨h, h2⟩
      · left
        refine ⟨e, ?_⟩
        unfold passStep
        rw [hs p List.mem_cons_self, h1, e, h2]
      · right
        refine ⟨h, ?_⟩
        have h3 := pass_errs_nil _ _ _ _ h
        unfold passStep at h3 ⊢
        rw [hs p List.mem_cons_self, h1]
        split at h3
        · exact absurd h3 (by simp)
        · split at h3
          · exact h2
          · exact absurd h3 (by simp)

private theorem setIfInBounds_push {α : Type} (xs : Array α) (e x : α) (a : Nat) (h : a ≠ xs.size) :
    (xs.push e).setIfInBounds a x = (xs.setIfInBounds a x).push e := by
  apply Array.ext_getElem?
  intro i
  simp only [Array.getElem?_setIfInBounds, Array.getElem?_push, Array.size_push, Array.size_setIfInBounds]
  grind

theorem pass_push (syms : List (Symbol × (Nat × Nat))) (ln : Nat → Option Nat) (e : Opcode)
    (he : ∀ o d, patched e o d = none) (ps : List (Nat × (Col × Symbol))) (acc : Array Opcode × List Error) :
    pass syms ln ps (acc.1.push e, acc.2) = ((pass syms ln ps acc).1.push e, (pass syms ln ps acc).2) := by
  induction ps generalizing acc with
  | nil => rfl
  | cons p ps ih =>
    rw [pass_cons, pass_cons, ← ih]
    congr 1
    unfold passStep
    dsimp only
    split
    · rfl
    · rename_i o d _
      have hb : (acc.1.push e)[p.1]?.bind (patched · o d) = acc.1[p.1]?.bind (patched · o d) := by
        rw [Array.getElem?_push]
        split
        · rename_i h
          rw [h, Array.getElem?_eq_none (Nat.le_refl _)]
          exact he o d
        · rfl
      rw [hb]
      split
      · rename_i op' hop
        obtain ⟨op, hop, -⟩ := Option.bind_eq_some_iff.1 hop
        exact Prod.ext (setIfInBounds_push _ _ _ _ (Nat.ne_of_lt (Array.getElem?_eq_some_iff.1 hop).1)) rfl
      · rfl

theorem passStep_getElem?_ne (syms : List (Symbol × (Nat × Nat))) (ln : Nat → Option Nat)
    (acc : Array Opcode × List Error) (q : Nat × (Col × Symbol)) {a : Nat} (h : q.1 ≠ a) :
    (passStep syms ln acc q).1[a]? = acc.1[a]? :=
  pass_getElem?_of_no_ref syms ln [q] acc a fun p hp e => by rw [List.mem_singleton.1 hp] at e; exact h e

/-- what one reference does to its own op -/
def resolved (syms : List (Symbol × (Nat × Nat))) (s : Symbol) (op : Opcode) : Opcode :=
  ((syms.lookup s).bind fun od => patched op od.1 od.2).getD op

theorem resolved_eq {syms : List (Symbol × (Nat × Nat))} {s : Symbol} {op op' : Opcode} {o d : Nat}
    (hs : syms.lookup s = some (o, d)) (hp : patched op o d = some op') : resolved syms s op = op' := by
  unfold resolved
  rw [hs, Option.bind_some, hp, Option.getD_some]

theorem passStep_getElem?_self (syms : List (Symbol × (Nat × Nat))) (ln : Nat → Option Nat)
    (acc : Array Opcode × List Error) (q : Nat × (Col × Symbol)) :
    (passStep syms ln acc q).1[q.1]? = acc.1[q.1]?.map (resolved syms q.2.2) := by
  unfold passStep resolved
  cases syms.lookup q.2.2 with
  | none => exact Option.map_id'.symm
  | some od =>
    dsimp only
    cases hop : acc.1[q.1]? with
    | none => exact hop
    | some op =>
      dsimp only [Option.bind_some, Option.map_some]
      cases patched op od.1 od.2 with
      | none => exact hop
      | some op' =>
        exact Array.getElem?_setIfInBounds_self_of_lt (Array.getElem?_eq_some_iff.1 hop).1

theorem pass_getElem? (syms : List (Symbol × (Nat × Nat))) (ln : Nat → Option Nat)
    (ps : List (Nat × (Col × Symbol))) (hd : KeysDistinct ps) (acc : Array Opcode × List Error) (a : Nat) :
    (pass syms ln ps acc).1[a]? =
      match ps.lookup a with
      | none => acc.1[a]?
      | some cs => acc.1[a]?.map (resolved syms cs.2) := by
  induction ps generalizing acc with
  | nil => rfl
  | cons q ps ih =>
    obtain ⟨hq, hd'⟩ := List.pairwise_cons.1 hd
    rw [pass_cons, ih hd', List.lookup_cons_eq]
    by_cases e : a = q.1
    · subst e
      have hn : ps.lookup q.1 = none := List.lookup_eq_none_iff.2 fun p hp => by
        simpa using fun e' : q.1 = p.1 => hq p hp e'
      rw [hn, if_pos rfl]
      exact passStep_getElem?_self syms ln acc q
    · rw [if_neg e, passStep_getElem?_ne syms ln acc q (fun e' => e e'.symm)]

theorem link_symbols (l : Link) : l.link.1.symbols = l.symbols.filter (fun p => p.1 ≥ 0) := by rw [link_eq_pass]
theorem link_whiles (l : Link) : l.link.1.whiles = [] := by rw [link_eq_pass]
theorem link_unlinked (l : Link) : l.link.1.unlinked = [] := by rw [link_eq_pass]
theorem link_data (l : Link) : l.link.1.data = l.data ∧ l.link.1.dataPos = l.dataPos := by
  rw [link_eq_pass]; exact ⟨rfl, rfl⟩
theorem link_directSet (l : Link) : l.link.1.directSet = l.directSet := by rw [link_eq_pass]

theorem link_cleans (l : Link) :
    (∀ p ∈ l.link.1.symbols, 0 ≤ p.1) ∧ l.link.1.currentSymbol = 0 ∧ l.link.1.ops.size = l.ops.size := by
  rw [link_eq_pass]
  exact ⟨fun p hp => by simpa using (List.mem_filter.1 hp).2, rfl, pass_size ..⟩

/-- what `link` leaves: nothing pending, line symbols only.  (`Program.Linked`, `Lemmas/ContLine.lean`, is the
    notion for a program: nothing pending, and the direct segment started within the code.) -/
structure Linked (l : Link) : Prop where
  unlinked : l.unlinked = []
  whiles : l.whiles = []
  cur : l.currentSymbol = 0
  symbols : ∀ p ∈ l.symbols, 0 ≤ p.1

theorem link_linked (l : Link) : Linked l.link.1 ∧ l.link.1.ops.size = l.ops.size :=
  ⟨⟨link_unlinked l, link_whiles l, (link_cleans l).2.1, (link_cleans l).1⟩, (link_cleans l).2.2⟩

theorem link_ops_inv {P : Array Opcode → Prop} (l : Link)
    (hset : ∀ ops i op o d op', ops[i]? = some op → patched op o d = some op' → P ops → P (ops.setIfInBounds i op'))
    (h : P l.ops) : P l.link.1.ops := by
  rw [link_eq_pass]
  exact pass_inv _ _ _ (fun ops p _ => hset ops p.1) _ h

-- needs no `KeysDistinct`, unlike `link_getElem?`, of which it is the `none` case
theorem link_ops_none (f : Link) (x : Nat) (h : (pend f).lookup x = none) : f.link.1.ops[x]? = f.ops[x]? := by
  rw [link_eq_pass]
  exact pass_getElem?_of_no_ref _ _ _ _ x fun p hp e => by
    have := List.lookup_eq_none_iff.1 h p hp
    simp [e] at this

theorem link_getElem? (l : Link) (hd : KeysDistinct l.unlinked) (a : Nat) :
    l.link.1.ops[a]? =
      match (pend l).lookup a with
      | none => l.ops[a]?
      | some cs => l.ops[a]?.map (resolved l.symbols cs.2) := by
  rw [link_eq_pass]
  exact pass_getElem? _ _ _ (pend_distinct hd) _ a

theorem link_ops_some {f : Link} (hkd : KeysDistinct f.unlinked) {x : Nat} {c : Col} {s : Symbol} {o d : Nat}
    {op op' : Opcode} (h : (pend f).lookup x = some (c, s)) (hsym : f.symbols.lookup s = some (o, d))
    (hop : f.ops[x]? = some op) (hp : patched op o d = some op') : f.link.1.ops[x]? = some op' := by
  rw [link_getElem? f hkd, h, hop]
  exact congrArg some (resolved_eq hsym hp)

/-- after `link`, every pending reference (including the ones WHILE/WEND pairing
    adds) to a defined symbol carries that symbol's address, whatever its own position -/
theorem link_resolves (l : Link) (hd : KeysDistinct l.unlinked) (a : Nat) (c : Col) (sym : Symbol)
    (hmem : (a, (c, sym)) ∈ l.linkWhiles.1.unlinked)
    {o d : Nat} {op op' : Opcode} (hsym : l.symbols.lookup sym = some (o, d))
    (hop : l.ops[a]? = some op) (hp : patched op o d = some op') :
    l.link.1.ops[a]? = some op' :=
  link_ops_some hd
    (List.lookup_of_mem_of_keysPairwise (fun _ h => h rfl) (pend_distinct hd) (pend_eq_linkWhiles l ▸ hmem)) hsym hop hp

theorem link_reports_undefined (l : Link) (a : Nat) (c : Col) (sym : Symbol) (hmem : (a, (c, sym)) ∈ pend l)
    (hsym : l.symbols.lookup sym = none) (h0 : 0 ≤ sym) :
    mkErr Code.undefinedLine (l.lineNumberFor a) c ∈ l.link.2 := by
  rw [link_eq_pass]
  exact pass_reports _ _ _ _ hmem hsym h0

end Link
end Basic

import BasicModel.Lemmas.Enter
import BasicModel.Lemmas.Program
import BasicModel.Lemmas.ParseLines
/-
  The tokens of the direct line `CONT`, its parse (by the simp set `parse_eval`) and its code (by
  evaluation of the code generator model).
-/
namespace Basic

def contLine : Line := ⟨none, [.word .cont]⟩

/-- the environment's lexer reads `CONT` as the statement word -/
def LexCont (env : Env) : Prop := env.lex "CONT".toList = contLine

theorem parse_contLine : Parse.parse none [.word .cont] = .ok [.cont (0, 4)] := by
  simp [parse_eval, Token.text, show Word.cont.text = "CONT".toList from rfl]

theorem acceptStmts_cont :
    (Codegen.acceptStmts [.cont (0, 4)] {}).g.stmt.toList = [((0, 4), ({ ops := #[.cont] } : Link))] ∧
    (Codegen.acceptStmts [.cont (0, 4)] {}).errors = [] := ⟨rfl, rfl⟩

end Basic

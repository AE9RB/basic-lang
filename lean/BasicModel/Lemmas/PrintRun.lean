import BasicModel.Spec.PrintStmt
import BasicModel.Lemmas.ExprCompile
import BasicModel.Lemmas.ExecSteps
import BasicModel.Lemmas.C11
import BasicModel.Lemmas.PrintList
/-
  The PRINT statement end to end (C11): the specification `Spec.printSpec` (Spec/PrintStmt.lean) against the node the
  parser builds (`printAst`: `,` is `TAB(Gen.printZone)`, the newline item is appended unless the list ends in `;` or
  `,`), the code the generator emits for it (`stmtCode`) and the run of that code.  A `print` event ends a slice of the
  real machine; `runCollect` iterates `Runtime.step` through such events and collects their texts, and `RunsTo` is the
  contract of a piece of PRINT code against a `PrintResult` (composed by `RunsTo.seq`).  `print_run`: `stmtCode` from any
  state emits the chunks of `printSpec`, leaves `printCol` at its column, stack and variables as they were — or stops in
  the first failing item's error with the chunks written so far.  TAB, SPC and POS read the column at the state their
  argument's code reaches (`item_computes`).  What one item's code does, step by step, is `item_steps`; the contract
  over `runCollect` (`item_run`) and the one over `execute` slices (`printItems_slices`) both read it.
-/
namespace Basic
namespace Lemmas.PrintRun
open Basic.Spec Basic.Lemmas.ExprCompile

theorem itemText_eq_printText (v : Val) : itemText v = Lemmas.C11.printText v := by
  cases v <;> rfl

theorem printItems_cons_none {vars : Var} {col : Nat} {it : PrItem} (rest : List PrItem)
    (h : itemVal vars col it = none) : printItems vars col (it :: rest) = printItems vars col rest := by
  simp only [printItems, h]

theorem printItems_cons_error {vars : Var} {col : Nat} {it : PrItem} {e : Error} (rest : List PrItem)
    (h : itemVal vars col it = some (.error e)) : printItems vars col (it :: rest) = ⟨[], col, some e⟩ := by
  simp only [printItems, h]

theorem printItems_cons_ok {vars : Var} {col : Nat} {it : PrItem} {v : Val} (rest : List PrItem)
    (h : itemVal vars col it = some (.ok v)) :
    printItems vars col (it :: rest) =
      { chunks := itemText v :: (printItems vars (columnAfter col (itemText v)) rest).chunks,
        col := (printItems vars (columnAfter col (itemText v)) rest).col,
        err := (printItems vars (columnAfter col (itemText v)) rest).err } := by
  simp only [printItems, h]

theorem printItems_append (vars : Var) (a b : List PrItem) (col : Nat) :
    printItems vars col (a ++ b) =
      if (printItems vars col a).err.isSome then printItems vars col a
      else
        { chunks := (printItems vars col a).chunks ++ (printItems vars (printItems vars col a).col b).chunks,
          col := (printItems vars (printItems vars col a).col b).col,
          err := (printItems vars (printItems vars col a).col b).err } := by
  induction a generalizing col with
  | nil => simp [printItems]
  | cons it rest ih =>
    rw [List.cons_append]
    cases hv : itemVal vars col it with
    | none => rw [printItems_cons_none _ hv, printItems_cons_none _ hv]; exact ih col
    | some r =>
      cases r with
      | error e => rw [printItems_cons_error _ hv, printItems_cons_error _ hv]; rfl
      | ok v =>
        rw [printItems_cons_ok _ hv, printItems_cons_ok _ hv, ih]
        split <;> simp_all

/-- the item a `,` desugars to (`Parse.printList`): `TAB(Gen.printZone)` -/
def zoneExpr (c : Col) : Expr :=
  Expr.var (.array c (.string "TAB".toList) [Expr.integer c Gen.printZone])

def tabCall (c : Col) (e : Expr) : Expr := .var (.array c (.plain "TAB".toList) [e])
def spcCall (c : Col) (e : Expr) : Expr := .var (.array c (.plain "SPC".toList) [e])
def posCall (c : Col) (e : Expr) : Expr := .var (.array c (.plain "POS".toList) [e])

/-- what an item becomes in the parsed list, with the code of that expression: nothing for `;`, one
    expression otherwise -/
def itemArg : PrItem → List (Expr × List Opcode)
  | .expr e => [(e, flat e)]
  | .semi => []
  | .comma c => [(zoneExpr c, [.literal (.int Gen.printZone), .tab])]
  | .tab c e => [(tabCall c e, flat e ++ [.tab])]
  | .spc c e => [(spcCall c e, flat e ++ [.spc])]
  | .pos c e => [(posCall c e, flat e ++ [.literal (.int 1), .pos])]

/-- the newline item the parser appends (recorded at column range `cn`) -/
def newlineItem (cn : Col) : PrItem := .expr (.string cn ['\n'])

/-- the list with the implicit newline made explicit -/
def fullItems (cn : Col) (items : List PrItem) : List PrItem :=
  if endsOpen items then items else items ++ [newlineItem cn]

/-- the expressions of the parsed list -/
def astExprs (items : List PrItem) : List Expr := (items.flatMap itemArg).map (·.1)

/-- **the statement node** of `PRINT items` -/
def printAst (c cn : Col) (items : List PrItem) : Stmt := .print c (astExprs (fullItems cn items))

/-- the code of one item: its expression's code, then `print` -/
def itemCode (it : PrItem) : List Opcode := (itemArg it).flatMap fun p => p.2 ++ [Opcode.print]

def printCode (items : List PrItem) : List Opcode := items.flatMap itemCode

/-- **the code** of `PRINT items` -/
def stmtCode (items : List PrItem) : List Opcode :=
  printCode items ++ if endsOpen items then [] else [.literal (.str ['\n']), .print]

theorem printCode_append (a b : List PrItem) : printCode (a ++ b) = printCode a ++ printCode b := by
  simp [printCode]

theorem printCode_cons (it : PrItem) (rest : List PrItem) : printCode (it :: rest) = itemCode it ++ printCode rest := by
  simp [printCode]

theorem stmtCode_eq (cn : Col) (items : List PrItem) : printCode (fullItems cn items) = stmtCode items := by
  unfold fullItems stmtCode
  split
  · simp
  · rw [printCode_append]; rfl

theorem printCode_eq_flatMap (items : List PrItem) :
    printCode items = (items.flatMap itemArg).flatMap fun p => p.2 ++ [Opcode.print] := by
  simp only [printCode, List.flatMap_assoc]
  rfl

theorem printItems_newline (vars : Var) (col : Nat) (cn : Col) :
    printItems vars col [newlineItem cn] = ⟨[['\n']], 0, none⟩ := rfl

theorem printSpec_eq_full (vars : Var) (col : Nat) (cn : Col) (items : List PrItem) :
    printSpec vars col items = printItems vars col (fullItems cn items) := by
  unfold printSpec fullItems
  cases ho : endsOpen items with
  | true => simp
  | false =>
    simp only [Bool.or_false, Bool.false_eq_true, if_false]
    rw [printItems_append, printItems_newline]

theorem fullItems_ok (cn : Col) {items : List PrItem} (hok : ∀ it ∈ items, it.Ok) :
    ∀ it ∈ fullItems cn items, it.Ok := by
  intro it hit
  unfold fullItems at hit
  split at hit
  · exact hok it hit
  · rcases List.mem_append.1 hit with h | h
    · exact hok it h
    · rw [List.mem_singleton.1 h]
      exact Pure.string cn ['\n']

theorem itemCode_of_arg {it : PrItem} {x : Expr} {code : List Opcode} (h : itemArg it = [(x, code)]) :
    itemCode it = code ++ [.print] := by
  simp [itemCode, h]

theorem itemCode_semi : itemCode .semi = [] := rfl

theorem tab_printZone (col : Nat) : Func.tab col (.int Gen.printZone) = .ok (.str (zoneBlanks col)) := by
  have hz : Gen.printZone.toInt = -14 := by decide
  rw [Lemmas.C11.tab_int, hz]
  simp [zoneBlanks, zoneWidth]

section codegen
open Basic.Codegen Basic.Link

/-- a built-in of arity exactly one (TAB is the case that `Spec.Pure` leaves out) -/
theorem compiles_call1 (c : Col) (i : TIdent) {e : Expr} (oc : Opcode)
    (ho : Gen.opcodeAndArity i.name = some (oc, 1, 1)) (hp : Pure e) :
    Compiles (.var (.array c i [e])) (flat e ++ [oc]) :=
  (compiles_flat hp).call c i (varCode_call1 c i.name _ oc ho)

/-- a built-in that takes no or one argument (POS): the count, then its opcode -/
theorem compiles_call01 (c : Col) (i : TIdent) {e : Expr} (oc : Opcode)
    (ho : Gen.opcodeAndArity i.name = some (oc, 0, 1)) (hp : Pure e) :
    Compiles (.var (.array c i [e])) (flat e ++ [.literal (.int 1), oc]) :=
  (compiles_flat hp).call c i (by simp [varCode, ho, Val.ofUsize, Except.map])

theorem itemArg_compiles {it : PrItem} (hok : it.Ok) : ∀ p ∈ itemArg it, Compiles p.1 p.2 := by
  cases it with
  | semi => nofun
  | expr e => exact List.forall_mem_singleton.2 (compiles_flat hok)
  | comma c => exact List.forall_mem_singleton.2 (compiles_call1 c _ .tab rfl (.integer c Gen.printZone))
  | tab c e => exact List.forall_mem_singleton.2 (compiles_call1 c _ .tab rfl hok)
  | spc c e => exact List.forall_mem_singleton.2 (compiles_call1 c _ .spc rfl hok)
  | pos c e => exact List.forall_mem_singleton.2 (compiles_call01 c _ .pos rfl hok)

theorem items_compile {items : List PrItem} (hok : ∀ it ∈ items, it.Ok) :
    ∀ p ∈ items.flatMap itemArg, Compiles p.1 p.2 := by
  intro p hp
  obtain ⟨it, hit, hp⟩ := List.mem_flatMap.1 hp
  exact itemArg_compiles (hok it hit) p hp

theorem print_exprs_codegen_shape (ps : List (Expr × List Opcode)) (hps : ∀ p ∈ ps, Compiles p.1 p.2)
    (c : Col) (s : VState)
    (hlen : (ps.flatMap fun p => p.2 ++ [Opcode.print]).length ≤ Gen.stackMaxLen) :
    acceptStmt (.print c (ps.map (·.1))) s =
      { s with g := { s.g with
          stmt := s.g.stmt.push (c, plain (ps.flatMap fun p => p.2 ++ [Opcode.print]).toArray) } } := by
  obtain ⟨⟨v, ex, st, cur⟩, errs⟩ := s
  have hle : (ps.flatMap (·.2)).length ≤ (ps.flatMap fun p => p.2 ++ [Opcode.print]).length := by
    clear hps hlen
    induction ps with
    | nil => simp
    | cons p ps ih => simp only [List.flatMap_cons, List.length_append, List.length_singleton]; omega
  obtain ⟨cs, rfl, h1⟩ := acceptExprs_compiles ps hps v ex st cur errs (by omega)
  simp only [acceptStmt]
  rw [h1, List.flatMap_map] at *
  have hg : Clean (genStatement (.print c ((cs.map (·.2)).map (·.1))))
      ⟨v, ex ++ (cs.map fun c => (c.1, plain c.2.2.toArray)).toArray, st, {}⟩ c
      ⟨v, ex, st, plain (cs.flatMap fun c => c.2.2 ++ [Opcode.print]).toArray⟩ := by
    simp only [genStatement]
    rw [show ((cs.map (·.2)).map (·.1)).length = (cs.map fun c => (c.1, plain c.2.2.toArray)).length by simp]
    refine Clean.bind (.popNExpr ..) ?_
    rw [List.forIn_map]
    refine (Clean.bind (Clean.forIn_emit (fun c => c.2.2 ++ [Opcode.print]) _ v ex st cs (fun b _ cur => ?_) _)
      (.pure c _)).congr (by simp [pushOps, plain])
    exact (Clean.bind (.lappend v ex st cur (plain b.2.2.toArray)) <| .bind (.lpush ..)
      (.pure (ForInStep.yield PUnit.unit) _)).congr (by rw [appended_plain]; simp [pushOps, Link.push])
  rw [visitStatement_clean hg (fits_plain (by simpa using hlen))]

end codegen

section vm
open Basic.Runtime Basic.Lemmas.ExecSteps

theorem run_step_print (env : Env) (hie : Bool) (s : Runtime) (st : Array Val) (item : Val)
    (htr : s.tron = false) (hop : s.program.link.ops[s.pc]? = some .print) (hst : s.stack = st.push item) :
    ((step env hie).run).run s =
      (.ok (.event (.print (itemText item))),
       { s with pc := s.pc + 1, stack := st, printCol := columnAfter s.printCol (itemText item) }) := by
  rw [run_step env hie s _ htr hop]
  unfold execOp
  simp only [run_bind]
  rw [Lemmas.C11.doPrint_run _ item (by simp only [hst, Array.back?_push])]
  simp only [run_pure, hst, Array.pop_push, itemText_eq_printText]

/-- how a collecting run ended -/
inductive Outcome where
  /-- the steps asked for were made; each answered `continue` or a `print` event -/
  | done
  /-- a step failed -/
  | error (e : Error)
  /-- a step answered an event other than `print` -/
  | event (ev : Event)

/-- iterate `Runtime.step` (the body of `executeLoop`) `n` times from `s`; a `print` event — which
    in the real machine ends the slice and hands the text to the caller, who calls `execute`
    again — is recorded in the accumulator and the run goes on; an error or any other event stops
    it.  Result: how it ended, the state, the texts printed so far in order. -/
def runCollect (env : Env) (hie : Bool) : Nat → Runtime → List Str → Outcome × Runtime × List Str
  | 0, s, acc => (.done, s, acc)
  | n+1, s, acc =>
    match ((step env hie).run).run s with
    | (.ok .continue, s') => runCollect env hie n s' acc
    | (.ok (.event (.print t)), s') => runCollect env hie n s' (acc ++ [t])
    | (.ok (.event ev), s') => (.event ev, s', acc)
    | (.error e, s') => (.error e, s', acc)

theorem runCollect_succ_continue {env : Env} {hie : Bool} {s s' : Runtime}
    (h : ((step env hie).run).run s = (.ok .continue, s')) (n : Nat) (acc : List Str) :
    runCollect env hie (n + 1) s acc = runCollect env hie n s' acc := by
  simp only [runCollect, h]

theorem runCollect_succ_print {env : Env} {hie : Bool} {s s' : Runtime} {t : Str}
    (h : ((step env hie).run).run s = (.ok (.event (.print t)), s')) (n : Nat) (acc : List Str) :
    runCollect env hie (n + 1) s acc = runCollect env hie n s' (acc ++ [t]) := by
  simp only [runCollect, h]

theorem runCollect_succ_error {env : Env} {hie : Bool} {s s' : Runtime} {e : Error}
    (h : ((step env hie).run).run s = (.error e, s')) (n : Nat) (acc : List Str) :
    runCollect env hie (n + 1) s acc = (.error e, s', acc) := by
  simp only [runCollect, h]

/-- what `runSteps` passes over silently, `runCollect` passes over; an error it meets is the outcome
    of `runCollect` whatever fuel is left -/
theorem runCollect_of_runSteps (env : Env) (hie : Bool) :
    ∀ (k : Nat) (s : Runtime) (r : Except Error Step) (s' : Runtime), runSteps env hie k s = (r, s') →
      match r with
      | .ok .continue => ∀ (m : Nat) (acc : List Str), runCollect env hie (k + m) s acc = runCollect env hie m s' acc
      | .error e => ∀ (n : Nat), k ≤ n → ∀ (acc : List Str), runCollect env hie n s acc = (.error e, s', acc)
      | .ok (.event _) => True
  | 0, s, r, s', h => by
    obtain ⟨rfl, rfl⟩ := Prod.mk.inj h
    intro m acc
    rw [Nat.zero_add]
  | k+1, s, r, s', h => by
    have h' : andThen (((step env hie).run).run s) (runSteps env hie k) = (r, s') := h
    rcases hs : ((step env hie).run).run s with ⟨r1, s1⟩
    rw [hs] at h'
    cases r1 with
    | error e1 =>
      obtain ⟨rfl, rfl⟩ := Prod.mk.inj h'
      intro n hn acc
      obtain ⟨n, rfl⟩ : ∃ n', n = n' + 1 := ⟨n - 1, by omega⟩
      exact runCollect_succ_error hs n acc
    | ok st =>
      cases st with
      | event ev =>
        obtain ⟨rfl, rfl⟩ := Prod.mk.inj h'
        trivial
      | «continue» =>
        have ih := runCollect_of_runSteps env hie k s1 r s' h'
        cases r with
        | error e =>
          intro n hn acc
          obtain ⟨n, rfl⟩ : ∃ n', n = n' + 1 := ⟨n - 1, by omega⟩
          rw [runCollect_succ_continue hs]
          exact ih n (by omega) acc
        | ok st' =>
          cases st' with
          | event ev => trivial
          | «continue» =>
            intro m acc
            rw [show k + 1 + m = (k + m) + 1 by omega, runCollect_succ_continue hs]
            exact ih m acc

theorem runCollect_add (env : Env) (hie : Bool) (a b : Nat) (s : Runtime) (acc : List Str) :
    runCollect env hie (a + b) s acc =
      match runCollect env hie a s acc with
      | (.done, s', acc') => runCollect env hie b s' acc'
      | r => r := by
  induction a generalizing s acc with
  | zero => rw [Nat.zero_add]; rfl
  | succ a ih =>
    rw [show a + 1 + b = (a + b) + 1 by omega]
    rcases hs : ((step env hie).run).run s with ⟨r, s1⟩
    cases r with
    | error e => rw [runCollect_succ_error hs, runCollect_succ_error hs]
    | ok st =>
      cases st with
      | «continue» => rw [runCollect_succ_continue hs, runCollect_succ_continue hs]; exact ih s1 acc
      | event ev =>
        cases ev with
        | print t => rw [runCollect_succ_print hs, runCollect_succ_print hs]; exact ih s1 _
        | _ => simp only [runCollect, hs]

/-- the code in front of an item's `print` computes the item's value — from the variables and from
    the column tracked when the item is reached (TAB, SPC and POS are last instructions like any
    other, read at the state the argument's code reaches); `;` has neither value nor code -/
theorem item_computes (env : Env) (hie : Bool) {it : PrItem} (hok : it.Ok) (s : Runtime)
    (hcode : CodeAt s.program.link.ops s.pc (itemCode it)) (htr : s.tron = false)
    (hroom : s.stack.size + (itemCode it).length ≤ Gen.stackMaxLen) :
    match itemVal s.vars s.printCol it with
    | none => itemCode it = []
    | some r => ∃ code, itemCode it = code ++ [.print] ∧ Computes env hie code s r := by
  have hab : Above (fun _ => True) s s.stack [] := ⟨by simp, nofun⟩
  have hflat : ∀ {e : Expr} {rest : List Opcode}, Pure e → CodeAt s.program.link.ops s.pc (flat e ++ rest) →
      s.stack.size + (flat e).length ≤ Gen.stackMaxLen →
      ComputesOn (fun _ => True) env hie (flat e) s s.stack (eval s.vars e) :=
    fun hp hc hr => flat_computesOn _ env hie hp s s.stack [] hab (fun _ _ _ => trivial) hc.left htr hr
  cases it with
  | semi => rfl
  | expr e =>
    have hc : itemCode (.expr e) = flat e ++ [.print] := itemCode_of_arg rfl
    rw [hc, List.length_append] at hroom
    rw [hc] at hcode
    exact ⟨_, hc, (hflat hok hcode (by omega)).computes⟩
  | comma c =>
    have hc : itemCode (.comma c) = ([.literal (.int Gen.printZone)] ++ [.tab]) ++ [.print] := rfl
    rw [hc] at hcode hroom
    simp only [List.length_append, List.length_singleton] at hroom
    refine ⟨_, hc, ?_⟩
    have h := (ComputesOn.unary .tab (Func.tab s.printCol)
      (computesOn_literal _ env hie s s.stack _ hcode.left.left htr (by omega)) hab
      fun a _ => run_step_tab env hie _ s.stack a htr hcode.left.right.head rfl (by omega)).computes
    rwa [show (Except.ok (Val.int Gen.printZone) >>= Func.tab s.printCol) = _ from tab_printZone s.printCol] at h
  | tab c e =>
    have hc : itemCode (.tab c e) = (flat e ++ [.tab]) ++ [.print] := itemCode_of_arg rfl
    rw [hc] at hcode hroom
    simp only [List.length_append, List.length_singleton] at hroom
    exact ⟨_, hc, (ComputesOn.unary .tab (Func.tab s.printCol) (hflat hok hcode.left (by omega)) hab
      fun a _ => run_step_tab env hie _ s.stack a htr hcode.left.right.head rfl (by omega)).computes⟩
  | spc c e =>
    have hc : itemCode (.spc c e) = (flat e ++ [.spc]) ++ [.print] := itemCode_of_arg rfl
    rw [hc] at hcode hroom
    simp only [List.length_append, List.length_singleton] at hroom
    exact ⟨_, hc, (ComputesOn.unary .spc Func.spc (hflat hok hcode.left (by omega)) hab
      fun a _ => VmDispatch.step_unary_stack env hie _ .spc Func.spc s.stack a htr hcode.left.right.head rfl rfl
        (by omega)).computes⟩
  | pos c e =>
    have hc : itemCode (.pos c e) = (flat e ++ [.literal (.int 1)] ++ [.pos]) ++ [.print] := by
      rw [itemCode_of_arg rfl]; simp
    rw [hc] at hcode hroom
    simp only [List.length_append, List.length_singleton] at hroom
    refine ⟨_, hc, ?_⟩
    have h := (ComputesOn.binary .pos (fun _ _ => Func.pos s.printCol) (rb := .ok (.int 1))
      (hflat hok hcode.left.left (by omega)) hab
      (fun a _ => computesOn_literal _ env hie _ s.stack _ hcode.left.left.right htr
        (by simp only [Array.size_push]; omega))
      fun a b _ hb => by
        cases hb
        exact run_step_pos env hie _ s.stack a htr
          (by have := hcode.left.right.head; rwa [List.length_append] at this) rfl (by omega)).computes
    cases he : eval s.vars e with
    | ok a => rw [he] at h; exact h
    | error err => rw [he] at h; exact h

/-- what running a piece of PRINT code from `s` must do, given the specification's result `r`:
    * no error: the run passes over the `len` instructions, printing exactly `r.chunks`, and goes on
      (whatever comes next, `m` more steps) from `s` with `pc` behind the code and the tracked
      column at `r.col` — stack, variables and everything else as in `s`;
    * error `e`: the run stops in `e` having printed exactly `r.chunks`; the state differs from `s`
      in `pc`, `stack` and the tracked column (`r.col`) only. -/
def RunsTo (env : Env) (hie : Bool) (len : Nat) (s : Runtime) (r : PrintResult) : Prop :=
  (r.err = none → ∀ (m : Nat) (acc : List Str),
    runCollect env hie (len + m) s acc =
      runCollect env hie m { s with pc := s.pc + len, printCol := r.col } (acc ++ r.chunks)) ∧
  (∀ e, r.err = some e → ∃ (pc' : Nat) (stk' : Array Val), ∀ n, len ≤ n → ∀ (acc : List Str),
    runCollect env hie n s acc =
      (.error e, { s with pc := pc', stack := stk', printCol := r.col }, acc ++ r.chunks))

theorem RunsTo.nil (env : Env) (hie : Bool) (s : Runtime) : RunsTo env hie 0 s ⟨[], s.printCol, none⟩ :=
  ⟨fun _ m acc => by rw [Nat.zero_add, List.append_nil]; rfl, nofun⟩

theorem RunsTo.seq {env : Env} {hie : Bool} {l1 l2 : Nat} {s : Runtime} {r1 r2 : PrintResult}
    (h1 : RunsTo env hie l1 s r1)
    (h2 : r1.err = none → RunsTo env hie l2 { s with pc := s.pc + l1, printCol := r1.col } r2) :
    RunsTo env hie (l1 + l2) s
      (if r1.err.isSome then r1 else ⟨r1.chunks ++ r2.chunks, r2.col, r2.err⟩) := by
  cases he : r1.err with
  | some e =>
    simp only [Option.isSome_some, if_true]
    refine ⟨fun h => (by rw [he] at h; cases h), fun e' h => ?_⟩
    obtain ⟨pc', stk', hrun⟩ := h1.2 e' h
    exact ⟨pc', stk', fun n hn acc => hrun n (by omega) acc⟩
  | none =>
    simp only [Option.isSome_none, Bool.false_eq_true, if_false]
    have h2' := h2 he
    refine ⟨fun h m acc => ?_, fun e h => ?_⟩
    · rw [Nat.add_assoc, h1.1 he, h2'.1 h]
      simp only [Nat.add_assoc, List.append_assoc]
    · obtain ⟨pc', stk', hrun⟩ := h2'.2 e h
      refine ⟨pc', stk', fun n hn acc => ?_⟩
      obtain ⟨n', rfl⟩ : ∃ n', n = l1 + n' := ⟨n - l1, by omega⟩
      rw [h1.1 he, hrun n' (by omega)]
      simp only [List.append_assoc]

theorem RunsTo.done {env : Env} {hie : Bool} {len : Nat} {s : Runtime} {r : PrintResult}
    (h : RunsTo env hie len s r) (he : r.err = none) (acc : List Str) :
    runCollect env hie len s acc =
      (.done, { s with pc := s.pc + len, printCol := r.col }, acc ++ r.chunks) := by
  have := h.1 he 0 acc
  rwa [Nat.add_zero] at this

/-- the run of one item's code from a state with room, by what the item contributes: nothing (and there is no code);
    an error, in which the code stops; a value `v`, which the code in front of the last instruction pushes in silence
    and that instruction, `print`, answers with the text of `v` -/
theorem item_steps (env : Env) (hie : Bool) {it : PrItem} (hok : it.Ok) (s : Runtime)
    (hcode : CodeAt s.program.link.ops s.pc (itemCode it)) (htr : s.tron = false)
    (hroom : s.stack.size + (itemCode it).length ≤ Gen.stackMaxLen) :
    match itemVal s.vars s.printCol it with
    | none => itemCode it = []
    | some (.error e) => ∃ (pc' : Nat) (stk' : Array Val),
        runSteps env hie (itemCode it).length s = (.error e, { s with pc := pc', stack := stk' })
    | some (.ok v) => ∃ k, (itemCode it).length = k + 1 ∧
        runSteps env hie k s = (.ok .continue, { s with pc := s.pc + k, stack := s.stack.push v }) ∧
        ((step env hie).run).run { s with pc := s.pc + k, stack := s.stack.push v } =
          (.ok (.event (.print (itemText v))),
           { s with pc := s.pc + (k + 1), printCol := columnAfter s.printCol (itemText v) }) := by
  have hy := item_computes env hie hok s hcode htr hroom
  cases hv : itemVal s.vars s.printCol it with
  | none => rwa [hv] at hy
  | some r =>
    rw [hv] at hy
    obtain ⟨code, hc, hy⟩ := hy
    rw [hc] at hcode ⊢
    cases r with
    | error e =>
      obtain ⟨_, hrun, pc', stk', rfl⟩ := (Seg.of_computes hy).run_error rfl
      exact ⟨pc', stk', hrun _ (by simp)⟩
    | ok v =>
      exact ⟨code.length, by simp, hy.2,
        run_step_print env hie { s with pc := s.pc + code.length, stack := s.stack.push v } s.stack v htr
          hcode.right.head rfl⟩

theorem item_run (env : Env) (hie : Bool) {it : PrItem} (hok : it.Ok) (s : Runtime)
    (hcode : CodeAt s.program.link.ops s.pc (itemCode it)) (htr : s.tron = false)
    (hroom : s.stack.size + (itemCode it).length ≤ Gen.stackMaxLen) :
    RunsTo env hie (itemCode it).length s (printItems s.vars s.printCol [it]) := by
  have hy := item_steps env hie hok s hcode htr hroom
  cases hv : itemVal s.vars s.printCol it with
  | none =>
    rw [hv] at hy
    rw [printItems_cons_none _ hv, show itemCode it = [] from hy]
    exact .nil env hie s
  | some r =>
    rw [hv] at hy
    cases r with
    | error e =>
      obtain ⟨pc', stk', hrun⟩ := hy
      rw [printItems_cons_error _ hv]
      refine ⟨nofun, fun e' h => ?_⟩
      obtain rfl : e = e' := Option.some.inj h
      refine ⟨pc', stk', fun n hn acc => ?_⟩
      rw [List.append_nil]
      exact runCollect_of_runSteps env hie _ _ _ _ hrun n hn acc
    | ok v =>
      obtain ⟨k, hk, hrun, hp⟩ := hy
      rw [printItems_cons_ok _ hv, hk]
      refine ⟨fun _ m acc => ?_, nofun⟩
      rw [Nat.add_assoc, runCollect_of_runSteps env hie _ _ _ _ hrun, Nat.add_comm 1 m, runCollect_succ_print hp]
      rfl

theorem printItems_run (env : Env) (hie : Bool) :
    ∀ (items : List PrItem), (∀ it ∈ items, it.Ok) → ∀ (s : Runtime),
      CodeAt s.program.link.ops s.pc (printCode items) → s.tron = false →
      s.stack.size + (printCode items).length ≤ Gen.stackMaxLen →
      RunsTo env hie (printCode items).length s (printItems s.vars s.printCol items)
  | [], _, s, _, _, _ => .nil env hie s
  | it :: rest, hok, s, hcode, htr, hroom => by
    rw [printCode_cons] at hcode hroom ⊢
    rw [List.length_append] at hroom ⊢
    rw [← List.singleton_append, printItems_append]
    exact .seq (item_run env hie (hok it List.mem_cons_self) s hcode.left htr (by omega)) fun _ =>
      printItems_run env hie rest (fun x hx => hok x (List.mem_cons_of_mem _ hx)) _ hcode.right htr
        (by simp only; omega)

theorem print_run (env : Env) (hie : Bool) (items : List PrItem) (hok : ∀ it ∈ items, it.Ok) (s : Runtime)
    (hcode : CodeAt s.program.link.ops s.pc (stmtCode items)) (htr : s.tron = false)
    (hroom : s.stack.size + (stmtCode items).length ≤ Gen.stackMaxLen) :
    RunsTo env hie (stmtCode items).length s (printSpec s.vars s.printCol items) := by
  rw [← stmtCode_eq (0, 0)] at hcode hroom ⊢
  rw [printSpec_eq_full _ _ (0, 0)]
  exact printItems_run env hie _ (fullItems_ok (0, 0) hok) s hcode htr hroom

/-- what `k` successive calls of `execute` with quantum `q` print: the texts of the `print` events,
    in order; the first other event stops the collection -/
def slices (env : Env) (q : Nat) : Nat → Runtime → List Str → Runtime × List Str
  | 0, s, acc => (s, acc)
  | k+1, s, acc =>
    match execute env s q with
    | (s', .print t) => slices env q k s' (acc ++ [t])
    | (s', _) => (s', acc)

theorem printItems_slices (env : Env) (q : Nat) :
    ∀ (items : List PrItem), (∀ it ∈ items, it.Ok) → ∀ (s : Runtime),
      CodeAt s.program.link.ops s.pc (printCode items) → s.tron = false →
      s.stack.size + (printCode items).length ≤ Gen.stackMaxLen →
      s.state = .running → s.listing.directErrors.isEmpty = true → (printCode items).length ≤ q →
      (printItems s.vars s.printCol items).err = none → ∀ (acc : List Str),
      slices env q (printItems s.vars s.printCol items).chunks.length s acc =
        ({ s with pc := s.pc + (printCode items).length, printCol := (printItems s.vars s.printCol items).col },
         acc ++ (printItems s.vars s.printCol items).chunks)
  | [], _, s, _, _, _, _, _, _, _, acc => by
    simp only [printItems, List.length_nil, slices, printCode, List.flatMap_nil, Nat.add_zero, List.append_nil]
  | it :: rest, hok, s, hcode, htr, hroom, hst, hde, hq, herr, acc => by
    rw [printCode_cons] at hcode hroom hq ⊢
    rw [List.length_append] at hroom hq ⊢
    have hy := item_steps env (!s.listing.indirectErrors.isEmpty) (hok it List.mem_cons_self) s hcode.left htr
      (by omega)
    have ih := printItems_slices env q rest fun x hx => hok x (List.mem_cons_of_mem _ hx)
    cases hv : itemVal s.vars s.printCol it with
    | none =>
      rw [hv] at hy
      rw [printItems_cons_none _ hv] at herr ⊢
      rw [show itemCode it = [] from hy, List.length_nil, Nat.zero_add] at hroom hq ⊢
      rw [show itemCode it = [] from hy] at hcode
      exact ih s hcode htr hroom hst hde hq herr acc
    | some r =>
      rw [hv] at hy
      cases r with
      | error e => rw [printItems_cons_error _ hv] at herr; cases herr
      | ok v =>
        -- the slice runs the item's code and returns at its `print`
        obtain ⟨k, hk, hrun, hp⟩ := hy
        have hev : runSteps env (!s.listing.indirectErrors.isEmpty) (k + 1) s = _ :=
          ((runSteps_ok_add hrun 1).trans (runSteps_one ..)).trans hp
        rw [printItems_cons_ok _ hv] at herr ⊢
        rw [hk] at hroom hq ⊢
        simp only [List.length_cons, slices,
          execute_print_slice env s _ q _ hst hde (runSteps_event_mono env _ _ q s _ _ hev (by omega))]
        rw [ih { s with pc := s.pc + (k + 1), printCol := columnAfter s.printCol (itemText v) }
          (hk ▸ hcode.right) htr (by simp only; omega) hst hde (by omega) herr]
        simp only [Nat.add_assoc, List.append_assoc, List.singleton_append]

end vm

section parser
open Parse Lemmas.ParseExpr Lemmas.PrintList

/-- a written item (`Lemmas.PrintList.PItem`: a tree of the C02 fragment, `,`, `;`) and the item the
    parser makes of it: the same tree up to the recorded columns -/
inductive SameItem : PItem → PrItem → Prop where
  | expr (e e' : Expr) : e'.shape = e.shape → SameItem (.expr e) (.expr e')
  | comma (c : Col) : SameItem .comma (.comma c)
  | semi : SameItem .semi .semi

inductive SameItems : List PItem → List PrItem → Prop where
  | nil : SameItems [] []
  | cons {i : PItem} {i' : PrItem} {is : List PItem} {is' : List PrItem} :
      SameItem i i' → SameItems is is' → SameItems (i :: is) (i' :: is')

theorem astExprs_cons (x : PrItem) (xs : List PrItem) :
    astExprs (x :: xs) = (itemArg x).map (·.1) ++ astExprs xs := by
  simp [astExprs]

theorem astExprs_append (xs ys : List PrItem) : astExprs (xs ++ ys) = astExprs xs ++ astExprs ys := by
  simp [astExprs]

theorem outs_items {items : List PItem} {out : List Expr} (h : Outs items out) :
    ∃ items', SameItems items items' ∧ astExprs items' = out := by
  induction h with
  | nil => exact ⟨[], .nil, rfl⟩
  | cons hi _ ih =>
    obtain ⟨rest', hf, hr⟩ := ih
    cases hi with
    | expr e e' hsh => exact ⟨.expr e' :: rest', .cons (.expr e e' hsh) hf, by rw [astExprs_cons, hr]; rfl⟩
    | comma c => exact ⟨.comma c :: rest', .cons (.comma c) hf, by rw [astExprs_cons, hr]; rfl⟩
    | semi => exact ⟨.semi :: rest', .cons .semi hf, by rw [astExprs_cons, hr]; rfl⟩

theorem lfAfter_sameItem {items : List PItem} {items' : List PrItem} (h : SameItems items items') :
    ∀ lf, lfAfter lf items = (match items'.getLast? with
      | none => lf
      | some .semi => false
      | some (.comma _) => false
      | some _ => true) := by
  induction h with
  | nil => intro lf; rfl
  | @cons i i' is is' hi hrest ih =>
    intro lf
    cases hrest with
    | nil => cases hi <;> rfl
    | @cons j j' js js' hj hjs =>
      have hl : (i' :: j' :: js').getLast? = (j' :: js').getLast? := List.getLast?_cons_cons
      rw [hl]
      have hne : (j' :: js').getLast? ≠ none := by simp
      cases hi <;> simp only [lfAfter] <;> rw [ih] <;>
        (cases hg : (j' :: js').getLast? with
         | none => exact absurd hg hne
         | some x => cases x <;> rfl)

theorem endsOpen_sameItem {items : List PItem} {items' : List PrItem} (h : SameItems items items') :
    endsOpen items' = !lfAfter true items := by
  rw [lfAfter_sameItem h true]
  unfold endsOpen
  cases items'.getLast? with
  | none => rfl
  | some x => cases x <;> rfl

theorem frag_of_shape {ok : Int16 → Prop} {e : Expr} (hf : Frag ok e) :
    ∀ e' : Expr, e'.shape = e.shape → Pure e' ∧ ∀ vars, eval vars e' = eval vars e := by
  induction hf with
  | int c n _ =>
    intro e' h
    cases e' <;> simp only [Expr.shape, reduceCtorEq, Expr.integer.injEq, true_and] at h
    subst h
    exact ⟨.integer _ _, fun _ => rfl⟩
  | neg c x _ ih =>
    intro e' h
    cases e' <;> simp only [Expr.shape, reduceCtorEq, Expr.neg.injEq, true_and] at h
    exact ⟨.neg _ _ (ih _ h).1, fun vars => by simp only [eval, (ih _ h).2]⟩
  | not c x _ ih =>
    intro e' h
    cases e' <;> simp only [Expr.shape, reduceCtorEq, Expr.not.injEq, true_and] at h
    exact ⟨.not _ _ (ih _ h).1, fun vars => by simp only [eval, (ih _ h).2]⟩
  | bin op c l r _ _ ihl ihr =>
    intro e' h
    cases e' <;> simp only [Expr.shape, reduceCtorEq, Expr.bin.injEq, true_and] at h
    obtain ⟨rfl, h1, h2⟩ := h
    exact ⟨.bin _ _ _ _ (ihl _ h1).1 (ihr _ h2).1, fun vars => by simp only [eval, (ihl _ h1).2, (ihr _ h2).2]⟩

/-- the written items as specification items (columns: none) -/
def ofPItem : PItem → PrItem
  | .expr e => .expr e
  | .comma => .comma (0, 0)
  | .semi => .semi

theorem itemVal_sameItem {ok : Int16 → Prop} (vars : Var) (col : Nat) {i : PItem} {i' : PrItem}
    (h : SameItem i i') (hfr : ∀ e, i = .expr e → Frag ok e) : itemVal vars col i' = itemVal vars col (ofPItem i) := by
  cases h with
  | expr e e' hsh => simp only [itemVal, ofPItem, (frag_of_shape (hfr e rfl) e' hsh).2 vars]
  | comma c => rfl
  | semi => rfl

theorem printItems_sameItem {ok : Int16 → Prop} (vars : Var) {items : List PItem} {items' : List PrItem}
    (h : SameItems items items') (hfr : ∀ e, PItem.expr e ∈ items → Frag ok e) :
    ∀ col, printItems vars col items' = printItems vars col (items.map ofPItem) := by
  induction h with
  | nil => intro col; rfl
  | @cons i i' is is' hi _ ih =>
    intro col
    have hv := itemVal_sameItem vars col hi (fun e he => hfr e (by rw [he]; exact List.mem_cons_self))
    have ih' := ih (fun e he => hfr e (List.mem_cons_of_mem _ he))
    rw [List.map_cons]
    cases hx : itemVal vars col (ofPItem i) with
    | none => rw [printItems_cons_none _ hx, printItems_cons_none _ (hv.trans hx)]; exact ih' col
    | some r =>
      cases r with
      | error e => rw [printItems_cons_error _ hx, printItems_cons_error _ (hv.trans hx)]
      | ok v => rw [printItems_cons_ok _ hx, printItems_cons_ok _ (hv.trans hx), ih']

theorem sameItem_ofPItem (items : List PItem) : SameItems items (items.map ofPItem) := by
  induction items with
  | nil => exact .nil
  | cons i is ih =>
    refine .cons ?_ ih
    cases i with
    | expr e => exact .expr e e rfl
    | comma => exact .comma _
    | semi => exact .semi

theorem printSpec_sameItem {ok : Int16 → Prop} (vars : Var) (col : Nat) {items : List PItem} {items' : List PrItem}
    (h : SameItems items items') (hfr : ∀ e, PItem.expr e ∈ items → Frag ok e) :
    printSpec vars col items' = printSpec vars col (items.map ofPItem) := by
  unfold printSpec
  rw [printItems_sameItem vars h hfr, endsOpen_sameItem h, endsOpen_sameItem (sameItem_ofPItem items)]

theorem sameItem_ok {ok : Int16 → Prop} {items : List PItem} {items' : List PrItem}
    (h : SameItems items items') (hfr : ∀ e, PItem.expr e ∈ items → Frag ok e) :
    ∀ it ∈ items', it.Ok := by
  induction h with
  | nil => intro it hit; cases hit
  | @cons i i' is is' hi _ ih =>
    intro it hit
    rcases List.mem_cons.1 hit with rfl | hit
    · cases hi with
      | expr e e' hsh => exact (frag_of_shape (hfr e List.mem_cons_self) e' hsh).1
      | comma c => trivial
      | semi => trivial
    · exact ih (fun e he => hfr e (List.mem_cons_of_mem _ he)) it hit

end parser

end Lemmas.PrintRun

namespace Lemmas.ExprCompile
open Basic.Spec Basic.Codegen Basic.Link

/-- **`PRINT e`** as the parser produces it (the item, then the newline item): code
    `flat e ++ [print, literal "\n", print]` -/
theorem print_codegen_shape {e : Expr} (hp : Pure e) (c cn : Col)
    (s : VState) (hlen : (flat e).length + 3 ≤ Gen.stackMaxLen) :
    ∃ col, acceptStmt (.print c [e, .string cn ['\n']]) s =
      { s with g := { s.g with
          stmt := s.g.stmt.push (col, plain (flat e ++ [Opcode.print, .literal (.str ['\n']), .print]).toArray) } } := by
  have h := PrintRun.print_exprs_codegen_shape [(e, flat e), (.string cn ['\n'], flat (.string cn ['\n']))]
    (fun p hp' => by
      rcases List.mem_cons.1 hp' with rfl | hp'
      · exact compiles_flat hp
      · rw [List.mem_singleton.1 hp']
        exact compiles_flat (.string cn ['\n']))
    c s (by simp only [List.flatMap_cons, List.flatMap_nil, flat, List.length_append, List.length_cons,
              List.length_nil]; omega)
  exact ⟨c, by simpa [flat] using h⟩

end Lemmas.ExprCompile

end Basic

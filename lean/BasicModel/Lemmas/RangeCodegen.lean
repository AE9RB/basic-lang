import BasicModel.Lemmas.RangeNoFault
import BasicModel.Lemmas.CodegenShape
/-
  The code generated for a LIST / DELETE statement whose operands are the parser's line literals
  (`Parse.lineNumberRange_ordered`): `literal m, literal n, list|delete` — under
  `LineLiteralRoundTrip` (the generator converts the literal to a line number and back) — and what
  these three instructions do at run time: the range handed to `listLine` / `removeRange` is
  `(some m, some n)`, not inverted.
-/
namespace Basic
namespace Codegen

def lineLit (n : Nat) : Opcode := .literal (.sng (F.b32 (Float32.ofNat n)))
def lineLink (n : Nat) : Link := { ops := #[lineLit n] }

theorem accept_lineExpr (c : Col) (n : Nat) (s : VState) :
    acceptExpr (Parse.lineExpr c n) s = { s with g := { s.g with expr := s.g.expr.push (c, lineLink n) } } := by
  unfold Parse.lineExpr
  rw [acceptExpr] <;> first | rfl | nofun

theorem visit_rangeStmt (hrt : LineLiteralRoundTrip) (st : Stmt) (op : Opcode) (c ca cb : Col) (m n : Nat)
    (hm : m ≤ maxLineNumber) (hn : n ≤ maxLineNumber) (s : VState) (pre : Array (Col × Link))
    (hgen : genStatement st = rangeStmt op c)
    (h : s.g.expr = (pre.push (ca, lineLink m)).push (cb, lineLink n)) :
    visitStatement st s =
      { s with g := { var := s.g.var, expr := pre, cur := s.g.cur,
                      stmt := s.g.stmt.push ((c.1, cb.2), { ops := #[lineLit m, lineLit n, op] }) } } := by
  obtain ⟨⟨v, ex, st, cur⟩, errs⟩ := s
  dsimp only at h
  subst h
  rw [visitStatement_clean (hgen ▸ rangeStmt_clean op c ca cb (hrt m hm) (hrt n hn)
    v pre st) (fits_three ..)]
  rfl

end Codegen

namespace Runtime
open Codegen

theorem run_push2 {α : Type} (a b : Val) (m : RM α) (s : Runtime) (hsz : s.stack.size + 2 ≤ Gen.stackMaxLen) :
    (do push a; push b; m : RM α).run.run s = m.run.run { s with stack := (s.stack.push a).push b } := by
  have e1 : ¬ (s.stack.size + 1 > Gen.stackMaxLen) := by omega
  have e2 : ¬ ((s.stack.push a).size + 1 > Gen.stackMaxLen) := by
    rw [Array.size_push]; omega
  rw [run_bind, run_push, if_neg e1]
  dsimp only
  rw [run_bind, run_push, if_neg e2]

end Runtime
end Basic

import BasicModel.Lemmas.Step
import BasicModel.Lemmas.Program
/-
  The DATA cursor at run time (C09).  `KeepProg`: every instruction other than `read`, `restore`, `clear`,
  `new` leaves the whole compiled program — code, data segment, symbols and the DATA cursor — exactly as it
  was, whether it succeeds, throws or returns an event (read off the footprint of `Lemmas/Frame.lean`).
  `Reads`: executions that deliver constants.
-/
namespace Basic
namespace Runtime

structure KeepProg (s t : Runtime) : Prop where
  prog : t.program = s.program

instance : FrameRel KeepProg where
  refl _ := ⟨rfl⟩
  trans h1 h2 := ⟨h2.prog.trans h1.prog⟩

theorem KeepProg.of_prim {env : Env} {k : Kind} {s t : Runtime} (p : Prim env k s t) (hk : k ≠ .data) :
    KeepProg s t := by
  cases p <;> first | exact ⟨rfl⟩ | exact absurd rfl hk

/-- **the frame lemma**: every instruction other than `read`, `restore`, `clear`, `new` leaves the
    compiled program — code, data, symbols, DATA cursor — untouched, whatever its outcome -/
theorem execOp_keepProg (env : Env) (h : Bool) (op : Opcode) (hop : isCursorOp op = false) :
    Frame KeepProg (execOp env h op) :=
  (execOp_eff env h op).to fun p hk => KeepProg.of_prim p fun e => by
    subst e; exact absurd hk.2 (by rw [hop]; nofun)

/-- `doRead`, whatever the stack: either there is no constant under the cursor (OUT OF DATA, nothing
    changes), or the constant is pushed and the cursor advances by one (this happens even when the
    push then overflows the stack) -/
theorem doRead_cases (s : Runtime) :
    (s.program.link.data.size ≤ s.program.link.dataPos ∧
      doRead.run.run s = (.error (Error.mk' Code.outOfData), s)) ∨
    (∃ (hlt : s.program.link.dataPos < s.program.link.data.size) (r : Except Error Unit),
      doRead.run.run s = (r, { s with
        program := s.program.withDP (s.program.link.dataPos + 1),
        stack := s.stack.push s.program.link.data[s.program.link.dataPos] })) := by
  unfold doRead
  rw [run_bind_ok (run_get s)]
  unfold Link.readData
  rcases Nat.lt_or_ge s.program.link.dataPos s.program.link.data.size with hlt | hge
  · right
    refine ⟨hlt, ?_⟩
    rw [Array.getElem?_eq_getElem hlt]
    dsimp only
    rw [run_bind_ok (run_set _ s), run_bind_ok (run_liftE _ _), run_push]
    exact ⟨_, rfl⟩
  · left
    refine ⟨hge, ?_⟩
    rw [Array.getElem?_eq_none hge]
    dsimp only
    rw [run_bind_ok (run_set _ s)]
    exact run_bind_error (run_liftE _ _)

/-- a `step` at a `read`: the program is untouched (a trace print came first, or OUT OF DATA), or the
    constant under the cursor was pushed and the cursor advanced by one -/
theorem step_read_cases (env : Env) (h : Bool) (s : Runtime)
    (hop : s.program.link.ops[s.pc]? = some .read) :
    (((step env h).run.run s).2.program = s.program ∧ ((step env h).run.run s).2.stack = s.stack) ∨
    (∃ (hlt : s.program.link.dataPos < s.program.link.data.size),
      ((step env h).run.run s).2.program = s.program.withDP (s.program.link.dataPos + 1) ∧
      ((step env h).run.run s).2.stack = s.stack.push s.program.link.data[s.program.link.dataPos]) := by
  refine step_elim env h s (P := fun x => (x.2.program = s.program ∧ x.2.stack = s.stack) ∨
    ∃ (hlt : s.program.link.dataPos < s.program.link.data.size),
      x.2.program = s.program.withDP (s.program.link.dataPos + 1) ∧
      x.2.stack = s.stack.push s.program.link.data[s.program.link.dataPos])
    (fun _ _ _ => .inl ⟨rfl, rfl⟩) (fun _ _ => .inl ⟨rfl, rfl⟩) fun op tr hq => ?_
  cases hop.symm.trans hq
  simp only [execOp]
  rcases doRead_cases { s with tr := tr, pc := s.pc + 1 } with ⟨-, e⟩ | ⟨hlt, r, e⟩
  · rw [run_bind_error e]; exact .inl ⟨rfl, rfl⟩
  · right
    refine ⟨hlt, ?_⟩
    rw [run_bind, e]
    cases r <;> exact ⟨rfl, rfl⟩

/-- `clear` (the first instruction of RUN) rewinds the cursor to 0 and leaves code and data alone -/
theorem step_at_clear (env : Env) (h : Bool) (s : Runtime)
    (hop : s.program.link.ops[s.pc]? = some .clear) (htr : s.tron = false) :
    (step env h).run.run s = (.ok .continue, doClear env { s with pc := s.pc + 1 }) ∧
    (doClear env { s with pc := s.pc + 1 }).program = s.program.withDP 0 := by
  refine ⟨?_, rfl⟩
  rw [run_step env h s _ htr hop]
  simp only [execOp]
  rw [run_bind_ok (run_modify _ _)]
  rfl

/-- the constant a `step` delivered, if it executed a `read` to the point of advancing the cursor -/
def delivered (env : Env) (h : Bool) (s : Runtime) : List Val :=
  if ((step env h).run.run s).2.program.link.dataPos = s.program.link.dataPos + 1 then
    ((step env h).run.run s).2.stack.back?.toList
  else []

/-- at a `read`: nothing is delivered and the program is as before, or the constant under the cursor
    is, and the cursor has moved on by one -/
theorem delivered_cases (env : Env) (h : Bool) (s : Runtime) (hop : s.program.link.ops[s.pc]? = some .read) :
    (delivered env h s = [] ∧ ((step env h).run.run s).2.program = s.program) ∨
    (∃ (hlt : s.program.link.dataPos < s.program.link.data.size),
      delivered env h s = [s.program.link.data[s.program.link.dataPos]] ∧
      ((step env h).run.run s).2.program = s.program.withDP (s.program.link.dataPos + 1)) := by
  unfold delivered
  rcases step_read_cases env h s hop with ⟨e1, -⟩ | ⟨hlt, e1, e2⟩
  · rw [e1, if_neg (by omega)]
    exact .inl ⟨rfl, rfl⟩
  · rw [e1, e2, if_pos (show (s.program.withDP (s.program.link.dataPos + 1)).link.dataPos = s.program.link.dataPos + 1 from rfl),
      Array.back?_push]
    exact .inr ⟨hlt, rfl, rfl⟩

/-- `Reads env h s vs u`: an execution from `s` to `u`, one `step` at a time, in which no `restore`,
    `clear` or `new` is executed, and whose `read`s delivered the values `vs`, in this order.  Steps
    may be of any kind and have any outcome: expressions, assignments, branches, PRINT events,
    trace prints, even errors. -/
inductive Reads (env : Env) (h : Bool) : Runtime → List Val → Runtime → Prop
  | done (s : Runtime) : Reads env h s [] s
  | other {s u : Runtime} {vs : List Val} :
      (∀ op, s.program.link.ops[s.pc]? = some op → isCursorOp op = false) →
      Reads env h ((step env h).run.run s).2 vs u → Reads env h s vs u
  | read {s u : Runtime} {vs : List Val} :
      s.program.link.ops[s.pc]? = some .read →
      Reads env h ((step env h).run.run s).2 vs u → Reads env h s (delivered env h s ++ vs) u

end Runtime
end Basic

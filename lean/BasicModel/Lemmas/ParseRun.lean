import BasicModel.Model.Parse
/-
  Running the parser monad.

  `Parse.next` and `Parse.peek` never fail, so the token source is three total functions of the
  state: `tok st`, the next significant token; `adv st`, the state behind it; `pk st`, the state that
  holds it as look-ahead.  `next.run st = .ok (tok st, adv st)`, `peek.run st = .ok (tok st, pk st)`,
  and peeking is invisible (`tok_pk`, `adv_pk`, `pk_pk`): no proof has to know whether a token is
  still in the list or already in the look-ahead.

  On top, one run equation, all arms at once, for each function the proofs step through, in terms of
  `tok`/`adv`/`pk`; of `statement` only the dispatch on an identifier.  What the three are on a state
  of a given shape is said where the shape is defined.

  The file opens with the error values and the run equations of `col` / `fail` / `failHere`, under the
  namespace `Lemmas.RangeForms` of their first user.
-/
namespace Basic

namespace Lemmas.RangeForms
open Parse

theorem ok_bind {ε α β} (a : α) (f : α → Except ε β) : (Except.ok a >>= f) = f a := rfl
theorem error_bind {ε α β} (e : ε) (f : α → Except ε β) : (Except.error e >>= f) = .error e := rfl

/-- the text of a numeral token (`maybe_line_number` accepts the three numeric literal kinds) -/
def numStr : Option Token → Option Str
  | some (.literal (.integer s)) => some s
  | some (.literal (.single s)) => some s
  | some (.literal (.double s)) => some s
  | _ => none

/-- the error of `failHere` -/
def errAt (code : Nat) (cs ce : Nat) (msg : String) : Error :=
  ((Error.mk' code).inCol cs ce).withMsg msg

theorem errAt_code (code cs ce : Nat) (msg : String) : (errAt code cs ce msg).code = code := rfl

theorem col_run (st : PState) : col.run st = .ok ((st.cs, st.ce), st) := rfl

theorem failHere_run {α} (code : Nat) (msg : String) (st : PState) :
    (failHere code msg : PM α).run st = .error (errAt code st.cs st.ce msg) := rfl

theorem fail_run {α} (code : Nat) (c : Col) (msg : String) (st : PState) :
    (fail code c msg : PM α).run st = .error (errAt code c.1 c.2 msg) := rfl

/-- the outcome of `maybe_line_number` once the numeral `s` has been consumed, in state `st` -/
def lineNumberOf (s : Str) (st : PState) : Except Error (Option Nat × PState) :=
  match Fmt.parseU16 s with
  | some n =>
    if n ≤ maxLineNumber then .ok (some n, st)
    else .error (errAt Code.undefinedLine st.cs st.ce "INVALID LINE NUMBER")
  | none => .error (errAt Code.undefinedLine st.cs st.ce "INVALID LINE NUMBER")

end Lemmas.RangeForms

namespace Lemmas.C19

theorem nextLoop_tok (t : Token) (ts : List Token) (cs ce : Nat)
    (hr : Parse.isRem t = false) (hw : ∀ n, t ≠ .whitespace n) :
    Parse.nextLoop (t :: ts) false cs ce = (some t, ts, false, ce, ce + t.text.length) := by
  cases t with
  | whitespace n => exact absurd rfl (hw n)
  | _ => simp [Parse.nextLoop, hr]

end Lemmas.C19

namespace Lemmas.ParseRun
open Parse Lemmas.RangeForms

/-- the next significant token -/
def tok (st : PState) : Option Token :=
  match st.peeked with
  | some t => some t
  | none => (nextLoop st.toks st.rem st.cs st.ce).1

/-- the state behind the next significant token -/
def adv (st : PState) : PState :=
  match st.peeked with
  | some _ => { st with peeked := none }
  | none =>
    let r := nextLoop st.toks st.rem st.cs st.ce
    { st with toks := r.2.1, rem := r.2.2.1, cs := r.2.2.2.1, ce := r.2.2.2.2 }

/-- the state with the next significant token as look-ahead -/
def pk (st : PState) : PState :=
  match st.peeked with
  | some _ => st
  | none => { adv st with peeked := tok st }

theorem next_run (st : PState) : next.run st = .ok (tok st, adv st) := by
  obtain ⟨toks, peeked, rem, cs, ce⟩ := st
  cases peeked <;> rfl

theorem peek_run (st : PState) : peek.run st = .ok (tok st, pk st) := by
  obtain ⟨toks, peeked, rem, cs, ce⟩ := st
  cases peeked <;> rfl

theorem of_peek_run {st st1 : PState} {t : Option Token} (h : peek.run st = .ok (t, st1)) :
    tok st = t ∧ pk st = st1 := by
  rw [peek_run] at h
  exact Prod.mk.inj (Except.ok.inj h)

theorem tok_peeked {st : PState} {t : Token} (h : st.peeked = some t) : tok st = some t := by
  simp only [tok, h]

theorem adv_peeked {st : PState} {t : Token} (h : st.peeked = some t) :
    adv st = { st with peeked := none } := by
  simp only [adv, h]

theorem pk_peeked {st : PState} {t : Token} (h : st.peeked = some t) : pk st = st := by
  simp only [pk, h]

theorem nextLoop_none (ts : List Token) (r : Bool) (cs ce : Nat) (h : (nextLoop ts r cs ce).1 = none) :
    ∃ r' c, nextLoop ts r cs ce = (none, [], r', c, c) := by
  induction ts generalizing r cs ce with
  | nil => exact ⟨r, ce, by simp [nextLoop]⟩
  | cons t ts ih =>
    unfold nextLoop at h ⊢
    simp only at h ⊢
    split
    · rename_i hr; rw [if_pos hr] at h; exact ih _ _ _ h
    · rename_i hr
      rw [if_neg hr] at h
      split
      · exact ih _ _ _ h
      · rename_i hn
        split at h
        · exact absurd rfl (hn _)
        · cases h

theorem tok_end {st : PState} (hp : st.peeked = none) (ht : st.toks = []) :
    tok st = none ∧ pk st = { st with cs := st.ce } := by
  obtain ⟨toks, peeked, rem, cs, ce⟩ := st
  simp only at hp ht
  subst hp; subst ht
  exact ⟨rfl, rfl⟩

/-- `pk st` is a fixed point of the token source: either it holds a token, or the line is at its
    end and a second `nextLoop` finds the same nothing -/
theorem pk_spec (st : PState) : tok (pk st) = tok st ∧ adv (pk st) = adv st ∧ pk (pk st) = pk st := by
  obtain ⟨toks, peeked, rem, cs, ce⟩ := st
  cases peeked with
  | some t => exact ⟨rfl, rfl, rfl⟩
  | none =>
    cases h : (nextLoop toks rem cs ce).1 with
    | some t => simp [tok, pk, adv, h]
    | none =>
      obtain ⟨r', c, hn⟩ := nextLoop_none toks rem cs ce h
      simp [tok, pk, adv, hn, nextLoop]

theorem tok_pk (st : PState) : tok (pk st) = tok st := (pk_spec st).1
theorem adv_pk (st : PState) : adv (pk st) = adv st := (pk_spec st).2.1
theorem pk_pk (st : PState) : pk (pk st) = pk st := (pk_spec st).2.2

theorem maybe_run (t : Token) (st : PState) :
    (maybe t).run st = .ok (if tok st = some t then (true, adv st) else (false, pk st)) := by
  unfold maybe
  simp only [StateT.run_bind, peek_run, ok_bind]
  cases h : tok st with
  | none => simp; rfl
  | some t' =>
    by_cases ht : t' = t
    · subst ht; simp only [if_true, StateT.run_bind, next_run, ok_bind, adv_pk]; rfl
    · simp [ht]; rfl

theorem expect_run (t : Token) (st : PState) :
    (expect t).run st =
      if tok st = some t then .ok ((), adv st)
      else .error (errAt Code.syntaxError (adv st).cs (adv st).ce (expectMsg t)) := by
  unfold expect
  simp only [StateT.run_bind, next_run, ok_bind]
  cases h : tok st with
  | none => simp; rfl
  | some t' =>
    by_cases ht : t' = t
    · subst ht; simp; rfl
    · simp [ht]; rfl

theorem maybeLineNumber_run (st : PState) :
    maybeLineNumber.run st =
      match numStr (tok st) with
      | none => .ok (none, pk st)
      | some s => lineNumberOf s (adv st) := by
  unfold maybeLineNumber
  simp only [StateT.run_bind, peek_run, ok_bind]
  rcases tok st with _ | (_|_|l|_|_|_|_|_|_|_|_) <;> try rfl
  cases l <;> simp only [numStr, StateT.run_bind, StateT.run_pure, next_run, ok_bind, adv_pk] <;> try rfl
  all_goals
    simp only [lineNumberOf]
    cases Fmt.parseU16 _ with
    | none => rfl
    | some n => simp only; split <;> rfl

theorem lineNumberRange_run (st : PState) :
    lineNumberRange.run st =
      maybeLineNumber.run st >>= fun p =>
        let fr : Expr × Nat × Nat := match p.1 with
          | some n => (lineExpr (p.2.cs, p.2.ce) n, n, n)
          | none => (lineExpr (p.2.cs, p.2.cs) 0, 0, maxLineNumber)
        (if tok p.2 = some (.operator .minus) then
          maybeLineNumber.run (adv p.2) >>= fun q =>
            .ok (match q.1 with
              | some n => (lineExpr (q.2.cs, q.2.ce) n, n)
              | none => (lineExpr (q.2.cs, q.2.cs) maxLineNumber, maxLineNumber), q.2)
        else .ok ((lineExpr ((pk p.2).cs, (pk p.2).cs) fr.2.2, fr.2.2), pk p.2)) >>= fun r =>
        if fr.2.1 > r.1.2 then .error (errAt Code.undefinedLine st.cs r.2.ce "INVALID RANGE")
        else .ok ((fr.1, r.1.1), r.2) := by
  unfold lineNumberRange
  simp only [StateT.run_bind, col_run, ok_bind]
  rcases maybeLineNumber.run st with e | ⟨a, s1⟩
  · rfl
  by_cases hm : tok s1 = some (.operator .minus)
  · cases a
    all_goals
      simp only [ok_bind, maybe_run, hm, if_true, StateT.run_bind, StateT.run_pure, col_run, pure_bind]
      rcases maybeLineNumber.run (adv s1) with e | ⟨b, s2⟩
      · rfl
      · cases b <;> simp only [ok_bind, StateT.run_bind, StateT.run_pure, col_run, pure_bind] <;> split <;> rfl
  · cases a
    all_goals
      simp only [ok_bind, maybe_run, hm, Bool.false_eq_true, if_false, StateT.run_bind, StateT.run_pure, col_run,
        pure_bind]
      split <;> rfl

theorem statements_run (fuel : Nat) (ec : Bool) (acc : List Stmt) (st : PState) :
    (statements (fuel + 1) ec acc).run st =
      match tok st with
      | none | some (.word .else) => .ok (acc, pk st)
      | some .colon => (statements fuel false acc).run (adv st)
      | some _ =>
        if ec then .error (errAt Code.syntaxError (pk st).cs (pk st).ce "UNEXPECTED TOKEN")
        else (statement fuel).run (pk st) >>= fun p => (statements fuel true (acc ++ [p.1])).run p.2 := by
  rw [statements]
  simp only [StateT.run_bind, peek_run, ok_bind]
  generalize tok st = t
  rcases t with _ | t
  · rfl
  · cases t with
    | colon => simp only [StateT.run_bind, next_run, ok_bind, adv_pk]
    | word w => cases w <;> cases ec <;> rfl
    | _ => cases ec <;> rfl

theorem printList_run (fuel n : Nat) (lf : Bool) (acc : List Expr) (st : PState) :
    (printList fuel (n + 1) lf acc).run st =
      if isEnd (tok st) then
        .ok (if lf then acc ++ [Expr.string ((pk st).ce, (pk st).ce) ['\n']] else acc, pk st)
      else match tok st with
        | some .semicolon => (printList fuel n false acc).run (adv st)
        | some .comma =>
          (printList fuel n false (acc ++ [Expr.var (.array ((adv st).cs, (adv st).ce)
            (.string "TAB".toList) [Expr.integer ((adv st).cs, (adv st).ce) Gen.printZone])])).run (adv st)
        | _ => (expression fuel).run (pk st) >>= fun p => (printList fuel n true (acc ++ [p.1])).run p.2 := by
  rw [printList]
  simp only [StateT.run_bind, peek_run, ok_bind]
  generalize tok st = t
  split
  · cases lf <;> rfl
  · rcases t with _ | t
    · rfl
    · cases t with
      | semicolon => simp only [StateT.run_bind, next_run, ok_bind, adv_pk]
      | comma => simp only [StateT.run_bind, next_run, ok_bind, adv_pk]; rfl
      | _ => rfl

theorem statement_ident_run (fuel : Nat) (st : PState) (i : TIdent) (h : tok st = some (.ident i)) :
    (statement (fuel + 1)).run st = (letStmt fuel true).run (pk st) := by
  rw [statement, StateT.run_bind, peek_run, h]
  rfl

theorem parseTokens_run (ts : List Token) :
    parseTokens ts =
      match numStr (tok { toks := ts }) with
      | some _ =>
        .error (errAt Code.undefinedLine (pk { toks := ts }).cs (pk { toks := ts }).ce "INVALID LINE NUMBER")
      | none => ((statements (fuelFor ts) false []).run (pk { toks := ts })).map (·.1) := by
  unfold parseTokens
  simp only [StateT.run_bind, peek_run, ok_bind]
  rcases tok { toks := ts } with _ | (_|_|l|_|_|_|_|_|_|_|_) <;> try rfl
  cases l <;> rfl

-- two rounds of the parser are peeled below (`statements_run`, then `statement`); each wants a successor
theorem fuelFor_succ (ts : List Token) : fuelFor ts = 6 * ts.length + 18 + 1 + 1 := rfl

theorem parseTokens_blank {ts : List Token} (h : tok { toks := ts } = none) : parseTokens ts = .ok [] := by
  rw [parseTokens_run, h, fuelFor_succ]
  simp only [numStr]
  rw [statements_run, tok_pk, h]
  rfl

/-- `statement` begins with a `peek` -/
theorem statement_pk (fuel : Nat) (st : PState) :
    (statement (fuel + 1)).run (pk st) = (statement (fuel + 1)).run st := by
  rw [statement, StateT.run_bind, StateT.run_bind, peek_run, peek_run, tok_pk, pk_pk]

/-- the first two rounds of the parser on a line whose first token is a keyword; `fuelFor ts` is two
    more than the fuel shown -/
theorem parseTokens_word {ts : List Token} {w : Word} (h : tok { toks := ts } = some (.word w))
    (hne : w ≠ .else) :
    parseTokens ts =
      ((statement (6 * ts.length + 18 + 1)).run { toks := ts } >>= fun p =>
        (statements (6 * ts.length + 18 + 1) true [p.1]).run p.2).map (·.1) := by
  rw [parseTokens_run, h, fuelFor_succ]
  simp only [numStr]
  rw [statements_run, tok_pk, h, pk_pk, statement_pk]
  cases w <;> first | exact absurd rfl hne | rfl

theorem parseTokens_one_error {ts : List Token} {w : Word} (h : tok { toks := ts } = some (.word w))
    (hne : w ≠ .else) {e : Error} (hs : ∀ fuel, (statement (fuel + 1)).run { toks := ts } = .error e) :
    parseTokens ts = .error e := by
  rw [parseTokens_word h hne, hs]
  rfl

theorem parseTokens_one_ok {ts : List Token} {w : Word} (h : tok { toks := ts } = some (.word w))
    (hne : w ≠ .else) {s : Stmt} {st' : PState}
    (hs : ∀ fuel, (statement (fuel + 1)).run { toks := ts } = .ok (s, st')) (hend : tok st' = none) :
    parseTokens ts = .ok [s] := by
  rw [parseTokens_word h hne, hs, ok_bind, statements_run, hend]
  rfl

end Lemmas.ParseRun
end Basic

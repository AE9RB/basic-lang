import BasicModel.Lemmas.DirectFrame
/-
  `Program.Linked`: nothing pending, no open WHILE, `directAddress` set and within the code — the hypothesis
  `Linked s.program` of the CONT theorems.  Linking such a program once more is a no-op but for the fragment-local
  symbols and perhaps one `End` (`linkProg_clean`, `linkProg_linked`).  A direct line compiled onto a program whose
  direct code lies within the code leaves a linked program with the same `directAddress` (`linked_codegenLine`):
  the hypothesis holds for whatever program the direct line RUN (GOTO …) that started `s` left.
-/
namespace Basic

namespace Link

/-- `link` when nothing is pending: only the fragment-local (negative) symbols go -/
theorem link_clean (l : Link) (hu : l.unlinked = []) (hw : l.whiles = []) :
    l.link = ({ l with symbols := l.symbols.filter (fun p => p.1 ≥ 0), currentSymbol := 0 }, []) := by
  cases l
  dsimp only at hu hw
  subst hu hw
  rfl

end Link

namespace Program

/-- a linked program: nothing pending, direct code marked (for a `Link` alone, without the direct
    segment: `Link.Linked`, `Lemmas/LinkPass.lean`) -/
structure Linked (p : Program) : Prop where
  unlinked : p.link.unlinked = []
  whiles : p.link.whiles = []
  direct : p.directAddress ≠ 0
  inside : p.directAddress ≤ p.link.ops.size

theorem Linked.base_size {p : Program} (h : Linked p) :
    (p.link.ops.extract 0 p.directAddress).size = p.directAddress := by
  have := h.inside
  rw [Array.size_extract]
  omega

theorem resolve_clean (p : Program) (hu : p.link.unlinked = []) (hw : p.link.whiles = []) :
    resolve p = { p with link := { p.link with symbols := p.link.symbols.filter (fun q => q.1 ≥ 0),
                                               currentSymbol := 0 } } := by
  unfold resolve
  rw [Link.link_clean p.link hu hw]
  dsimp only
  split
  · rename_i h
    cases p
    dsimp only at h ⊢
    rw [List.isEmpty_iff] at h
    subst h
    rfl
  · rfl

theorem resolve_markDirect_clean (q : Program) (hu : q.link.unlinked = []) (hw : q.link.whiles = [])
    (hd : q.directAddress ≠ 0) :
    markDirect (resolve q) =
      { q with link := { q.link with symbols := q.link.symbols.filter (fun r => r.1 ≥ 0), currentSymbol := 0 } } := by
  rw [resolve_clean q hu hw]
  unfold markDirect
  rw [if_neg hd]

theorem ensureEnd_cases (p : Program) :
    ensureEnd p = p ∨
    ensureEnd p = { p with link := { p.link with ops := p.link.ops.push .end },
                           errors := if p.link.ops.size + 1 > Gen.stackMaxLen
                                     then p.errors ++ [Link.opsOverflow] else p.errors } := by
  rw [ensureEnd_eq]
  split
  · exact .inl rfl
  · exact .inr (pushEndP_eq p)

/-- the fragment-local symbols go, and `ensureEnd` may add one `End` -/
theorem linkProg_clean (q : Program) (hu : q.link.unlinked = []) (hw : q.link.whiles = [])
    (hd : q.directAddress ≠ 0) :
    ∃ tail errs, (tail = #[] ∨ tail = #[Opcode.end]) ∧
      (q.link.ops.size + 1 ≤ Gen.stackMaxLen → errs = q.errors) ∧
      q.linkProg = { q with errors := errs,
                            link := { q.link with ops := q.link.ops ++ tail, currentSymbol := 0,
                                                  symbols := q.link.symbols.filter (fun r => r.1 ≥ 0) } } := by
  rw [linkProg_eq]
  rcases ensureEnd_cases q with he | he
  · rw [he, resolve_markDirect_clean q hu hw hd]
    exact ⟨#[], q.errors, .inl rfl, fun _ => rfl, by rw [Array.append_empty]⟩
  · rw [he, resolve_markDirect_clean]
    · exact ⟨#[.end], _, .inr rfl, fun h => if_neg (by omega), rfl⟩
    · exact hu
    · exact hw
    · exact hd

theorem linkProg_linked (p : Program) (h : Linked p) :
    ∃ ops errs, ops.extract 0 p.directAddress = p.link.ops.extract 0 p.directAddress ∧
      p.linkProg = { p with errors := errs,
                            link := { p.link with ops := ops, currentSymbol := 0,
                                                  symbols := p.link.symbols.filter (fun q => q.1 ≥ 0) } } := by
  obtain ⟨tail, errs, ht, _, hp⟩ := linkProg_clean p h.unlinked h.whiles h.direct
  refine ⟨_, errs, ?_, hp⟩
  rcases ht with rfl | rfl
  · rw [Array.append_empty]
  · show (p.link.ops.push Opcode.end).extract 0 p.directAddress = _
    rw [Array.extract_push, if_pos h.inside]

/-- every line, compiled onto a program whose direct segment lies within the code (trivially so before the first
    link: `directAddress = 0`) and linked, leaves a linked program, with the segment where it was -/
theorem linked_codegenLine (p : Program) (line : Line) (hp : p.directAddress ≤ p.link.ops.size) :
    Linked (p.codegenLine line).linkProg ∧
    (p.directAddress ≠ 0 → (p.codegenLine line).linkProg.directAddress = p.directAddress) := by
  obtain ⟨h1, -, h3⟩ := codegenLine_segment p line hp
  obtain ⟨hl, -, hne, -, hk⟩ := linkProg_facts (p.codegenLine line)
  exact ⟨⟨hl.unlinked, hl.whiles, hne, h1.linkProg⟩, fun h => (hk (h3 h ▸ h)).1.trans (h3 h)⟩

end Program

end Basic

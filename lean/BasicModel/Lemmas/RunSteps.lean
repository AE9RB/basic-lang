import BasicModel.Lemmas.VmDispatch
/-
  Runs of the machine, one `Runtime.step` at a time — `runSteps`, the body of `executeLoop`, which stops at the first answer
  that is not `continue`, a print event included — and the contracts of code that computes a value.  `Lands n s stk` /
  `StopsOn n s err stk'`: `n` quiet steps end with stack `stk` / fewer than `n` quiet steps are followed by a step that
  throws `err` on `stk'`.

  Which contract for what.  The code of an expression meets `ComputesOn P … σ r`: `Lands` with the value pushed when
  `r = .ok v`, `StopsOn` on `σ` plus values satisfying `P` when `r = .error e` (`Lemmas/InputRun.lean` needs to know what lies
  on the failing stack, for the unwinding of `execute`); `ComputesOnL` is the same for a list of expressions; the code of a
  tree meets it by `flat_computesOn` of `Lemmas/ExprCompile.lean`.  `Computes` (no claim on the failing stack:
  `ComputesOn.computes`, back by `Computes.on`) and `Evaluates` (written out without auxiliary notions: `Computes.evaluates`)
  are the readings the results are stated with.  Straight-line code of a statement is a `Seg` (`Lemmas/Seg.lean`), from a
  `Computes` by `Seg.of_computes`, for a tree by `expr_at`.  Code with loops `Implements` a transformer of the variables
  (`Lemmas/StructCompile.lean`); `Seg.ends` there takes a `Seg` to its `Ends`.  Code that prints `RunsTo` a print result
  (`Lemmas/PrintRun.lean`): that is a statement about `runCollect`, which goes on after a print event, and
  `runCollect_of_runSteps` takes a run of `runSteps` there.

  No contract mentions the trace flag, but every lemma that establishes one from an instruction reads `Runtime.run_step`
  (`Lemmas/RtSplit.lean`) and so assumes `s.tron = false`: under TRON the first step on another line is a print event.

  The declarations are named `Lemmas.ExprCompile.*`, as `Lemmas/ExprCompile.lean` uses them for the code of a tree; nothing
  here mentions the generator.
-/
namespace Basic
namespace Lemmas.ExprCompile
open Basic.Runtime
open Basic.Lemmas.VmDispatch (vmBinary step_binary_stack)

/-- the code segment `code` holds `ops` at address `pc` -/
def CodeAt (code : Array Opcode) (pc : Nat) (ops : List Opcode) : Prop :=
  ∀ k (h : k < ops.length), code[pc + k]? = some ops[k]

theorem CodeAt.left {code : Array Opcode} {pc : Nat} {a b : List Opcode} (h : CodeAt code pc (a ++ b)) :
    CodeAt code pc a := by
  intro k hk
  have := h k (by rw [List.length_append]; omega)
  rw [this, List.getElem_append_left hk]

theorem CodeAt.right {code : Array Opcode} {pc : Nat} {a b : List Opcode} (h : CodeAt code pc (a ++ b)) :
    CodeAt code (pc + a.length) b := by
  intro k hk
  have := h (a.length + k) (by rw [List.length_append]; omega)
  rw [Nat.add_assoc, this, List.getElem_append_right (by omega)]
  simp

theorem CodeAt.head {code : Array Opcode} {pc : Nat} {op : Opcode} {b : List Opcode} (h : CodeAt code pc (op :: b)) :
    code[pc]? = some op := by
  have := h 0 (by simp)
  simpa using this

theorem codeAt_append {code : Array Opcode} {pc : Nat} {a b : List Opcode} :
    CodeAt code pc (a ++ b) ↔ CodeAt code pc a ∧ CodeAt code (pc + a.length) b := by
  refine ⟨fun h => ⟨h.left, h.right⟩, fun ⟨ha, hb⟩ k hk => ?_⟩
  by_cases h : k < a.length
  · rw [ha k h, List.getElem_append_left h]
  · rw [List.length_append] at hk
    rw [List.getElem_append_right (by omega), ← hb (k - a.length) (by omega)]
    congr 1
    omega

theorem codeAt_singleton {code : Array Opcode} {pc : Nat} {op : Opcode} :
    CodeAt code pc [op] ↔ code[pc]? = some op := by
  refine ⟨fun h => h.head, fun h k hk => ?_⟩
  obtain rfl : k = 0 := by simpa using hk
  exact h

theorem CodeAt.of_toList {code : Array Opcode} {pc : Nat} {ops : List Opcode} (h : CodeAt code pc ops) (n : Nat)
    (hn : n = ops.length) : ∀ k, k < n → code[pc + k]? = ops[k]? := by
  intro k hk
  subst hn
  rw [h k hk, List.getElem?_eq_getElem hk]

instance (code : Array Opcode) (pc : Nat) (ops : List Opcode) : Decidable (CodeAt code pc ops) :=
  decidable_of_iff (∀ k : Fin ops.length, code[pc + k.1]? = some ops[k.1])
    ⟨fun h k hk => h ⟨k, hk⟩, fun h k => h k.1 k.2⟩

theorem CodeAt.of_append (pre post : Array Opcode) (ops : List Opcode) :
    CodeAt (pre ++ ops.toArray ++ post) pre.size ops := by
  intro k hk
  rw [Array.getElem?_append_left (by simp; omega), Array.getElem?_append_right (by omega)]
  simp [hk]

/-- sequencing of step results: go on after `continue`, stop at an event or an error -/
def andThen (r : Except Error Step × Runtime) (k : Runtime → Except Error Step × Runtime) :
    Except Error Step × Runtime :=
  match r with
  | (.ok .continue, s') => k s'
  | (.ok (.event ev), s') => (.ok (.event ev), s')
  | (.error err, s') => (.error err, s')

/-- `n` iterations of `Runtime.step` (the body of `executeLoop`), stopping at the first result that is
    not `continue` -/
def runSteps (env : Env) (hie : Bool) : Nat → Runtime → Except Error Step × Runtime
  | 0, s => (.ok .continue, s)
  | n+1, s => andThen (((step env hie).run).run s) (runSteps env hie n)

/-- executing a piece of code: one `step` per opcode -/
def runOps (env : Env) (hie : Bool) (ops : List Opcode) (s : Runtime) : Except Error Step × Runtime :=
  runSteps env hie ops.length s

theorem andThen_assoc (r : Except Error Step × Runtime) (k1 k2 : Runtime → Except Error Step × Runtime) :
    andThen (andThen r k1) k2 = andThen r (fun s => andThen (k1 s) k2) := by
  obtain ⟨r, s⟩ := r
  cases r with
  | error e => rfl
  | ok st => cases st <;> rfl

theorem runSteps_add (env : Env) (hie : Bool) (a b : Nat) (s : Runtime) :
    runSteps env hie (a + b) s = andThen (runSteps env hie a s) (runSteps env hie b) := by
  induction a generalizing s with
  | zero => rw [Nat.zero_add]; rfl
  | succ a ih =>
    rw [Nat.succ_add]
    show andThen _ (runSteps env hie (a + b)) = andThen (andThen _ (runSteps env hie a)) _
    rw [andThen_assoc]
    congr 1
    funext s'
    exact ih s'

theorem runSteps_one (env : Env) (hie : Bool) (s : Runtime) :
    runSteps env hie 1 s = ((step env hie).run).run s := by
  show andThen _ _ = _
  rcases ((step env hie).run).run s with ⟨r, s'⟩
  cases r with
  | error e => rfl
  | ok st => cases st <;> rfl

theorem runSteps_ok_add {env : Env} {hie : Bool} {a : Nat} {s s' : Runtime}
    (h : runSteps env hie a s = (.ok .continue, s')) (n : Nat) :
    runSteps env hie (a + n) s = runSteps env hie n s' := by
  rw [runSteps_add, h]; rfl

theorem runSteps_error_le {env : Env} {hie : Bool} {a n : Nat} {s s' : Runtime} {e : Error}
    (h : runSteps env hie a s = (.error e, s')) (hle : a ≤ n) :
    runSteps env hie n s = (.error e, s') := by
  obtain ⟨m, rfl⟩ : ∃ m, n = a + m := ⟨n - a, by omega⟩
  rw [runSteps_add, h]; rfl

theorem runSteps_event_mono (env : Env) (hie : Bool) (k n : Nat) (s s' : Runtime) (ev : Event)
    (hk : runSteps env hie k s = (.ok (.event ev), s')) (hn : k ≤ n) :
    runSteps env hie n s = (.ok (.event ev), s') := by
  obtain ⟨m, rfl⟩ : ∃ m, n = k + m := ⟨n - k, by omega⟩
  rw [runSteps_add, hk]
  rfl

theorem runSteps_error_mono (env : Env) (hie : Bool) (k n : Nat) (s s' s'' : Runtime) (err : Error)
    (hk : runSteps env hie k s = (.ok .continue, s'))
    (hs : ((step env hie).run).run s' = (.error err, s'')) (hn : k < n) :
    runSteps env hie n s = (.error err, s'') := by
  obtain ⟨m, rfl⟩ : ∃ m, n = k + (1 + m) := ⟨n - k - 1, by omega⟩
  rw [runSteps_add, hk]
  show runSteps env hie (1 + m) s' = _
  rw [runSteps_add, runSteps_one, hs]
  rfl

/-- the first `n` steps from `s` all answer `continue`, and every state on the way is `s` except for
    `pc` (advanced by the number of steps made) and `stack`: variables, program, flags … untouched.
    Only `Evaluates` needs it (`Computes.evaluates`, through `Quiet.vars`); every other reader of a `Lands`, a `StopsOn`
    or a `Computes` uses the run equation alone. -/
def Quiet (env : Env) (hie : Bool) (n : Nat) (s : Runtime) : Prop :=
  ∀ j, j ≤ n → ∃ stk, runSteps env hie j s = (.ok .continue, { s with pc := s.pc + j, stack := stk })

theorem Quiet.zero (env : Env) (hie : Bool) (s : Runtime) : Quiet env hie 0 s := by
  intro j hj
  obtain rfl : j = 0 := by omega
  exact ⟨s.stack, rfl⟩

theorem Quiet.one {env : Env} {hie : Bool} {s : Runtime} {stk : Array Val}
    (h : ((step env hie).run).run s = (.ok .continue, { s with pc := s.pc + 1, stack := stk })) :
    Quiet env hie 1 s := by
  intro j hj
  rcases Nat.le_one_iff_eq_zero_or_eq_one.1 hj with rfl | rfl
  · exact ⟨s.stack, rfl⟩
  · exact ⟨stk, by rw [runSteps_one, h]⟩

theorem Quiet.append {env : Env} {hie : Bool} {a b : Nat} {s : Runtime} {stk : Array Val}
    (ha : Quiet env hie a s)
    (hrun : runSteps env hie a s = (.ok .continue, { s with pc := s.pc + a, stack := stk }))
    (hb : Quiet env hie b { s with pc := s.pc + a, stack := stk }) : Quiet env hie (a + b) s := by
  intro j hj
  by_cases h : j ≤ a
  · exact ha j h
  · obtain ⟨j', rfl⟩ : ∃ j', j = a + j' := ⟨j - a, by omega⟩
    obtain ⟨stk', h'⟩ := hb j' (by omega)
    refine ⟨stk', ?_⟩
    rw [runSteps_add, hrun, ← Nat.add_assoc]
    exact h'

def Lands (env : Env) (hie : Bool) (n : Nat) (s : Runtime) (stk : Array Val) : Prop :=
  Quiet env hie n s ∧ runSteps env hie n s = (.ok .continue, { s with pc := s.pc + n, stack := stk })

def StopsOn (env : Env) (hie : Bool) (n : Nat) (s : Runtime) (err : Error) (stk' : Array Val) : Prop :=
  ∃ (k : Nat) (stk : Array Val), k < n ∧ Quiet env hie k s ∧
    runSteps env hie k s = (.ok .continue, { s with pc := s.pc + k, stack := stk }) ∧
    ((step env hie).run).run { s with pc := s.pc + k, stack := stk } =
      (.error err, { s with pc := s.pc + k + 1, stack := stk' })

theorem Lands.one {env : Env} {hie : Bool} {s : Runtime} {stk : Array Val}
    (h : ((step env hie).run).run s = (.ok .continue, { s with pc := s.pc + 1, stack := stk })) :
    Lands env hie 1 s stk :=
  ⟨Quiet.one h, by rw [runSteps_one, h]⟩

theorem Lands.trans {env : Env} {hie : Bool} {a b : Nat} {s : Runtime} {stk stk' : Array Val}
    (ha : Lands env hie a s stk) (hb : Lands env hie b { s with pc := s.pc + a, stack := stk } stk') :
    Lands env hie (a + b) s stk' := by
  refine ⟨Quiet.append ha.1 ha.2 hb.1, ?_⟩
  rw [runSteps_add, ha.2, ← Nat.add_assoc]
  exact hb.2

theorem StopsOn.one {env : Env} {hie : Bool} {s : Runtime} {stk' : Array Val} {err : Error}
    (h : ((step env hie).run).run s = (.error err, { s with pc := s.pc + 1, stack := stk' })) :
    StopsOn env hie 1 s err stk' :=
  ⟨0, s.stack, Nat.one_pos, Quiet.zero env hie s, rfl, h⟩

theorem StopsOn.mono {env : Env} {hie : Bool} {n m : Nat} {s : Runtime} {err : Error} {stk' : Array Val}
    (h : StopsOn env hie n s err stk') (hn : n ≤ m) : StopsOn env hie m s err stk' := by
  obtain ⟨k, stk, hk, h⟩ := h
  exact ⟨k, stk, Nat.lt_of_lt_of_le hk hn, h⟩

theorem Lands.stopsOn {env : Env} {hie : Bool} {a b : Nat} {s : Runtime} {stk stk' : Array Val} {err : Error}
    (ha : Lands env hie a s stk) (hb : StopsOn env hie b { s with pc := s.pc + a, stack := stk } err stk') :
    StopsOn env hie (a + b) s err stk' := by
  obtain ⟨k, stk1, hk, hq, h1, h2⟩ := hb
  refine ⟨a + k, stk1, by omega, Quiet.append ha.1 ha.2 hq, ?_, ?_⟩
  · rw [runSteps_add, ha.2, ← Nat.add_assoc]
    exact h1
  · rw [← Nat.add_assoc]
    exact h2

theorem Lands.run {env : Env} {hie : Bool} {n : Nat} {s : Runtime} {stk : Array Val} (h : Lands env hie n s stk) :
    runSteps env hie n s = (.ok .continue, { s with pc := s.pc + n, stack := stk }) := h.2

theorem StopsOn.run {env : Env} {hie : Bool} {n : Nat} {s : Runtime} {err : Error} {stk' : Array Val}
    (h : StopsOn env hie n s err stk') :
    ∃ pc', ∀ m, n ≤ m → runSteps env hie m s = (.error err, { s with pc := pc', stack := stk' }) := by
  obtain ⟨k, stk, hk, _, h1, h2⟩ := h
  exact ⟨s.pc + k + 1, fun m hm => runSteps_error_mono env hie k m s _ _ err h1 h2 (by omega)⟩

/-- the code `ops`, located at `s.pc`, computes `r` from the state `s`:
    * `r = .ok v`: `ops.length` steps all answer `continue` and end in `s` with `v` pushed and `pc`
      advanced past the code — every other component of the state (variables included) as in `s`,
      at the end and at every step on the way (`Quiet`);
    * `r = .error err`: `k < ops.length` steps answer `continue` (again `Quiet`), the next one fails
      with exactly `err`; before and after the failing step the state differs from `s` in `pc` and
      `stack` only. -/
def Computes (env : Env) (hie : Bool) (ops : List Opcode) (s : Runtime) : Res Val → Prop
  | .ok v => Quiet env hie ops.length s ∧ runSteps env hie ops.length s =
      (.ok .continue, { s with pc := s.pc + ops.length, stack := s.stack.push v })
  | .error err => ∃ (k : Nat) (stk stk' : Array Val), k < ops.length ∧ Quiet env hie k s ∧
      runSteps env hie k s = (.ok .continue, { s with pc := s.pc + k, stack := stk }) ∧
      ((step env hie).run).run { s with pc := s.pc + k, stack := stk } =
        (.error err, { s with pc := s.pc + k + 1, stack := stk' })

theorem Computes.stops {env : Env} {hie : Bool} {ops : List Opcode} {s : Runtime} {err : Error}
    (h : Computes env hie ops s (.error err)) : ∃ stk', StopsOn env hie ops.length s err stk' := by
  obtain ⟨k, stk, stk', h⟩ := h
  exact ⟨stk', k, stk, h⟩

def ComputesOn (P : Val → Prop) (env : Env) (hie : Bool) (ops : List Opcode) (s : Runtime) (σ : Array Val) :
    Res Val → Prop
  | .ok v => Lands env hie ops.length s (s.stack.push v)
  | .error err => ∃ junk : List Val, (∀ v ∈ junk, P v) ∧ StopsOn env hie ops.length s err (σ ++ junk.toArray)

theorem ComputesOn.computes {P : Val → Prop} {env : Env} {hie : Bool} {ops : List Opcode} {s : Runtime}
    {σ : Array Val} {r : Res Val} (h : ComputesOn P env hie ops s σ r) : Computes env hie ops s r := by
  cases r with
  | ok v => exact h
  | error err =>
    obtain ⟨junk, _, k, stk, h⟩ := h
    exact ⟨k, stk, _, h⟩

structure Above (P : Val → Prop) (s : Runtime) (σ : Array Val) (xs : List Val) : Prop where
  stack : s.stack = σ ++ xs.toArray
  vals : ∀ v ∈ xs, P v

theorem Above.push {P : Val → Prop} {s : Runtime} {σ : Array Val} {xs : List Val} (h : Above P s σ xs) (pc : Nat)
    {a : Val} (ha : P a) : Above P { s with pc := pc, stack := s.stack.push a } σ (xs ++ [a]) :=
  ⟨by show s.stack.push a = _; rw [h.stack]; apply Array.ext'; simp, fun v hv => by
    rcases List.mem_append.1 hv with h' | h'
    · exact h.vals v h'
    · rw [List.mem_singleton.1 h']; exact ha⟩

/-- a last instruction that replaces the value on top by `f` of it — `hstep`: what it does at the
    state the code before it reaches (so `f` may depend on that state, as for `tab`) -/
theorem ComputesOn.unary {P : Val → Prop} {env : Env} {hie : Bool} {ops : List Opcode} {s : Runtime}
    {σ : Array Val} {xs : List Val} {r : Res Val} (oc : Opcode) (f : Val → Res Val)
    (hc : ComputesOn P env hie ops s σ r) (hab : Above P s σ xs)
    (hstep : ∀ a, r = .ok a →
      ((step env hie).run).run { s with pc := s.pc + ops.length, stack := s.stack.push a } =
        match f a with
        | .ok v => (.ok .continue, { s with pc := s.pc + ops.length + 1, stack := s.stack.push v })
        | .error e => (.error e, { s with pc := s.pc + ops.length + 1, stack := s.stack })) :
    ComputesOn P env hie (ops ++ [oc]) s σ (r >>= f) := by
  have hlen : (ops ++ [oc]).length = ops.length + 1 := by simp
  cases r with
  | error err =>
    obtain ⟨junk, hj, h⟩ := hc
    exact ⟨junk, hj, h.mono (by omega)⟩
  | ok a =>
    have hs := hstep a rfl
    have hc : Lands env hie ops.length s (s.stack.push a) := hc
    show ComputesOn P env hie _ s σ (f a)
    cases hf : f a with
    | ok v =>
      rw [hf] at hs
      show Lands env hie (ops ++ [oc]).length s _
      rw [hlen]
      exact hc.trans (Lands.one hs)
    | error e =>
      rw [hf] at hs
      refine ⟨xs, hab.vals, ?_⟩
      rw [hlen]
      exact hc.stopsOn (.one (by rw [hs, hab.stack]))

theorem ComputesOn.binary {P : Val → Prop} {env : Env} {hie : Bool} {opsl opsr : List Opcode} {s : Runtime}
    {σ : Array Val} {xs : List Val} {ra rb : Res Val} (oc : Opcode) (f : Val → Val → Res Val)
    (hl : ComputesOn P env hie opsl s σ ra) (hab : Above P s σ xs)
    (hr : ∀ a, ra = .ok a →
      ComputesOn P env hie opsr { s with pc := s.pc + opsl.length, stack := s.stack.push a } σ rb)
    (hstep : ∀ a b, ra = .ok a → rb = .ok b →
      ((step env hie).run).run
          { s with pc := s.pc + (opsl.length + opsr.length), stack := (s.stack.push a).push b } =
        match f a b with
        | .ok v => (.ok .continue, { s with pc := s.pc + (opsl.length + opsr.length) + 1, stack := s.stack.push v })
        | .error e => (.error e, { s with pc := s.pc + (opsl.length + opsr.length) + 1, stack := s.stack })) :
    ComputesOn P env hie (opsl ++ opsr ++ [oc]) s σ (do let a ← ra; let b ← rb; f a b) := by
  have hlen : (opsl ++ opsr ++ [oc]).length = opsl.length + opsr.length + 1 := by
    rw [List.length_append, List.length_append, List.length_singleton]
  cases ra with
  | error err =>
    obtain ⟨junk, hj, h⟩ := hl
    exact ⟨junk, hj, h.mono (by omega)⟩
  | ok a =>
    have hl : Lands env hie opsl.length s (s.stack.push a) := hl
    have hr' := hr a rfl
    cases rb with
    | error err =>
      obtain ⟨junk, hj, h⟩ := hr'
      exact ⟨junk, hj, (hl.stopsOn h).mono (by omega)⟩
    | ok b =>
      have hlr : Lands env hie (opsl.length + opsr.length) s ((s.stack.push a).push b) := hl.trans hr'
      have hs := hstep a b rfl rfl
      show ComputesOn P env hie _ s σ (f a b)
      cases hfab : f a b with
      | ok v =>
        rw [hfab] at hs
        show Lands env hie (opsl ++ opsr ++ [oc]).length s _
        rw [hlen]
        exact hlr.trans (Lands.one hs)
      | error e =>
        rw [hfab] at hs
        refine ⟨xs, hab.vals, ?_⟩
        rw [hlen]
        exact hlr.stopsOn (.one (by rw [hs, hab.stack]))

theorem Computes.on {env : Env} {hie : Bool} {ops : List Opcode} {s : Runtime} {r : Res Val}
    (h : Computes env hie ops s r) : ComputesOn (fun _ => True) env hie ops s #[] r := by
  cases r with
  | ok v => exact h
  | error err =>
    obtain ⟨stk', h⟩ := h.stops
    exact ⟨stk'.toList, fun _ _ => trivial, by simpa using h⟩

theorem Computes.binary {env : Env} {hie : Bool} {opsl opsr : List Opcode} {s : Runtime} {ra rb : Res Val}
    (oc : Opcode) (f : Val → Val → Res Val) (hl : Computes env hie opsl s ra)
    (hr : ∀ a, ra = .ok a →
      Computes env hie opsr { s with pc := s.pc + opsl.length, stack := s.stack.push a } rb)
    (hf : vmBinary oc = some f) (htr : s.tron = false)
    (hop : s.program.link.ops[s.pc + opsl.length + opsr.length]? = some oc)
    (hroom : s.stack.size + 1 ≤ Gen.stackMaxLen) :
    Computes env hie (opsl ++ opsr ++ [oc]) s (do let a ← ra; let b ← rb; f a b) :=
  (ComputesOn.binary (xs := s.stack.toList) oc f hl.on ⟨by simp, fun _ _ => trivial⟩ (fun a ha => (hr a ha).on)
    fun a b _ _ => step_binary_stack env hie _ oc f s.stack a b htr (by rw [← Nat.add_assoc]; exact hop)
      (VmDispatch.binFn_of_vmBinary hf) rfl
      hroom).computes

theorem computesOn_literal (P : Val → Prop) (env : Env) (hie : Bool) (s : Runtime) (σ : Array Val) (v : Val)
    (hcode : CodeAt s.program.link.ops s.pc [.literal v]) (htr : s.tron = false)
    (hroom : s.stack.size + 1 ≤ Gen.stackMaxLen) : ComputesOn P env hie [.literal v] s σ (.ok v) :=
  Lands.one (run_step_literal_room env hie s v htr hcode.head hroom)

/-- like `ComputesOn`, for a list of values pushed in order -/
def ComputesOnL (P : Val → Prop) (env : Env) (hie : Bool) (ops : List Opcode) (s : Runtime) (σ : Array Val) :
    Res (List Val) → Prop
  | .ok vs => Lands env hie ops.length s (s.stack ++ vs.toArray)
  | .error err => ∃ junk : List Val, (∀ v ∈ junk, P v) ∧ StopsOn env hie ops.length s err (σ ++ junk.toArray)

theorem ComputesOnL.nil (P : Val → Prop) (env : Env) (hie : Bool) (s : Runtime) (σ : Array Val) :
    ComputesOnL P env hie [] s σ (.ok []) := by
  refine ⟨Quiet.zero env hie s, ?_⟩
  show (_, s) = (_, { s with pc := s.pc + 0, stack := s.stack ++ #[] })
  rw [Array.append_empty]
  rfl

theorem ComputesOnL.cons {P : Val → Prop} {env : Env} {hie : Bool} {opsa opsr : List Opcode} {s : Runtime}
    {σ : Array Val} {ra : Res Val} {rr : Res (List Val)} (ha : ComputesOn P env hie opsa s σ ra)
    (hr : ∀ a, ra = .ok a →
      ComputesOnL P env hie opsr { s with pc := s.pc + opsa.length, stack := s.stack.push a } σ rr) :
    ComputesOnL P env hie (opsa ++ opsr) s σ (do let a ← ra; let vs ← rr; .ok (a :: vs)) := by
  cases ra with
  | error err =>
    obtain ⟨junk, hj, h⟩ := ha
    exact ⟨junk, hj, h.mono (by simp)⟩
  | ok a =>
    have ha : Lands env hie opsa.length s (s.stack.push a) := ha
    have hr' := hr a rfl
    cases rr with
    | error err =>
      obtain ⟨junk, hj, h⟩ := hr'
      refine ⟨junk, hj, ?_⟩
      rw [List.length_append]
      exact ha.stopsOn h
    | ok vs =>
      show Lands env hie (opsa ++ opsr).length s (s.stack ++ (a :: vs).toArray)
      rw [List.length_append, show s.stack ++ (a :: vs).toArray = s.stack.push a ++ vs.toArray by
        apply Array.ext'; simp]
      exact ha.trans hr'

/-- the outcome of running the code `ops` (located at `s.pc`) against an expected result `r`, spelled
    out without auxiliary notions:
    * `r = .ok v`: every one of the `ops.length` steps answers `continue`; the final state is `s`
      with `pc` advanced past the code and `v` pushed — all else, in particular `vars`, as in `s`;
      and `vars` is as in `s` after each step on the way;
    * `r = .error err`: some `k < ops.length` steps answer `continue` (with `vars` as in `s` all
      along), the next `step` fails with exactly `err`, `vars` still as in `s`; running all of `ops`
      reports that error. -/
def Evaluates (env : Env) (hie : Bool) (ops : List Opcode) (s : Runtime) (r : Res Val) : Prop :=
  (∀ v, r = .ok v →
    runOps env hie ops s = (.ok .continue, { s with pc := s.pc + ops.length, stack := s.stack.push v }) ∧
    ∀ j, j ≤ ops.length → ∃ sj, runSteps env hie j s = (.ok .continue, sj) ∧ sj.vars = s.vars) ∧
  (∀ err, r = .error err →
    ∃ (k : Nat) (s' s'' : Runtime), k < ops.length ∧
      runSteps env hie k s = (.ok .continue, s') ∧
      ((step env hie).run).run s' = (.error err, s'') ∧
      s''.vars = s.vars ∧
      (∀ j, j ≤ k → ∃ sj, runSteps env hie j s = (.ok .continue, sj) ∧ sj.vars = s.vars) ∧
      runOps env hie ops s = (.error err, s''))

theorem Quiet.vars {env : Env} {hie : Bool} {n : Nat} {s : Runtime} (h : Quiet env hie n s) :
    ∀ j, j ≤ n → ∃ sj, runSteps env hie j s = (.ok .continue, sj) ∧ sj.vars = s.vars := by
  intro j hj
  obtain ⟨stk, h⟩ := h j hj
  exact ⟨_, h, rfl⟩

theorem Computes.evaluates {env : Env} {hie : Bool} {ops : List Opcode} {s : Runtime} {r : Res Val}
    (h : Computes env hie ops s r) : Evaluates env hie ops s r := by
  constructor
  · intro v hv
    subst hv
    exact ⟨h.2, h.1.vars⟩
  · intro err he
    subst he
    obtain ⟨k, stk, stk', hk, hq, h1, h2⟩ := h
    exact ⟨k, _, _, hk, h1, h2, rfl, hq.vars, runSteps_error_mono env hie k _ s _ _ err h1 h2 hk⟩

end Lemmas.ExprCompile
end Basic

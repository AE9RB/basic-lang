import BasicModel.Lemmas.RenumGen
/-
  RENUM and the compiler, part 4: the statements with line-number operands (GOTO, GOSUB, RESTORE, RUN,
  ON … GOTO / GOSUB, LIST, DELETE).  The operand is a literal leaf; visiting it pushes the
  one-instruction fragment `litFrag v` on the expression stack, and the statement's generator pops it
  again at once: that is an equation of the one run (`Lemmas/RenumAccept.lean`, `visitWith_pop`), after
  which the operand is a parameter of the generator code.  What the code then reads back out of the two
  fragments is said once, as the elimination rule `OpFrag.read`.
-/
namespace Basic
namespace RenumRel
open Link Codegen

variable {φ : Nat → Nat} {α α' β β' : Type}

def litFrag (v : Val) : Link := { ops := #[.literal v] }

variable (φ) in
/-- operand fragments: a line number renumbered, or no line number on both sides -/
inductive OpFrag : Col × Link → Col × Link → Prop
  | line (c c' : Col) {v v' : Val} {n : Nat} : v.toLineNumber = .ok (some n) → v'.toLineNumber = .ok (some (φ n)) →
      OpFrag (c, litFrag v) (c', litFrag v')
  | other (c c' : Col) {v : Val} : (∀ n, v.toLineNumber ≠ .ok (some n)) → OpFrag (c, litFrag v) (c', litFrag v)

theorem stringOfLink_litFrag (v : Val) :
    stringOfLink (litFrag v) = match v with | .str s => some s | _ => none := by
  cases v <;> rfl

/-- `toLineNumber` never answers `.ok none`: a value that is no line number is refused -/
theorem toLineNumber_other {v : Val} (h : ∀ n, v.toLineNumber ≠ .ok (some n)) : ∃ e, v.toLineNumber = .error e := by
  unfold Val.toLineNumber at h ⊢
  revert h
  cases v.toU16 with
  | error e => exact fun _ => ⟨e, rfl⟩
  | ok n =>
    intro h
    simp only [bind, Except.bind] at h ⊢
    by_cases hn : n ≤ maxLineNumber
    · exact absurd (if_pos hn) (h n)
    · exact ⟨_, if_neg hn⟩

theorem lnOf_other {v : Val} (h : ∀ n, v.toLineNumber ≠ .ok (some n)) :
    (match v.toLineNumber with | .ok ln => ln | .error _ => none) = none := by
  obtain ⟨e, he⟩ := toLineNumber_other h
  rw [he]

theorem stringOfLink_of_line {v : Val} {r : Option Nat} (h : v.toLineNumber = .ok r) : stringOfLink (litFrag v) = none := by
  cases v with
  | str s => cases h
  | sng _ | dbl _ | int _ | ret _ | nxt _ => rfl

/-- What both sides read back out of an operand fragment, as a rule of elimination: a line and the renumbered line (and
    no file name), or the same refusal and the same file name, the fragment being the same. -/
@[elab_as_elim]
theorem OpFrag.read {C : Except Error (Option Nat) → Except Error (Option Nat) → Option Str → Option Str → Prop}
    {x x' : Col × Link} (h : OpFrag φ x x') (line : ∀ n, C (.ok (some n)) (.ok (some (φ n))) none none)
    (other : ∀ e s, C (.error e) (.error e) s s) :
    C (lineNumberOfLink x.2) (lineNumberOfLink x'.2) (stringOfLink x.2) (stringOfLink x'.2) := by
  cases h with
  | @line _ _ v v' _ hv hv' =>
    show C v.toLineNumber v'.toLineNumber _ _
    rw [hv, hv', stringOfLink_of_line hv, stringOfLink_of_line hv']
    exact line _
  | @other _ _ v hv =>
    obtain ⟨e, he⟩ := toLineNumber_other hv
    show C v.toLineNumber v.toLineNumber _ _
    rw [he]
    exact other e _

/-- what GOTO / GOSUB do with the operand fragment -/
theorem gr_lineOperand {β β' : Type} {R : β → β' → Prop} {x x' : Col × Link} (h : OpFrag φ x x')
    {f : Col × Option Nat → GM β} {f' : Col × Option Nat → GM β'}
    (hf : ∀ c c' ln ln', LnRel φ ln ln' → GRs φ (f (c, ln)) (f' (c', ln')) R) :
    GRs φ ((match lineNumberOfLink x.2 with
        | .ok ln => pure (x.1, ln)
        | .error e => throw (e.inCol x.1.1 x.1.2) : GM (Col × Option Nat)) >>= f)
      ((match lineNumberOfLink x'.2 with
        | .ok ln => pure (x'.1, ln)
        | .error e => throw (e.inCol x'.1.1 x'.1.2) : GM (Col × Option Nat)) >>= f') R :=
  h.read
    (fun _ => GRs.seq (R := fun r r' => LnRel φ r.2 r'.2) (GRs.ret (.line _)) fun _ _ hr => hf _ _ _ _ hr)
    fun e _ => GRs.seq (R := fun r r' => LnRel φ r.2 r'.2) (GRs.thr (ErrRel.inCol (ErrRel.refl e) _ _ _ _))
      fun _ _ hr => hf _ _ _ _ hr

/-- the loop of `genOn` over the operand fragments -/
theorem gr_onBody {x x' : Col × Link} (h : OpFrag φ x x') (A : Type) (f : Col × Link → A) (f' : Col × Link → A) :
    GRs φ
      (match lineNumberOfLink x.snd with
        | Except.ok ln => do
          pushGoto x.fst ln
          pure (ForInStep.yield (f x))
        | Except.error e => do
          throw (e.inCol x.fst.fst x.fst.snd)
          pure (ForInStep.yield (f x)) : GM (ForInStep A))
      (match lineNumberOfLink x'.snd with
        | Except.ok ln => do
          pushGoto x'.fst ln
          pure (ForInStep.yield (f' x'))
        | Except.error e => do
          throw (e.inCol x'.fst.fst x'.fst.snd)
          pure (ForInStep.yield (f' x')) : GM (ForInStep A)) StepRel :=
  h.read (fun n => GRs.seq_any (gr_pushGoto _ _ (.line n)) fun _ _ => GRs.ret (.yield _ _))
    fun e _ => GRs.seq_any (GRs.thr (ErrRel.inCol (ErrRel.refl e) _ _ _ _)) fun _ _ => GRs.ret (.yield _ _)

end RenumRel
end Basic

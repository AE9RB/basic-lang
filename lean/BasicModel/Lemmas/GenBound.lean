import BasicModel.Lemmas.GenWalk
/-
  Symbol addresses of generated fragments lie within the fragment's code.

  `SymBounded l`: every entry of `l.symbols` has a code address `≤ l.ops.size`.  Every statement
  fragment the generator builds satisfies it (`fragments_symBounded`); expression and variable
  fragments define no symbols at all (`SF`).  With the D20 rule of `linkProg` ("a symbol at the
  very end of the code forces a closing `End`") this gives: every address a reference can be
  resolved to lies strictly below `directAddress` (`Lemmas/Layout.lean`).

  The proof is the walk of `Lemmas/GenWalk.lean` for the invariants `bInv C`, with the invariant of
  the fragment under construction as a parameter `C`: `SF` while an expression or variable is
  generated, `SymBounded` while a statement is.
-/
namespace Basic
namespace Link

/-- a fragment without symbols (expressions, variables) -/
def SF (l : Link) : Prop := l.symbols = []

/-- every symbol's code address lies within the code, the end included -/
def SymBounded (l : Link) : Prop := ∀ p ∈ l.symbols, p.2.1 ≤ l.ops.size

theorem SF.empty : SF {} := rfl
theorem SymBounded.empty : SymBounded {} := fun _ h => nomatch h
theorem SF.bounded {l : Link} (h : SF l) : SymBounded l := by
  intro p hp; rw [h] at hp; cases hp

theorem SF.append {a b : Link} (ha : SF a) (hb : SF b) : SF (a.append b).1 := by
  have key : SF (appended a b) := by
    show appendSymbols a b = []
    unfold appendSymbols
    rw [hb]
    exact ha
  exact append_ind a b ha fun _ => ⟨key, key⟩

theorem SymBounded.append {a b : Link} (ha : SymBounded a) (hb : SymBounded b) : SymBounded (a.append b).1 := by
  have key : SymBounded (appended a b) := by
    intro p hp
    show p.2.1 ≤ (a.ops ++ b.ops).size
    rw [Array.size_append]
    rcases mem_appendSymbols hp with h | ⟨q, hq, rfl⟩
    · have := ha p h; omega
    · have := hb q hq
      show q.2.1 + a.ops.size ≤ _
      omega
  exact append_ind a b ha fun _ => ⟨key, key⟩

theorem SymBounded.push {l : Link} (h : SymBounded l) (op : Opcode) : SymBounded (l.push op).1 := by
  intro p hp
  show p.2.1 ≤ (l.ops.push op).size
  rw [Array.size_push]
  exact Nat.le_succ_of_le (h p hp)

theorem SymBounded.pushSymbol {l : Link} (h : SymBounded l) (sym : Symbol) : SymBounded (l.pushSymbol sym) := by
  intro p hp
  rcases mem_symInsert hp with e | hp
  · rw [e]; exact Nat.le_refl _
  · exact h p hp

/-- the invariants of the fragment under construction that the label-free primitives keep -/
structure CurOk (C : Link → Prop) : Prop where
  empty : C {}
  push : ∀ l op, C l → C (l.push op).1
  addUnlinked : ∀ l c s, C l → C (l.addUnlinked c s)
  setWhiles : ∀ (l : Link) w, C l → C { l with whiles := w }
  append : ∀ a b, C a → SF b → C (a.append b).1

theorem curOk_sf : CurOk SF :=
  ⟨SF.empty, fun _ _ h => h, fun _ _ _ h => h, fun _ _ h => h, fun _ _ ha hb => ha.append hb⟩

theorem curOk_bounded : CurOk SymBounded :=
  ⟨SymBounded.empty, fun _ op h => h.push op, fun _ _ _ h => h, fun _ _ h => h,
   fun _ _ ha hb => ha.append hb.bounded⟩

end Link

namespace Codegen
open Link
variable {α β : Type} {C : Link → Prop}

structure BGood (C : Link → Prop) (g : GState) : Prop where
  cur : C g.cur
  var : ∀ v ∈ g.var.toList, v.link.SF
  expr : ∀ x ∈ g.expr.toList, x.2.SF
  stmt : ∀ x ∈ g.stmt.toList, x.2.SymBounded

/-- `BH C m Q`: `m` keeps the generator state good, and its successful results satisfy `Q` (the walk itself
    is stated with `H (bInv C)`) -/
structure BH (C : Link → Prop) (m : GM α) (Q : α → Prop) : Prop where
  run : ∀ g, BGood C g → BGood C (m.run.run g).2 ∧ ∀ a, (m.run.run g).1 = .ok a → Q a

theorem BH.any {Q : α → Prop} {m : GM α} (h : BH C m Q) : BH C m T :=
  ⟨fun g hg => ⟨(h.run g hg).1, fun _ _ => trivial⟩⟩

theorem sf_transformToData {l : Link} (h : l.SF) (c : Col) : (transformToData l c).1.SF :=
  transformToData_ind l c h h fun _ => h

theorem sf_of_transformToData {l l' : Link} {c : Col} {r : Except Error Unit} (h : l.SF)
    (e : transformToData l c = (l', r)) : l'.SF := by
  have := sf_transformToData h c
  rw [e] at this
  exact this

def bInv (C : Link → Prop) : GInv where
  C := C
  V := fun v => v.link.SF
  E := SF
  S := SymBounded
  K := T
  Y := T
  N := T
  A := T
  R := T

theorem exprCl_of_curOk (hC : CurOk C) : ExprCl (bInv C) :=
  ⟨.of_true fun _ => trivial, fun l op h _ => hC.push l op h, hC.append, fun _ h => h, fun _ _ => trivial, fun _ _ _ _ => trivial, trivial⟩

theorem bInv_closed : Closed (bInv C) SymBounded := by
  have l : LabelCl (bInv SymBounded) := ⟨fun _ h => ⟨h, trivial⟩, fun _ s h _ => h.pushSymbol s⟩
  have b := curOk_bounded
  exact {
    expr := exprCl_of_curOk curOk_sf, stmt := exprCl_of_curOk b, label := l
    ref := RefCl.of (exprCl_of_curOk b) l fun _ c s op h _ => b.push _ op (b.addUnlinked _ c s h)
    mark := ⟨fun _ _ _ _ h => b.push _ _ (b.setWhiles _ _ h), fun _ _ _ _ h => b.push _ _ (b.setWhiles _ _ h)⟩
    td := fun _ _ c ha h => SymBounded.append ha (sf_transformToData h c).bounded
    pop := fun _ _ _ => trivial
    appS := fun _ _ ha hb => SymBounded.append ha hb
    nilE := SF.empty, nilS := SymBounded.empty
    done := fun _ h => h
    var := fun _ _ _ _ h _ _ => h
    stk := fun _ _ _ _ => trivial }

/-- the three stacks between two visits (the fragment under construction is reset by `runFresh`) -/
structure VGood (g : GState) : Prop where
  var : ∀ v ∈ g.var.toList, v.link.SF
  expr : ∀ x ∈ g.expr.toList, x.2.SF
  stmt : ∀ x ∈ g.stmt.toList, x.2.SymBounded

theorem VGood.gen {g : GState} (h : VGood g) : Good ((bInv C).withC T) g :=
  ⟨trivial, h.var, h.expr, h.stmt, trivial⟩

theorem acceptStmt_vgood : ∀ (st : Stmt) (s : VState), VGood s.g → VGood (acceptStmt st s).g :=
  fun st s h =>
    have r := acceptStmt_keeps (bInv_closed (C := T)) (VarNames.of_true (fun _ => trivial) fun _ => trivial)
      st s h.gen
    ⟨r.var, r.expr, r.stmt⟩

theorem fragments_symBounded (ast : List Stmt) :
    ∀ x ∈ (acceptStmts ast {}).g.stmt.toList, x.2.SymBounded :=
  (acceptStmts_keeps (bInv_closed (C := T)) (VarNames.of_true (fun _ => trivial) fun _ => trivial) ast {}
    (Good.empty (C' := T) trivial trivial)).stmt

end Codegen
end Basic

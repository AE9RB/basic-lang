import BasicModel.Thm.C02
/-
  The whole-list behaviour of `Parse.printList` (PRINT's item list) on lists made of rendered
  expressions of the C02 fragment, `,` and `;`.
-/
namespace Basic
namespace Lemmas.PrintList
open Parse Spec Lemmas.ParseExpr Lemmas.ParseRun

/-- an item of a PRINT list -/
inductive PItem where
  | expr (e : Expr)
  | comma
  | semi

def renderItem (lit : Int16 → Str) : PItem → List Token
  | .expr e => render lit e
  | .comma => [.comma]
  | .semi => [.semicolon]

def renderItems (lit : Int16 → Str) : List PItem → List Token
  | [] => []
  | i :: is => renderItem lit i ++ renderItems lit is

/-- every expression item is followed by something that is not a binary operator (so the
    expression ends where its rendering ends) -/
def Sep (lit : Int16 → Str) (t' : List Token) : List PItem → Prop
  | [] => True
  | .expr _ :: rest => stops 0 (renderItems lit rest ++ t') ∧ Sep lit t' rest
  | _ :: rest => Sep lit t' rest

/-- the item `,` desugars to, recorded at column range `c` (the same term as `Thm.C11.zoneItem` and
    `PrintRun.zoneExpr`, both by `rfl`) -/
def zoneItem (c : Col) : Expr :=
  Expr.var (.array c (.string "TAB".toList) [Expr.integer c Gen.printZone])

/-- what one item contributes to the parsed list -/
inductive ItemOut : PItem → List Expr → Prop where
  | expr (e e' : Expr) : e'.shape = e.shape → ItemOut (.expr e) [e']
  | comma (c : Col) : ItemOut .comma [zoneItem c]
  | semi : ItemOut .semi []

inductive Outs : List PItem → List Expr → Prop where
  | nil : Outs [] []
  | cons {i is o os} : ItemOut i o → Outs is os → Outs (i :: is) (o ++ os)

/-- the linefeed flag after the items: true iff the last item is an expression (or, for the empty
    list, the flag it started with) -/
def lfAfter (lf : Bool) : List PItem → Bool
  | [] => lf
  | .expr _ :: rest => lfAfter true rest
  | _ :: rest => lfAfter false rest

/-- the terminator of the list: end of line, `:` or ELSE -/
def EndTok (t' : List Token) : Prop := isEnd t'.head? = true

/-- the rendering of a fragment tree starts with a literal, `-`, NOT or `(` -/
theorem render_head {ok : Int16 → Prop} (lit : Int16 → Str) {e : Expr} (hf : Frag ok e) :
    ∃ t ts, render lit e = t :: ts ∧ isEnd (some t) = false ∧ t ≠ .semicolon ∧ t ≠ .comma := by
  induction hf with
  | int c n _ => exact ⟨_, _, rfl, rfl, nofun, nofun⟩
  | neg c x _ _ => exact ⟨_, _, rfl, rfl, nofun, nofun⟩
  | not c x _ _ => exact ⟨_, _, rfl, rfl, nofun, nofun⟩
  | bin op c l r _ _ ihl _ =>
    obtain ⟨t, ts, h, h1, h2, h3⟩ := ihl
    cases hn : needsParens (precOf op) false l with
    | true => exact ⟨.lparen, _, by simp only [render, hn, if_true]; rfl, rfl, nofun, nofun⟩
    | false =>
      refine ⟨t, ts ++ (.operator (operatorOf op) :: child lit (precOf op) true r), ?_, h1, h2, h3⟩
      simp only [render, child, hn, Bool.false_eq_true, if_false, h]; rfl

def startsWithSeparator : List PItem → Bool
  | .expr _ :: _ => false
  | _ => true

/-- the documented form of a PRINT list: no two expressions directly next to each other -/
def Alternating : List PItem → Prop
  | [] => True
  | .expr _ :: rest => startsWithSeparator rest = true ∧ Alternating rest
  | _ :: rest => Alternating rest

theorem stops_of_endTok {t' : List Token} (h : EndTok t') : stops 0 t' := by
  unfold EndTok at h
  cases t' with
  | nil => trivial
  | cons t ts =>
    cases t with
    | operator op => simp [isEnd] at h
    | _ => trivial

theorem sep_of_alternating (lit : Int16 → Str) {t' : List Token} (hend : EndTok t') :
    ∀ items, Alternating items → Sep lit t' items := by
  intro items
  induction items with
  | nil => intro _; trivial
  | cons i rest ih =>
    intro h
    cases i with
    | comma => exact ih h
    | semi => exact ih h
    | expr e =>
      refine ⟨?_, ih h.2⟩
      cases rest with
      | nil => exact stops_of_endTok hend
      | cons j rest' =>
        cases j with
        | expr _ => exact absurd h.1 (by simp [startsWithSeparator])
        | comma => trivial
        | semi => trivial

theorem lfAfter_eq (lf : Bool) (items : List PItem) :
    lfAfter lf items = (match items.getLast? with
      | none => lf
      | some (.expr _) => true
      | some _ => false) := by
  induction items generalizing lf with
  | nil => rfl
  | cons i rest ih =>
    cases rest with
    | nil => cases i <;> rfl
    | cons j rest' =>
      have : (i :: j :: rest').getLast? = (j :: rest').getLast? := by simp [List.getLast?_cons_cons]
      rw [this]
      cases i <;> simp only [lfAfter] <;> rw [ih] <;>
        (cases hl : (j :: rest').getLast? with
         | none => simp at hl
         | some x => cases x <;> rfl)

theorem renderItems_plain (lit : Int16 → Str) (items : List PItem) :
    ∀ t ∈ renderItems lit items, Plain t := by
  induction items with
  | nil => intro t h; cases h
  | cons i rest ih =>
    intro t h
    simp only [renderItems, List.mem_append] at h
    rcases h with h | h
    · cases i with
      | expr e => exact Thm.C02.render_plain lit e t h
      | _ =>
        simp only [renderItem, List.mem_cons, List.not_mem_nil, or_false] at h
        subst h; exact ⟨fun _ h => (nomatch h), rfl⟩
    · exact ih t h

/-- `fuel ≥ N` serves the expression items (the maximum of their `parse_render_then` bounds); `n` counts the rounds of
    the loop, one per item and one for the terminator, hence `items.length < n`; `t'` is what follows the list. -/
theorem printList_spec (lit : Int16 → Str) (t' : List Token) (hend : EndTok t') :
    ∀ (items : List PItem) (st : PState) (lf : Bool) (acc : List Expr), Good st →
      view st = renderItems lit items ++ t' →
      (∀ e, PItem.expr e ∈ items → Frag (Thm.C02.LitOk lit) e) → Sep lit t' items →
      ∃ N out st', Outs items out ∧ Good st' ∧ view st' = t' ∧
        ∀ fuel n, N ≤ fuel → items.length < n →
          (printList fuel n lf acc).run st =
            .ok (acc ++ out ++ (if lfAfter lf items then [Expr.string (st'.ce, st'.ce) ['\n']] else []),
                 st') := by
  intro items
  induction items with
  | nil =>
    intro st lf acc hg hv _ _
    have he : isEnd (tok st) = true := by rw [(good_step hg).1, hv]; exact hend
    refine ⟨0, [], pk st, .nil, (good_pk hg).1, (good_pk hg).2.trans hv, fun fuel n _ hn => ?_⟩
    obtain ⟨n, rfl⟩ : ∃ n', n = n' + 1 := ⟨n - 1, by simp at hn; omega⟩
    rw [printList_run, if_pos he]
    cases lf <;> simp [lfAfter]
  | cons i items ih =>
    intro st lf acc hg hv hfr hsep
    have hfr' : ∀ e, PItem.expr e ∈ items → Frag (Thm.C02.LitOk lit) e :=
      fun e he => hfr e (List.mem_cons_of_mem _ he)
    cases i with
    | comma =>
      obtain ⟨ht, hg1, hv1⟩ :=
        tok_cons hg (show view st = .comma :: (renderItems lit items ++ t') by rw [hv]; rfl)
      obtain ⟨N, out, st', hout, hg', hvw', hrun⟩ :=
        ih (adv st) false (acc ++ [zoneItem ((adv st).cs, (adv st).ce)]) hg1 hv1 hfr' hsep
      refine ⟨N, [zoneItem ((adv st).cs, (adv st).ce)] ++ out, st', .cons (.comma _) hout, hg', hvw',
        fun fuel n hf hn => ?_⟩
      obtain ⟨n, rfl⟩ : ∃ n', n = n' + 1 := ⟨n - 1, by simp at hn; omega⟩
      rw [printList_run, ht]
      have := hrun fuel n hf (by simp at hn; omega)
      simp only [zoneItem, lfAfter, List.append_assoc, isEnd, Bool.false_eq_true, if_false] at this ⊢
      exact this
    | semi =>
      obtain ⟨ht, hg1, hv1⟩ :=
        tok_cons hg (show view st = .semicolon :: (renderItems lit items ++ t') by rw [hv]; rfl)
      obtain ⟨N, out, st', hout, hg', hvw', hrun⟩ := ih (adv st) false acc hg1 hv1 hfr' hsep
      refine ⟨N, [] ++ out, st', .cons .semi hout, hg', hvw', fun fuel n hf hn => ?_⟩
      obtain ⟨n, rfl⟩ : ∃ n', n = n' + 1 := ⟨n - 1, by simp at hn; omega⟩
      rw [printList_run, ht]
      exact hrun fuel n hf (by simp at hn; omega)
    | expr e =>
      have hfe : Frag (Thm.C02.LitOk lit) e := hfr e (List.mem_cons_self ..)
      obtain ⟨tk, ts, hrd, hne, hns, hnc⟩ := render_head lit hfe
      have hv' : view st = render lit e ++ (renderItems lit items ++ t') := by
        rw [hv]; simp [renderItems, renderItem]
      have ht : tok st = some tk := by rw [(good_step hg).1, hv', hrd]; rfl
      obtain ⟨N1, e', st1, hN1, hsh, hg1, hv1⟩ :=
        Thm.C02.parse_render_then [] lit e hfe (pk st) (renderItems lit items ++ t') (good_pk hg).1
          ((good_pk hg).2.trans hv') hsep.1
      obtain ⟨N, out, st', hout, hg', hvw', hrun⟩ := ih st1 true (acc ++ [e']) hg1 hv1 hfr' hsep.2
      refine ⟨max N1 N, [e'] ++ out, st', .cons (.expr e e' hsh) hout, hg', hvw',
        fun fuel n hf hn => ?_⟩
      obtain ⟨n, rfl⟩ : ∃ n', n = n' + 1 := ⟨n - 1, by simp at hn; omega⟩
      have hx : (expression fuel).run (pk st) = .ok (e', st1) := hN1 fuel (by omega)
      rw [printList_run, ht, if_neg (by simp [hne]), hx]
      have := hrun fuel n (by omega) (by simp at hn; omega)
      simp only [lfAfter, List.append_assoc] at this ⊢
      cases tk <;> first
        | exact absurd rfl hns
        | exact absurd rfl hnc
        | exact this

theorem plain_word_print : Plain (.word .print) := ⟨fun n => by simp, rfl⟩

theorem statement_print_run (fuel : Nat) (st : PState) (h : tok st = some (.word .print)) :
    (statement (fuel + 1)).run st =
      (printList fuel fuel true []).run (adv st) >>= fun p =>
        .ok (.print ((adv st).cs, (adv st).ce) p.1, p.2) := by
  rw [statement]
  simp only [StateT.run_bind, peek_run, h, ok_bind, next_run, adv_pk, col_run]
  cases (printList fuel fuel true []).run (adv st) <;> rfl

end Lemmas.PrintList
end Basic

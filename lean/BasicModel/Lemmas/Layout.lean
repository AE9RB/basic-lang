import BasicModel.Lemmas.Link
import BasicModel.Lemmas.LinkPass
import BasicModel.Lemmas.GenNeg
import BasicModel.Lemmas.GenBound
import BasicModel.Lemmas.Program
import BasicModel.Lemmas.DirectFrame
import BasicModel.Lemmas.Sim
import BasicModel.Lemmas.ParseRun
import BasicModel.Lemmas.C19
/-
  C20, whole-program layout invariance: a numbered line that compiles to nothing (`REM`) can be
  inserted anywhere without moving any code.

  `Link.withSym l k v` is `l` with the extra symbol-table entry `k ↦ v`.  Every operation of the
  compile pipeline — `append`, `codegen`, `codegenLines`, the linker, the stages of `linkProg` —
  commutes with `withSym k v` for a line number `k` that no other line carries and nothing refers
  to (`codegenLines_withSym`, `link_withSym`, `linkProg_withSym`); `withEnd` does the same for an
  `End` pushed behind the code.

  The file also holds the vocabulary of whole listings, which the theorems on whole programs (C09, C14, C20) start from:
  `Listed` (numbered, strictly ascending; `listedFrom` decides it; `Listed.split`: what it says around one line),
  `endOf pre` (where the code and data of the lines `pre` end) and `NoRef`; what compiling does to the symbol table
  (`genNumbered_syms`, `codegenLines_syms`: the records `LineSyms`, `LinesSyms`), hence the entry of a line
  (`Listed.lookup`, `Listed.compile_lookup`) and what `compile` of a listing is (`compile_symbols`,
  `compile_lineNumberFor`, `compile_directAddress`); code-less lines (`CodeLess`; `Parse.Blank`, `Parse.RemTokens`, for
  which the parser's run lemmas of `Lemmas/ParseRun.lean` and `Lemmas/C19.lean` are imported); and `ProgSim`: what a
  running program can see of a compiled program, enough for `Runtime.Sim` of `Lemmas/Sim.lean`.
-/
namespace Basic
namespace Link

def withSym (l : Link) (k : Symbol) (v : Nat × Nat) : Link := { l with symbols := symInsert k v l.symbols }

theorem withSym_ops (l : Link) (k : Symbol) (v : Nat × Nat) : (l.withSym k v).ops = l.ops := rfl

theorem append_withSym (a b : Link) (k : Symbol) (v : Nat × Nat)
    (h : ∀ q ∈ b.symbols, rebase a.currentSymbol q.1 ≠ k) :
    (a.withSym k v).append b = ((a.append b).1.withSym k v, (a.append b).2) := by
  have hs : appendSymbols (a.withSym k v) b = symInsert k v (appendSymbols a b) :=
    foldl_symInsert_comm
      (fun p => (rebase a.currentSymbol p.1, (p.2.1 + a.ops.size, p.2.2 + a.data.size))) b.symbols k v h a.symbols
  have e : appended (a.withSym k v) b = (appended a b).withSym k v := by
    unfold appended
    rw [hs]
    rfl
  rw [append_eq, append_eq a b, e]
  show (if (a.directSet && !b.data.isEmpty) = true then _
      else if a.ops.size + b.ops.size > Gen.stackMaxLen then _ else _) = _
  split
  · rfl
  · split <;> rfl

theorem append_lookup_line (a b : Link) (hb : NegSyms b) (ha : a.currentSymbol ≤ 0) (x : Symbol) (hx : 0 ≤ x) :
    (a.append b).1.symbols.lookup x = a.symbols.lookup x := by
  rcases append_symbols_cases a b with e | e <;> rw [e]
  exact appendSymbols_lookup_left x (fun q hq => rebase_neg_ne ha (hb.2 q hq) hx)

end Link

namespace Codegen
open Link

theorem codegen_withSym (l : Link) (ast : List Stmt) (k : Symbol) (hk : 0 ≤ k) (v : Nat × Nat)
    (hc : l.currentSymbol ≤ 0) :
    codegen (l.withSym k v) ast = ((codegen l ast).1.withSym k v, (codegen l ast).2) := by
  have hf := fragments_negSyms ast
  obtain ⟨⟨h1, -⟩, h2⟩ := Link.appendMany_rel (R := fun a a' => a' = a.withSym k v ∧ a.currentSymbol ≤ 0)
    ((acceptStmts ast {}).g.stmt.toList.map (·.2)) (a := l) ⟨rfl, hc⟩
    fun a a' f hm ⟨e, ha⟩ => by
      obtain ⟨x, hx, rfl⟩ := List.mem_map.1 hm
      rw [e, append_withSym a x.2 k v fun q hq => rebase_neg_ne ha ((hf x hx).2 q hq) hk]
      exact ⟨⟨rfl, append_cur_le a x.2 ha (hf x hx).1⟩, rfl⟩
  rw [codegen_eq, codegen_eq l, h1, h2]

end Codegen

namespace Program
open Link

def withSym (p : Program) (k : Symbol) (v : Nat × Nat) : Program := { p with link := p.link.withSym k v }

theorem withSym_link (p : Program) (k : Symbol) (v : Nat × Nat) : (p.withSym k v).link = p.link.withSym k v := rfl

theorem withSym_directAddress (p : Program) (k : Symbol) (v : Nat × Nat) :
    (p.withSym k v).directAddress = p.directAddress := rfl

end Program

namespace Link

/-! ### the linker and a change of the link it does not look at

  `withSym k v` (an entry nothing refers to) and `withEnd` (an `End` behind the code).  By `link_eq_pass` the
  linker is a pass over the code that reads the table only under the symbols referred to, and the line of
  an address only when it reports (`pass_congr`); an op without operand behind the code stays (`pass_push`). -/

/-- **the linker commutes with an extra line entry** that nothing pending refers to, provided the
    line numbers it reports do not change — or it reports nothing at all -/
theorem link_withSym (l : Link) (k : Symbol) (hk : 0 ≤ k) (v : Nat × Nat)
    (href : ∀ p ∈ pend l, p.2.2 ≠ k)
    (hl : (∀ a, (l.withSym k v).lineNumberFor a = l.lineNumberFor a) ∨ l.link.2 = []) :
    (l.withSym k v).link = (l.link.1.withSym k v, l.link.2) := by
  rw [link_eq_pass] at hl
  rw [link_eq_pass, link_eq_pass l]
  have key : pass (l.withSym k v).symbols (l.withSym k v).lineNumberFor (pend l)
        (l.ops, whileErrs (l.withSym k v).lineNumberFor l) =
      pass l.symbols l.lineNumberFor (pend l) (l.ops, whileErrs l.lineNumberFor l) := by
    refine pass_congr _ (fun p hp => (symInsert_lookup k v _ _).trans (if_neg (href p hp))) _ _ rfl ?_
    rcases hl with hl | hl
    · exact .inl ⟨funext hl, by rw [funext hl]⟩
    · -- no report at all: in particular none from `linkWhiles`, whatever the lines
      refine .inr ⟨hl, ?_⟩
      have h0 : whileErrs l.lineNumberFor l = [] := pass_errs_nil _ _ _ _ hl
      unfold whileErrs at h0 ⊢
      obtain ⟨h1, h2⟩ := List.append_eq_nil_iff.1 h0
      rw [List.map_eq_nil_iff] at h1 h2
      rw [h1, h2]; rfl
  rw [show pass (l.withSym k v).symbols (l.withSym k v).lineNumberFor (pend (l.withSym k v))
      ((l.withSym k v).ops, whileErrs (l.withSym k v).lineNumberFor (l.withSym k v)) = _ from key]
  unfold Link.withSym
  dsimp only
  rw [symInsert_filter_nonneg hk]

/-- a new entry `k ↦ v` does not change the line of `a` if it is not the greatest line starting at
    or before `a`: a later line starts there too, or `v.1` lies behind `a` -/
theorem lineNumberFor_withSym_of_masked {l : Link} (hs : SymSorted l.symbols) {k : Symbol} {v : Nat × Nat}
    (hk : ∀ p ∈ l.symbols, p.1 ≠ k) (a : Nat)
    (hm : v.1 ≤ a → ∃ p ∈ l.symbols, 0 ≤ p.1 ∧ k < p.1 ∧ p.2.1 ≤ a) :
    (l.withSym k v).lineNumberFor a = l.lineNumberFor a := by
  -- if the new entry starts at or before `a`, the greatest line there is a later one
  have key : ∀ n : Nat, (∀ p ∈ l.symbols, 0 ≤ p.1 → p.2.1 ≤ a → p.1 ≤ (n : Int)) → v.1 ≤ a → k < (n : Int) := by
    intro n hmax hva
    obtain ⟨q, hq, hq0, hkq, hqa⟩ := hm hva
    exact Int.lt_of_lt_of_le hkq (hmax q hq hq0 hqa)
  refine lineNumberFor_eq_of_iff hs (symInsert_sorted k v hs) a fun n => ?_
  show IsLineOf (symInsert k v l.symbols) a n ↔ _
  simp only [IsLineOf, mem_symInsert_new hk]
  constructor
  · rintro ⟨⟨o, d, hmem, hoa⟩, hmax⟩
    have hmax' := fun p hp => hmax p (.inr hp)
    rcases hmem with e | hmem
    · injection e with e1 e2
      exact absurd (key n hmax' (by rw [← e2]; exact hoa)) (by rw [e1]; exact Int.lt_irrefl _)
    · exact ⟨⟨o, d, hmem, hoa⟩, hmax'⟩
  · rintro ⟨⟨o, d, hmem, hoa⟩, hmax⟩
    refine ⟨⟨o, d, .inr hmem, hoa⟩, ?_⟩
    rintro p (rfl | hp) h0 hpa
    · exact Int.le_of_lt (key n hmax hpa)
    · exact hmax p hp h0 hpa

theorem lineNumberFor_withSym_below {l : Link} (hs : SymSorted l.symbols) {k : Symbol} {v : Nat × Nat}
    (hk : ∀ p ∈ l.symbols, p.1 ≠ k) (a : Nat) (ha : a < v.1) :
    (l.withSym k v).lineNumberFor a = l.lineNumberFor a :=
  lineNumberFor_withSym_of_masked hs hk a (fun h => absurd h (Nat.not_le.2 ha))

theorem lineNumberFor_withSym_at {l : Link} (hs : SymSorted l.symbols) {k : Nat} {v : Nat × Nat}
    (hkm : k ≤ Gen.maxLineNumber) (hk : ∀ p ∈ l.symbols, p.1 ≠ (k : Int)) (a : Nat) (ha : v.1 ≤ a)
    (hlt : ∀ p ∈ l.symbols, 0 ≤ p.1 → p.2.1 ≤ a → p.1 < (k : Int)) :
    (l.withSym k v).lineNumberFor a = some k := by
  rw [lineNumberFor_eq_some_iff (l := l.withSym k v) (symInsert_sorted k v hs) a k]
  refine ⟨hkm, ⟨v.1, v.2, mem_symInsert_self _ _ _, ha⟩, ?_⟩
  intro p hp h0 hpa
  rcases (mem_symInsert_new hk p).1 hp with e | hp
  · subst e; exact Int.le_refl _
  · exact Int.le_of_lt (hlt p hp h0 hpa)

/-- the mark of the direct segment, at address `v.1`: below it the lines are those of `l`; from it on an
    address belongs to no line, because the mark is a key above every line number -/
theorem lineNumberFor_withSym_mark {l : Link} (hs : SymSorted l.symbols) {v : Nat × Nat}
    (hk : ∀ p ∈ l.symbols, p.1 ≠ (Gen.maxLineNumber : Int) + 1) (a : Nat) :
    (l.withSym ((Gen.maxLineNumber : Int) + 1) v).lineNumberFor a = if a < v.1 then l.lineNumberFor a else none := by
  split
  · exact lineNumberFor_withSym_below hs hk a ‹_›
  · refine Option.eq_none_iff_forall_ne_some.2 fun n hn => ?_
    obtain ⟨hle, -, hmax⟩ := (lineNumberFor_eq_some_iff (l := l.withSym _ v) (symInsert_sorted _ _ hs) a n).1 hn
    have : (Gen.maxLineNumber : Int) + 1 ≤ n :=
      hmax _ (mem_symInsert_self _ _ _) (show (0 : Int) ≤ (Gen.maxLineNumber : Int) + 1 by omega) (Nat.le_of_not_lt ‹_›)
    omega

theorem hasLineAtEnd_withSym (l : Link) (k : Symbol) (v : Nat × Nat) (hk : ∀ p ∈ l.symbols, p.1 ≠ k) :
    (l.withSym k v).hasLineAtEnd =
      ((v.1 == l.ops.size) || l.hasLineAtEnd) := by
  unfold hasLineAtEnd
  show (symInsert k v l.symbols).any _ = _
  rw [any_symInsert _ hk]
  rfl

theorem link_withEnd (l : Link) : (withEnd l).link = (withEnd l.link.1, l.link.2) := by
  rw [link_eq_pass, link_eq_pass l]
  rw [show pass (withEnd l).symbols (withEnd l).lineNumberFor (pend (withEnd l))
      ((withEnd l).ops, whileErrs (withEnd l).lineNumberFor (withEnd l)) = _ from
    pass_push l.symbols l.lineNumberFor .end (fun _ _ => rfl) (pend l) (l.ops, whileErrs l.lineNumberFor l)]
  rfl

end Link

namespace Program
open Link

theorem genNumbered_withSym (p : Program) (n : Nat) (toks : List Token) (k : Symbol) (v : Nat × Nat)
    (hk : 0 ≤ k) (hn : (n : Symbol) ≠ k) (hc : p.link.currentSymbol ≤ 0) :
    genNumbered (p.withSym k v) n toks = (genNumbered p n toks).withSym k v := by
  unfold genNumbered genAst startLine
  have e : (p.withSym k v).link.pushSymbol n = (p.link.pushSymbol n).withSym k v := by
    unfold pushSymbol withSym Link.withSym
    dsimp only
    rw [symInsert_comm hn]
  cases Parse.parse (some n) toks with
  | error err => dsimp only; rw [e]; rfl
  | ok ast =>
    dsimp only
    rw [e, Codegen.codegen_withSym _ _ _ hk _ (show (p.link.pushSymbol n).currentSymbol ≤ 0 from hc)]
    rfl

/-- the link `l'` of the compile state after line `n`, compiled from `p`: the label counter has not passed 0
    (line symbols are ≥ 0, labels below), the symbol table is still sorted, and only the entry of `n` is new -/
structure LineSyms (p : Program) (n : Nat) (l' : Link) : Prop where
  cur : l'.currentSymbol ≤ 0
  sorted : SymSorted p.link.symbols → SymSorted l'.symbols
  lookup : ∀ x : Nat, l'.symbols.lookup (x : Int) =
    if x = n then some (p.link.ops.size, p.link.data.size) else p.link.symbols.lookup (x : Int)

theorem genNumbered_syms (p : Program) (n : Nat) (toks : List Token) (hc : p.link.currentSymbol ≤ 0) :
    LineSyms p n (genNumbered p n toks).link := by
  have hlk : ∀ x : Nat, (p.link.pushSymbol n).symbols.lookup (x : Int) =
      if x = n then some (p.link.ops.size, p.link.data.size) else p.link.symbols.lookup (x : Int) := by
    intro x
    show (symInsert (n : Int) _ p.link.symbols).lookup (x : Int) = _
    rw [symInsert_lookup]
    by_cases hx : x = n
    · subst hx; rw [if_pos rfl, if_pos rfl]
    · rw [if_neg hx, if_neg (by intro e; exact hx (by exact_mod_cast e))]
  have hso : SymSorted p.link.symbols → SymSorted (p.link.pushSymbol n).symbols :=
    fun h => symInsert_sorted _ _ h
  exact genNumbered_link_ind (P := LineSyms p n) p n toks ⟨hc, hso, hlk⟩
    fun ast l' f hf ⟨h1, h2, h3⟩ =>
      have hn := Codegen.fragments_negSyms ast f hf
      ⟨append_cur_le l' f.2 h1 hn.1, fun hs => append_sorted l' f.2 (h2 hs),
       fun x => (append_lookup_line l' f.2 hn h1 (x : Int) (Int.natCast_nonneg x)).trans (h3 x)⟩

/-- the same of the compile state `q` after the numbered lines `ls`: the entries of other numbers are those of `p` -/
structure LinesSyms (ls : List Line) (p q : Program) : Prop where
  cur : q.link.currentSymbol ≤ 0
  sorted : SymSorted p.link.symbols → SymSorted q.link.symbols
  lookup : ∀ x : Nat, (∀ l ∈ ls, l.number ≠ some x) → q.link.symbols.lookup (x : Int) = p.link.symbols.lookup (x : Int)

theorem codegenLines_syms (ls : List Line) (hnum : Numbered ls) (p : Program) (hc : p.link.currentSymbol ≤ 0) :
    LinesSyms ls p (p.codegenLines ls) :=
  codegenLines_ind (P := LinesSyms ls p) hnum
    (fun q l hl n hn h =>
      have g := genNumbered_syms q n l.tokens h.cur
      ⟨g.cur, fun hs => g.sorted (h.sorted hs), fun x hx => by
        rw [g.lookup x, if_neg (fun e => hx l hl (by rw [hn, e])), h.lookup x hx]⟩)
    p ⟨hc, id, fun _ _ => rfl⟩

theorem codegenLines_withSym (ls : List Line) (k : Symbol) (hk : 0 ≤ k) (v : Nat × Nat)
    (hnum : ∀ l ∈ ls, ∃ n : Nat, l.number = some n ∧ (n : Symbol) ≠ k) :
    ∀ p : Program, p.link.currentSymbol ≤ 0 →
      (p.withSym k v).codegenLines ls = (p.codegenLines ls).withSym k v := by
  induction ls with
  | nil => intro p _; rfl
  | cons l rest ih =>
    intro p hc
    obtain ⟨n, hn, hnk⟩ := hnum l List.mem_cons_self
    rw [codegenLines_cons, codegenLines_cons, codegenLine_numbered _ l n hn, codegenLine_numbered _ l n hn,
      genNumbered_withSym p n l.tokens k v hk hnk hc]
    exact ih (fun l hl => hnum l (List.mem_cons_of_mem _ hl)) _ (genNumbered_syms p n l.tokens hc).cur

/-- a numbered line that compiles to nothing: its statements parse, and generating them leaves
    every link as it is and reports nothing (`REM …`, an empty line, `:`) -/
def CodeLess (line : Line) : Prop :=
  ∃ ast, Parse.parse line.number line.tokens = .ok ast ∧ ∀ l : Link, Codegen.codegen l ast = (l, [])

end Program

namespace Parse

/-- the parser sees no token at all: only whitespace, or a remark (everything from `REM` / `'` on) -/
def Blank (ts : List Token) : Prop := (nextLoop ts false 0 0).1 = none

theorem parse_blank (n : Option Nat) (ts : List Token) (h : Blank ts) : parse n ts = .ok [] := by
  unfold parse
  rw [Lemmas.ParseRun.parseTokens_blank h]

/-- `REM …` and `' …` lines, with any whitespace in front -/
inductive RemTokens : List Token → Prop
  | rem (t : Token) (ts : List Token) : isRem t = true → RemTokens (t :: ts)
  | ws (n : Nat) (ts : List Token) : RemTokens ts → RemTokens (.whitespace n :: ts)

theorem nextLoop_remTokens {ts : List Token} (h : RemTokens ts) : ∀ cs ce, (nextLoop ts false cs ce).1 = none := by
  induction h with
  | rem t ts ht =>
    intro cs ce
    rw [Lemmas.C19.nextLoop_rem_head t ts false cs ce ht]
  | ws n ts _ ih =>
    intro cs ce
    unfold nextLoop
    dsimp only
    rw [if_neg (by simp [isRem])]
    exact ih _ _

theorem blank_nil : Blank [] := rfl

end Parse

namespace Program
open Link

theorem pushEndP_withSym (p : Program) (k : Symbol) (v : Nat × Nat) :
    pushEndP (p.withSym k v) = (pushEndP p).withSym k v := by
  rw [pushEndP_eq, pushEndP_eq p]
  rfl

theorem ensureEnd_withSym (p : Program) (k : Symbol) (v : Nat × Nat)
    (h : (p.link.withSym k v).hasLineAtEnd = p.link.hasLineAtEnd) :
    ensureEnd (p.withSym k v) = (ensureEnd p).withSym k v := by
  rw [ensureEnd_eq, ensureEnd_eq p, pushEndP_withSym]
  show (if p.link.ops.back? = some .end ∧ (p.link.withSym k v).hasLineAtEnd = false then _ else _) = _
  rw [h]
  split <;> rfl

theorem resolve_withSym (q : Program) (k : Symbol) (v : Nat × Nat)
    (h : (q.link.withSym k v).link = (q.link.link.1.withSym k v, q.link.link.2)) :
    resolve (q.withSym k v) = (resolve q).withSym k v := by
  rw [resolve_eq, resolve_eq q]
  show (if q.errors.isEmpty = true then
      ({ q.withSym k v with link := (q.link.withSym k v).link.1, errors := (q.link.withSym k v).link.2 } : Program)
    else { q.withSym k v with link := (q.link.withSym k v).link.1 }) = _
  rw [h]
  split <;> rfl

theorem startDirect_withSym (q : Program) (k : Symbol) (v : Nat × Nat) (hk : k ≠ (Gen.maxLineNumber : Int) + 1) :
    startDirect (q.withSym k v) = (startDirect q).withSym k v := by
  have e : (q.link.withSym k v).setStartOfDirect q.link.ops.size =
      (q.link.setStartOfDirect q.link.ops.size).withSym k v := by
    unfold setStartOfDirect Link.withSym
    dsimp only
    rw [symInsert_comm (fun e => hk e.symm)]
  show ({ startDirect q with link := (q.link.withSym k v).setStartOfDirect q.link.ops.size } : Program) = _
  rw [e]
  rfl

theorem markDirect_withSym (q : Program) (k : Symbol) (v : Nat × Nat) (hk : k ≠ (Gen.maxLineNumber : Int) + 1) :
    markDirect (q.withSym k v) = (markDirect q).withSym k v := by
  rw [markDirect_eq, markDirect_eq q, startDirect_withSym _ _ _ hk]
  show (if q.directAddress = 0 then _ else _) = _
  split <;> rfl

/-- **`linkProg` commutes with an extra line entry** under the three side conditions: the entry
    does not make the last line one "at the end" (`h1`), nothing pending refers to it (`href`),
    and the linker's reports do not change (`hl`) -/
theorem linkProg_withSym (p : Program) (k : Symbol) (hk0 : 0 ≤ k) (hk : k ≠ (Gen.maxLineNumber : Int) + 1)
    (v : Nat × Nat)
    (h1 : (p.link.withSym k v).hasLineAtEnd = p.link.hasLineAtEnd)
    (href : ∀ x ∈ pend p.link, x.2.2 ≠ k)
    (hl : (∀ a, (p.link.withSym k v).lineNumberFor a = p.link.lineNumberFor a) ∨
      (ensureEnd p).link.link.2 = []) :
    (p.withSym k v).linkProg = p.linkProg.withSym k v := by
  rw [linkProg_eq, linkProg_eq, ensureEnd_withSym p k v h1]
  obtain ⟨e1, -⟩ := ensureEnd_symbols p
  rw [resolve_withSym, markDirect_withSym _ _ _ hk]
  apply link_withSym _ _ hk0
  · rw [pend_ensureEnd]
    exact href
  · refine hl.imp_left fun hl a => ?_
    rw [lineNumberFor_congr (l := p.link.withSym k v) (show (symInsert k v _).filter _ = (symInsert k v _).filter _ by rw [e1]) a,
      hl a]
    exact (lineNumberFor_congr (by rw [e1]) a).symm

/-- no line number is the key `maxLineNumber + 1` under which the start of the direct segment is recorded -/
theorem natCast_ne_mark {n : Nat} (hn : n ≤ Gen.maxLineNumber) : (n : Symbol) ≠ (Gen.maxLineNumber : Int) + 1 :=
  fun e => absurd (show n = Gen.maxLineNumber + 1 by exact_mod_cast e) (by omega)

/-- the listing order: every line carries a valid number, strictly ascending -/
structure Listed (ls : List Line) : Prop where
  numbered : ∀ l ∈ ls, ∃ n : Nat, l.number = some n ∧ n ≤ Gen.maxLineNumber
  ascending : ls.Pairwise (fun a b => ∀ x y, a.number = some x → b.number = some y → x < y)

/-- no pending reference (branch, RESTORE, RUN) of the compiled lines names line `n` -/
def NoRef (n : Nat) (ls : List Line) : Prop :=
  ∀ x ∈ (({} : Program).codegenLines ls).link.linkWhiles.1.unlinked, x.2.2 ≠ (n : Int)

/-- the address pair a code-less line inserted after `pre` gets: the end of `pre`'s code and data -/
def endOf (pre : List Line) : Nat × Nat :=
  ((({} : Program).codegenLines pre).link.ops.size, (({} : Program).codegenLines pre).link.data.size)

theorem fresh_sorted (ls : List Line) (hnum : Numbered ls) :
    SymSorted (({} : Program).codegenLines ls).link.symbols :=
  (codegenLines_syms ls hnum {} (Int.le_refl 0)).sorted List.Pairwise.nil

theorem fresh_directAddress (ls : List Line) (hnum : Numbered ls) :
    (({} : Program).codegenLines ls).directAddress = 0 :=
  codegenLines_directAddress hnum {}

theorem codegenLines_no_key (ls : List Line) (hnum : Numbered ls) (n : Nat) (hn : ∀ l ∈ ls, l.number ≠ some n) :
    ∀ p ∈ (({} : Program).codegenLines ls).link.symbols, p.1 ≠ (n : Int) := by
  intro p hp e
  have h := (lookup_eq_some_iff_mem (fresh_sorted ls hnum) p.1 p.2).2 hp
  rw [e, (codegenLines_syms ls hnum {} (Int.le_refl 0)).lookup n hn] at h
  cases h

theorem codegenLines_key (ls : List Line) (hnum : Numbered ls) (p : Symbol × (Nat × Nat))
    (hp : p ∈ (({} : Program).codegenLines ls).link.symbols) (h0 : 0 ≤ p.1) :
    ∃ l ∈ ls, l.number = some p.1.toNat := by
  apply Classical.byContradiction
  intro hno
  exact codegenLines_no_key ls hnum p.1.toNat (fun l hl e => hno ⟨l, hl, e⟩) p hp (Int.toNat_of_nonneg h0).symm

/-- the line number being compiled is overwritten by the next numbered line -/
theorem codegenLine_lineNumber (p : Program) (ln : Option Nat) (l : Line) (n : Nat) (hn : l.number = some n) :
    ({ p with lineNumber := ln } : Program).codegenLine l = p.codegenLine l := by
  rw [codegenLine_numbered _ l n hn, codegenLine_numbered _ l n hn]
  unfold genNumbered genAst startLine
  cases Parse.parse (some n) l.tokens <;> rfl

/-- what `Listed (pre ++ r :: post)` says of the lines before and behind line `rn` -/
structure Listed.Split (pre post : List Line) (rn : Nat) : Prop where
  preNum : Numbered pre
  postNum : Numbered post
  le : rn ≤ Gen.maxLineNumber
  below : ∀ l ∈ pre, ∀ x, l.number = some x → x < rn
  above : ∀ l ∈ post, ∀ x, l.number = some x → rn < x ∧ x ≤ Gen.maxLineNumber
  ascending : post.Pairwise (fun a b => ∀ x y, a.number = some x → b.number = some y → x < y)

theorem Listed.split {pre post : List Line} {r : Line} {rn : Nat} (h : Listed (pre ++ r :: post))
    (hr : r.number = some rn) : Listed.Split pre post rn := by
  have hasc := h.ascending
  rw [List.pairwise_append, List.pairwise_cons] at hasc
  obtain ⟨-, ⟨h2, h3⟩, h4⟩ := hasc
  have hle : ∀ l ∈ pre ++ r :: post, ∀ x, l.number = some x → x ≤ Gen.maxLineNumber := by
    intro l hl x hx
    obtain ⟨n, hn, hle⟩ := h.numbered l hl
    rw [hx] at hn
    injection hn with hn
    rw [hn]; exact hle
  refine ⟨fun l hl => ?_, fun l hl => ?_, hle r (List.mem_append_right _ List.mem_cons_self) rn hr,
    fun l hl x hx => h4 l hl r List.mem_cons_self x rn hx hr,
    fun l hl x hx => ⟨h2 l hl rn x hr hx, hle l (List.mem_append_right _ (List.mem_cons_of_mem _ hl)) x hx⟩, h3⟩
  · obtain ⟨n, hn, -⟩ := h.numbered l (List.mem_append_left _ hl)
    exact ⟨n, hn⟩
  · obtain ⟨n, hn, -⟩ := h.numbered l (List.mem_append_right _ (List.mem_cons_of_mem _ hl))
    exact ⟨n, hn⟩

theorem Listed.isNumbered {ls : List Line} (hl : Listed ls) : Numbered ls :=
  fun l h => (hl.numbered l h).imp fun _ h => h.1

theorem Listed.unique {pre tl : List Line} {hd : Line} {m : Nat} (hl : Listed (pre ++ hd :: tl)) (hm : hd.number = some m) :
    ∀ l ∈ tl, l.number ≠ some m := by
  intro l hl' e
  have := ((hl.split hm).above l hl' m e).1
  omega

theorem Listed.unique_pre {pre post : List Line} {r : Line} {rn : Nat} (hl : Listed (pre ++ r :: post))
    (hr : r.number = some rn) : ∀ l ∈ pre, l.number ≠ some rn :=
  fun l h e => Nat.lt_irrefl _ ((hl.split hr).below l h rn e)

theorem Listed.no_key {pre post : List Line} {r : Line} {rn : Nat} (hl : Listed (pre ++ r :: post))
    (hr : r.number = some rn) : ∀ l ∈ pre ++ post, l.number ≠ some rn :=
  fun l h => (List.mem_append.1 h).elim (hl.unique_pre hr l) (hl.unique hr l)

theorem Listed.remove {pre post : List Line} {r : Line} (hl : Listed (pre ++ r :: post)) : Listed (pre ++ post) :=
  have hsub : (pre ++ post).Sublist (pre ++ r :: post) := (List.Sublist.refl pre).append (List.sublist_cons_self r post)
  ⟨fun l h => hl.numbered l (hsub.subset h), hl.ascending.sublist hsub⟩

/-- **the entry of a line is the end of the code and data compiled before it** -/
theorem Listed.lookup {pre tl : List Line} {hd : Line} {m : Nat} (hl : Listed (pre ++ hd :: tl))
    (hm : hd.number = some m) :
    (({} : Program).codegenLines (pre ++ hd :: tl)).link.symbols.lookup (m : Int) = some (endOf pre) := by
  obtain ⟨hpre, htl, -⟩ := hl.split hm
  -- `hd` enters it, and the lines behind, all with other numbers, leave it alone
  rw [codegenLines_append, codegenLines_cons, codegenLine_numbered _ hd m hm]
  have g := genNumbered_syms (({} : Program).codegenLines pre) m hd.tokens (codegenLines_syms pre hpre {} (Int.le_refl 0)).cur
  rw [(codegenLines_syms tl htl _ g.cur).lookup m (hl.unique hm), g.lookup m, if_pos rfl]
  rfl

/-- the symbol table of a compiled listing: the line entries of the compile state, plus the mark
    of the direct segment -/
theorem compile_symbols (ls : List Line) (hnum : Numbered ls) :
    (compile ls).link.symbols =
      symInsert ((Gen.maxLineNumber : Int) + 1) ((compile ls).directAddress, (compile ls).link.data.size)
        ((({} : Program).codegenLines ls).link.symbols.filter (fun p => p.1 ≥ 0)) := by
  have hsym : (resolve (ensureEnd (({} : Program).codegenLines ls))).link.symbols =
      (({} : Program).codegenLines ls).link.symbols.filter (fun p => p.1 ≥ 0) := by
    rw [resolve_link, link_symbols, (ensureEnd_symbols _).1]
  unfold compile
  rw [linkProg_fresh _ (fresh_directAddress ls hnum)]
  generalize resolve (ensureEnd (({} : Program).codegenLines ls)) = X at hsym ⊢
  rw [← hsym]
  rfl

theorem compile_indirectErrors (ls : List Line) (hnum : Numbered ls) :
    (compile ls).indirectErrors = (resolve (ensureEnd (({} : Program).codegenLines ls))).errors := by
  unfold compile
  rw [linkProg_fresh _ (fresh_directAddress ls hnum)]
  rfl

theorem link_clean_of_compile_clean (ls : List Line) (hnum : Numbered ls) (h : (compile ls).indirectErrors = []) :
    (ensureEnd (({} : Program).codegenLines ls)).link.link.2 = [] := by
  rw [compile_indirectErrors ls hnum, resolve_eq] at h
  split at h
  · exact h
  · rename_i he
    dsimp only at h
    rw [h] at he
    exact absurd rfl he

theorem noRef_of_clean (ls : List Line) (hnum : Numbered ls) (n : Nat) (hn : ∀ l ∈ ls, l.number ≠ some n)
    (h : (compile ls).indirectErrors = []) : NoRef n ls := by
  intro x hx e
  have hc := link_clean_of_compile_clean ls hnum h
  obtain ⟨e1, -⟩ := ensureEnd_symbols (({} : Program).codegenLines ls)
  have hx' : (x.1, (x.2.1, (n : Int))) ∈ pend (ensureEnd (({} : Program).codegenLines ls)).link := by
    rw [pend_ensureEnd, ← e, ← pend_eq_linkWhiles]
    exact hx
  have := link_reports_undefined _ x.1 x.2.1 (n : Int) hx'
    (by rw [e1]; exact (codegenLines_syms ls hnum {} (Int.le_refl 0)).lookup n hn) (Int.natCast_nonneg n)
  rw [hc] at this
  cases this

/-- `q` cannot be told from `p` by a running program: same DATA and DATA cursor, same code below
    `directAddress`, same compile errors, and every code address belongs to the same line -/
structure ProgSim (p q : Program) : Prop where
  indirectErrors : q.indirectErrors = p.indirectErrors
  directAddress : q.directAddress = p.directAddress
  data : q.link.data = p.link.data
  dataPos : q.link.dataPos = p.link.dataPos
  lnf : ∀ a, q.link.lineNumberFor a = p.link.lineNumberFor a
  ops : ∀ i, i < p.directAddress → q.link.ops[i]? = p.link.ops[i]?

theorem ProgSim.refl (p : Program) : ProgSim p p := ⟨rfl, rfl, rfl, rfl, fun _ => rfl, fun _ _ => rfl⟩

theorem ProgSim.symm {p q : Program} (h : ProgSim p q) : ProgSim q p :=
  ⟨h.indirectErrors.symm, h.directAddress.symm, h.data.symm, h.dataPos.symm, fun a => (h.lnf a).symm,
   fun i hi => (h.ops i (by rw [← h.directAddress]; exact hi)).symm⟩

theorem ProgSim.trans {p q r : Program} (h1 : ProgSim p q) (h2 : ProgSim q r) : ProgSim p r :=
  ⟨h2.indirectErrors.trans h1.indirectErrors, h2.directAddress.trans h1.directAddress, h2.data.trans h1.data,
   h2.dataPos.trans h1.dataPos, fun a => (h2.lnf a).trans (h1.lnf a),
   fun i hi => (h2.ops i (by rw [h1.directAddress]; exact hi)).trans (h1.ops i hi)⟩

/-- the runtime relation of `Lemmas/Sim.lean` between a state and the same state holding `q` -/
theorem ProgSim.sim {p q : Program} (h : ProgSim p q) (col : Bool) (s : Runtime) (hs : s.program = p) :
    Runtime.Sim col s { s with program := q } := by
  subst hs
  exact ⟨rfl, rfl, rfl, rfl, rfl, fun _ => rfl, rfl, rfl, rfl, rfl, rfl, rfl, fun _ => rfl,
    h.indirectErrors, h.directAddress, h.data, h.dataPos, h.lnf, h.ops⟩

/-- the direct line adds code above `directAddress` only -/
theorem progSim_runProg (ls : List Line) (d : Line) (hd : d.number = none) :
    ProgSim (base (({} : Program).codegenLines ls)) (runProg ls d) := by
  have hb := based_compile ls
  unfold runProg
  rw [codegenLine_direct _ d hd]
  obtain ⟨h1, -⟩ := (POver.directGen hb d).linkProg hb
  refine ⟨h1.indirectErrors, h1.directAddress, h1.link.data, h1.link.dataPos, ?_, ?_⟩
  · exact lineNumberFor_congr (h1.link.symbols.trans
      (List.filter_eq_self.2 fun p hp => by simpa using hb.clean.symbols p hp).symm)
  · intro i hi
    rw [hb.addr] at hi
    exact h1.link.ops i hi

/-- cutting the code of a linked program at `directAddress` changes nothing below it -/
theorem progSim_base (P : Program) : ProgSim P.linkProg (base P) := by
  unfold base
  generalize P.linkProg = Q
  refine ⟨rfl, rfl, rfl, rfl, fun _ => rfl, fun i hi => ?_⟩
  show (Q.link.ops.extract 0 Q.directAddress)[i]? = _
  rw [Array.getElem?_extract]
  split
  · rw [Nat.zero_add]
  · exact (Array.getElem?_eq_none (by omega)).symm

theorem base_symbols (P : Program) : (base P).link.symbols = P.linkProg.link.symbols := by
  unfold base
  generalize P.linkProg = Q
  rfl

theorem progSim_base_compile (ls : List Line) :
    ProgSim (compile ls) (base (({} : Program).codegenLines ls)) := progSim_base _

/-- stated for a variable `p`: on a compiled listing the `rfl`s would unfold the compiler -/
theorem progSim_withSym (p : Program) (k : Symbol) (v : Nat × Nat)
    (h : ∀ a, (p.withSym k v).link.lineNumberFor a = p.link.lineNumberFor a) : ProgSim p (p.withSym k v) :=
  ⟨rfl, rfl, rfl, rfl, h, fun _ _ => rfl⟩

/-- `p` with another "line being compiled" (a field the linker neither reads nor writes) -/
def setLN (p : Program) (x : Option Nat) : Program := { p with lineNumber := x }

theorem setLN_directAddress (p : Program) (x : Option Nat) : (p.setLN x).directAddress = p.directAddress := rfl

theorem setLN_link (p : Program) (x : Option Nat) : (p.setLN x).link = p.link := rfl

theorem linkProg_setLN (p : Program) (x : Option Nat) : (p.setLN x).linkProg = p.linkProg.setLN x := by
  have h1 : pushEndP (p.setLN x) = (pushEndP p).setLN x := by
    rw [pushEndP_eq, pushEndP_eq p]
    rfl
  have h2 : ensureEnd (p.setLN x) = (ensureEnd p).setLN x := by
    rw [ensureEnd_eq, ensureEnd_eq p, h1]
    exact (apply_ite (fun q : Program => q.setLN x) _ _ _).symm
  have h3 : ∀ q : Program, resolve (q.setLN x) = (resolve q).setLN x := by
    intro q
    rw [resolve_eq, resolve_eq q]
    show (if q.errors.isEmpty = true then _ else _) = _
    split <;> rfl
  have h4 : ∀ q : Program, markDirect (q.setLN x) = (markDirect q).setLN x := by
    intro q
    rw [markDirect_eq, markDirect_eq q]
    exact (apply_ite (fun q : Program => q.setLN x) (q.directAddress = 0) (startDirect q) q).symm
  rw [linkProg_eq, linkProg_eq p, h2, h3, h4]

theorem pushEndP_of_room (p : Program) (h : p.link.ops.size < Gen.stackMaxLen) :
    pushEndP p = { p with link := p.link.withEnd } := by
  rw [pushEndP_eq, if_neg (by omega)]

/-- a linked program with one more `End` behind its code: the direct segment starts one later -/
def bump (c : Program) : Program :=
  { c with directAddress := c.directAddress + 1,
           link := (c.link.withEnd).setStartOfDirect (c.directAddress + 1) }

theorem bump_fields (c : Program) :
    (bump c).link.ops = c.link.ops.push .end ∧ (bump c).link.data = c.link.data ∧
    (bump c).directAddress = c.directAddress + 1 ∧ (bump c).indirectErrors = c.indirectErrors :=
  ⟨rfl, rfl, rfl, rfl⟩

theorem startDirect_withEnd (q : Program) : startDirect { q with link := q.link.withEnd } = bump (startDirect q) := by
  unfold startDirect bump
  dsimp only
  rw [show (q.link.withEnd).ops.size = q.link.ops.size + 1 from Array.size_push ..]
  congr 1
  unfold setStartOfDirect withEnd
  dsimp only
  rw [symInsert_symInsert]

/-- the forced `End`: when `linkProg` pushes an `End` behind the compile state `P`, the direct segment starts
    behind that `End` -/
theorem forced_directAddress (P : Program) (hd : P.directAddress = 0) :
    (markDirect (resolve (pushEndP P))).directAddress = P.link.ops.size + 1 := by
  rw [markDirect_eq, if_pos ((resolve_directAddress _).trans ((pushEndP_directAddress P).trans hd))]
  show (resolve (pushEndP P)).link.ops.size = _
  rw [resolve_link, (link_cleans _).2.2, pushEndP_link]
  exact Array.size_push ..

theorem compile_lookup_line (ls : List Line) (hnum : Numbered ls) (x : Nat) (hx : x ≤ Gen.maxLineNumber) :
    (compile ls).link.symbols.lookup (x : Int) = (({} : Program).codegenLines ls).link.symbols.lookup (x : Int) := by
  rw [compile_symbols ls hnum, symInsert_lookup, if_neg (natCast_ne_mark hx)]
  exact List.lookup_filter (x : Int) _ (fun p _ e => by rw [e]; simp)

/-- … and linking keeps it -/
theorem Listed.compile_lookup {pre tl : List Line} {hd : Line} {m : Nat} (hl : Listed (pre ++ hd :: tl))
    (hm : hd.number = some m) :
    (compile (pre ++ hd :: tl)).link.symbols.lookup (m : Int) = some (endOf pre) :=
  (compile_lookup_line _ hl.isNumbered m (hl.split hm).le).trans (hl.lookup hm)

/-- **line attribution after linking**: below `directAddress` an address belongs to the line the compile
    state gives it, from `directAddress` on — the direct segment — to none -/
theorem compile_lineNumberFor (ls : List Line) (hl : Listed ls) (a : Nat) :
    (compile ls).link.lineNumberFor a =
      if a < (compile ls).directAddress then (({} : Program).codegenLines ls).link.lineNumberFor a else none := by
  have hnum := hl.isNumbered
  -- the linked table is the line entries `L` of the compile state, and the mark (`compile_symbols`)
  obtain ⟨L, hL⟩ : ∃ L : Link, L.symbols = (({} : Program).codegenLines ls).link.symbols.filter (fun p => p.1 ≥ 0) :=
    ⟨{ symbols := _ }, rfl⟩
  have hk : ∀ p ∈ L.symbols, p.1 ≠ (Gen.maxLineNumber : Int) + 1 := by
    intro p hp
    obtain ⟨hp, h0⟩ := List.mem_filter.1 (hL ▸ hp)
    have h0 : 0 ≤ p.1 := by simpa using h0
    obtain ⟨l, hl', hn⟩ := codegenLines_key ls hnum p hp h0
    obtain ⟨n, hn', hle⟩ := hl.numbered l hl'
    rw [← Int.toNat_of_nonneg h0, Option.some.inj (hn.symm.trans hn')]
    exact natCast_ne_mark hle
  rw [lineNumberFor_congr (l := L.withSym ((Gen.maxLineNumber : Int) + 1) ((compile ls).directAddress, (compile ls).link.data.size))
      (by rw [compile_symbols ls hnum, ← hL]; rfl),
    lineNumberFor_withSym_mark (hL ▸ List.Pairwise.filter _ (fresh_sorted ls hnum)) hk]
  rw [lineNumberFor_congr (l := (({} : Program).codegenLines ls).link)
    (by rw [hL]; exact List.filter_eq_self.2 fun p hp => (List.mem_filter.1 hp).2) a]

theorem codegenLines_symBounded (ls : List Line) (hnum : Numbered ls) (p : Program) (h : SymBounded p.link) :
    SymBounded (p.codegenLines ls).link :=
  codegenLines_inv (fun _ _ h hf => h.append hf) Codegen.fragments_symBounded (fun _ s h => h.pushSymbol s) ls p hnum h

/-- after `ensureEnd` (the D20 rule) every symbol — line or local label — has its address strictly
    inside the code -/
theorem ensureEnd_symbols_lt (p : Program) (hb : SymBounded p.link) :
    ∀ q ∈ (ensureEnd p).link.symbols, q.2.1 < (ensureEnd p).link.ops.size := by
  rw [ensureEnd_eq]
  split
  · rename_i hc
    intro q hq
    have h1 := hb q hq
    have h2 : (q.2.1 == p.link.ops.size) = false := by
      have := hc.2
      unfold hasLineAtEnd at this
      rw [List.any_eq_false] at this
      simpa using this q hq
    have : q.2.1 ≠ p.link.ops.size := by simpa using h2
    omega
  · intro q hq
    rw [pushEndP_link] at hq ⊢
    show q.2.1 < (p.link.ops.push Opcode.end).size
    rw [Array.size_push]
    exact Nat.lt_succ_of_le (hb q hq)

theorem compile_directAddress (ls : List Line) (hnum : Numbered ls) :
    (compile ls).directAddress = (ensureEnd (({} : Program).codegenLines ls)).link.ops.size := by
  unfold compile
  rw [linkProg_fresh _ (fresh_directAddress ls hnum)]
  show (resolve (ensureEnd (({} : Program).codegenLines ls))).link.ops.size = _
  rw [resolve_link, (link_cleans _).2.2]

deriving instance DecidableEq for Link
deriving instance DecidableEq for Program

/-- decidable check of `Listed`: `lo` is the number of the preceding line -/
def listedFrom : Option Nat → List Line → Bool
  | _, [] => true
  | lo, l :: ls =>
    match l.number with
    | some n =>
      (match lo with | none => true | some x => decide (x < n)) && decide (n ≤ Gen.maxLineNumber) &&
        listedFrom (some n) ls
    | none => false

theorem Listed.cons {l : Line} {ls : List Line} {n : Nat} (hn : l.number = some n) (hle : n ≤ Gen.maxLineNumber)
    (hl : Listed ls) (hlt : ∀ l' ∈ ls, ∀ x, l'.number = some x → n < x) : Listed (l :: ls) :=
  ⟨fun l' hl' => (List.mem_cons.1 hl').elim (fun e => e ▸ ⟨n, hn, hle⟩) (hl.numbered l'),
   List.pairwise_cons.2 ⟨fun l' hl' x y hx hy => Option.some.inj (hn.symm.trans hx) ▸ hlt l' hl' y hy, hl.ascending⟩⟩

theorem listedFrom_sound : ∀ (ls : List Line) (lo : Option Nat), listedFrom lo ls = true →
    Listed ls ∧ ∀ l ∈ ls, ∀ x, l.number = some x → ∀ y, lo = some y → y < x := by
  intro ls
  induction ls with
  | nil => intro lo _; exact ⟨⟨fun _ h => (nomatch h), List.Pairwise.nil⟩, fun _ h => (nomatch h)⟩
  | cons l rest ih =>
    intro lo h
    unfold listedFrom at h
    cases hn : l.number with
    | none => rw [hn] at h; cases h
    | some n =>
      rw [hn] at h
      simp only [Bool.and_eq_true, decide_eq_true_eq] at h
      obtain ⟨⟨h1, h2⟩, h3⟩ := h
      obtain ⟨i1, i2⟩ := ih (some n) h3
      have hlo : ∀ y, lo = some y → y < n := by
        intro y hy
        rw [hy] at h1
        simpa using h1
      refine ⟨.cons hn h2 i1 fun l' hl' x hx => i2 l' hl' x hx n rfl, ?_⟩
      intro l' hl' x hx y hy
      rcases List.mem_cons.1 hl' with e | hl'
      · rw [e, hn] at hx
        injection hx with hx
        rw [← hx]; exact hlo y hy
      · have := i2 l' hl' x hx n rfl
        have := hlo y hy
        omega

theorem listed_of_check (ls : List Line) (h : listedFrom none ls = true) : Listed ls :=
  (listedFrom_sound ls none h).1

/-- the same check behind a first line of which only the number is known -/
theorem listed_cons_of_check {l : Line} {n : Nat} (ls : List Line) (hn : l.number = some n) (hle : n ≤ Gen.maxLineNumber)
    (h : listedFrom (some n) ls = true) : Listed (l :: ls) :=
  .cons hn hle (listedFrom_sound ls _ h).1 fun l' hl' x hx => (listedFrom_sound ls _ h).2 l' hl' x hx n rfl

/-- `codegenLine` of a numbered line whose parse is known (the kernel does not evaluate the parser) -/
theorem codegenLine_of_parse (p : Program) (n : Nat) (toks : List Token) (ast : List Stmt)
    (h : Parse.parse (some n) toks = .ok ast) :
    p.codegenLine ⟨some n, toks⟩ =
      { p with lineNumber := some n, link := (Codegen.codegen (p.link.pushSymbol n) ast).1,
               errors := p.errors ++ (Codegen.codegen (p.link.pushSymbol n) ast).2.map (·.inLine (some n)) } := by
  rw [codegenLine_numbered p _ n rfl]
  unfold genNumbered genAst startLine
  rw [h]

end Program

end Basic

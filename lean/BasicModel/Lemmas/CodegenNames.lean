import BasicModel.Lemmas.NameOk
import BasicModel.Lemmas.GenWalk
/-
  The code generator only emits name operands taken from the `Variable` nodes it visits
  (the walk of `Lemmas/GenWalk.lean` for the invariants `nInv`: `LinkOk` of every fragment, `VOk` of
  every variable item, `NameOk`/`Letter1` of the names in emitted opcodes):
  if the AST is `StmtsOk`, every fragment handed to `codegen` is `LinkOk`, and so is the link
  after `Codegen.codegen` (`codegen_linkOk`).
-/
namespace Basic
namespace Link

/-- every opcode of the fragment has fine name operands -/
def LinkOk (l : Link) : Prop := OpsOk l.ops

theorem LinkOk.empty : LinkOk {} := fun _ h => nomatch h

theorem opsOk_push {ops : Array Opcode} (h : OpsOk ops) {op : Opcode} (ho : OpOk op) : OpsOk (ops.push op) := by
  intro x hx
  rw [Array.toList_push, List.mem_append, List.mem_singleton] at hx
  rcases hx with hx | rfl
  · exact h x hx
  · exact ho

theorem opsOk_append {a b : Array Opcode} (ha : OpsOk a) (hb : OpsOk b) : OpsOk (a ++ b) := by
  intro x hx
  rw [Array.toList_append, List.mem_append] at hx
  exact hx.elim (ha x) (hb x)

theorem LinkOk.push {l : Link} (h : LinkOk l) {op : Opcode} (ho : OpOk op) : LinkOk (l.push op).1 :=
  opsOk_push h ho
theorem LinkOk.pushData {l : Link} (h : LinkOk l) (v : Val) : LinkOk (l.pushData v).1 := h
theorem LinkOk.addUnlinked {l : Link} (h : LinkOk l) (c : Col) (s : Symbol) : LinkOk (l.addUnlinked c s) := h
theorem LinkOk.setWhiles {l : Link} (h : LinkOk l) (w : List (Bool × Col × Nat × Symbol)) :
    LinkOk { l with whiles := w } := h
theorem LinkOk.setOps {l : Link} (_ : LinkOk l) {o : Array Opcode} (ho : OpsOk o) : LinkOk { l with ops := o } := ho
theorem LinkOk.nextSymbol {l : Link} (h : LinkOk l) : LinkOk l.nextSymbol.1 := h
theorem LinkOk.pushSymbol {l : Link} (h : LinkOk l) (sym : Symbol) : LinkOk (l.pushSymbol sym) := h

theorem LinkOk.append {a b : Link} (ha : LinkOk a) (hb : LinkOk b) : LinkOk (a.append b).1 :=
  append_ind a b ha fun _ => ⟨opsOk_append ha hb, opsOk_append ha hb⟩

instance (op : Opcode) : Decidable (OpOk op) := by
  cases op <;> (unfold OpOk; exact inferInstance)

theorem opOk_iff (op : Opcode) : OpOk op ↔ op.NamesIn NameOk Letter1 := by
  cases op <;> exact Iff.rfl

end Link

namespace Codegen
open Link
variable {α β : Type}

/-- a variable item: its name is fine, an *array* (or call) name is `Letter1`, its index code is fine -/
structure VOk (v : VarItem) : Prop where
  name : NameOk v.name
  arr : ∀ n, v.argLen = some n → Letter1 v.name
  link : v.link.LinkOk

structure NGood (g : GState) : Prop where
  cur : g.cur.LinkOk
  var : ∀ v ∈ g.var.toList, VOk v
  expr : ∀ x ∈ g.expr.toList, x.2.LinkOk
  stmt : ∀ x ∈ g.stmt.toList, x.2.LinkOk

theorem NGood.empty : NGood {} := ⟨LinkOk.empty, fun _ h => (nomatch h), fun _ h => (nomatch h), fun _ h => (nomatch h)⟩

/-- `NH m Q`: `m` keeps the generator state good, and its successful results satisfy `Q` (the walk itself
    is stated with `H nInv`) -/
structure NH (m : GM α) (Q : α → Prop) : Prop where
  run : ∀ g, NGood g → NGood (m.run.run g).2 ∧ ∀ a, (m.run.run g).1 = .ok a → Q a

theorem NH.any {Q : α → Prop} {m : GM α} (h : NH m Q) : NH m T :=
  ⟨fun g hg => ⟨(h.run g hg).1, fun _ _ => trivial⟩⟩

theorem opsOk_empty : OpsOk #[] := fun _ h => nomatch h

theorem linkOk_transformToData {l : Link} (h : l.LinkOk) (c : Col) : (transformToData l c).1.LinkOk :=
  transformToData_ind l c h (h.setOps opsOk_empty) fun v => (h.setOps opsOk_empty).pushData v

theorem linkOk_of_transformToData {l l' : Link} {c : Col} {r : Except Error Unit} (h : l.LinkOk)
    (e : transformToData l c = (l', r)) : l'.LinkOk := by
  have := linkOk_transformToData h c
  rw [e] at this
  exact this

def nInv : GInv where
  C := LinkOk
  V := VOk
  E := LinkOk
  S := LinkOk
  K := T
  Y := T
  N := NameOk
  A := Letter1
  R := T

theorem nInv_closed : Closed nInv LinkOk := by
  have e : ExprCl nInv :=
    ⟨.of_true fun _ => trivial, fun _ op h ho => h.push ((opOk_iff op).2 ho), fun _ _ ha hb => ha.append hb, fun _ h => h.link,
     fun _ h => h.name, fun _ n h => h.arr n, NameOk.nil⟩
  have l : LabelCl nInv := ⟨fun _ h => ⟨h.nextSymbol, trivial⟩, fun _ s h _ => h.pushSymbol s⟩
  exact {
    expr := e, stmt := e, label := l
    ref := RefCl.of e l fun _ c s op h ho => (h.addUnlinked c s).push ((opOk_iff op).2 ho)
    mark := ⟨fun _ _ _ _ h => (h.setWhiles _).push trivial, fun _ _ _ _ h => (h.setWhiles _).push trivial⟩
    td := fun _ _ c ha h => ha.append (linkOk_transformToData h c)
    pop := fun _ _ _ => trivial
    appS := fun _ _ ha hb => ha.append hb
    nilE := LinkOk.empty, nilS := LinkOk.empty
    done := fun _ h => h
    var := fun _ _ _ _ hl hn ha => ⟨hn, ha, hl⟩
    stk := fun _ _ _ _ => trivial }

theorem NGood.gen {g : GState} (h : NGood g) : Good (nInv.withC LinkOk) g :=
  ⟨h.cur, h.var, h.expr, h.stmt, trivial⟩

theorem NGood.of_gen {g : GState} (h : Good (nInv.withC LinkOk) g) : NGood g :=
  ⟨h.cur, h.var, h.expr, h.stmt⟩

def NodeOk : Node → Prop
  | .var v => VarOk v
  | .expr e => ExprOk e
  | .stmt st => StmtOk st

/-- they ask the same of every child: each case is the definition of the predicate read beside `Node.kids` -/
theorem NodeOk.kids : ∀ {n : Node}, NodeOk n → ∀ k ∈ n.kids, NodeOk k
  | .var v, h => by
    cases v <;> simp only [NodeOk, VarOk, exprsOk_iff] at h <;>
      simp only [Node.kids, NodeOk, List.forall_mem_map, List.not_mem_nil, false_imp_iff, implies_true]
    exact h.2
  | .expr e, h => by
    cases e <;> simp only [NodeOk, ExprOk] at h <;>
      simp only [Node.kids, NodeOk, List.forall_mem_cons, List.not_mem_nil, false_imp_iff, implies_true, and_true] <;>
      exact h
  | .stmt st, h => by
    cases st <;> simp only [NodeOk, StmtOk, exprsOk_iff, stmtsOk_iff, VarsOk] at h <;>
      simp only [Node.kids, NodeOk, List.forall_mem_cons, List.forall_mem_append, List.forall_mem_map,
        List.not_mem_nil, false_imp_iff, implies_true, and_true] <;> exact h

theorem NodeOk.varNames {v : Variable} (h : NodeOk (.var v)) : VarNames nInv v := by
  cases v with
  | unary c i => exact h
  | array c i es => exact ⟨h.1.nameOk, h.1⟩

-- nothing calls this tactic: `acceptStmt_nok` is an instance of `accept_keeps`, and the lemmas `…_nok` the search
-- names are not in the development
/-- the local tactic of `acceptStmt_nok`: unfold the hypothesis, then thread it through the visits -/
macro "acc_stmt" h:ident : tactic => `(tactic| (
  rw [acceptStmt]
  simp only [StmtOk] at $h:ident
  refine visitStatement_nok _ _ ?_
  repeat' (first
    | assumption
    | (refine acceptExprs_nok _ _ ?_ ?_)
    | (refine acceptExpr_nok _ _ ?_ ?_)
    | (refine acceptVars_nok _ _ ?_ ?_)
    | (refine acceptVar_nok _ _ ?_ ?_)
    | exact ($h).1 | exact ($h).2.1 | exact ($h).2.2.1 | exact ($h).2.2.2 | exact ($h).2.2 | exact ($h).2)))

theorem acceptStmt_nok : ∀ (st : Stmt) (s : VState), StmtOk st → NGood s.g → NGood (acceptStmt st s).g :=
  fun st s hst h =>
    .of_gen (accept_keeps nInv_closed (fun _ => NodeOk.kids) (fun _ => NodeOk.varNames) (.stmt st) s hst h.gen)

theorem fragments_linkOk (ast : List Stmt) (h : StmtsOk ast) :
    ∀ x ∈ (acceptStmts ast {}).g.stmt.toList, x.2.LinkOk :=
  (acceptStmts_keeps_under nInv_closed (W := NodeOk) (fun _ => NodeOk.kids) (fun _ => NodeOk.varNames) ast {}
    ((stmtsOk_iff ast).1 h) NGood.empty.gen).stmt

/-- **codegen only emits name operands taken from the AST**: a fine link stays fine -/
theorem codegen_linkOk (link : Link) (ast : List Stmt) (h : StmtsOk ast) (hl : link.LinkOk) :
    (codegen link ast).1.LinkOk :=
  codegen_ind link ast hl fun _ x hx hl => hl.append (fragments_linkOk ast h x hx)

end Codegen
end Basic

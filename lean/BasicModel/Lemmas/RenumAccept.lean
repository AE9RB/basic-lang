import BasicModel.Lemmas.RenumStmt
import BasicModel.Lemmas.RenumOperand
import BasicModel.Lemmas.Visit
import BasicModel.Lemmas.CodegenShape
/-
  RENUM and the compiler, part 5: the visitor on related syntax trees: statements related by a
  renumbering generate related fragments.

  A statement with line-number operands pops at once the literal fragments the visitor has just pushed.
  That is cancelled by an equation of the ONE run (`visitWith m`: `visitStatement` with the generator code
  as a parameter; `visitWith_pop`, `visitWith_popN`), after which the operand is a parameter of the code
  and the ordinary triples `GRs` apply; LIST / DELETE have a closed form (`visitWith_range`).

  The walk of two related trees (`accept_rel`) is the tree induction `Node.ind`: related nodes have related children
  (`NodeRel.kids`), so `accept_eq` reduces a node to its visit (`visit_rel`, from `gr_genStatement`); only the eight
  statements with line-number operands (`refs`) are taken one by one: their operand leaves carry different numbers, so they
  are not related as expressions and `NodeRel.kids` does not hold of them.
-/
namespace Basic
namespace RenumRel
open Link Codegen

variable {φ : Nat → Nat} {α α' β β' : Type}

variable (φ) in
structure VRel (s s' : VState) : Prop where
  g : GRel φ s.g s'.g
  errors : All₂ ErrRel s.errors s'.errors

theorem VRel.empty : VRel φ {} {} := ⟨GRel.empty, .nil⟩

theorem runFresh_rel {m : GM α} {m' : GM α'} {P : GState → GState → Prop} {R : α → α' → Prop}
    (h : GR φ P m m' (S φ R)) {g g' : GState} (hP : P { g with cur := {} } { g' with cur := {} })
    (hc : FragRel φ g.cur g'.cur) :
    ∃ l l' g1 g1', FragRel φ l l' ∧ GRel φ g1 g1' ∧
      ((∃ a a', R a a' ∧ runFresh m g = (.ok a, l, g1) ∧ runFresh m' g' = (.ok a', l', g1')) ∨
        ∃ e e', ErrRel e e' ∧ runFresh m g = (.error e, l, g1) ∧ runFresh m' g' = (.error e', l', g1')) := by
  have h1 := h.run _ _ hP
  unfold Out at h1
  unfold runFresh
  rcases hm : m.run.run { g with cur := {} } with ⟨r, g1⟩
  rcases hm' : m'.run.run { g' with cur := {} } with ⟨r', g1'⟩
  rw [hm, hm'] at h1
  cases r with
  | ok a =>
    cases r' with
    | ok a' =>
      refine ⟨_, _, _, _, ?_, ?_, .inl ⟨a, a', h1.1, rfl, rfl⟩⟩
      · exact h1.2.cur
      · exact { h1.2 with cur := hc }
    | error e' => exact h1.elim
  | error e =>
    cases r' with
    | ok a' => exact h1.elim
    | error e' =>
      refine ⟨_, _, _, _, ?_, ?_, .inr ⟨e, e', h1.1, rfl, rfl⟩⟩
      · exact h1.2.cur
      · exact { h1.2 with cur := hc }

theorem visitExpression_rel {e e' : Expr} (h : GRs φ (genExpression e) (genExpression e') TT) {s s' : VState}
    (hs : VRel φ s s') : VRel φ (visitExpression e s) (visitExpression e' s') := by
  unfold visitExpression
  obtain ⟨l, l', g, g', hl, hg, ⟨a, a', -, e1, e2⟩ | ⟨e, e', hee, e1, e2⟩⟩ :=
    runFresh_rel h (hs.g.setCur FragRel.empty) hs.g.cur
  · rw [e1, e2]
    exact ⟨{ hg with expr := hg.expr.push hl }, hs.errors⟩
  · rw [e1, e2]
    exact ⟨{ hg with expr := hg.expr.push hl }, hs.errors.append (.cons hee .nil)⟩

theorem visitVariable_rel {v v' : Variable} (h : GRs φ (genVariable v) (genVariable v') (fun r r' => r'.2 = r.2))
    {s s' : VState} (hs : VRel φ s s') : VRel φ (visitVariable v s) (visitVariable v' s') := by
  unfold visitVariable
  obtain ⟨l, l', g, g', hl, hg, ⟨⟨c, x⟩, ⟨c', x'⟩, hx, e1, e2⟩ | ⟨e, e', hee, e1, e2⟩⟩ :=
    runFresh_rel h (hs.g.setCur FragRel.empty) hs.g.cur
  · cases hx
    rw [e1, e2]
    exact ⟨{ hg with var := hg.var.push ⟨rfl, rfl, hl⟩ }, hs.errors⟩
  · rw [e1, e2]
    exact ⟨{ hg with var := hg.var.push ⟨rfl, rfl, hl⟩ }, hs.errors.append (.cons hee .nil)⟩

def pushExpr (s : VState) (x : Col × Link) : VState := { s with g := { s.g with expr := s.g.expr.push x } }

theorem acceptExpr_leaf {e : Expr} {v : Val} (h : litVal e = some v) (s : VState) :
    acceptExpr e s = pushExpr s (leafCol e, litFrag v) := by
  cases e with
  | var x => cases h
  | neg c e => cases h
  | not c e => cases h
  | bin op c l r => cases h
  | single c b => cases h; rfl
  | double c b => cases h; rfl
  | integer c b => cases h; rfl
  | string c b => cases h; rfl

theorem OperandRel.frag {e e' : Expr} (h : OperandRel φ e e') :
    ∃ x x', OpFrag φ x x' ∧ (∀ s, acceptExpr e s = pushExpr s x) ∧ (∀ s, acceptExpr e' s = pushExpr s x') := by
  cases h with
  | line h1 h2 h3 h4 => exact ⟨_, _, .line _ _ h3 h4, acceptExpr_leaf h1, acceptExpr_leaf h2⟩
  | other h1 h2 h3 => exact ⟨_, _, .other _ _ h3, acceptExpr_leaf h1, acceptExpr_leaf h2⟩

theorem pushExpr_cur (s : VState) (x : Col × Link) : (pushExpr s x).g.cur = s.g.cur := rfl
theorem pushExpr_errors (s : VState) (x : Col × Link) : (pushExpr s x).errors = s.errors := rfl

/-- `visitStatement` with the generator code as a parameter -/
def visitWith (m : GM Col) (s : VState) : VState :=
  let (r, link, g) := runFresh m s.g
  match r with
  | .ok c => { s with g := { g with stmt := g.stmt.push (c, link) } }
  | .error e => { g := { g with stmt := g.stmt.push ((0, 0), link) }, errors := s.errors ++ [e] }

theorem visitStatement_with (st : Stmt) (s : VState) : visitStatement st s = visitWith (genStatement st) s := rfl

/-- generator code that begins by popping what the visitor has just pushed -/
theorem visitWith_pop (f : Col × Link → GM Col) (s : VState) (x : Col × Link) :
    visitWith (popExpr >>= f) (pushExpr s x) = visitWith (f x) s := by
  unfold visitWith runFresh
  rw [grun_bind_ok (popExpr_run _ s.g.expr x rfl)]
  rfl

theorem visitWith_rel {m m' : GM Col} (h : GRs φ m m' TT) {s s' : VState} (hs : VRel φ s s') :
    VRel φ (visitWith m s) (visitWith m' s') := by
  unfold visitWith
  obtain ⟨l, l', g, g', hl, hg, ⟨a, a', -, e1, e2⟩ | ⟨e, e', hee, e1, e2⟩⟩ :=
    runFresh_rel h (hs.g.setCur FragRel.empty) hs.g.cur
  · rw [e1, e2]
    exact ⟨{ hg with stmt := hg.stmt.push hl }, hs.errors⟩
  · rw [e1, e2]
    exact ⟨{ hg with stmt := hg.stmt.push hl }, hs.errors.append (.cons hee .nil)⟩

theorem foldl_pushExpr_eq (xs : List (Col × Link)) : ∀ s : VState,
    xs.foldl pushExpr s = { s with g := { s.g with expr := s.g.expr ++ xs.toArray } } := by
  induction xs with
  | nil => intro s; simp
  | cons x xs ih =>
    intro s
    rw [List.foldl_cons, ih]
    simp [pushExpr]

/-- generator code that begins by popping the `n` fragments the visitor has just pushed (ON … GOTO / GOSUB) -/
theorem visitWith_popN (f : List (Col × Link) → GM Col) (s : VState) (xs : List (Col × Link)) :
    visitWith (popNExpr xs.length >>= f) (xs.foldl pushExpr s) = visitWith (f xs) s := by
  rw [foldl_pushExpr_eq]
  unfold visitWith runFresh
  rw [grun_bind_ok (popNExpr_run _ s.g.expr xs rfl)]

/-- an operand of LIST / DELETE is a literal leaf; both sides read a line number from it, the second the renumbered
    or the same one -/
theorem RangeOperandRel.frag {e e' : Expr} (h : RangeOperandRel φ e e') :
    ∃ c c' v v' n n', v.toLineNumber = .ok (some n) ∧ v'.toLineNumber = .ok (some n') ∧ RangeImg φ n n' ∧
      (∀ s, acceptExpr e s = pushExpr s (c, litFrag v)) ∧ (∀ s, acceptExpr e' s = pushExpr s (c', litFrag v')) := by
  cases h with
  | line h1 h2 h3 h4 => exact ⟨_, _, _, _, _, _, h3, h4, .inl rfl, acceptExpr_leaf h1, acceptExpr_leaf h2⟩
  | kept h1 h2 h3 => exact ⟨_, _, _, _, _, _, h3, h3, .inr rfl, acceptExpr_leaf h1, acceptExpr_leaf h2⟩

theorem acceptExprs_operands {ls ls' : List Expr} (h : All₂ (OperandRel φ) ls ls') :
    ∃ xs xs', All₂ (OpFrag φ) xs xs' ∧ xs.length = ls.length ∧
      (∀ s, acceptExprs ls s = xs.foldl pushExpr s) ∧ (∀ s, acceptExprs ls' s = xs'.foldl pushExpr s) := by
  induction h with
  | nil => exact ⟨[], [], .nil, rfl, fun s => by rw [acceptExprs]; rfl, fun s => by rw [acceptExprs]; rfl⟩
  | cons hab _ ih =>
    obtain ⟨xs, xs', hxs, hl, i1, i2⟩ := ih
    obtain ⟨x, x', hx, h1, h2⟩ := hab.frag
    exact ⟨x :: xs, x' :: xs', .cons hx hxs, by rw [List.length_cons, List.length_cons, hl],
      fun s => by rw [acceptExprs, h1, i1]; rfl, fun s => by rw [acceptExprs, h2, i2]; rfl⟩

theorem visitWith_range (op : Opcode) (c ca cb : Col) {va vb : Val} {n m : Nat} (ha : va.toLineNumber = .ok (some n))
    (hb : vb.toLineNumber = .ok (some m)) (s : VState) :
    visitWith (rangeStmt op c) (pushExpr (pushExpr s (ca, litFrag va)) (cb, litFrag vb)) =
      { s with g := { s.g with stmt := s.g.stmt.push ((c.1, cb.2), { ops := #[lineLit n, lineLit m, op] }) } } := by
  unfold visitWith runFresh pushExpr
  simp only [litFrag, (rangeStmt_clean op c ca cb ha hb s.g.var s.g.expr s.g.stmt).run (fits_three ..)]
  rfl

theorem accept_goto {c c' : Col} {e e' : Expr} (he : OperandRel φ e e') {s s' : VState} (hs : VRel φ s s') :
    VRel φ (visitStatement (.goto c e) (acceptExpr e s)) (visitStatement (.goto c' e') (acceptExpr e' s')) := by
  obtain ⟨x, x', hx, h1, h2⟩ := he.frag
  rw [h1, h2, visitStatement_with, visitStatement_with]
  simp only [genStatement, exprPopLineNumber, bind_assoc]
  rw [visitWith_pop, visitWith_pop]
  exact visitWith_rel (gr_lineOperand hx fun c c' ln ln' hl =>
    GRs.seq_any (gr_pushGoto c c' hl) fun _ _ => GRs.ret trivial) hs

theorem accept_gosub {c c' : Col} {e e' : Expr} (he : OperandRel φ e e') {s s' : VState} (hs : VRel φ s s') :
    VRel φ (visitStatement (.gosub c e) (acceptExpr e s)) (visitStatement (.gosub c' e') (acceptExpr e' s')) := by
  obtain ⟨x, x', hx, h1, h2⟩ := he.frag
  rw [h1, h2, visitStatement_with, visitStatement_with]
  simp only [genStatement, exprPopLineNumber, bind_assoc]
  rw [visitWith_pop, visitWith_pop]
  exact visitWith_rel (gr_lineOperand hx fun c c' ln ln' hl =>
    GRs.seq_any (gr_pushGosub c c' hl) fun _ _ => GRs.ret trivial) hs

theorem accept_restore {c c' : Col} {e e' : Expr} (he : OperandRel φ e e') {s s' : VState} (hs : VRel φ s s') :
    VRel φ (visitStatement (.restore c e) (acceptExpr e s)) (visitStatement (.restore c' e') (acceptExpr e' s')) := by
  obtain ⟨x, x', hx, h1, h2⟩ := he.frag
  rw [h1, h2, visitStatement_with, visitStatement_with]
  simp only [genStatement]
  rw [visitWith_pop, visitWith_pop]
  refine visitWith_rel ?_ hs
  exact hx.read (fun n => GRs.seq_any (gr_pushRestore _ _ (.line n)) fun _ _ => GRs.ret trivial)
    fun _ _ => GRs.seq_any (gr_pushRestore _ _ .none) fun _ _ => GRs.ret trivial

theorem accept_run {c c' : Col} {e e' : Expr} (he : OperandRel φ e e') {s s' : VState} (hs : VRel φ s s') :
    VRel φ (visitStatement (.run c e) (acceptExpr e s)) (visitStatement (.run c' e') (acceptExpr e' s')) := by
  obtain ⟨x, x', hx, h1, h2⟩ := he.frag
  rw [h1, h2, visitStatement_with, visitStatement_with]
  simp only [genStatement]
  rw [visitWith_pop, visitWith_pop]
  refine visitWith_rel ?_ hs
  refine hx.read (fun n => GRs.seq_any (gr_pushRun _ _ (.line n)) fun _ _ => GRs.ret trivial) ?_
  rintro _ (_ | _)
  · exact GRs.seq_any (gr_pushRun _ _ .none) fun _ _ => GRs.ret trivial
  · exact GRs.seq_any (gr_lpush _) fun _ _ => gr_pushRet _ trivial

theorem accept_range (op : Opcode) (hop : op = .list ∨ op = .delete) {c c' : Col} {a a' b b' : Expr}
    (ha : RangeOperandRel φ a a') (hb : RangeOperandRel φ b b') {s s' : VState} (hs : VRel φ s s') :
    VRel φ (visitWith (rangeStmt op c) (acceptExpr b (acceptExpr a s)))
      (visitWith (rangeStmt op c') (acceptExpr b' (acceptExpr a' s'))) := by
  obtain ⟨ca, ca', va, va', n, n', e1, e1', hn, h1, h2⟩ := ha.frag
  obtain ⟨cb, cb', vb, vb', m, m', e2, e2', hm, h3, h4⟩ := hb.frag
  rw [h1, h2, h3, h4, visitWith_range op c ca cb e1 e2,
    visitWith_range op c' ca' cb' e1' e2']
  exact ⟨{ hs.g with stmt := hs.g.stmt.push (show FragRel φ _ _ from
    { FragRel.empty with ops := .range n n' m m' op hn hm hop .nil }) }, hs.errors⟩

theorem accept_on {c c' : Col} (isGosub : Bool) {ls ls' : List Expr} (h : All₂ (OperandRel φ) ls ls')
    {s s' : VState} (hs : VRel φ s s') :
    VRel φ (visitWith (genOn c ls.length isGosub) (acceptExprs ls s))
      (visitWith (genOn c' ls'.length isGosub) (acceptExprs ls' s')) := by
  obtain ⟨xs, xs', hxs, hl, i1, i2⟩ := acceptExprs_operands h
  have hl' : xs'.length = ls'.length := by rw [hxs.length_eq, hl, h.length_eq]
  rw [i1, i2, ← hl, ← hl']
  unfold genOn
  rw [visitWith_popN, visitWith_popN]
  refine visitWith_rel ?_ hs
  rw [hxs.length_eq]
  refine GRs.seq_same (gr_lenVal _) fun _ _ => GRs.seq gr_popExpr fun _ _ hx =>
    GRs.seq_same gr_lnextSymbol fun ret hr => ?_
  have hloop := fun (a a' : Col × Link) (h : OpFrag φ a a') (_ _ : Nat) =>
    gr_onBody h Nat (fun x => x.fst.snd) (fun x => x.fst.snd)
  cases isGosub
  · simp only [Bool.false_eq_true, ↓reduceIte]
    exact GRs.seq_any (gr_lpush _) fun _ _ => GRs.seq_any (gr_lappend hx) fun _ _ =>
      GRs.seq_any (gr_lpush _) fun _ _ => GRs.seq_any (GRs.forLoop hxs hloop) fun _ _ => GRs.ret trivial
  · simp only [↓reduceIte]
    exact GRs.seq_any (gr_pushReturnVal c c' hr) fun _ _ =>
      GRs.seq_any (gr_lpush _) fun _ _ => GRs.seq_any (gr_lappend hx) fun _ _ =>
      GRs.seq_any (gr_lpush _) fun _ _ => GRs.seq_any (GRs.forLoop hxs hloop) fun _ _ =>
      GRs.seq_any (gr_lpush _) fun _ _ => GRs.seq_any (gr_lpushSymbol ret) fun _ _ => GRs.ret trivial

theorem gr_gen_plain (op : Opcode) (c c' : Col) {st st' : Stmt}
    (h : genStatement st = (do lpush op; pure c)) (h' : genStatement st' = (do lpush op; pure c')) :
    GRs φ (genStatement st) (genStatement st') TT := by
  rw [h, h']; exact gr_pushRet op trivial

variable (φ) in
/-- two nodes of the same kind, related by the renumbering -/
inductive NodeRel : Node → Node → Prop
  | var {v v'} : VarRel v v' → NodeRel (.var v) (.var v')
  | expr {e e'} : ExprRel e e' → NodeRel (.expr e) (.expr e')
  | stmt {st st'} : StmtRel φ st st' → NodeRel (.stmt st) (.stmt st')

theorem ExprsRel.nodes : ∀ {es es' : List Expr}, ExprsRel es es' → All₂ (NodeRel φ) (es.map .expr) (es'.map .expr)
  | _, _, .nil => .nil
  | _, _, .cons h hs => .cons (.expr h) hs.nodes

theorem StmtsRel.nodes : ∀ {es es' : List Stmt}, StmtsRel φ es es' → All₂ (NodeRel φ) (es.map .stmt) (es'.map .stmt)
  | _, _, .nil => .nil
  | _, _, .cons h hs => .cons (.stmt h) hs.nodes

theorem varNodes {vs vs' : List Variable} (h : All₂ VarRel vs vs') : All₂ (NodeRel φ) (vs.map .var) (vs'.map .var) := by
  induction h with
  | nil => exact .nil
  | cons h _ ih => exact .cons (.var h) ih

/-- related nodes have related children (the statements with line-number operands apart) -/
theorem NodeRel.kids {n n' : Node} (h : NodeRel φ n n') (hp : ∀ st, n = .stmt st → refs st = false) :
    All₂ (NodeRel φ) n.kids n'.kids := by
  cases h with
  | var h => cases h with
    | unary => exact .nil
    | array _ _ _ hes => exact hes.nodes
  | expr h => cases h with
    | var hv => exact .cons (.var hv) .nil
    | neg _ _ he | not _ _ he => exact .cons (.expr he) .nil
    | bin _ _ _ hl hr => exact .cons (.expr hl) (.cons (.expr hr) .nil)
    | single | double | integer | string => exact .nil
  | stmt h =>
    have hp := hp _ rfl
    cases h with
    | data _ _ hes | print _ _ hes => exact hes.nodes
    | «def» _ _ hv hps he => exact .cons (.var hv) ((varNodes hps).append (.cons (.expr he) .nil))
    | defdbl _ _ ha hb | defint _ _ ha hb | defsng _ _ ha hb | defstr _ _ ha hb | swap _ _ ha hb =>
      exact .cons (.var ha) (.cons (.var hb) .nil)
    | mid _ _ hv h1 h2 h3 | «for» _ _ hv h1 h2 h3 =>
      exact .cons (.var hv) (.cons (.expr h1) (.cons (.expr h2) (.cons (.expr h3) .nil)))
    | load _ _ he | save _ _ he | «while» _ _ he => exact .cons (.expr he) .nil
    | «if» _ _ hq hth hel => exact .cons (.expr hq) (hth.nodes.append hel.nodes)
    | «let» _ _ hv he => exact .cons (.var hv) (.cons (.expr he) .nil)
    | input _ _ h1 h2 hvs => exact .cons (.expr h1) (.cons (.expr h2) (varNodes hvs))
    | renum _ _ ha hb hs => exact .cons (.expr ha) (.cons (.expr hb) (.cons (.expr hs) .nil))
    | dim _ _ hvs | erase _ _ hvs | next _ _ hvs | read _ _ hvs => exact varNodes hvs
    | clear | cls | cont | «end» | new | «return» | stop | troff | tron | wend => exact .nil
    | goto | gosub | restore | run | delete | list | onGoto | onGosub => cases hp

theorem visit_rel {n n' : Node} (h : NodeRel φ n n') (hp : ∀ st, n = .stmt st → refs st = false) {s s' : VState}
    (hs : VRel φ s s') : VRel φ (visit n s) (visit n' s') := by
  cases h with
  | var h => exact visitVariable_rel (gr_genVariable h) hs
  | expr h => exact visitExpression_rel (gr_genExpression h) hs
  | stmt h => exact visitWith_rel (gr_genStatement h (hp _ rfl)) hs

theorem acceptAll_rel {ns ns' : List Node} (h : All₂ (NodeRel φ) ns ns')
    (ih : ∀ k ∈ ns, ∀ k' s s', NodeRel φ k k' → VRel φ s s' → VRel φ (accept k s) (accept k' s')) :
    ∀ {s s' : VState}, VRel φ s s' → VRel φ (acceptAll ns s) (acceptAll ns' s') := by
  induction h with
  | nil => exact id
  | cons hk _ ih' =>
    exact fun hs => ih' (fun k hm => ih k (List.mem_cons_of_mem _ hm)) (ih _ List.mem_cons_self _ _ _ hk hs)

/-- **the walks of related trees keep the states related** -/
theorem accept_rel : ∀ (n n' : Node) (s s' : VState), NodeRel φ n n' → VRel φ s s' →
    VRel φ (accept n s) (accept n' s') := by
  intro n
  induction n using Node.ind with
  | step n ih =>
    intro n' s s' hn hs
    by_cases hp : ∀ st, n = .stmt st → refs st = false
    · rw [accept_eq n, accept_eq n']
      exact visit_rel hn hp (acceptAll_rel (hn.kids hp) ih hs)
    · -- line-number operands: the leaves are pushed and popped again, by equations of the one run
      cases hn with
      | var | expr => exact absurd (fun _ h => nomatch h) hp
      | @stmt st st' h =>
        have hr : refs st = true := by
          cases hq : refs st with
          | true => rfl
          | false => exact absurd (fun _ e => by cases e; exact hq) hp
        clear hp
        cases h with
        | goto _ _ he => exact accept_goto he hs
        | gosub _ _ he => exact accept_gosub he hs
        | restore _ _ he => exact accept_restore he hs
        | run _ _ he => exact accept_run he hs
        | delete c c' ha hb => exact accept_range .delete (.inr rfl) ha hb hs
        | list c c' ha hb => exact accept_range .list (.inl rfl) ha hb hs
        | onGoto c c' he hls =>
          exact accept_on false hls (ih (.expr _) List.mem_cons_self _ _ _ (.expr he) hs)
        | onGosub c c' he hls =>
          exact accept_on true hls (ih (.expr _) List.mem_cons_self _ _ _ (.expr he) hs)
        | _ => cases hr

theorem acceptStmt_rel : ∀ (st st' : Stmt), StmtRel φ st st' → ∀ (s s' : VState), VRel φ s s' →
    VRel φ (acceptStmt st s) (acceptStmt st' s')
  | st, st', h, s, s', hs => accept_rel (.stmt st) (.stmt st') s s' (.stmt h) hs

theorem acceptStmts_rel {sts sts' : List Stmt} (h : StmtsRel φ sts sts') {s s' : VState} (hs : VRel φ s s') :
    VRel φ (acceptStmts sts s) (acceptStmts sts' s') := by
  rw [acceptStmts_all, acceptStmts_all]
  exact acceptAll_rel h.nodes (fun k _ k' s s' => accept_rel k k' s s') hs

/-- **fragments of related statement lists**: the statement stacks the generator hands to `codegen`
    are related fragment by fragment, the visiting errors are of the same kinds -/
theorem fragments_rel {ast ast' : List Stmt} (h : StmtsRel φ ast ast') :
    All₂ (EntryRel φ) (acceptStmts ast {}).g.stmt.toList (acceptStmts ast' {}).g.stmt.toList ∧
    All₂ ErrRel (acceptStmts ast {}).errors (acceptStmts ast' {}).errors :=
  let r := acceptStmts_rel h VRel.empty
  ⟨r.g.stmt, r.errors⟩

end RenumRel
end Basic

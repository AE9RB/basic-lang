import Lean.Meta.Tactic.Simp.RegisterCommand
/-
  The simp set `parse_eval`: evaluating the parser on a concrete token list.  The parser's mutual
  recursion does not reduce by `rfl`, so the parse of a given line is computed by `simp` with the
  parser's functions and the plumbing of its state monad unfolded; `Lemmas/ParseLines.lean` says
  which those are.  (An attribute cannot be used in the module that declares it.)
-/

/-- the parser's functions and the operations of its state monad, for `simp [parse_eval]` on a
    concrete token list -/
register_simp_attr parse_eval

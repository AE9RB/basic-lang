import BasicModel.Lemmas.ContParse
import BasicModel.Lemmas.LinkedInv
/-
  A plain direct line compiled onto a linked program; `CONT` is the instance the session needs.

  A direct line is *plain* (`PlainLine line code`) when it parses and compiles, without diagnostics,
  to fragments that are nothing but code — no DATA, no pending references, no WHILE/WEND.
  `enterDirect s line` with `s.dirty = false` and a linked program in memory (`Program.Linked`,
  `Lemmas/LinkedInv.lean`) links that program once more (a no-op), cuts the
  code at `directAddress`, appends `code` and `End`, and links again.  Everything below `directAddress`
  — the compiled program —, the DATA segment and its cursor, the line-number table and the diagnostics
  of the program lines survive; there are no direct-mode diagnostics: `DirectOf`, `directOf_codegenLine`.

  The lexer is a separate model: `Env.lex "CONT" = contLine` is a hypothesis wherever `enter` is used
  (`LexCont`).
-/
namespace Basic

namespace Link

/-- a fragment that is nothing but code: no data, symbols, pending references, WHILEs -/
structure PlainCode (f : Link) : Prop where
  data : f.data = #[]
  symbols : f.symbols = []
  unlinked : f.unlinked = []
  whiles : f.whiles = []
  currentSymbol : f.currentSymbol = 0

theorem append_plain (l f : Link) (hf : PlainCode f)
    (ho : (l.ops ++ f.ops).size ≤ Gen.stackMaxLen) (hd : l.data.size ≤ Gen.stackMaxLen) :
    l.append f = ({ l with ops := l.ops ++ f.ops }, .ok ()) := by
  unfold append
  have h1 : (l.directSet && !f.data.isEmpty) = false := by rw [hf.data]; simp
  rw [h1]
  simp only [Bool.false_eq_true, if_false, hf.symbols, hf.unlinked, hf.whiles, hf.currentSymbol, hf.data,
    List.foldl_nil, List.foldr_nil, List.map_nil, List.append_nil, Int.add_zero, Array.append_empty]
  rw [if_neg (by omega), if_neg (by omega)]

theorem lineNumberFor_filter (l : Link) (ops : Array Opcode) (cs : Symbol) (a : Nat) :
    ({ l with symbols := l.symbols.filter (fun p => p.1 ≥ 0), currentSymbol := cs, ops := ops } : Link).lineNumberFor a =
      l.lineNumberFor a := by
  unfold lineNumberFor
  simp only [List.filter_filter, Bool.and_self]

end Link

namespace Program

/-- the code of a list of fragments, concatenated -/
def fragOps : List (Col × Link) → Array Opcode
  | [] => #[]
  | f :: rest => f.2.ops ++ fragOps rest

theorem appendMany_plain (frags : List (Col × Link)) : ∀ (l : Link),
    (∀ f ∈ frags, Link.PlainCode f.2) → l.ops.size + (fragOps frags).size ≤ Gen.stackMaxLen →
    l.data.size ≤ Gen.stackMaxLen →
    Link.appendMany l (frags.map (·.2)) = ({ l with ops := l.ops ++ fragOps frags }, .ok ()) := by
  induction frags with
  | nil =>
    intro l _ _ _
    show (l, Except.ok ()) = (({ l with ops := l.ops ++ #[] } : Link), Except.ok ())
    rw [Array.append_empty]
  | cons f rest ih =>
    intro l hp hs hd
    rcases f with ⟨c, f⟩
    have hsz : (fragOps ((c, f) :: rest)).size = f.ops.size + (fragOps rest).size := by
      show (f.ops ++ fragOps rest).size = _
      rw [Array.size_append]
    rw [hsz] at hs
    rw [List.map_cons]
    unfold Link.appendMany
    rw [Link.append_plain l f (hp (c, f) (List.mem_cons_self ..)) (by rw [Array.size_append]; omega) hd]
    dsimp only
    rw [ih]
    · show _ = (({ l with ops := l.ops ++ (f.ops ++ fragOps rest) } : Link), Except.ok ())
      rw [Array.append_assoc]
    · exact fun g hg => hp g (List.mem_cons_of_mem _ hg)
    · show (l.ops ++ f.ops).size + _ ≤ _
      rw [Array.size_append]; omega
    · exact hd

theorem codegen_plain (l : Link) (ast : List Stmt) (herrs : (Codegen.acceptStmts ast {}).errors = [])
    (hplain : ∀ f ∈ (Codegen.acceptStmts ast {}).g.stmt.toList, Link.PlainCode f.2)
    (hs : l.ops.size + (fragOps (Codegen.acceptStmts ast {}).g.stmt.toList).size ≤ Gen.stackMaxLen)
    (hd : l.data.size ≤ Gen.stackMaxLen) :
    Codegen.codegen l ast = ({ l with ops := l.ops ++ fragOps (Codegen.acceptStmts ast {}).g.stmt.toList }, []) := by
  rw [Codegen.codegen_eq, herrs, appendMany_plain _ _ hplain hs hd]
  rfl

/-- a direct line that compiles, without diagnostics, to fragments that are nothing but code
    (no DATA, no pending references, no WHILE/WEND): `code` is what it compiles to -/
structure PlainLine (line : Line) (code : Array Opcode) : Prop where
  number : line.number = none
  compiles : ∃ ast, Parse.parse none line.tokens = .ok ast ∧
    (Codegen.acceptStmts ast {}).errors = [] ∧
    (∀ f ∈ (Codegen.acceptStmts ast {}).g.stmt.toList, Link.PlainCode f.2) ∧
    fragOps (Codegen.acceptStmts ast {}).g.stmt.toList = code

/-- a decidable check that fragments are nothing but code -/
def plainFrags (frags : List (Col × Link)) : Bool :=
  frags.all fun f => f.2.data.isEmpty && f.2.symbols.isEmpty && f.2.unlinked.isEmpty && f.2.whiles.isEmpty &&
    decide (f.2.currentSymbol = 0)

theorem plainFrags_spec (frags : List (Col × Link)) (h : plainFrags frags = true) :
    ∀ f ∈ frags, Link.PlainCode f.2 := by
  intro f hf
  have := List.all_eq_true.1 h f hf
  simp only [Bool.and_eq_true, decide_eq_true_eq] at this
  obtain ⟨⟨⟨⟨h1, h2⟩, h3⟩, h4⟩, h5⟩ := this
  exact ⟨Array.isEmpty_iff.1 h1, List.isEmpty_iff.1 h2, List.isEmpty_iff.1 h3, List.isEmpty_iff.1 h4, h5⟩

theorem plainLine_of_check (line : Line) (code : Array Opcode) (ast : List Stmt)
    (hn : line.number = none) (hparse : Parse.parse none line.tokens = .ok ast)
    (herr : (Codegen.acceptStmts ast {}).errors = [])
    (hplain : plainFrags (Codegen.acceptStmts ast {}).g.stmt.toList = true)
    (hcode : fragOps (Codegen.acceptStmts ast {}).g.stmt.toList = code) : PlainLine line code :=
  ⟨hn, ast, hparse, herr, plainFrags_spec _ hplain, hcode⟩

theorem plainLine_cont : PlainLine contLine #[.cont] := by
  refine ⟨rfl, _, parse_contLine, acceptStmts_cont.2, ?_, ?_⟩
  · rw [acceptStmts_cont.1]
    intro f hf
    rw [List.mem_singleton] at hf
    subst hf
    exact ⟨rfl, rfl, rfl, rfl, rfl⟩
  · rw [acceptStmts_cont.1]; rfl

theorem codegenLine_plain (p : Program) (h : Linked p) (line : Line) (code : Array Opcode)
    (hl : PlainLine line code)
    (hsize : p.directAddress + code.size + 2 ≤ Gen.stackMaxLen) (hdata : p.link.data.size ≤ Gen.stackMaxLen) :
    p.codegenLine line =
        { errors := [], indirectErrors := p.indirectErrors, directAddress := p.directAddress,
          lineNumber := none,
          link := { p.link with
            ops := (p.link.ops.extract 0 p.directAddress ++ code).push Opcode.end,
            currentSymbol := 0,
            symbols := p.link.symbols.filter (fun q => q.1 ≥ 0) } } := by
  obtain ⟨ops1, errs1, hops1, hl1⟩ := linkProg_linked p h
  obtain ⟨hnum, ast, hparse, herrs, hplain, hcode⟩ := hl
  rw [codegenLine_direct p line hnum, directGen_ok hparse, base_eq, hl1, pushEndP_eq]
  unfold genAst startLine
  dsimp only
  rw [codegen_plain _ ast herrs hplain, hcode, hops1]
  case hs =>
    dsimp only
    rw [hops1, h.base_size, hcode]
    omega
  case hd => exact hdata
  dsimp only [List.map_nil, List.append_nil]
  rw [if_neg (by rw [Array.size_append, h.base_size]; omega)]
  rfl

/-- `tail` is empty unless a program line starts exactly at the end of the new code (then
    `linkProg` adds an `End`) -/
theorem plain_program (p : Program) (h : Linked p) (line : Line) (code : Array Opcode)
    (hl : PlainLine line code)
    (hsize : p.directAddress + code.size + 2 ≤ Gen.stackMaxLen) (hdata : p.link.data.size ≤ Gen.stackMaxLen) :
    ∃ tail, (tail = #[] ∨ tail = #[Opcode.end]) ∧
      (p.codegenLine line).linkProg =
        { errors := [], indirectErrors := p.indirectErrors, directAddress := p.directAddress,
          lineNumber := none,
          link := { p.link with
            ops := (p.link.ops.extract 0 p.directAddress ++ code).push Opcode.end ++ tail,
            currentSymbol := 0,
            symbols := p.link.symbols.filter (fun q => q.1 ≥ 0) } } := by
  have hcg := codegenLine_plain p h line code hl hsize hdata
  obtain ⟨tail, errs, ht, he, hq⟩ := linkProg_clean (p.codegenLine line) (by rw [hcg]; exact h.unlinked)
    (by rw [hcg]; exact h.whiles) (by rw [hcg]; exact h.direct)
  rw [hcg] at he hq
  refine ⟨tail, ht, ?_⟩
  rw [hcg, hq, he (by dsimp only; rw [Array.size_push, Array.size_append, h.base_size]; omega)]
  dsimp only
  rw [List.filter_filter]
  simp only [Bool.and_self]

/-- `P` is `p` with the direct code replaced by `code; End`: what `enterDirect` makes of a plain
    direct line typed at a program `p` in memory -/
structure DirectOf (p : Program) (code : Array Opcode) (P : Program) : Prop where
  below : ∀ i, i < p.directAddress → P.link.ops[i]? = p.link.ops[i]?
  direct : ∀ i, i < code.size → P.link.ops[p.directAddress + i]? = code[i]?
  «end» : P.link.ops[p.directAddress + code.size]? = some .end
  beyond : ∀ i op, p.directAddress + code.size < i → P.link.ops[i]? = some op → op = .end
  errors : P.errors = []
  indirectErrors : P.indirectErrors = p.indirectErrors
  directAddress : P.directAddress = p.directAddress
  data : P.link.data = p.link.data
  dataPos : P.link.dataPos = p.link.dataPos
  symbols : P.link.symbols = p.link.symbols.filter (fun q => q.1 ≥ 0)
  lineNumberFor : ∀ a, P.link.lineNumberFor a = p.link.lineNumberFor a
  linked : Linked P

/-- the code segment after a plain direct line: `b` (the program proper), the new code, `End`, and
    possibly one more `End` -/
theorem directOps_layout (b code tail ops : Array Opcode) (ht : tail = #[] ∨ tail = #[Opcode.end])
    (hops : ops = (b ++ code).push Opcode.end ++ tail) :
    (∀ i, i < b.size → ops[i]? = b[i]?) ∧
    (∀ i, i < code.size → ops[b.size + i]? = code[i]?) ∧
    ops[b.size + code.size]? = some .end ∧
    (∀ i op, b.size + code.size < i → ops[i]? = some op → op = .end) ∧
    b.size ≤ ops.size := by
  subst hops
  have hsz1 : (b ++ code).size = b.size + code.size := Array.size_append
  have hsz : ((b ++ code).push Opcode.end).size = b.size + code.size + 1 := by rw [Array.size_push, hsz1]
  refine ⟨fun i hi => ?_, fun i hi => ?_, ?_, fun i op hi hop => ?_, ?_⟩
  · rw [Array.getElem?_append, hsz, if_pos (by omega), Array.getElem?_push, hsz1, if_neg (by omega),
      Array.getElem?_append, if_pos hi]
  · rw [Array.getElem?_append, hsz, if_pos (by omega), Array.getElem?_push, hsz1, if_neg (by omega),
      Array.getElem?_append, if_neg (by omega), Nat.add_sub_cancel_left]
  · rw [Array.getElem?_append, hsz, if_pos (by omega), Array.getElem?_push, hsz1, if_pos rfl]
  · rw [Array.getElem?_append, hsz, if_neg (by omega)] at hop
    rcases ht with ht | ht
    · rw [ht] at hop; simp at hop
    · rw [ht] at hop
      cases hk : i - (b.size + code.size + 1) with
      | zero => rw [hk] at hop; injection hop with h1; exact h1.symm
      | succ k => rw [hk] at hop; simp at hop
  · rw [Array.size_append, hsz]
    omega

theorem directOf_codegenLine (p : Program) (h : Linked p) (line : Line) (code : Array Opcode)
    (hl : PlainLine line code)
    (hsize : p.directAddress + code.size + 2 ≤ Gen.stackMaxLen) (hdata : p.link.data.size ≤ Gen.stackMaxLen) :
    DirectOf p code (p.codegenLine line).linkProg := by
  obtain ⟨tail, htail, hP⟩ := plain_program p h line code hl hsize hdata
  obtain ⟨l1, l2, l3, l4, l5⟩ := directOps_layout (p.link.ops.extract 0 p.directAddress) code tail _ htail rfl
  rw [h.base_size] at l1 l2 l3 l4 l5
  rw [hP]
  refine ⟨fun i hi => (l1 i hi).trans ?_, l2, l3, l4, rfl, rfl, rfl, rfl, rfl, rfl,
    fun a => Link.lineNumberFor_filter p.link _ 0 a, ⟨h.unlinked, h.whiles, h.direct, l5⟩⟩
  rw [Array.getElem?_extract, if_pos (by have := h.inside; omega), Nat.zero_add]

/-- the case of the line `CONT` -/
structure ContOf (p P : Program) : Prop where
  below : ∀ i, i < p.directAddress → P.link.ops[i]? = p.link.ops[i]?
  cont : P.link.ops[p.directAddress]? = some .cont
  «end» : P.link.ops[p.directAddress + 1]? = some .end
  errors : P.errors = []
  indirectErrors : P.indirectErrors = p.indirectErrors
  directAddress : P.directAddress = p.directAddress
  data : P.link.data = p.link.data
  dataPos : P.link.dataPos = p.link.dataPos
  symbols : P.link.symbols = p.link.symbols.filter (fun q => q.1 ≥ 0)
  lineNumberFor : ∀ a, P.link.lineNumberFor a = p.link.lineNumberFor a
  linked : Linked P

theorem ContOf.of_directOf {p P : Program} (hd : DirectOf p #[.cont] P) : ContOf p P :=
  { hd with cont := hd.direct 0 (by decide) }

end Program

namespace Runtime

/-- a direct line never moves the DATA cursor, whatever it compiles to (and whether or not the
    program is recompiled first) -/
theorem enterDirect_dataPos (s : Runtime) (line : Line) :
    (enterDirect s line).program.link.dataPos = s.program.link.dataPos := by
  rw [enterDirect_eq]
  show (directProgram s line).link.dataPos = _
  rw [directProgram_eq, Program.linkProg_dataPos, Program.codegenLine_dataPos]
  exact recompiled_ind (P := fun p => p.link.dataPos = _) s (fun _ => rfl) fun _ => Program.codegenLines_dataPos _ _

theorem enter_cont (env : Env) (hlex : LexCont env) (s : Runtime)
    (hs : s.state ≠ .input) (hk : s.state ≠ .inkey) :
    enter env s "CONT".toList = enterDirect s contLine := by
  rw [enter_prompt env s _ hs hk, if_neg (by decide), hlex]
  rfl

/-- a plain direct line typed at a linked program that was not edited: execution starts at the direct
    code of the program `Program.directOf_codegenLine` describes -/
theorem enterDirect_plain (s : Runtime) (line : Line) (code : Array Opcode)
    (hp : Program.PlainLine line code) (hd : s.dirty = false) (hl : Program.Linked s.program)
    (hsize : s.program.directAddress + code.size + 2 ≤ Gen.stackMaxLen)
    (hdata : s.program.link.data.size ≤ Gen.stackMaxLen) :
    enterDirect s line =
      { s with program := (s.program.codegenLine line).linkProg, pc := s.program.directAddress, tr := none,
               entryAddress := s.program.directAddress,
               listing := { s.listing with indirectErrors := s.program.indirectErrors, directErrors := [] },
               state := .running } := by
  have hc := Program.directOf_codegenLine s.program hl line code hp hsize hdata
  rw [enterDirect_eq_clean s line hd, hc.directAddress, hc.indirectErrors, hc.errors]

/-- The line `CONT` typed at a linked program that was not edited.  The new program `P`
    has the same code below `directAddress`, the same data, cursor, line-number table and program
    diagnostics, `Cont; End` as direct code and no direct-mode diagnostics (`ContOf`); execution
    starts at the `Cont`. -/
theorem enterDirect_contLine (s : Runtime) (hd : s.dirty = false) (hl : Program.Linked s.program)
    (hsize : s.program.directAddress + 3 ≤ Gen.stackMaxLen)
    (hdata : s.program.link.data.size ≤ Gen.stackMaxLen) :
    ∃ P, Program.ContOf s.program P ∧
      enterDirect s contLine =
        { s with program := P, pc := s.program.directAddress, tr := none,
                 entryAddress := s.program.directAddress,
                 listing := { s.listing with indirectErrors := s.program.indirectErrors, directErrors := [] },
                 state := .running } := by
  exact ⟨_, .of_directOf (Program.directOf_codegenLine s.program hl contLine _ Program.plainLine_cont hsize hdata),
    enterDirect_plain s contLine #[.cont] Program.plainLine_cont hd hl hsize hdata⟩

end Runtime
end Basic

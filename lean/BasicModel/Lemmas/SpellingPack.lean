import BasicModel.Lemmas.SpellingCmp
/-
  C16: optional blanks.  A line printed with any placement of blanks between its tokens, none at all included
  (`FORI=1TO10`, `IFATHENPRINTB`), lexes to exactly those tokens, one blank put between adjacent word-like tokens
  (`sepRec`), provided the placement is legal:

  * a run of adjacent letter tokens (reserved words, word operators, names) is one call of
    `alphabetic()`, which cuts the text at the reserved words it finds, leftmost first; whether that
    gives the tokens back is a property of the whole run, not of its adjacent pairs (`S`,`TO`,`P`
    packs to `STOP`), so the condition on a run is the decidable check `alphabetic run = run`;
  * every other token must be followed by text it cannot absorb (`Follows`, a condition on the
    adjacent pair): two names, or a name and a number, are refused.  The check is sufficient, not exact: it also
    refuses `A1`,`B`, although `A1B` lexes to `A1`, a blank, `B`.
-/
namespace Basic
namespace Lex

/-- the last token is not an undecorated name (which would go on through following digits or a type suffix) -/
def NotPlainLast (out : List Token) : Prop := ∀ t i, out.getLast? = some t → t ≠ .ident (.plain i)

theorem alphaTail_append (p : List Token) (s : Str) (r0 rest : List Char)
    (h2 : (alphaTail p s r0).2 = [])
    (hb : r0.dropWhile isDigit = [] → ∀ k ∈ rest.head?, isDigit k = false ∧ isSuffixChar k = false) :
    alphaTail p s (r0 ++ rest) = ((alphaTail p s r0).1, rest) := by
  have e := (List.takeWhile_append_dropWhile (p := isDigit) (l := r0)).symm
  have hds := takeWhile_all isDigit r0
  have hk := dropWhile_head_not isDigit r0
  unfold alphaTail at h2 ⊢
  generalize r0.takeWhile isDigit = ds at *
  generalize r0.dropWhile isDigit = r1 at *
  subst e
  cases r1 with
  | nil =>
    obtain ⟨t1, t2⟩ := span_append isDigit ds rest hds (fun c hc => (hb rfl c hc).1)
    simp only [List.append_nil] at t1 t2 ⊢
    rw [t1, t2]
    cases rest with
    | nil => rfl
    | cons c t => simp [(hb rfl c rfl).2]
  | cons k r' =>
    obtain ⟨t1, t2⟩ := span_append isDigit ds (k :: r' ++ rest) hds (fun c hc => by cases hc; exact hk k rfl)
    simp only [List.append_assoc] at t1 t2 ⊢
    rw [t1, t2]
    simp only [List.cons_append]
    by_cases hs : isSuffixChar k = true
    · simp only [hs, if_true] at h2 ⊢
      subst h2
      rfl
    · simp only [hs] at h2
      cases h2

/-- if `alphabetic()` consumes all of a text that starts with a letter, it consumes exactly that text
    when more follows that it cannot absorb: a boundary character; anything at all after a type
    suffix; anything but a letter after a reserved word -/
theorem alphabetic_append (c : Char) (cs rest : List Char) (hc : isAlpha c = true)
    (h2 : (alphabetic (c :: cs)).2 = [])
    (hb : AlphaBoundary rest ∨ (∃ k, (c :: cs).getLast? = some k ∧ isSuffixChar k = true) ∨
      ((∀ k ∈ rest.head?, isAlpha k = false) ∧ NotPlainLast (alphabetic (c :: cs)).1)) :
    alphabetic (c :: cs ++ rest) = ((alphabetic (c :: cs)).1, rest) := by
  have e := (List.takeWhile_append_dropWhile (p := isAlpha) (l := c :: cs)).symm
  have hls := takeWhile_all isAlpha (c :: cs)
  have hr0 := dropWhile_head_not isAlpha (c :: cs)
  rw [List.cons_append, alphabetic_eq c _ hc, alphabetic_eq c cs hc] at *
  unfold alphaSpan at h2 hb ⊢
  rw [← List.cons_append]
  generalize (c :: cs).takeWhile isAlpha = ls at *
  generalize (c :: cs).dropWhile isAlpha = r0 at *
  rw [e]
  -- a type suffix is not the last character of letters followed by digits
  have hlast : r0.dropWhile isDigit = [] → ¬ ∃ k, (c :: cs).getLast? = some k ∧ isSuffixChar k = true := by
    rintro hd ⟨k, hl, hs⟩
    have hm : k ∈ ls ++ r0 := e ▸ List.mem_of_getLast? hl
    rcases List.mem_append.1 hm with hm | hm
    · rw [isSuffixChar_of_isAlpha k (hls k hm)] at hs; cases hs
    · have : k ∈ r0.takeWhile isDigit := by
        rw [← List.takeWhile_append_dropWhile (p := isDigit) (l := r0), hd, List.append_nil] at hm; exact hm
      rw [isSuffixChar_of_isDigit k (takeWhile_all isDigit r0 k this)] at hs; cases hs
  -- the run of letters does not grow: `r0`, or else `rest`, starts with something else
  have hspan : (ls ++ r0 ++ rest).takeWhile isAlpha = ls ∧ (ls ++ r0 ++ rest).dropWhile isAlpha = r0 ++ rest := by
    rw [List.append_assoc]
    refine span_append isAlpha ls _ hls fun k hk => ?_
    cases r0 with
    | cons k' r' => simp at hk; subst hk; exact hr0 _ rfl
    | nil =>
      rw [List.nil_append] at hk
      rcases hb with hb | hb | ⟨hb, -⟩
      · exact (hb k hk).1
      · exact absurd hb (hlast rfl)
      · exact hb k hk
  rw [hspan.1, hspan.2]
  split
  · rename_i hS
    rw [if_pos hS] at h2
    simp only at h2
    subst h2
    rfl
  · rename_i hS
    rw [if_neg hS] at h2 hb
    refine alphaTail_append _ _ r0 rest h2 fun hd => ?_
    rcases hb with hb | hb | ⟨-, hb⟩
    · exact fun k hk => ⟨(hb k hk).2.1, (hb k hk).2.2⟩
    · exact absurd hb (hlast hd)
    · have hl : ∀ p s, (alphaTail p s r0).1.getLast? = some (.ident (.plain (s ++ r0.takeWhile isDigit))) :=
        fun p s => by simp [alphaTail, hd]
      exact absurd rfl (hb _ _ (hl _ _))

/-- tokens that `alphabetic()` produces: reserved words (`'` is not one), word operators, names -/
def isAlphaTok : Token → Bool
  | .word w => w != .rem2
  | .operator o => o.isWord
  | .ident _ => true
  | _ => false

/-- names with a type suffix: `alphabetic()` returns right after them -/
def endsSuffix : Token → Bool
  | .ident (.plain _) => false
  | .ident _ => true
  | _ => false

/-- the maximal run of letter tokens at the head of the list that one call of `alphabetic()`
    can produce: it stops after a name with a type suffix -/
def takeRun : List Token → List Token × List Token
  | [] => ([], [])
  | t :: ts =>
    if isAlphaTok t then
      if endsSuffix t then ([t], ts) else (t :: (takeRun ts).1, (takeRun ts).2)
    else ([], t :: ts)

theorem takeRun_append (L : List Token) : (takeRun L).1 ++ (takeRun L).2 = L := by
  induction L with
  | nil => rfl
  | cons t ts ih =>
    simp only [takeRun]
    split
    · split
      · rfl
      · simp [ih]
    · rfl

theorem takeRun_alpha (L : List Token) : ∀ t ∈ (takeRun L).1, isAlphaTok t = true := by
  induction L with
  | nil => intro t h; simp [takeRun] at h
  | cons a ts ih =>
    intro t h
    simp only [takeRun] at h
    split at h
    · rename_i ha
      split at h
      · simp at h; subst h; exact ha
      · simp at h; rcases h with h | h
        · subst h; exact ha
        · exact ih t h
    · simp at h

theorem takeRun_length (L : List Token) : (takeRun L).2.length ≤ L.length := by
  have := congrArg List.length (takeRun_append L)
  simp at this; omega

theorem rawOf_alphaTok (t : Token) (h : isAlphaTok t = true) : rawOf t = [t] := by
  cases t with
  | operator o => cases o <;> first | rfl | (simp [isAlphaTok, Operator.isWord] at h)
  | _ => rfl

theorem flatMap_rawOf_alpha (R : List Token) (h : ∀ t ∈ R, isAlphaTok t = true) : R.flatMap rawOf = R := by
  induction R with
  | nil => rfl
  | cons t R ih =>
    rw [List.flatMap_cons, rawOf_alphaTok t (h t (by simp)), ih (fun x hx => h x (by simp [hx]))]
    rfl

theorem alphaTok_text_head (t : Token) (h : isAlphaTok t = true) (hp : Printable t) :
    ∃ c cs, t.text = c :: cs ∧ isAlpha c = true := by
  have key : ∀ p ∈ keywords, ∃ c cs, p.1 = c :: cs ∧ isAlpha c = true := by
    intro p hpk
    obtain ⟨-, h2, h3⟩ := keywords_alpha p hpk
    cases hh : p.1 with
    | nil => exact absurd hh h3
    | cons c cs => exact ⟨c, cs, rfl, h2 c (by simp [hh])⟩
  cases t with
  | word w =>
    have hw : w ≠ .rem2 := by intro e; subst e; simp [isAlphaTok] at h
    exact key _ (word_in_keywords w hw)
  | operator o => exact key _ (operator_in_keywords o h)
  | ident i =>
    obtain ⟨nm, hw, ht, hu⟩ := hp
    have htx : (Token.ident i).text = nm.base ++ nm.sfx.toList := by rw [← ht, nm.token_text]
    obtain ⟨hl, hne, -, -, -⟩ := hw
    cases hh : nm.letters with
    | nil => exact absurd hh hne
    | cons c cs =>
      refine ⟨upper c, cs.map upper ++ nm.digits ++ nm.sfx.toList, ?_, ?_⟩
      · rw [htx, Name.base, hh]; simp
      · rw [isAlpha_upper]; exact hl c (by simp [hh])
  | _ => simp [isAlphaTok] at h

def isRemTok : Token → Bool
  | .word .rem1 | .word .rem2 => true
  | _ => false

def AllPrintable (L : List Token) : Prop :=
  ∀ t ∈ L, isRemTok t = false → (∀ s, t ≠ .unknown s) → Printable t

theorem AllPrintable.nil : AllPrintable [] := fun _ h => nomatch h

theorem AllPrintable.cons {t : Token} {L : List Token} (h : Printable t) (hL : AllPrintable L) :
    AllPrintable (t :: L) := by
  intro x hx h1 h2
  rcases List.mem_cons.1 hx with rfl | hx
  · exact h
  · exact hL x hx h1 h2

instance (t : Token) (r : List Char) : Decidable (Follows t r) := by
  cases t with
  | literal l => cases l <;> simp only [Follows] <;> infer_instance
  | word w => cases w <;> simp only [Follows] <;> infer_instance
  | _ => simp only [Follows] <;> infer_instance

/-- what must hold between the last token of a letter run and the text that follows -/
def runEndOk (R : List Token) (rest : Str) : Bool :=
  (match R.getLast? with | some t => endsSuffix t | none => false) || decide (AlphaBoundary rest) ||
    (decide (∀ c ∈ rest.head?, isAlpha c = false) &&
      (match R.getLast? with | some (.ident (.plain _)) => false | _ => true))

/-- the legality check on the scanners' side, for a token list with or without blank runs (a blank run goes through the
    last arm: what follows it must not be a blank); fuel = length of the list -/
def packOK : Nat → List Token → Bool
  | 0, L => L.isEmpty
  | _ + 1, [] => true
  | n + 1, t :: ts =>
    if t = .word .rem1 then
      match ts with
      | [] => true
      | [.unknown s] => !s.isEmpty && decide (AlphaBoundary s)
      | _ => false
    else if t = .word .rem2 then
      match ts with
      | [] => true
      | [.unknown s] => !s.isEmpty
      | _ => false
    else if isAlphaTok t then
      let r := takeRun (t :: ts)
      decide (alphabetic (printTokens r.1) = (r.1, [])) && runEndOk r.1 (printTokens r.2) && packOK n r.2
    else
      (match t with | .unknown _ => false | _ => true) && decide (Follows t (printTokens ts)) && packOK n ts

theorem suffix_token_last (t : Token) (h : endsSuffix t = true) (hp : Printable t) :
    ∃ c, t.text.getLast? = some c ∧ isSuffixChar c = true := by
  cases t with
  | ident i =>
    obtain ⟨nm, hw, ht, hu⟩ := hp
    have htx : (Token.ident i).text = nm.base ++ nm.sfx.toList := by rw [← ht, nm.token_text]
    cases hs : nm.sfx with
    | none =>
      simp only [Name.token, hs] at ht
      cases i <;> simp [endsSuffix] at h <;> cases ht
    | some c =>
      refine ⟨c, ?_, hw.2.2.2.1 c hs⟩
      rw [htx, hs]; simp
  | _ => simp [endsSuffix] at h

theorem isRemTok_of_ne (t : Token) (h1 : t ≠ .word .rem1) (h2 : t ≠ .word .rem2) : isRemTok t = false := by
  unfold isRemTok
  split
  · exact absurd rfl h1
  · exact absurd rfl h2
  · rfl

/-- a letter run that one call of `alphabetic()` gives back, in front of text which that call cannot absorb: the
    iterator hands out the run and goes on behind it -/
theorem lexFrom_run (t : Token) (R' : List Token) (rest : Str) (ha : isAlphaTok t = true) (hPt : Printable t)
    (hPl : ∀ u, (t :: R').getLast? = some u → endsSuffix u = true → Printable u)
    (hrun : alphabetic (printTokens (t :: R')) = (t :: R', [])) (hend : runEndOk (t :: R') rest = true) :
    lexFrom (printTokens (t :: R') ++ rest) false = t :: R' ++ lexFrom rest (t == .word .rem1) := by
  obtain ⟨c, cs, htx, hc⟩ := alphaTok_text_head t ha hPt
  have hW : printTokens (t :: R') = c :: (cs ++ printTokens R') := by
    rw [printTokens_cons, htx]; rfl
  -- `runEndOk`, on the text of the run and the tokens `alphabetic()` makes of it
  have hb : AlphaBoundary rest ∨
      (∃ c, (printTokens (t :: R')).getLast? = some c ∧ isSuffixChar c = true) ∨
      ((∀ c ∈ rest.head?, isAlpha c = false) ∧ NotPlainLast (alphabetic (printTokens (t :: R'))).1) := by
    simp only [runEndOk, Bool.or_eq_true, Bool.and_eq_true, decide_eq_true_eq] at hend
    rcases hend with (hend | hend) | ⟨hend1, hend2⟩
    · right; left
      cases hl' : (t :: R').getLast? with
      | none => rw [hl'] at hend; simp at hend
      | some u =>
        rw [hl'] at hend
        simp only at hend
        obtain ⟨P, hP'⟩ := List.getLast?_eq_some_iff.1 hl'
        obtain ⟨c0, hc0, hs0⟩ := suffix_token_last u hend (hPl u hl' hend)
        refine ⟨c0, ?_, hs0⟩
        rw [hP', printTokens_append, show printTokens [u] = u.text by simp [printTokens]]
        have hune : u.text ≠ [] := by intro e; rw [e] at hc0; simp at hc0
        rw [List.getLast?_append, hc0]; rfl
    · exact Or.inl hend
    · right; right
      refine ⟨hend1, ?_⟩
      rw [hrun]
      intro u i hu e
      subst e
      simp only at hu
      rw [hu] at hend2
      simp at hend2
  have hal := alphabetic_append c _ rest hc (by rw [← hW, hrun]) (by rw [← hW]; exact hb)
  rw [← hW, hrun] at hal
  rw [hW, List.cons_append] at hal
  simp only at hal
  rw [hW, List.cons_append, lexFrom_alpha c _ hc t R' _ hal]

/-- the iterator on the printed text of a list that passes the check: token by token, letter runs
    by one call of `alphabetic()` each -/
theorem lexFrom_packed (n : Nat) : ∀ (L : List Token), L.length ≤ n → AllPrintable L → packOK n L = true →
    lexFrom (printTokens L) false = L.flatMap rawOf := by
  induction n with
  | zero =>
    intro L hl _ _
    have : L = [] := by cases L <;> simp_all
    subst this; rfl
  | succ n ih =>
    intro L hl hP hk
    cases L with
    | nil => rfl
    | cons t ts =>
      simp only [packOK] at hk
      by_cases h1 : t = .word .rem1
      · rw [if_pos h1] at hk
        subst h1
        have hts : (ts = [] ∨ ∃ s, ts = [.unknown s] ∧ s ≠ []) ∧
            ∀ c ∈ (printTokens ts).head?, isAlpha c = false := by
          split at hk
          · exact ⟨.inl rfl, fun c hc => nomatch hc⟩
          · rename_i s
            simp only [Bool.and_eq_true, Bool.not_eq_true', decide_eq_true_eq] at hk
            refine ⟨.inr ⟨s, rfl, fun e => by simp [e] at hk⟩, fun c hc => (hk.2 c ?_).1⟩
            simpa [printTokens, Token.text] using hc
          · cases hk
        exact relex_remTail _ ts (.inl rfl) hts.1 fun _ => hts.2
      · by_cases h2 : t = .word .rem2
        · rw [if_neg h1, if_pos h2] at hk
          subst h2
          have hts : ts = [] ∨ ∃ s, ts = [.unknown s] ∧ s ≠ [] := by
            split at hk
            · exact .inl rfl
            · rename_i s
              exact .inr ⟨s, rfl, fun e => by simp [e] at hk⟩
            · cases hk
          exact relex_remTail _ ts (.inr rfl) hts fun h => nomatch h
        · rw [if_neg h1, if_neg h2] at hk
          by_cases ha : isAlphaTok t = true
          · simp only [ha, if_true, Bool.and_eq_true, decide_eq_true_eq] at hk
            have happ := takeRun_append (t :: ts)
            have halpha := takeRun_alpha (t :: ts)
            have hR : ∃ R', (takeRun (t :: ts)).1 = t :: R' := by
              simp only [takeRun, ha, if_true]
              split
              · exact ⟨[], rfl⟩
              · exact ⟨_, rfl⟩
            -- the run `t :: R'` and what is left, `Q`
            generalize takeRun (t :: ts) = RQ at hk happ halpha hR
            obtain ⟨R, Q⟩ := RQ
            obtain ⟨R', rfl⟩ := hR
            obtain ⟨⟨hrun, hend⟩, hrest⟩ := hk
            simp only at hrun hend hrest happ halpha
            have hlen : Q.length ≤ n := by
              have := congrArg List.length happ
              simp at this hl; omega
            have hsub : ∀ x ∈ Q, x ∈ t :: ts := by
              intro x hx; rw [← happ]; simp [hx]
            have hPt : Printable t := hP t (by simp) (isRemTok_of_ne t h1 h2)
              (by intro s e; subst e; simp [isAlphaTok] at ha)
            have hPl : ∀ u, (t :: R').getLast? = some u → endsSuffix u = true → Printable u := fun u hu he =>
              hP u (by rw [← happ]; exact List.mem_append_left _ (List.mem_of_getLast? hu))
                (by cases u <;> simp [endsSuffix] at he <;> rfl) (by intro s e; subst e; simp [endsSuffix] at he)
            have hflag : (t == Token.word Word.rem1) = false := by simp [h1]
            rw [← happ, printTokens_append, lexFrom_run t R' _ ha hPt hPl hrun hend, hflag,
              ih _ hlen (fun x hx => hP x (hsub x hx)) hrest, List.flatMap_append, flatMap_rawOf_alpha _ halpha]
          · simp only [ha, Bool.false_eq_true, if_false, Bool.and_eq_true, decide_eq_true_eq] at hk
            obtain ⟨⟨hu, hf⟩, hrest⟩ := hk
            have hPt : Printable t := hP t (by simp) (isRemTok_of_ne t h1 h2)
              (by intro s e; subst e; simp at hu)
            rw [printTokens_cons, lexFrom_token t _ hPt hf h1 h2,
              ih ts (by simp at hl; omega) (fun x hx => hP x (by simp [hx])) hrest, List.flatMap_cons]

theorem triRec_no_blank (X : List Token) (h : ∀ t ∈ X, isBlank t = false) : triRec X = X := by
  induction X with
  | nil => rfl
  | cons a X ih =>
    cases X with
    | nil => rfl
    | cons b X' =>
      cases X' with
      | nil => rfl
      | cons c rest =>
        rw [triRec, tripleMatch_none_of_not_blank a b c (h b (by simp))]
        simp only
        rw [ih (fun x hx => h x (by simp [hx]))]

theorem rawOf_not_blank (t : Token) (h : isBlank t = false) : ∀ x ∈ rawOf t, isBlank x = false := by
  unfold rawOf
  split
  · decide
  · decide
  · decide
  · intro x hx
    rw [List.mem_singleton.1 hx]; exact h

/-- the decidable legality check for a line with ANY placement of blanks (none at all included):
    every letter run scans back to itself, every other token is followed by text it cannot absorb,
    no two comparison operators adjacent or one blank apart, no `GO <blank> TO|SUB`, no trailing
    blank run, no trailing white space in the remark text -/
def packLegal (L : List Token) : Bool :=
  packOK L.length L && !tripleClash L && !doubleClash L && endOk L

theorem packLegal_parts (L : List Token) (h : packLegal L = true) :
    packOK L.length L = true ∧ tripleClash L = false ∧ doubleClash L = false ∧ endOk L = true := by
  simp only [packLegal, Bool.and_eq_true, Bool.not_eq_true'] at h
  exact ⟨h.1.1.1, h.1.1.2, h.1.2, h.2⟩

theorem lex_packed_direct (L : List Token) (hP : AllPrintable L) (hk : packLegal L = true)
    (h0 : StartsPlain (printTokens L)) : lex (printLine none L) = (none, sepRec L) := by
  obtain ⟨h1, h2, h3, h4⟩ := packLegal_parts L hk
  rw [printLine, lex_startsPlain _ h0, lexFrom_packed L.length L (Nat.le_refl _) hP h1, postPasses_packed L h2 h3 h4]

theorem lex_packed_numbered (n : Nat) (hn : n ≤ 65529) (L : List Token) (hP : AllPrintable L)
    (hk : packLegal L = true) : lex (printLine (some n) L) = (some n, sepRec L) := by
  obtain ⟨h1, h2, h3, h4⟩ := packLegal_parts L hk
  rw [printLine, lex_listed n hn, lexFrom_packed L.length L (Nat.le_refl _) hP h1, postPasses_packed L h2 h3 h4]

theorem canonRaw_printable (ts : List Token) (h : CanonRaw ts) : AllPrintable ts := by
  induction ts with
  | nil => exact .nil
  | cons a rest ih =>
    unfold CanonRaw at h
    -- a remark marker and the remark text behind it are exempt
    have hrem : isRemTok a = true → (rest = [] ∨ ∃ s, rest = [.unknown s]) → AllPrintable (a :: rest) := by
      intro ha hrest t ht hr hu
      rcases List.mem_cons.1 ht with rfl | ht
      · rw [ha] at hr; cases hr
      · rcases hrest with rfl | ⟨s, rfl⟩
        · cases ht
        · exact absurd (List.mem_singleton.1 ht) (hu s)
    by_cases h1 : a = .word .rem1
    · subst h1
      simp only [if_true] at h
      exact hrem rfl (h.imp id fun ⟨s, e, _⟩ => ⟨s, e⟩)
    · by_cases h2 : a = .word .rem2
      · subst h2
        simp only [h1, if_false, if_true] at h
        exact hrem rfl (h.imp id fun ⟨s, e, _⟩ => ⟨s, e⟩)
      · simp only [h1, h2, if_false] at h
        exact .cons h.1 (ih h.2.2)

theorem allPrintable_sig (ts : List Token) (h : AllPrintable ts) : AllPrintable (sig ts) := by
  intro t ht
  exact h t (List.mem_filter.1 ht).1

/-- C16, optional blanks: the canonical listing of a line and the same line without any blank have
    the same significant tokens (direct lines) -/
theorem packed_same_direct (ts : List Token) (h : Canon ts) (hk : packLegal (sig ts) = true)
    (h0 : StartsPlain (printTokens ts)) (h0' : StartsPlain (printTokens (sig ts))) :
    lex (printLine none (sig ts)) = (none, sepRec (sig ts)) ∧ lex (printLine none ts) = (none, ts) ∧
    sig (lex (printLine none (sig ts))).2 = sig (lex (printLine none ts)).2 := by
  have e1 := lex_packed_direct (sig ts) (allPrintable_sig ts (canonRaw_printable ts h.1)) hk h0'
  have e2 := lex_print_direct ts h h0
  refine ⟨e1, e2, ?_⟩
  rw [e1, e2]
  simp only [sig_sepRec, sig_sig]

theorem packed_same_numbered (n : Nat) (hn : n ≤ 65529) (ts : List Token) (h : Canon ts)
    (hk : packLegal (sig ts) = true) :
    lex (printLine (some n) (sig ts)) = (some n, sepRec (sig ts)) ∧
    lex (printLine (some n) ts) = (some n, ts) ∧
    sig (lex (printLine (some n) (sig ts))).2 = sig (lex (printLine (some n) ts)).2 := by
  have e1 := lex_packed_numbered n hn (sig ts) (allPrintable_sig ts (canonRaw_printable ts h.1)) hk
  have e2 := lex_print_numbered n hn ts h
  refine ⟨e1, e2, ?_⟩
  rw [e1, e2]
  simp only [sig_sepRec, sig_sig]

end Lex
end Basic

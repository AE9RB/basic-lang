import BasicModel.Lemmas.RtSplit
/-
  The calls of the session API as equations of their argument; no module above this one opens
  `execute`, `finishLoop`, `readyPrompt`, `doEnd`, `enter`, `enterDirect`, `enterIndirect` or `interrupt` —
  `enter_frame` of `Lemmas/Enter` apart, which needs every arm of `enter`.

  `execute` is its first `match` (`executePre`) and, unless that yields an event, the report of a
  recorded error or a slice followed by `finishLoop` (`executeRest`, `execute_eq`); from these, one
  equation per state.  `recompiled s` is the program image a direct line is compiled onto: the program
  in memory, compiled anew from the listing if an edit has made it stale; `directProgram s line` the
  program that line leaves in memory.
-/
namespace Basic

/-- what entering the numbered line does to the stored lines, and whether it changed them -/
def Listing.enterLine (l : Listing) (line : Line) : Listing × Bool :=
  if line.tokens.isEmpty then l.remove line.number else (l.insert line, true)

theorem Listing.enterLine_insert (l : Listing) {line : Line} (h : line.tokens.isEmpty = false) :
    l.enterLine line = (l.insert line, true) := by
  unfold Listing.enterLine
  rw [h]
  rfl

theorem Listing.enterLine_remove (l : Listing) {line : Line} (h : line.tokens.isEmpty = true) :
    l.enterLine line = l.remove line.number := by
  unfold Listing.enterLine
  rw [h]
  rfl

namespace Runtime

/-- the error `execute` builds for an interrupt: `?BREAK IN <line>` -/
def breakError (s : Runtime) : Error := (Error.mk' Code.break).inLine (lineNumber s)

/-- the first `match &self.state` of `execute`, verbatim -/
def executePre (s : Runtime) : Runtime × Option Event :=
    match s.state with
    | .intro => ({ s with state := .stopped }, some (.print introText))
    | .stopped =>
      match readyPrompt s with
      | (s, some e) => (s, some e)
      | (s, none) => (s, some .stopped)
    | .interrupt => ({ s with state := .runtimeError ((Error.mk' Code.break).inLine (lineNumber s)) }, none)
    | .listing lo hi =>
      match s.listing.listLine lo hi with
      | some ((text, cols), (lo', hi')) =>
        ({ s with state := .listing lo' hi', printCol := 0 }, some (.list text cols))
      | none => ({ s with state := .running }, none)
    | .input =>
      let (r, s') := (executeInput.run).run s
      match r with
      | .ok e => (s', some e)
      | .error e => ({ s' with state := .runtimeError (e.inLine (lineNumber s')) }, none)
    | .inputRedo => ({ s with state := .input }, some (.errors [Error.mk' Code.redoFromStart]))
    | .inputRunning | .running =>
      if !s.listing.directErrors.isEmpty then
        ({ s with state := .stopped }, some (.errors s.listing.directErrors))
      else (s, none)
    | .inkey | .runtimeError _ => (s, none)

/-- what `execute` does with the result of the slice: the tail of `execute`, verbatim
    (`execute.unwind` is its local `let rec`) -/
def finishLoop (r : Except Error Event) (s : Runtime) : Runtime × Event :=
  match r with
  | .ok event =>
    match s.state, event with
    | .stopped, .stopped =>
      (match readyPrompt s with
       | (s, some e) => (s, e)
       | (s, none) => (s, event))
    | _, _ => (s, event)
  | .error error =>
    if s.state = .inputRunning then
      let (st, addr) := execute.unwind (s.stack.size + 1) s.stack
      let s := { s with stack := st, pc := addr.getD s.pc, state := .inputRedo }
      (s, .running)
    else
      let s := { s with cont := s.state, state := .runtimeError (error.inLine (lineNumber s)), contPc := s.pc }
      let s := if s.pc ≥ s.entryAddress || isFull s then { s with stack := #[], cont := .stopped } else s
      (s, .running)

def executeRest (env : Env) (s : Runtime) (n : Nat) : Runtime × Event :=
    match s.state with
    | .runtimeError err =>
      if s.printCol > 0 then ({ s with printCol := 0 }, .print ['\n'])
      else ({ s with state := .stopped }, .errors [err])
    | _ => finishLoop ((executeLoop env n).run.run s).1 ((executeLoop env n).run.run s).2

theorem execute_eq (env : Env) (s : Runtime) (n : Nat) :
    execute env s n =
      match executePre s with
      | (s, some e) => (s, e)
      | (s, none) => executeRest env s n := rfl

/-- the text of the READY prompt at column 0 -/
def promptLine (s : Runtime) : Str := if s.prompt.isEmpty then [] else s.prompt ++ ['\n']

/-- `entryAddress = 0` says READY has been printed -/
theorem readyPrompt_zero (s : Runtime) (he : s.entryAddress = 0) : readyPrompt s = (s, none) := by
  unfold readyPrompt
  rw [if_neg (fun h => h he)]

theorem readyPrompt_pos (s : Runtime) (he : s.entryAddress ≠ 0) :
    readyPrompt s =
      ({ s with entryAddress := 0, printCol := 0 },
       some (.print ((if s.printCol > 0 then ['\n'] else []) ++ promptLine s))) := by
  unfold readyPrompt
  rw [if_pos he]
  rfl

theorem finishLoop_ok (ev : Event) (s : Runtime) (h : ¬(s.state = .stopped ∧ ev = .stopped)) :
    finishLoop (.ok ev) s = (s, ev) := by
  unfold finishLoop; dsimp only
  split
  · rename_i heq; exact absurd ⟨heq, rfl⟩ h
  · rfl

theorem finishLoop_ok_running (s : Runtime) : finishLoop (.ok .running) s = (s, .running) :=
  finishLoop_ok .running s fun h => nomatch h.2

theorem finishLoop_stopped (s : Runtime) (h : s.state = .stopped) :
    finishLoop (.ok .stopped) s =
      (match readyPrompt s with | (s', some e) => (s', e) | (s', none) => (s', .stopped)) := by
  unfold finishLoop; dsimp only; rw [h]

theorem finishLoop_stopped_prompt (s : Runtime) (h : s.state = .stopped) (he : s.entryAddress ≠ 0) :
    finishLoop (.ok .stopped) s =
      ({ s with entryAddress := 0, printCol := 0 },
       .print ((if s.printCol > 0 then ['\n'] else []) ++ promptLine s)) := by
  rw [finishLoop_stopped s h, readyPrompt_pos s he]

/-- the error arm: a reply to INPUT that fails is unwound to the `Return` pushed when it was accepted;
    any other error is recorded together with the continuation, which is dropped (with the stack) in
    direct code and on a full stack -/
theorem finishLoop_error (e : Error) (s : Runtime) :
    finishLoop (.error e) s =
      (if s.state = .inputRunning then
        { s with stack := (execute.unwind (s.stack.size + 1) s.stack).1,
                 pc := (execute.unwind (s.stack.size + 1) s.stack).2.getD s.pc, state := .inputRedo }
      else
        { s with state := .runtimeError (e.inLine (lineNumber s)), contPc := s.pc,
                 cont := if s.pc ≥ s.entryAddress || isFull s then .stopped else s.state,
                 stack := if s.pc ≥ s.entryAddress || isFull s then #[] else s.stack }, .running) := by
  unfold finishLoop
  dsimp only
  split
  · rfl
  · show (if (decide (s.pc ≥ s.entryAddress) || isFull s) = true then _ else _, _) = _
    split <;> rfl

theorem finishLoop_error_state (e : Error) (s : Runtime) :
    (finishLoop (.error e) s).2 = .running ∧ (finishLoop (.error e) s).1.state ≠ .running := by
  rw [finishLoop_error]
  exact ⟨rfl, by dsimp only; split <;> nofun⟩

theorem finishLoop_event_ne_running (ev : Event) (s : Runtime) (h : ev ≠ .running) :
    (finishLoop (.ok ev) s).2 ≠ .running := by
  by_cases hst : s.state = .stopped ∧ ev = .stopped
  · rw [hst.2, finishLoop_stopped s hst.1]
    by_cases he : s.entryAddress = 0
    · rw [readyPrompt_zero s he]; nofun
    · rw [readyPrompt_pos s he]; nofun
  · rw [finishLoop_ok ev s hst]
    exact h

/-- `r#end`: inside the program (`pc < entryAddress`) the continuation `(state, pc)` is recorded; the
    `End` that closes a direct line (`pc = entryAddress`) drops it; beyond, it is left as it is -/
theorem doEnd_eq (s : Runtime) :
    doEnd s =
      { s with state := .stopped,
               cont := if s.pc < s.entryAddress then s.state else if s.pc = s.entryAddress then .stopped else s.cont,
               contPc := if s.pc < s.entryAddress then s.pc else s.contPc } := by
  unfold doEnd
  dsimp only
  split
  · rename_i h; rw [if_neg (Nat.ne_of_lt h)]
  · split <;> rfl

theorem execute_intro (env : Env) (s : Runtime) (n : Nat) (hs : s.state = .intro) :
    execute env s n = ({ s with state := .stopped }, .print introText) := by
  unfold execute
  simp only [hs]

theorem execute_stopped (env : Env) (s : Runtime) (n : Nat)
    (hs : s.state = .stopped) (he : s.entryAddress = 0) :
    execute env s n = (s, .stopped) := by
  unfold execute
  simp only [hs, readyPrompt_zero s he]

theorem execute_stopped_prompt (env : Env) (s : Runtime) (n : Nat)
    (hs : s.state = .stopped) (he : s.entryAddress ≠ 0) :
    execute env s n =
      ({ s with entryAddress := 0, printCol := 0 },
       .print ((if s.printCol > 0 then ['\n'] else []) ++ promptLine s)) := by
  unfold execute
  simp only [hs, readyPrompt_pos s he]

/-- an interrupt is reported as the runtime error BREAK: the first `match` turns the state
    `interrupt` into `runtimeError (breakError s)` and falls through -/
theorem execute_interrupt (env : Env) (s : Runtime) (n : Nat) (hs : s.state = .interrupt) :
    execute env s n = execute env { s with state := .runtimeError (breakError s) } n := by
  rw [execute_eq, execute_eq]
  unfold executePre
  simp only [hs]
  rfl

theorem execute_runtimeError_col (env : Env) (s : Runtime) (n : Nat) (e : Error)
    (hs : s.state = .runtimeError e) (hc : s.printCol > 0) :
    execute env s n = ({ s with printCol := 0 }, .print ['\n']) := by
  unfold execute
  simp only [hs]
  rw [if_pos hc]

theorem execute_runtimeError_nocol (env : Env) (s : Runtime) (n : Nat) (e : Error)
    (hs : s.state = .runtimeError e) (hc : s.printCol = 0) :
    execute env s n = ({ s with state := .stopped }, .errors [e]) := by
  unfold execute
  simp only [hs]
  rw [if_neg (by omega)]

theorem execute_listing_some (env : Env) (s : Runtime) (n : Nat) (lo hi lo' hi' : Option Nat)
    (text : Str) (cols : List (Nat × Nat)) (hs : s.state = .listing lo hi)
    (hl : s.listing.listLine lo hi = some ((text, cols), (lo', hi'))) :
    execute env s n = ({ s with state := .listing lo' hi', printCol := 0 }, .list text cols) := by
  unfold execute
  simp only [hs, hl]

/-- once the range is exhausted the call carries on with the rest of the direct line -/
theorem execute_listing_none (env : Env) (s : Runtime) (n : Nat) (lo hi : Option Nat)
    (hs : s.state = .listing lo hi) (hl : s.listing.listLine lo hi = none)
    (hd : s.listing.directErrors = []) :
    execute env s n = execute env { s with state := .running } n := by
  unfold execute
  simp only [hs, hl, hd]
  rfl

theorem execute_input_ok (env : Env) (s s' : Runtime) (n : Nat) (e : Event) (hs : s.state = .input)
    (h : executeInput.run.run s = (.ok e, s')) : execute env s n = (s', e) := by
  unfold execute
  simp only [hs, h]

theorem execute_inputRedo (env : Env) (s : Runtime) (n : Nat) (hs : s.state = .inputRedo) :
    execute env s n = ({ s with state := .input }, .errors [Error.mk' Code.redoFromStart]) := by
  unfold execute
  simp only [hs]

/-- a program that runs (after an accepted reply to INPUT: `inputRunning`), without direct-mode
    compile errors: one slice, then `finishLoop` -/
theorem execute_active (env : Env) (s : Runtime) (n : Nat)
    (hs : s.state = .running ∨ s.state = .inputRunning) (hd : s.listing.directErrors = []) :
    execute env s n =
      finishLoop ((executeLoop env n).run.run s).1 ((executeLoop env n).run.run s).2 := by
  unfold execute
  rcases hs with hs | hs <;>
  · simp only [hs, hd, List.isEmpty_nil, Bool.not_true, Bool.false_eq_true, if_false]
    rfl

theorem execute_running (env : Env) (s : Runtime) (n : Nat)
    (hs : s.state = .running) (hd : s.listing.directErrors = []) :
    execute env s n =
      finishLoop ((executeLoop env n).run.run s).1 ((executeLoop env n).run.run s).2 :=
  execute_active env s n (.inl hs) hd

/-- the image a direct line is compiled onto -/
def recompiled (s : Runtime) : Program :=
  if s.dirty then (s.program.clear).codegenLines s.listing.lines else s.program

/-- the program a direct line leaves in memory.  Irreducible: a projection of it that met the
    definition would unfold the whole compile; `directProgram_eq` opens it where the compile is meant -/
@[irreducible] def directProgram (s : Runtime) (line : Line) : Program :=
  ((recompiled s).codegenLine line).linkProg

theorem directProgram_eq (s : Runtime) (line : Line) :
    directProgram s line = ((recompiled s).codegenLine line).linkProg := by
  unfold directProgram
  rfl

theorem recompiled_clean {s : Runtime} (h : s.dirty = false) : recompiled s = s.program := by
  unfold recompiled
  rw [h]
  rfl

theorem recompiled_dirty {s : Runtime} (h : s.dirty = true) :
    recompiled s = (s.program.clear).codegenLines s.listing.lines := by
  unfold recompiled
  rw [h]
  rfl

theorem recompiled_ind {P : Program → Prop} (s : Runtime) (hc : s.dirty = false → P s.program)
    (hd : s.dirty = true → P ((s.program.clear).codegenLines s.listing.lines)) : P (recompiled s) := by
  cases h : s.dirty with
  | false => rw [recompiled_clean h]; exact hc h
  | true => rw [recompiled_dirty h]; exact hd h

theorem enterDirect_eq (s : Runtime) (line : Line) :
    enterDirect s line =
      { s with program := directProgram s line, dirty := false,
               pc := (directProgram s line).directAddress, tr := none,
               entryAddress := (directProgram s line).directAddress,
               listing := { s.listing with indirectErrors := (directProgram s line).indirectErrors,
                                           directErrors := (directProgram s line).errors },
               state := .running } := by
  unfold enterDirect directProgram recompiled
  obtain ⟨_, _, dirty, _⟩ := s
  cases dirty <;> rfl

/-- `enterDirect_eq` with the compile written out, for a state that was not edited -/
theorem enterDirect_eq_clean (s : Runtime) (line : Line) (hd : s.dirty = false) :
    enterDirect s line =
      { s with program := (s.program.codegenLine line).linkProg,
               pc := ((s.program.codegenLine line).linkProg).directAddress,
               tr := none,
               entryAddress := ((s.program.codegenLine line).linkProg).directAddress,
               listing := { s.listing with
                 indirectErrors := ((s.program.codegenLine line).linkProg).indirectErrors,
                 directErrors := ((s.program.codegenLine line).linkProg).errors },
               state := .running } := by
  rw [enterDirect_eq, directProgram_eq, recompiled_clean hd]
  cases s
  dsimp only at hd
  subst hd
  rfl

theorem enterIndirect_eq (s : Runtime) (line : Line) :
    enterIndirect s line =
      { s with cont := .stopped, stack := #[], functions := [],
               listing := if (s.listing.enterLine line).2 then (s.listing.enterLine line).1 else s.listing,
               dirty := s.dirty || (s.listing.enterLine line).2 } := by
  unfold enterIndirect Listing.enterLine
  dsimp only
  split
  · cases (s.listing.remove line.number).2 <;> simp
  · simp

theorem interrupt_eq (s : Runtime) :
    interrupt s =
      { s with state := .interrupt, contPc := s.pc,
               cont := if s.pc ≥ s.entryAddress then .stopped else s.state,
               stack := if s.pc ≥ s.entryAddress then #[] else s.stack } := by
  unfold interrupt
  dsimp only
  split <;> rfl

theorem interrupt_state (s : Runtime) : (interrupt s).state = .interrupt := by
  rw [interrupt_eq]

theorem enter_prompt (env : Env) (s : Runtime) (str : Str) (hi : s.state ≠ .input) (hk : s.state ≠ .inkey) :
    enter env s str =
      if RStd.utf8Len str > Gen.maxLineLen then
        { s with state := .runtimeError (Error.mk' Code.lineBufferOverflow) }
      else if (env.lex str).number.isNone then
        if (env.lex str).tokens.isEmpty then s else enterDirect s (env.lex str)
      else if RStd.utf8Len (printLine (env.lex str).number (env.lex str).tokens) > Gen.maxLineLen then
        { s with state := .runtimeError (Error.mk' Code.lineBufferOverflow) }
      else enterIndirect s (env.lex str) := by
  unfold enter
  split
  · rename_i h; exact absurd h hi
  · rename_i h; exact absurd h hk
  · rfl

theorem enter_direct (env : Env) (s : Runtime) (str : Str) (hi : s.state ≠ .input) (hk : s.state ≠ .inkey)
    (hlen : ¬ RStd.utf8Len str > Gen.maxLineLen) (hn : (env.lex str).number = none)
    (hne : (env.lex str).tokens.isEmpty = false) :
    enter env s str = enterDirect s (env.lex str) := by
  rw [enter_prompt env s str hi hk, if_neg hlen, hn, hne]
  rfl

/-- a numbered line that fits the line buffer, as typed and as listed -/
theorem enter_numbered (env : Env) (s : Runtime) (str : Str) (n : Nat)
    (hi : s.state ≠ .input) (hk : s.state ≠ .inkey)
    (hlen : ¬ RStd.utf8Len str > Gen.maxLineLen)
    (hn : (env.lex str).number = some n)
    (hfit : ¬ RStd.utf8Len (printLine (env.lex str).number (env.lex str).tokens) > Gen.maxLineLen) :
    enter env s str = enterIndirect s (env.lex str) := by
  rw [enter_prompt env s str hi hk, if_neg hlen, if_neg (by rw [hn]; simp), if_neg hfit]

theorem enter_input_reply (env : Env) (s s' : Runtime) (reply : Str) (hs : s.state = .input)
    (hlen : RStd.utf8Len reply ≤ Gen.maxLineLen) (h : doInputReply s reply = (s', .ok ())) :
    enter env s reply = { s' with printCol := 0 } := by
  unfold enter
  simp only [hs, h]
  rw [if_neg (by omega)]

theorem enter_input_too_long (env : Env) (s : Runtime) (reply : Str) (hs : s.state = .input)
    (hlen : RStd.utf8Len reply > Gen.maxLineLen) :
    enter env s reply = { s with state := .inputRedo, printCol := 0 } := by
  unfold enter
  simp only [hs]
  rw [if_pos hlen]

end Runtime
end Basic

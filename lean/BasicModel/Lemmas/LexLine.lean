import BasicModel.Lemmas.LexFuel
/-
  The token iterator without fuel, arm by arm (Lemmas/LexTurn makes a relation of the arms and has the induction along
  the iterator); the line-number prefix in closed form (`splitLineNumber_eq`).
-/
namespace Basic
namespace Lex

theorem lexFrom_ws (c : Char) (cs : List Char) (h : isWs c = true) :
    lexFrom (c :: cs) false = (whitespace (c :: cs)).1 :: lexFrom (whitespace (c :: cs)).2 false := by
  rw [lexFrom_cons]; simp [h]

theorem lexFrom_blankRun (sep : List Char) (h : ∀ c ∈ sep, isWs c = true) (hne : sep ≠ []) (post : List Char)
    (hd : ∀ c ∈ post.head?, isWs c = false) :
    lexFrom (sep ++ post) false = .whitespace sep.length :: lexFrom post false := by
  have hw := whitespace_blanks sep h hne post hd
  obtain ⟨c, sep', rfl⟩ := List.exists_cons_of_ne_nil hne
  rw [List.cons_append] at hw ⊢
  rw [lexFrom_ws c _ (h c (by simp)), hw]

theorem lexFrom_number (c : Char) (cs : List Char) (h : (isDigit c || c = '.') = true) :
    lexFrom (c :: cs) false = (number (c :: cs)).1 :: lexFrom (number (c :: cs)).2 false := by
  have hw : isWs c = false := by
    simp only [Bool.or_eq_true, decide_eq_true_eq] at h
    rcases h with h | h
    · exact not_isWs_of_isDigit c h
    · subst h; decide
  rw [lexFrom_cons]; simp only [hw, h]; simp

theorem lexFrom_alpha (c : Char) (cs : List Char) (h : isAlpha c = true) (t : Token)
    (ts : List Token) (r : List Char) (ha : alphabetic (c :: cs) = (t :: ts, r)) :
    lexFrom (c :: cs) false = t :: ts ++ lexFrom r (t == .word .rem1) := by
  have hw := not_isWs_of_isAlpha c h
  have hd := not_isDigit_of_isAlpha c h
  have hdot : c ≠ '.' := ne_of_isAlpha c _ h (by decide)
  rw [lexFrom_cons]; simp only [hw, hd, hdot, h, ha]; simp

theorem lexFrom_string (cs : List Char) :
    lexFrom ('"' :: cs) false = (string ('"' :: cs)).1 :: lexFrom (string ('"' :: cs)).2 false := by
  rw [lexFrom_cons]
  have h1 : isWs '"' = false := by decide
  have h2 : isDigit '"' = false := by decide
  have h3 : isAlpha '"' = false := by decide
  simp [h1, h2, h3]

theorem lexFrom_radix (cs : List Char) :
    lexFrom ('&' :: cs) false = (radix ('&' :: cs)).1 :: lexFrom (radix ('&' :: cs)).2 false := by
  rw [lexFrom_cons]
  have h1 : isWs '&' = false := by decide
  have h2 : isDigit '&' = false := by decide
  have h3 : isAlpha '&' = false := by decide
  simp [h1, h2, h3]

/-- the characters that reach `minutia()` -/
def isMinStart (c : Char) : Bool :=
  !isWs c && !isDigit c && !(c = '.') && !isAlpha c && !(c = '"') && !(c = '&')

theorem isMinStart_classes (c : Char) (h : isMinStart c = true) :
    isWs c = false ∧ isDigit c = false ∧ c ≠ '.' ∧ isAlpha c = false ∧ c ≠ '"' ∧ c ≠ '&' := by
  simp only [isMinStart, Bool.and_eq_true, Bool.not_eq_true', decide_eq_false_iff_not] at h
  obtain ⟨⟨⟨⟨⟨h1, h2⟩, h3⟩, h4⟩, h5⟩, h6⟩ := h
  exact ⟨h1, h2, h3, h4, h5, h6⟩

theorem lexFrom_minutia (c : Char) (cs : List Char) (h : isMinStart c = true) :
    lexFrom (c :: cs) false =
      (minutia (c :: cs)).1 :: lexFrom (minutia (c :: cs)).2 ((minutia (c :: cs)).1 == .word .rem2) := by
  obtain ⟨h1, h2, h3, h4, h5, h6⟩ := isMinStart_classes c h
  rw [lexFrom_cons]
  simp [h1, h2, h3, h4, h5, h6]

theorem minutiaTable_minStart : ∀ p ∈ minutiaTable, isMinStart p.1 = true := by decide

/-- The table fact is applied to the pair itself: left to be found by unification against `isMinStart c = true`, the
    unifier unfolds the character classes before it knows the pair. -/
theorem lexFrom_minutia_one (c : Char) (cs : List Char) (t : Token) (h : matchMinutia [c] = some t) :
    lexFrom (c :: cs) false = t :: lexFrom cs (t == .word .rem2) := by
  obtain ⟨c', e, hm⟩ := matchMinutia_some _ _ h
  cases e
  rw [lexFrom_minutia c cs (minutiaTable_minStart (c, t) hm), minutia_one c cs t h]

theorem lexFrom_true (cs : List Char) : lexFrom cs true = if cs = [] then [] else [.unknown cs] := by
  cases cs with
  | nil => rfl
  | cons c r => rw [lexFrom_cons]; simp

theorem lexFrom_remark (cs : List Char) (h : cs ≠ []) : lexFrom cs true = [.unknown cs] := by
  rw [lexFrom_true, if_neg h]

theorem prefixLen_true (cs : List Char) : prefixLen cs true = (cs.takeWhile isDigit).length := by
  induction cs with
  | nil => rfl
  | cons c cs ih =>
    cases hd : isDigit c with
    | true => simp [prefixLen, hd, not_isWs_of_isDigit c hd, ih, Nat.add_comm]
    | false => cases hw : isWs c <;> simp [prefixLen, hd, hw]

theorem prefixLen_eq (cs : List Char) :
    prefixLen cs false = (cs.takeWhile isWs).length + ((cs.dropWhile isWs).takeWhile isDigit).length := by
  induction cs with
  | nil => rfl
  | cons c cs ih =>
    cases hd : isDigit c with
    | true =>
      simp [prefixLen, hd, not_isWs_of_isDigit c hd, prefixLen_true, Nat.add_comm]
    | false =>
      cases hw : isWs c with
      | true => simp [prefixLen, hd, hw, ih]; omega
      | false => simp [prefixLen, hd, hw]

theorem take_drop_prefixLen (cs : List Char) :
    cs.take (prefixLen cs false) = cs.takeWhile isWs ++ (cs.dropWhile isWs).takeWhile isDigit ∧
      cs.drop (prefixLen cs false) = (cs.dropWhile isWs).dropWhile isDigit := by
  have e : cs = (cs.takeWhile isWs ++ (cs.dropWhile isWs).takeWhile isDigit) ++
      (cs.dropWhile isWs).dropWhile isDigit := by
    rw [List.append_assoc, List.takeWhile_append_dropWhile, List.takeWhile_append_dropWhile]
  have hl : prefixLen cs false = (cs.takeWhile isWs ++ (cs.dropWhile isWs).takeWhile isDigit).length := by
    rw [prefixLen_eq, List.length_append]
  generalize cs.takeWhile isWs ++ (cs.dropWhile isWs).takeWhile isDigit = A at e hl ⊢
  generalize (cs.dropWhile isWs).dropWhile isDigit = B at e ⊢
  subst e
  rw [hl]
  exact ⟨List.take_left' rfl, List.drop_left' rfl⟩

theorem span_append_stop {α} (p : α → Bool) (l : List α) (c : α) (r : List α) (hc : p c = false) :
    (l ++ c :: r).takeWhile p = l.takeWhile p ∧ (l ++ c :: r).dropWhile p = l.dropWhile p ++ c :: r := by
  induction l with
  | nil => simp [hc]
  | cons a l ih => cases ha : p a <;> simp [ha, ih]

/-- the one blank that `BasicLexer::lex` skips behind the line number -/
def skipBlank : Str → Str
  | ' ' :: r => r
  | r => r

theorem skipBlank_cons (x : Char) (r : Str) (hx : x ≠ ' ') : skipBlank (x :: r) = x :: r := by
  unfold skipBlank
  split
  · rename_i heq; exact absurd (List.cons.inj heq).1 hx
  · rfl

theorem skipBlank_append (l : Str) (c : Char) (r : Str) (hc : c ≠ ' ') :
    skipBlank (l ++ c :: r) = skipBlank l ++ c :: r := by
  cases l with
  | nil => exact skipBlank_cons c r hc
  | cons x xs =>
    by_cases hx : x = ' '
    · subst hx; rfl
    · rw [List.cons_append, skipBlank_cons _ _ hx, skipBlank_cons _ _ hx, List.cons_append]

theorem splitLineNumber_eq (src : Str) : splitLineNumber src =
    match Fmt.parseU16 ((src.dropWhile isWs).takeWhile isDigit) with
    | some num =>
      if num ≤ maxLineNumber then (some num, skipBlank ((src.dropWhile isWs).dropWhile isDigit)) else (none, src)
    | none => (none, src) := by
  obtain ⟨ht, hd⟩ := take_drop_prefixLen src
  have hn : (src.take (prefixLen src false)).dropWhile isWs = (src.dropWhile isWs).takeWhile isDigit := by
    rw [ht, List.dropWhile_append_of_pos (takeWhile_all isWs src)]
    -- the digits do not start with a blank
    cases h : (src.dropWhile isWs).takeWhile isDigit with
    | nil => rfl
    | cons d r =>
      have hd : isDigit d = true := takeWhile_all isDigit _ d (by rw [h]; exact List.mem_cons_self)
      rw [List.dropWhile_cons, not_isWs_of_isDigit d hd]
      rfl
  simp only [splitLineNumber, hn, hd]
  cases Fmt.parseU16 ((src.dropWhile isWs).takeWhile isDigit) with
  | none => rfl
  | some num =>
    simp only
    split
    · generalize (src.dropWhile isWs).dropWhile isDigit = rest
      unfold skipBlank
      split
      · rfl
      · rename_i hne
        split
        · exact absurd rfl (hne _)
        · rfl
    · rfl

theorem splitLineNumber_plain (c : Char) (cs : List Char) (hd : isDigit c = false)
    (hw : isWs c = false) : splitLineNumber (c :: cs) = (none, c :: cs) := by
  have h0 : prefixLen (c :: cs) false = 0 := by simp [prefixLen, hd, hw]
  have hp : Fmt.parseU16 [] = none := by decide
  simp only [splitLineNumber, h0, List.take_zero, List.dropWhile_nil, hp]

theorem splitLineNumber_nil : splitLineNumber [] = (none, []) := by
  have hp : Fmt.parseU16 [] = none := by decide
  simp only [splitLineNumber, prefixLen, List.take_zero, List.dropWhile_nil, hp]

theorem splitLineNumber_none (s : Str) (h : (splitLineNumber s).1 = none) : splitLineNumber s = (none, s) := by
  simp only [splitLineNumber] at h ⊢
  split
  · rename_i num hp
    rw [hp] at h
    simp only at h ⊢
    split
    · rename_i hle; rw [if_pos hle] at h; split at h <;> cases h
    · rfl
  · rfl

theorem splitLineNumber_le (s : Str) (n : Nat) (h : (splitLineNumber s).1 = some n) : n ≤ 65529 := by
  simp only [splitLineNumber] at h
  split at h
  · split at h
    · rename_i num _ hle
      split at h <;> (simp at h; subst h; exact hle)
    · simp at h
  · simp at h

theorem lex_plain (c : Char) (cs : List Char) (hd : isDigit c = false) (hw : isWs c = false) :
    lex (c :: cs) = (none, postPasses (lexFrom (c :: cs) false)) := by
  simp [lex, splitLineNumber_plain c cs hd hw, rawTokens_eq]

end Lex
end Basic

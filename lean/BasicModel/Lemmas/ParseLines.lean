import BasicModel.Model.Parse
import BasicModel.Lemmas.ParseSimp
/-
  Parses of concrete token lists, by running the parser's state monad: empty statements (`:`), and
  the lines the examples of C09, C14 and C20 are built from.  The parser's mutual recursion does not
  reduce by `rfl` (and its line numbers go through the opaque `Float32.ofNat`), so these are proved
  by `simp [parse_eval]`: the parser's functions and the operations of its state monad, unfolded
  (`failHere`, `fail` and `throw` among them, so that a refused line computes to its error as well).
  What a proof adds to the set is the text of the tokens of its line (their lengths give the columns).
-/
namespace Basic
namespace Parse

attribute [parse_eval] StateT.run bind StateT.bind Except.bind get getThe MonadStateOf.get StateT.get pure
  StateT.pure Except.pure set StateT.set modify modifyGet MonadStateOf.modifyGet StateT.modifyGet Except.map
  parse parseTokens fuelFor statements statement peek next nextLoop col isRem isEnd maybe expect literal
  descend binLoop exprList expression printList expectVar varList maybeLineNumber ifStmt isUserFunction
  TIdent.name failHere fail throw throwThe MonadExceptOf.throw StateT.lift

theorem text_end : Word.end.text = "END".toList := rfl

theorem parse_colons (n : Option Nat) : parse n [.colon, .colon] = .ok [] := by
  simp [parse_eval]

theorem parse_colon_end (n : Option Nat) : parse n [.colon, .word .end, .colon, .colon] = .ok [.end (1, 4)] := by
  simp [parse_eval, Token.text, text_end]

theorem parse_end (n : Option Nat) : parse n [.word .end] = .ok [.end (0, 3)] := by
  simp [parse_eval, Token.text, text_end]

theorem parse_cls (n : Option Nat) : parse n [.word .cls] = .ok [.cls (0, 3)] := by
  simp [parse_eval, Token.text, show Word.cls.text = "CLS".toList from rfl]

theorem parse_wend (n : Option Nat) : parse n [.word .wend] = .ok [.wend (0, 4)] := by
  simp [parse_eval, Token.text, show Word.wend.text = "WEND".toList from rfl]

theorem parse_while_a (n : Option Nat) : parse n [.word .while, .whitespace 1, .ident (.plain ['A'])] =
    .ok [.while (0, 5) (.var (.unary (6, 7) (.plain ['A'])))] := by
  simp [parse_eval, Token.text, List.lookup, show Word.while.text = "WHILE".toList from rfl]

-- numerals are read by `Fmt.parseI16`, which `simp` does not evaluate: one kernel evaluation per numeral
theorem i16_zero : Fmt.parseI16 (numText ['0']) = some 0 := by decide +kernel
theorem i16_one : Fmt.parseI16 (numText ['1']) = some 1 := by decide +kernel

theorem parse_if0_end (n : Option Nat) :
    parse n [.word .if, .whitespace 1, .literal (.integer ['0']), .whitespace 1, .word .then,
      .whitespace 1, .word .end] =
    .ok [.if (0, 2) (.integer (3, 4) 0) [.end (10, 13)] []] := by
  simp [parse_eval, Token.text, Literal.text, i16_zero, text_end,
    show Word.if.text = "IF".toList from rfl, show Word.then.text = "THEN".toList from rfl]

theorem i16_7 : Fmt.parseI16 (numText ['7']) = some 7 := by decide +kernel
theorem i16_8 : Fmt.parseI16 (numText ['8']) = some 8 := by decide +kernel

theorem parse_data_7_m8 (n : Option Nat) :
    parse n [.word .data, .whitespace 1, .literal (.integer ['7']), .comma, .operator .minus,
      .literal (.integer ['8'])] =
    .ok [.data (9, 9) [.integer (5, 6) 7, .neg (7, 8) (.integer (8, 9) 8)]] := by
  -- the widths of the tokens (unfolding `Word.text` would ask for the equations of its whole table)
  have t1 : (Token.word .data).text.length = 4 := rfl
  have t2 : (Token.whitespace 1).text.length = 1 := rfl
  have t3 : (Token.literal (.integer ['7'])).text.length = 1 := rfl
  have t4 : Token.comma.text.length = 1 := rfl
  have t5 : (Token.operator .minus).text.length = 1 := rfl
  have t6 : (Token.literal (.integer ['8'])).text.length = 1 := rfl
  simp [parse_eval, t1, t2, t3, t4, t5, t6, i16_7, i16_8]

theorem parse_data_x (n : Option Nat) :
    parse n [.word .data, .whitespace 1, .literal (.string ['X'])] = .ok [.data (8, 8) [.string (5, 8) ['X']]] := by
  have t1 : (Token.word .data).text.length = 4 := rfl
  have t2 : (Token.whitespace 1).text.length = 1 := rfl
  have t3 : (Token.literal (.string ['X'])).text.length = 3 := rfl
  simp [parse_eval, t1, t2, t3]

theorem parse_read_ab (n : Option Nat) :
    parse n [.word .read, .whitespace 1, .ident (.integer ['A', '%']), .comma, .ident (.string ['B', '$'])] =
    .ok [.read (0, 4) [.unary (5, 7) (.integer ['A', '%']), .unary (8, 10) (.string ['B', '$'])]] := by
  have t1 : (Token.word .read).text.length = 4 := rfl
  have t2 : (Token.whitespace 1).text.length = 1 := rfl
  have t3 : (Token.ident (.integer ['A', '%'])).text.length = 2 := rfl
  have t4 : Token.comma.text.length = 1 := rfl
  have t5 : (Token.ident (.string ['B', '$'])).text.length = 2 := rfl
  simp [parse_eval, t1, t2, t3, t4, t5]

/-- plain `RESTORE`: the operand the parser supplies is the bit pattern of −1 -/
theorem parse_restore (n : Option Nat) :
    parse n [.word .restore] = .ok [.restore (7, 7) (.single (7, 7) 0xbf800000)] := by
  have t1 : (Token.word .restore).text.length = 7 := rfl
  simp [parse_eval, t1]

end Parse
end Basic

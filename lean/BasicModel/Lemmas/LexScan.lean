import BasicModel.Lemmas.LexChar
/-
  The scanners of `BasicLexer` (DESIGN App. B).  Each scanner consumes runs of one character class after
  another; the loops of the model are walked here, once each, to state every scanner in closed form over
  `takeWhile`/`dropWhile`, and what is proved about a scanner anywhere else is read off these equations.
  `number()` alone has no closed form: its loop is taken one turn at a time (`numberLoop_step`), and what is proved
  about it by induction on the text goes through that equation.
-/
namespace Basic
namespace Lex

theorem span_append {α} (p : α → Bool) (l r : List α) (hl : ∀ x ∈ l, p x = true)
    (hr : ∀ c ∈ r.head?, p c = false) :
    (l ++ r).takeWhile p = l ∧ (l ++ r).dropWhile p = r := by
  have h1 : r.takeWhile p = [] := by
    cases r with
    | nil => rfl
    | cons c t => simp [hr c rfl]
  have h2 : r.dropWhile p = r := by
    cases r with
    | nil => rfl
    | cons c t => simp [hr c rfl]
  rw [List.takeWhile_append_of_pos hl, List.dropWhile_append_of_pos hl, h1, h2]
  simp

theorem takeWhile_all {α} (p : α → Bool) (l : List α) : ∀ x ∈ l.takeWhile p, p x = true := by
  induction l with
  | nil => intro x h; simp at h
  | cons a l ih =>
    intro x h
    rw [List.takeWhile_cons] at h
    split at h
    · rename_i ha
      rcases List.mem_cons.mp h with e | e
      · rw [e]; exact ha
      · exact ih x e
    · simp at h

theorem dropWhile_head_not {α} (p : α → Bool) (l : List α) : ∀ c ∈ (l.dropWhile p).head?, p c = false := by
  induction l with
  | nil => intro c hc; simp at hc
  | cons a l ih =>
    intro c hc
    rw [List.dropWhile_cons] at hc
    split at hc
    · exact ih c hc
    · rename_i h; simp at hc; subst hc; simpa using h

theorem length_dropWhile_le {α} (p : α → Bool) (l : List α) : (l.dropWhile p).length ≤ l.length :=
  (List.dropWhile_sublist p).length_le

theorem head_append_ne {α} (p q : List α) (h : p ≠ []) : (p ++ q).head? = p.head? := by
  cases p with
  | nil => contradiction
  | cons a l => rfl

theorem getLast?_cons_of_ne_nil {α} (a : α) (l : List α) (h : l ≠ []) : (a :: l).getLast? = l.getLast? := by
  cases l with
  | nil => contradiction
  | cons b l => simp [List.getLast?_cons_cons]

theorem getLast?_append_cons {α} (l : List α) (a : α) (m : List α) :
    (l ++ a :: m).getLast? = (a :: m).getLast? := by
  rw [List.getLast?_append]
  cases h : (a :: m).getLast? with
  | none => simp at h
  | some x => simp

theorem takeWhile_take {α} (p : α → Bool) (k : Nat) (l : List α)
    (h : ∀ c ∈ (l.drop k).head?, p c = true → ∃ x ∈ l.take k, p x = false) :
    (l.take k).takeWhile p = l.takeWhile p := by
  induction k generalizing l with
  | zero =>
    cases l with
    | nil => rfl
    | cons a l' =>
      have : p a = false := by
        cases hp : p a with
        | false => rfl
        | true => obtain ⟨x, hx, -⟩ := h a (by simp) hp; simp at hx
      simp [this]
  | succ k ih =>
    cases l with
    | nil => rfl
    | cons a l' =>
      simp only [List.take_succ_cons, List.takeWhile_cons]
      cases hp : p a with
      | false => rfl
      | true =>
        simp only [if_true]
        rw [ih l']
        intro c hc hpc
        obtain ⟨x, hx, hxp⟩ := h c (by simpa using hc) hpc
        simp only [List.take_succ_cons, List.mem_cons] at hx
        rcases hx with e | hx
        · rw [e, hp] at hxp; cases hxp
        · exact ⟨x, hx, hxp⟩

theorem snoc_induction {α} {P : List α → Prop} (h0 : P []) (h1 : ∀ l x, P l → P (l ++ [x])) :
    ∀ l, P l := by
  have : ∀ n (l : List α), l.length = n → P l := by
    intro n
    induction n with
    | zero => intro l hl; have : l = [] := by cases l <;> simp_all
              subst this; exact h0
    | succ n ih =>
      intro l hl
      rcases List.eq_nil_or_concat l with e | ⟨init, t, e⟩
      · subst e; exact h0
      · have e' : l = init ++ [t] := by simpa using e
        subst e'
        exact h1 init t (ih init (by simp at hl; omega))
  intro l; exact this l.length l rfl

def notQuote (c : Char) : Bool := c != '"'

theorem stringBody_eq (cs : List Char) :
    stringBody cs = (cs.takeWhile notQuote, (cs.dropWhile notQuote).tail) := by
  induction cs with
  | nil => rfl
  | cons c cs ih =>
    unfold stringBody
    rw [List.takeWhile_cons, List.dropWhile_cons]
    by_cases h : c = '"'
    · simp [h, notQuote]
    · simp [h, notQuote, ih]

theorem notQuote_of_not_mem (s : List Char) (h : '"' ∉ s) : ∀ c ∈ s, notQuote c = true := by
  intro c hc
  have : c ≠ '"' := fun e => h (e ▸ hc)
  simp [notQuote, this]

theorem stringBody_closed (s rest : List Char) (h : '"' ∉ s) :
    stringBody (s ++ '"' :: rest) = (s, rest) := by
  have hs := span_append notQuote s ('"' :: rest) (notQuote_of_not_mem s h)
    (by intro c hc; simp at hc; subst hc; rfl)
  rw [stringBody_eq, hs.1, hs.2]
  rfl

theorem stringBody_open (s : List Char) (h : '"' ∉ s) : stringBody s = (s, []) := by
  have hs := span_append notQuote s [] (notQuote_of_not_mem s h) (by intro c hc; simp at hc)
  rw [List.append_nil] at hs
  rw [stringBody_eq, hs.1, hs.2]
  rfl

theorem string_text (s rest : List Char) (h : '"' ∉ s) :
    string ((Literal.string s).text ++ rest) = (.literal (.string s), rest) := by
  simp [string, Literal.text, stringBody_closed s rest h]

/-- `match_minutia` as a table: what holds of all sixteen entries is checked by evaluation -/
def minutiaTable : List (Char × Token) :=
  [('(', .lparen), (')', .rparen), (',', .comma), (':', .colon), (';', .semicolon), ('?', .word .print),
   ('\'', .word .rem2), ('^', .operator .caret), ('*', .operator .multiply), ('/', .operator .divide),
   ('\\', .operator .divideInt), ('+', .operator .plus), ('-', .operator .minus), ('=', .operator .equal),
   ('<', .operator .less), ('>', .operator .greater)]

theorem matchMinutia_some (s : Str) (t : Token) (h : matchMinutia s = some t) :
    ∃ c, s = [c] ∧ (c, t) ∈ minutiaTable := by
  unfold matchMinutia at h
  split at h <;> first | (cases h; exact ⟨_, rfl, by decide⟩) | cases h

theorem matchMinutia_long (a b : Char) (l : List Char) : matchMinutia (a :: b :: l) = none := by
  cases h : matchMinutia (a :: b :: l) with
  | none => rfl
  | some t => obtain ⟨c, e, -⟩ := matchMinutia_some _ _ h; cases e

theorem minutia_one (c : Char) (rest : List Char) (t : Token) (h : matchMinutia [c] = some t) :
    minutia (c :: rest) = (t, rest) := by
  simp [minutia, minutiaLoop, h]

/-- letter, digit or blank: the characters `minutia()` stops at -/
def isADW (c : Char) : Bool := isAlpha c || isDigit c || isWs c

/-- what `minutia()` goes on consuming -/
def nADW (c : Char) : Bool := !isADW c

theorem matchMinutia_snoc (s : Str) (hs : s ≠ []) (c : Char) : matchMinutia (s ++ [c]) = none := by
  cases s with
  | nil => contradiction
  | cons a s' =>
    cases s' with
    | nil => exact matchMinutia_long a c []
    | cons b s'' => exact matchMinutia_long a b _

theorem minutiaLoop_eq (c : Char) (r : List Char) : ∀ s, s ≠ [] →
    minutiaLoop (c :: r) s = (.unknown (s ++ c :: r.takeWhile nADW), r.dropWhile nADW) := by
  induction r generalizing c with
  | nil => intro s hs; simp [minutiaLoop, matchMinutia_snoc s hs c]
  | cons pk tl ih =>
    intro s hs
    unfold minutiaLoop
    simp only [matchMinutia_snoc s hs c, List.takeWhile_cons, List.dropWhile_cons]
    by_cases h : (isAlpha pk || isDigit pk || isWs pk) = true
    · simp [h, nADW, isADW]
    · rw [if_neg h, ih pk (s ++ [c]) (by simp)]
      simp [h, nADW, isADW]

theorem minutia_eq (pk : Char) (cs : List Char) :
    minutia (pk :: cs) = match matchMinutia [pk] with
      | some t => (t, cs)
      | none => (.unknown (pk :: cs.takeWhile nADW), cs.dropWhile nADW) := by
  cases hm : matchMinutia [pk] with
  | some t => exact minutia_one pk cs t hm
  | none =>
    rw [minutia]
    unfold minutiaLoop
    simp only [List.nil_append, hm]
    cases cs with
    | nil => rfl
    | cons k tl =>
      simp only [List.takeWhile_cons, List.dropWhile_cons]
      by_cases h : (isAlpha k || isDigit k || isWs k) = true
      · simp [h, nADW, isADW]
      · rw [if_neg h, minutiaLoop_eq k tl [pk] (by simp)]
        simp [h, nADW, isADW]

theorem whitespace_blanks (sep : List Char) (h : ∀ c ∈ sep, isWs c = true) (hne : sep ≠ []) (post : List Char)
    (hd : ∀ c ∈ post.head?, isWs c = false) :
    whitespace (sep ++ post) = (.whitespace sep.length, post) := by
  obtain ⟨c, sep, rfl⟩ := List.exists_cons_of_ne_nil hne
  have hs := span_append isWs sep post (fun x hx => h x (by simp [hx])) hd
  simp only [List.cons_append, whitespace, hs.1, hs.2, List.length_cons, Nat.add_comm]

theorem whitespace_run (n : Nat) (rest : List Char) (h : ∀ c ∈ rest.head?, isWs c = false) :
    whitespace (List.replicate (n + 1) ' ' ++ rest) = (.whitespace (n + 1), rest) := by
  simpa using whitespace_blanks (List.replicate (n + 1) ' ')
    (fun c hc => by rw [List.eq_of_mem_replicate hc]; rfl) (by simp) rest h

/-- digit of the radix as it is stored in the literal (upper case) -/
def isRadixDigit (isHex : Bool) (c : Char) : Bool :=
  ('0' ≤ c && c ≤ '7') || (isHex && (('8' ≤ c && c ≤ '9') || ('A' ≤ c && c ≤ 'F')))

theorem isRadixDigit_notLower (h : Bool) (c : Char) (hc : isRadixDigit h c = true) : upper c = c := by
  apply upper_of_not_lower
  simp [isRadixDigit, Char.le_def, UInt32.le_iff_toNat_le] at hc
  omega

/-- what may follow a radix literal: nothing, or a character that is not a digit of the radix in
    either case (and is not changed by the upper-casing push-back) -/
def RadixBoundary (isHex : Bool) (rest : List Char) : Prop :=
  ∀ c ∈ rest.head?, isRadixDigit isHex (upper c) = false ∧ upper c = c

instance (isHex : Bool) (rest : List Char) : Decidable (RadixBoundary isHex rest) := by
  unfold RadixBoundary; infer_instance

theorem radixDigits_cons (isHex : Bool) (c : Char) (rest : List Char) :
    radixDigits isHex (c :: rest) =
      if isRadixDigit isHex (upper c) then
        (upper c :: (radixDigits isHex rest).1, (radixDigits isHex rest).2)
      else ([], upper c :: rest) := rfl

/-- a digit of the radix in either case -/
def radixOk (isHex : Bool) (c : Char) : Bool := isRadixDigit isHex (upper c)

theorem radixDigits_eq (isHex : Bool) (cs : List Char) :
    radixDigits isHex cs = ((cs.takeWhile (radixOk isHex)).map upper,
      match cs.dropWhile (radixOk isHex) with
      | [] => []
      | c :: r => upper c :: r) := by
  induction cs with
  | nil => rfl
  | cons c cs ih =>
    rw [radixDigits_cons, List.takeWhile_cons, List.dropWhile_cons]
    cases h : radixOk isHex c with
    | true => simp only [radixOk] at h; simp [h, ih]
    | false => simp only [radixOk] at h; simp [h]

theorem radixDigits_run (isHex : Bool) (ds rest : List Char)
    (hds : ∀ c ∈ ds, isRadixDigit isHex c = true) (hb : RadixBoundary isHex rest) :
    radixDigits isHex (ds ++ rest) = (ds, rest) := by
  have hu : ∀ c ∈ ds, upper c = c := fun c hc => isRadixDigit_notLower isHex c (hds c hc)
  have hs := span_append (radixOk isHex) ds rest (fun c hc => by rw [radixOk, hu c hc]; exact hds c hc)
    (fun c hc => (hb c hc).1)
  rw [radixDigits_eq, hs.1, hs.2, List.map_congr_left (g := id) hu, List.map_id]
  cases rest with
  | nil => rfl
  | cons c r => simp only [(hb c rfl).2]

theorem radix_eq (a x : Char) (r : List Char) :
    radix (a :: x :: r) =
      if upper x = 'H' then (.literal (.hex (radixDigits true r).1), (radixDigits true r).2)
      else (.literal (.octal (radixDigits false (x :: r)).1), (radixDigits false (x :: r)).2) := by
  by_cases hx : x = 'H' ∨ x = 'h'
  · rw [if_pos ((upper_eq_H x).2 hx)]
    rcases hx with rfl | rfl <;> rfl
  · rw [if_neg (fun h => hx ((upper_eq_H x).1 h))]
    simp only [radix, List.tail_cons]
    split
    · rename_i heq
      exact absurd (Or.inl (List.cons.inj heq).1) hx
    · rename_i heq
      exact absurd (Or.inr (List.cons.inj heq).1) hx
    · rfl

theorem radix_hex_text (ds rest : List Char) (hds : ∀ c ∈ ds, isRadixDigit true c = true)
    (hb : RadixBoundary true rest) :
    radix ((Literal.hex ds).text ++ rest) = (.literal (.hex ds), rest) := by
  simp [radix, Literal.text, radixDigits_run true ds rest hds hb]

theorem radix_octal_text (ds rest : List Char) (hds : ∀ c ∈ ds, isRadixDigit false c = true)
    (hb : RadixBoundary false rest) (hH : ∀ c ∈ (ds ++ rest).head?, c ≠ 'H' ∧ c ≠ 'h') :
    radix ((Literal.octal ds).text ++ rest) = (.literal (.octal ds), rest) := by
  simp only [radix, Literal.text, List.cons_append, List.tail_cons]
  split
  · rename_i r heq; exact absurd rfl (hH 'H' (by simp [heq])).1
  · rename_i r heq; exact absurd rfl (hH 'h' (by simp [heq])).2
  · simp [radixDigits_run false ds rest hds hb]

/-! The table of the model holds string literals, and every evaluation of `keywords` by the kernel decodes
  them again.  Table facts are therefore evaluated on the same table written as character lists
  (`keywords_eq`), and `scan_alphabetic` on a copy of its loop that takes the table as an argument. -/

def kwChars : List (Str × Token) := [
  (['R', 'E', 'S', 'T', 'O', 'R', 'E'], .word .restore),
  (['D', 'E', 'F', 'D', 'B', 'L'], .word .defdbl),
  (['D', 'E', 'F', 'I', 'N', 'T'], .word .defint),
  (['D', 'E', 'F', 'S', 'N', 'G'], .word .defsng),
  (['D', 'E', 'F', 'S', 'T', 'R'], .word .defstr),
  (['D', 'E', 'L', 'E', 'T', 'E'], .word .delete),
  (['R', 'E', 'T', 'U', 'R', 'N'], .word .return),
  (['C', 'L', 'E', 'A', 'R'], .word .clear),
  (['E', 'R', 'A', 'S', 'E'], .word .erase),
  (['G', 'O', 'S', 'U', 'B'], .word .gosub),
  (['I', 'N', 'P', 'U', 'T'], .word .input),
  (['P', 'R', 'I', 'N', 'T'], .word .print),
  (['R', 'E', 'N', 'U', 'M'], .word .renum),
  (['T', 'R', 'O', 'F', 'F'], .word .troff),
  (['W', 'H', 'I', 'L', 'E'], .word .while),
  (['C', 'O', 'N', 'T'], .word .cont),
  (['D', 'A', 'T', 'A'], .word .data),
  (['E', 'L', 'S', 'E'], .word .else),
  (['G', 'O', 'T', 'O'], .word .goto),
  (['N', 'E', 'X', 'T'], .word .next),
  (['L', 'I', 'S', 'T'], .word .list),
  (['L', 'O', 'A', 'D'], .word .load),
  (['R', 'E', 'A', 'D'], .word .read),
  (['S', 'A', 'V', 'E'], .word .save),
  (['S', 'T', 'E', 'P'], .word .step),
  (['S', 'T', 'O', 'P'], .word .stop),
  (['S', 'W', 'A', 'P'], .word .swap),
  (['T', 'H', 'E', 'N'], .word .then),
  (['T', 'R', 'O', 'N'], .word .tron),
  (['W', 'E', 'N', 'D'], .word .wend),
  (['A', 'N', 'D'], .operator .and),
  (['C', 'L', 'S'], .word .cls),
  (['D', 'E', 'F'], .word .def),
  (['D', 'I', 'M'], .word .dim),
  (['E', 'N', 'D'], .word .end),
  (['E', 'Q', 'V'], .operator .eqv),
  (['F', 'O', 'R'], .word .for),
  (['I', 'M', 'P'], .operator .imp),
  (['L', 'E', 'T'], .word .let),
  (['M', 'O', 'D'], .operator .modulo),
  (['N', 'E', 'W'], .word .new),
  (['N', 'O', 'T'], .operator .not),
  (['R', 'E', 'M'], .word .rem1),
  (['R', 'U', 'N'], .word .run),
  (['X', 'O', 'R'], .operator .xor),
  (['I', 'F'], .word .if),
  (['O', 'N'], .word .on),
  (['O', 'R'], .operator .or),
  (['T', 'O'], .word .to)]

theorem keywords_eq : keywords = kwChars := by decide +kernel

def scanAlphaLoopOn (kws : List (Str × Token)) : Nat → List Token → Str → List Token × Str
  | 0, v, s => (v, s)
  | fuel + 1, v, s =>
    match bestMatch s kws none with
    | none => (v, s)
    | some (idx, len, token) =>
      if idx = 0 then scanAlphaLoopOn kws fuel (v ++ [token]) (s.drop len)
      else scanAlphaLoopOn kws fuel (v ++ [.ident (.plain (s.take idx)), token]) (s.drop (idx + len))

theorem scanAlphaLoop_eq (fuel : Nat) (v : List Token) (s : Str) :
    scanAlphaLoop fuel v s = scanAlphaLoopOn kwChars fuel v s := by
  rw [← keywords_eq]
  induction fuel generalizing v s with
  | zero => rfl
  | succ fuel ih =>
    unfold scanAlphaLoop scanAlphaLoopOn
    cases bestMatch s keywords none with
    | none => rfl
    | some r => simp only [ih]

/-- no reserved word occurs inside `s` -/
def NoKeyword (s : Str) : Prop := bestMatch s keywords none = none

instance (s : Str) : Decidable (NoKeyword s) := by unfold NoKeyword; infer_instance

theorem bestMatch_some (s : Str) (kws : List (Str × Token)) (b : Nat × Nat × Token) :
    bestMatch s kws (some b) ≠ none := by
  induction kws generalizing b with
  | nil => simp [bestMatch]
  | cons kw kws ih =>
    obtain ⟨ts, tk⟩ := kw
    obtain ⟨bi, bl, bt⟩ := b
    unfold bestMatch
    split
    · exact ih _
    · dsimp only; split <;> exact ih _

theorem bestMatch_none_iff (s : Str) (kws : List (Str × Token)) :
    bestMatch s kws none = none ↔ ∀ kw ∈ kws, findSub kw.1 s = none := by
  induction kws with
  | nil => simp [bestMatch]
  | cons kw kws ih =>
    obtain ⟨ts, tk⟩ := kw
    unfold bestMatch
    split
    · rename_i h; simp [ih, h]
    · rename_i idx h
      simp only [List.mem_cons, forall_eq_or_imp, h]
      constructor
      · intro hb; exact absurd hb (bestMatch_some _ _ _)
      · intro hb; exact absurd hb.1 (by simp)

/-! `str::find` through core's prefixes and infixes: what is proved about `findSub` on `++`, on a last character or at
  index 0 is then a fact about lists. -/

theorem isPrefix_iff (pat s : Str) : isPrefix pat s = true ↔ pat <+: s := by
  induction pat generalizing s with
  | nil => simp [isPrefix]
  | cons p ps ih =>
    cases s with
    | nil => simp [isPrefix]
    | cons c cs => simp [isPrefix, ih, List.cons_prefix_cons]

theorem findSub_eq_none_iff (pat s : Str) : findSub pat s = none ↔ ¬ pat <:+: s := by
  induction s with
  | nil => cases pat <;> simp [findSub]
  | cons c cs ih =>
    rw [findSub, List.infix_cons_iff, not_or, ← ih, ← isPrefix_iff]
    by_cases h : isPrefix pat (c :: cs) = true
    · simp [h]
    · simp only [h, Bool.false_eq_true, if_false, not_false_eq_true, true_and]
      cases findSub pat cs <;> simp

/-- `findSub` finds the leftmost occurrence -/
theorem findSub_le (pat s : Str) (i : Nat) (h : findSub pat s = some i) (t u : Str) (e : s = t ++ pat ++ u) :
    i ≤ t.length := by
  induction s generalizing i t with
  | nil =>
    rw [findSub] at h
    split at h <;> cases h
    exact Nat.zero_le _
  | cons c cs ih =>
    rw [findSub] at h
    split at h
    · cases h
      exact Nat.zero_le _
    · rename_i hp
      cases t with
      | nil => exact absurd ((isPrefix_iff _ _).2 ⟨u, by simpa using e.symm⟩) hp
      | cons d t' =>
        cases hf : findSub pat cs with
        | none => rw [hf] at h; cases h
        | some j =>
          rw [hf] at h
          cases h
          exact Nat.succ_le_succ (ih j hf t' (by simpa using (List.cons.inj e).2))

theorem findSub_zero_iff (pat s : Str) : findSub pat s = some 0 ↔ pat <+: s := by
  rw [← isPrefix_iff]
  cases s with
  | nil => cases pat <;> simp [findSub, isPrefix]
  | cons c cs =>
    rw [findSub]
    by_cases h : isPrefix pat (c :: cs) = true
    · simp [h]
    · simp only [h, Bool.false_eq_true, if_false, iff_false]
      cases findSub pat cs <;> simp

theorem NoKeyword.prefix (a b : Str) (h : NoKeyword (a ++ b)) : NoKeyword a := by
  unfold NoKeyword at *
  rw [bestMatch_none_iff] at *
  intro kw hkw
  rw [findSub_eq_none_iff]
  exact fun hi => (findSub_eq_none_iff _ _).1 (h kw hkw) (hi.trans (List.prefix_append a b).isInfix)

theorem scanAlphabetic_noKeyword (p : List Token) (s : Str) (h : NoKeyword s) :
    scanAlphabetic p s = (p, s) := by
  unfold NoKeyword at h
  simp [scanAlphabetic, scanAlphaLoop, h]

/-- `bestMatch` runs through the table keeping the entry found at the least index, the earlier one on ties: its answer is
    `best` or an entry found at that index, lies at or before `best`, and at or before every entry that is found -/
theorem bestMatch_spec (s : Str) (kws : List (Str × Token)) :
    ∀ (best : Option (Nat × Nat × Token)) (r : Nat × Nat × Token), bestMatch s kws best = some r →
      (best = some r ∨ ∃ kw ∈ kws, findSub kw.1 s = some r.1 ∧ r.2.1 = kw.1.length ∧ r.2.2 = kw.2) ∧
      (∀ b, best = some b → r.1 ≤ b.1) ∧ (∀ kw ∈ kws, ∀ j, findSub kw.1 s = some j → r.1 ≤ j) := by
  induction kws with
  | nil =>
    intro best r h
    simp only [bestMatch] at h
    subst h
    exact ⟨Or.inl rfl, by intro b hb; cases hb; exact Nat.le_refl _, by intro kw hkw; simp at hkw⟩
  | cons kw kws ih =>
    obtain ⟨ts, tk⟩ := kw
    intro best r h
    unfold bestMatch at h
    split at h
    · rename_i hnone
      obtain ⟨h1, h2, h3⟩ := ih _ _ h
      refine ⟨?_, h2, ?_⟩
      · rcases h1 with h1 | ⟨kw, hkw, e⟩
        · exact Or.inl h1
        · exact Or.inr ⟨kw, List.mem_cons_of_mem _ hkw, e⟩
      · intro kw hkw j hj
        rcases List.mem_cons.mp hkw with e | hkw
        · subst e; simp only at hj; rw [hnone] at hj; cases hj
        · exact h3 kw hkw j hj
    · rename_i idx hsome
      split at h
      · obtain ⟨h1, h2, h3⟩ := ih _ _ h
        have hle := h2 _ rfl
        refine ⟨?_, (by intro b hb; cases hb), ?_⟩
        · rcases h1 with h1 | ⟨kw, hkw, e⟩
          · right; refine ⟨(ts, tk), by simp, ?_⟩
            cases h1; exact ⟨hsome, rfl, rfl⟩
          · exact Or.inr ⟨kw, List.mem_cons_of_mem _ hkw, e⟩
        · intro kw hkw j hj
          rcases List.mem_cons.mp hkw with e | hkw
          · subst e; simp only at hj; rw [hsome] at hj; cases hj; exact hle
          · exact h3 kw hkw j hj
      · rename_i bi bl bt
        split at h
        · rename_i hlt
          obtain ⟨h1, h2, h3⟩ := ih _ _ h
          have hle := h2 _ rfl
          simp only at hle
          refine ⟨?_, by intro b hb; cases hb; simp only; omega, ?_⟩
          · rcases h1 with h1 | ⟨kw, hkw, e⟩
            · right; refine ⟨(ts, tk), by simp, ?_⟩
              cases h1; exact ⟨hsome, rfl, rfl⟩
            · exact Or.inr ⟨kw, List.mem_cons_of_mem _ hkw, e⟩
          · intro kw hkw j hj
            rcases List.mem_cons.mp hkw with e | hkw
            · subst e; simp only at hj; rw [hsome] at hj; cases hj; exact hle
            · exact h3 kw hkw j hj
        · rename_i hge
          obtain ⟨h1, h2, h3⟩ := ih _ _ h
          have hle := h2 _ rfl
          simp only at hle
          refine ⟨?_, by intro b hb; cases hb; exact hle, ?_⟩
          · rcases h1 with h1 | ⟨kw, hkw, e⟩
            · exact Or.inl h1
            · exact Or.inr ⟨kw, List.mem_cons_of_mem _ hkw, e⟩
          · intro kw hkw j hj
            rcases List.mem_cons.mp hkw with e | hkw
            · subst e; simp only at hj; rw [hsome] at hj; cases hj; omega
            · exact h3 kw hkw j hj

def AllUp (s : Str) : Prop := ∀ c ∈ s, isUpperAlpha c = true

theorem allUp_drop {s : Str} (n : Nat) (h : AllUp s) : AllUp (s.drop n) :=
  fun c hc => h c (List.mem_of_mem_drop hc)

theorem allUp_take {s : Str} (n : Nat) (h : AllUp s) : AllUp (s.take n) :=
  fun c hc => h c (List.mem_of_mem_take hc)

/-- for `keywords_shape`: no token of the reserved-word table is an identifier -/
def isIdentTok : Token → Bool
  | .ident _ => true
  | _ => false

theorem not_ident_of_isIdentTok {t : Token} (h : isIdentTok t = false) : ∀ i, t ≠ .ident i := by
  intro i e; rw [e] at h; cases h

theorem keywords_shape : ∀ kw ∈ keywords,
    2 ≤ kw.1.length ∧ kw.1.all isUpperAlpha = true ∧ isIdentTok kw.2 = false := by
  rw [keywords_eq]; decide +kernel

theorem bestMatch_nil : bestMatch [] keywords none = none := by rw [keywords_eq]; rfl

theorem bestMatch_len_pos (s : Str) (r : Nat × Nat × Token)
    (h : bestMatch s keywords none = some r) : 2 ≤ r.2.1 ∧ ∀ i, r.2.2 ≠ .ident i := by
  rcases (bestMatch_spec s keywords none r h).1 with h | ⟨kw, hkw, -, e1, e2⟩
  · cases h
  · rw [e1, e2]; exact ⟨(keywords_shape kw hkw).1, not_ident_of_isIdentTok (keywords_shape kw hkw).2.2⟩

theorem noKeyword_snoc (s : Str) (d : Char) (hd : isUpperAlpha d = false) (h : NoKeyword s) :
    NoKeyword (s ++ [d]) := by
  unfold NoKeyword at *
  rw [bestMatch_none_iff] at *
  intro kw hkw
  have hs := keywords_shape kw hkw
  rw [findSub_eq_none_iff, List.infix_concat_iff, not_or]
  refine ⟨?_, (findSub_eq_none_iff _ _).1 (h kw hkw)⟩
  -- a reserved word that ends where the text ends would end in `d`, which is no letter
  rintro ⟨t, e⟩
  have hne : kw.1 ≠ [] := by
    intro e'
    rw [e'] at hs
    simp at hs
  have hmem : d ∈ kw.1 := by
    cases hx : kw.1.getLast? with
    | none => exact absurd (List.getLast?_eq_none_iff.mp hx) hne
    | some x =>
      have := congrArg List.getLast? e
      simp only [List.getLast?_append, hx, List.getLast?_singleton, Option.some_or] at this
      exact Option.some.inj this ▸ List.mem_of_getLast? hx
  rw [List.all_eq_true.mp hs.2.1 d hmem] at hd
  cases hd

/-- every turn of `scan_alphabetic` takes a reserved word (two characters at least) off a non-empty
    text, so the fuel lasts and what is left holds none; the queue only grows, and the text comes back
    untouched when nothing is queued -/
theorem scanAlphaLoop_left (fuel : Nat) : ∀ (v : List Token) (s : Str), s.length < fuel →
    NoKeyword (scanAlphaLoop fuel v s).2 ∧ v.length ≤ (scanAlphaLoop fuel v s).1.length ∧
      ((scanAlphaLoop fuel v s).1.length = v.length → (scanAlphaLoop fuel v s).2 = s) := by
  induction fuel with
  | zero => intro v s h; omega
  | succ fuel ih =>
    intro v s hf
    unfold scanAlphaLoop
    split
    · rename_i hb; exact ⟨hb, Nat.le_refl _, fun _ => rfl⟩
    · rename_i idx len token hb
      have hl := (bestMatch_len_pos s _ hb).1
      have hne : 0 < s.length := by
        cases s with
        | nil => rw [bestMatch_nil] at hb; cases hb
        | cons c t => simp
      simp only at hl
      split
      · obtain ⟨h1, h2, -⟩ := ih (v ++ [token]) (s.drop len) (by simp only [List.length_drop]; omega)
        rw [List.length_append, List.length_singleton] at h2
        exact ⟨h1, by omega, fun h => by omega⟩
      · obtain ⟨h1, h2, -⟩ := ih (v ++ [.ident (.plain (s.take idx)), token]) (s.drop (idx + len))
          (by simp only [List.length_drop]; omega)
        simp only [List.length_append, List.length_cons, List.length_nil] at h2
        exact ⟨h1, by omega, fun h => by omega⟩

theorem scanAlphabetic_left (v : List Token) (s : Str) : NoKeyword (scanAlphabetic v s).2 :=
  (scanAlphaLoop_left _ v s (Nat.lt_succ_self _)).1

theorem noKeyword_digits (s ds : Str) (hd : ∀ c ∈ ds, isDigit c = true) (h : NoKeyword s) :
    NoKeyword (s ++ ds) := by
  induction ds generalizing s with
  | nil => simpa using h
  | cons k ds ih =>
    have := ih (s ++ [k]) (fun c hc => hd c (by simp [hc]))
      (noKeyword_snoc s k (not_isUpperAlpha_of_isDigit k (hd k (by simp))) h)
    simpa using this

/-- the common exit of `alphabetic()`: crunch the text, keep a non-empty remainder as identifier -/
def alphaFinish (p : List Token) (s : Str) (rest : List Char) : List Token × List Char :=
  if (scanAlphabetic p s).2.isEmpty then ((scanAlphabetic p s).1, rest)
  else ((scanAlphabetic p s).1 ++ [.ident (.plain (scanAlphabetic p s).2)], rest)

def isSuffixChar (c : Char) : Bool := c = '$' || c = '!' || c = '#' || c = '%'

theorem alphaLoop_cons (ch0 : Char) (rest : List Char) (s : Str) (digit : Bool) (pending : List Token) :
    alphaLoop (ch0 :: rest) s digit pending =
      if upper ch0 = '$' then (pending ++ [.ident (.string (s ++ [upper ch0]))], rest)
      else if upper ch0 = '!' then (pending ++ [.ident (.single (s ++ [upper ch0]))], rest)
      else if upper ch0 = '#' then (pending ++ [.ident (.double (s ++ [upper ch0]))], rest)
      else if upper ch0 = '%' then (pending ++ [.ident (.integer (s ++ [upper ch0]))], rest)
      else match rest with
        | [] => alphaFinish pending (s ++ [upper ch0]) rest
        | pk :: _ =>
          if isAlpha pk then
            if (digit || isDigit (upper ch0)) then (pending ++ [.ident (.plain (s ++ [upper ch0]))], rest)
            else alphaLoop rest (s ++ [upper ch0]) (digit || isDigit (upper ch0)) pending
          else if isDigit pk || pk = '$' || pk = '!' || pk = '#' || pk = '%' then
            if (scanAlphabetic pending (s ++ [upper ch0])).2.isEmpty then
              ((scanAlphabetic pending (s ++ [upper ch0])).1, rest)
            else alphaLoop rest (scanAlphabetic pending (s ++ [upper ch0])).2 (digit || isDigit (upper ch0))
              (scanAlphabetic pending (s ++ [upper ch0])).1
          else alphaFinish pending (s ++ [upper ch0]) rest := by
  cases rest <;> rfl

/-- what may follow a word or an undecorated name: nothing, or a character that is neither a letter,
    a digit nor a type suffix -/
def AlphaBoundary (rest : List Char) : Prop :=
  ∀ c ∈ rest.head?, isAlpha c = false ∧ isDigit c = false ∧ isSuffixChar c = false

instance (rest : List Char) : Decidable (AlphaBoundary rest) := by
  unfold AlphaBoundary; infer_instance

/-- the identifier kind selected by a type suffix -/
def suffixIdent (c : Char) (s : Str) : TIdent :=
  if c = '$' then .string s else if c = '!' then .single s else if c = '#' then .double s else .integer s

theorem isSuffixChar_iff (c : Char) : isSuffixChar c = true ↔ c = '$' ∨ c = '!' ∨ c = '#' ∨ c = '%' := by
  simp [isSuffixChar, or_assoc]

theorem upper_suffix (c : Char) (h : isSuffixChar c = true) : upper c = c := by
  rw [isSuffixChar_iff] at h
  rcases h with h | h | h | h <;> subst h <;> decide

theorem alphaLoop_suffix (sfx : Char) (h : isSuffixChar sfx = true) (rest : List Char) (s : Str)
    (d : Bool) (p : List Token) :
    alphaLoop (sfx :: rest) s d p = (p ++ [.ident (suffixIdent sfx (s ++ [sfx]))], rest) := by
  rw [isSuffixChar_iff] at h
  rcases h with h | h | h | h <;> subst h <;> simp [alphaLoop_cons, suffixIdent, upper, Char.toUpper] <;> decide

theorem upper_isSuffixChar (c : Char) : isSuffixChar (upper c) = isSuffixChar c := by
  simp only [isSuffixChar, upper_eq_nonletter c '$' (by decide) (by decide),
    upper_eq_nonletter c '!' (by decide) (by decide), upper_eq_nonletter c '#' (by decide) (by decide),
    upper_eq_nonletter c '%' (by decide) (by decide)]

theorem alphaLoop_step (ch0 pk : Char) (tl : List Char) (s : Str) (d : Bool) (p : List Token)
    (h : isSuffixChar ch0 = false) :
    alphaLoop (ch0 :: pk :: tl) s d p =
      if isAlpha pk then
        if d || isDigit (upper ch0) then (p ++ [.ident (.plain (s ++ [upper ch0]))], pk :: tl)
        else alphaLoop (pk :: tl) (s ++ [upper ch0]) (d || isDigit (upper ch0)) p
      else if isDigit pk || isSuffixChar pk then
        if (scanAlphabetic p (s ++ [upper ch0])).2.isEmpty then ((scanAlphabetic p (s ++ [upper ch0])).1, pk :: tl)
        else alphaLoop (pk :: tl) (scanAlphabetic p (s ++ [upper ch0])).2 (d || isDigit (upper ch0))
          (scanAlphabetic p (s ++ [upper ch0])).1
      else alphaFinish p (s ++ [upper ch0]) (pk :: tl) := by
  rw [← upper_isSuffixChar] at h
  simp only [isSuffixChar, Bool.or_eq_false_iff, decide_eq_false_iff_not] at h
  rw [alphaLoop_cons, if_neg h.1.1.1, if_neg h.1.1.2, if_neg h.1.2, if_neg h.2]
  simp only [isSuffixChar, Bool.or_assoc]

theorem alphaLoop_last (ch0 : Char) (s : Str) (d : Bool) (p : List Token) (h : isSuffixChar ch0 = false) :
    alphaLoop [ch0] s d p = alphaFinish p (s ++ [upper ch0]) [] := by
  rw [← upper_isSuffixChar] at h
  simp only [isSuffixChar, Bool.or_eq_false_iff, decide_eq_false_iff_not] at h
  rw [alphaLoop_cons, if_neg h.1.1.1, if_neg h.1.1.2, if_neg h.1.2, if_neg h.2]

theorem isSuffixChar_of_isDigit (k : Char) (hk : isDigit k = true) : isSuffixChar k = false := by
  rw [Bool.eq_false_iff, Ne, isSuffixChar_iff]
  rintro (h | h | h | h) <;> subst h <;> exact absurd hk (by decide)

theorem isSuffixChar_of_isAlpha (c : Char) (h : isAlpha c = true) : isSuffixChar c = false := by
  rw [Bool.eq_false_iff, Ne, isSuffixChar_iff]
  rintro (e | e | e | e) <;> subst e <;> exact absurd h (by decide)

theorem not_isAlpha_of_digit_or_suffix (k : Char) (hk : (isDigit k || isSuffixChar k) = true) :
    isAlpha k = false := by
  cases ha : isAlpha k with
  | false => rfl
  | true => rw [not_isDigit_of_isAlpha k ha, isSuffixChar_of_isAlpha k ha] at hk; cases hk

/-- digits after a name: while a digit or a type suffix follows, the scan of the text (which holds no
    reserved word) finds nothing and the loop goes on -/
theorem alphaLoop_digit (k pk : Char) (tl : List Char) (hk : isDigit k = true)
    (hpk : (isDigit pk || isSuffixChar pk) = true) (s : Str) (d : Bool) (p : List Token)
    (hnk : NoKeyword (s ++ [k])) :
    alphaLoop (k :: pk :: tl) s d p = alphaLoop (pk :: tl) (s ++ [k]) true p := by
  rw [alphaLoop_step _ _ _ _ _ _ (isSuffixChar_of_isDigit k hk),
    if_neg (by rw [not_isAlpha_of_digit_or_suffix pk hpk]; decide), if_pos hpk, upper_of_isDigit k hk,
    scanAlphabetic_noKeyword p _ hnk, if_neg (by simp), hk, Bool.or_true]

/-- the name after its letters `s`: digits, then a type suffix, or else whatever is no digit -/
def alphaTail (p : List Token) (s : Str) (r : List Char) : List Token × List Char :=
  match r.dropWhile isDigit with
  | c :: r' =>
    if isSuffixChar c then (p ++ [.ident (suffixIdent c (s ++ r.takeWhile isDigit ++ [c]))], r')
    else (p ++ [.ident (.plain (s ++ r.takeWhile isDigit))], c :: r')
  | [] => (p ++ [.ident (.plain (s ++ r.takeWhile isDigit))], [])

theorem alphaTail_digit (p : List Token) (s : Str) (k : Char) (r : List Char) (hk : isDigit k = true) :
    alphaTail p s (k :: r) = alphaTail p (s ++ [k]) r := by
  simp [alphaTail, hk]

theorem alphaTail_stop (p : List Token) (s : Str) (r : List Char)
    (hr : ∀ c ∈ r.head?, isDigit c = false ∧ isSuffixChar c = false) :
    alphaTail p s r = (p ++ [.ident (.plain s)], r) := by
  cases r with
  | nil => simp [alphaTail]
  | cons c t => simp [alphaTail, (hr c rfl).1, (hr c rfl).2]

theorem alphaTail_pending (q p : List Token) (s : Str) (r : List Char) :
    alphaTail (q ++ p) s r = (q ++ (alphaTail p s r).1, (alphaTail p s r).2) := by
  unfold alphaTail
  split
  · split <;> simp
  · simp

/-- past the letters: the loop of `alphabetic()` on a digit or a type suffix, the text so far holding no
    reserved word (so every crunch on the way finds nothing) -/
theorem alphaLoop_tail (tl : List Char) : ∀ (k : Char) (s : Str) (d : Bool) (p : List Token),
    (isDigit k || isSuffixChar k) = true → NoKeyword s →
    alphaLoop (k :: tl) s d p = alphaTail p s (k :: tl) := by
  induction tl with
  | nil =>
    intro k s d p hk hn
    cases hd : isDigit k with
    | false =>
      rw [hd, Bool.false_or] at hk
      rw [alphaLoop_suffix k hk]; simp [alphaTail, hd, hk]
    | true =>
      have hn' := noKeyword_snoc s k (not_isUpperAlpha_of_isDigit k hd) hn
      rw [alphaLoop_last _ _ _ _ (isSuffixChar_of_isDigit k hd), upper_of_isDigit k hd, alphaTail_digit _ _ _ _ hd,
        alphaTail_stop _ _ _ (by intro c hc; simp at hc)]
      simp [alphaFinish, scanAlphabetic_noKeyword p _ hn']
  | cons pk tl ih =>
    intro k s d p hk hn
    cases hd : isDigit k with
    | false =>
      rw [hd, Bool.false_or] at hk
      rw [alphaLoop_suffix k hk]; simp [alphaTail, hd, hk]
    | true =>
      have hn' := noKeyword_snoc s k (not_isUpperAlpha_of_isDigit k hd) hn
      rw [alphaTail_digit _ _ _ _ hd]
      cases hpk : (isDigit pk || isSuffixChar pk) with
      | true => rw [alphaLoop_digit k pk tl hd hpk s d p hn', ih pk _ _ _ hpk hn']
      | false =>
        rw [Bool.or_eq_false_iff] at hpk
        rw [alphaLoop_step _ _ _ _ _ _ (isSuffixChar_of_isDigit k hd), upper_of_isDigit k hd, hd, Bool.or_true,
          alphaTail_stop _ _ _ (by intro c hc; simp at hc; subst hc; exact hpk)]
        simp [alphaFinish, scanAlphabetic_noKeyword p _ hn', hpk.1, hpk.2]

/-- through the letters: at the end of the run the text so far is crunched for reserved words; what the
    crunch leaves, if anything, goes on through the digits to a type suffix -/
theorem alphaLoop_span (ls : List Char) (hls : ∀ c ∈ ls, isAlpha c = true) (hne : ls ≠ []) (rest : List Char)
    (hr : ∀ c ∈ rest.head?, isAlpha c = false) (s : Str) (p : List Token) :
    alphaLoop (ls ++ rest) s false p =
      if (scanAlphabetic p (s ++ ls.map upper)).2.isEmpty then ((scanAlphabetic p (s ++ ls.map upper)).1, rest)
      else alphaTail (scanAlphabetic p (s ++ ls.map upper)).1 (scanAlphabetic p (s ++ ls.map upper)).2 rest := by
  induction ls generalizing s with
  | nil => contradiction
  | cons c ls ih =>
    have hc := hls c (by simp)
    have hsx := isSuffixChar_of_isAlpha c hc
    have hd : (false || isDigit (upper c)) = false := by
      rw [isDigit_upper, not_isDigit_of_isAlpha c hc]; rfl
    cases ls with
    | nil =>
      -- the last letter: a digit or type suffix behind it sends the remainder of the crunch round the loop
      have hfin : ∀ r : List Char, (∀ x ∈ r.head?, isDigit x = false ∧ isSuffixChar x = false) →
          alphaFinish p (s ++ [upper c]) r =
            if (scanAlphabetic p (s ++ [upper c])).2.isEmpty then ((scanAlphabetic p (s ++ [upper c])).1, r)
            else alphaTail (scanAlphabetic p (s ++ [upper c])).1 (scanAlphabetic p (s ++ [upper c])).2 r := by
        intro r h
        rw [alphaFinish, alphaTail_stop _ _ _ h]
      simp only [List.map_cons, List.map_nil]
      cases rest with
      | nil => exact (alphaLoop_last _ _ _ _ hsx).trans (hfin [] (by intro x hx; simp at hx))
      | cons pk tl =>
        rw [List.cons_append, List.nil_append, alphaLoop_step _ _ _ _ _ _ hsx, if_neg (by rw [hr pk rfl]; decide), hd]
        cases hpk : (isDigit pk || isSuffixChar pk) with
        | true =>
          rw [if_pos rfl, alphaLoop_tail tl pk _ false _ hpk (scanAlphabetic_left _ _)]
        | false =>
          rw [if_neg (by decide)]
          rw [Bool.or_eq_false_iff] at hpk
          exact hfin _ (by intro x hx; simp at hx; subst hx; exact hpk)
    | cons c' ls' =>
      rw [List.cons_append, List.cons_append, alphaLoop_step _ _ _ _ _ _ hsx, if_pos (hls c' (by simp)), hd,
        if_neg (by decide), ← List.cons_append, ih (fun x hx => hls x (by simp [hx])) (by simp)]
      simp

/-- `alphabetic()`: the run of letters, upper-cased, is crunched for reserved words; what the crunch
    leaves, if anything, goes on through the digits to a type suffix -/
def alphaSpan (cs : List Char) : List Token × List Char :=
  if (scanAlphabetic [] ((cs.takeWhile isAlpha).map upper)).2.isEmpty then
    ((scanAlphabetic [] ((cs.takeWhile isAlpha).map upper)).1, cs.dropWhile isAlpha)
  else alphaTail (scanAlphabetic [] ((cs.takeWhile isAlpha).map upper)).1
    (scanAlphabetic [] ((cs.takeWhile isAlpha).map upper)).2 (cs.dropWhile isAlpha)

theorem alphabetic_eq (pk : Char) (cs : List Char) (h : isAlpha pk = true) :
    alphabetic (pk :: cs) = alphaSpan (pk :: cs) := by
  have := alphaLoop_span ((pk :: cs).takeWhile isAlpha) (takeWhile_all isAlpha _)
    (by simp [h]) _ (dropWhile_head_not isAlpha (pk :: cs)) [] []
  rwa [List.takeWhile_append_dropWhile] at this

/-- `alphabetic()` queues at least one token: either the crunch of the letters found a reserved word, or what it
    left becomes an identifier.  (On an empty queue `Iterator::next` would end the line.) -/
theorem alphabetic_ne (pk : Char) (cs : List Char) (h : isAlpha pk = true) : (alphabetic (pk :: cs)).1 ≠ [] := by
  rw [alphabetic_eq pk cs h, alphaSpan]
  split
  · rename_i hemp
    intro e
    have hs : (scanAlphabetic [] _).2 = _ :=
      (scanAlphaLoop_left _ [] _ (Nat.lt_succ_self _)).2.2 (congrArg List.length e)
    rw [hs] at hemp
    simp [h] at hemp
  · unfold alphaTail
    split
    · split <;> simp
    · simp

/-- the case folding `number()` applies to the character it consumes -/
def foldED (c : Char) : Char := if c = 'e' then 'E' else if c = 'd' then 'D' else c

/-- the digit counter after consuming `ch` -/
def numDigits (ex : Bool) (ch : Char) (dg : Nat) : Nat :=
  if ch = 'D' then (if !ex && isDigit ch then dg + 1 else dg) + 8
  else (if !ex && isDigit ch then dg + 1 else dg)

/-- `number()` keeps scanning when it peeks this character (the consumed one not being E/D) -/
def numCont (ex dec : Bool) (pk : Char) : Bool :=
  isDigit pk || (!ex && !dec && pk = '.') || (!ex && (pk = 'E' || pk = 'e' || pk = 'D' || pk = 'd'))
    || (pk = '!' || pk = '#' || pk = '%')

/-- the literal kind selected by a numeric type suffix -/
def suffixLiteral (c : Char) (s : Str) : Literal :=
  if c = '!' then .single s else if c = '#' then .double s else .integer s

def isNumSuffix (c : Char) : Bool := c = '!' || c = '#' || c = '%'

theorem isNumSuffix_iff (c : Char) : isNumSuffix c = true ↔ c = '!' ∨ c = '#' ∨ c = '%' := by
  simp [isNumSuffix, or_assoc]

theorem numberLoop_cons (ch0 : Char) (rest : List Char) (s : Str) (dg : Nat) (dec ex : Bool) :
    numberLoop (ch0 :: rest) s dg dec ex =
      if foldED ch0 = '!' then (.literal (.single (s ++ [foldED ch0])), rest)
      else if foldED ch0 = '#' then (.literal (.double (s ++ [foldED ch0])), rest)
      else if foldED ch0 = '%' then (.literal (.integer (s ++ [foldED ch0])), rest)
      else match rest with
        | [] => (numberFinish (s ++ [foldED ch0]) (numDigits ex (foldED ch0) dg) (dec || foldED ch0 = '.') ex, [])
        | pk :: _ =>
          if foldED ch0 = 'E' || foldED ch0 = 'D' then
            if pk = '+' || pk = '-' then
              numberLoop rest (s ++ [foldED ch0]) (numDigits ex (foldED ch0) dg) (dec || foldED ch0 = '.') true
            else if !isDigit pk then
              (numberFinish (s ++ [foldED ch0]).dropLast
                (if foldED ch0 = 'D' then numDigits ex (foldED ch0) dg - 8 else numDigits ex (foldED ch0) dg)
                (dec || foldED ch0 = '.') false, foldED ch0 :: rest)
            else numberLoop rest (s ++ [foldED ch0]) (numDigits ex (foldED ch0) dg) (dec || foldED ch0 = '.') true
          else if isDigit pk then
            numberLoop rest (s ++ [foldED ch0]) (numDigits ex (foldED ch0) dg) (dec || foldED ch0 = '.') ex
          else if !ex && !(dec || foldED ch0 = '.') && pk = '.' then
            numberLoop rest (s ++ [foldED ch0]) (numDigits ex (foldED ch0) dg) (dec || foldED ch0 = '.') ex
          else if !ex && (pk = 'E' || pk = 'e' || pk = 'D' || pk = 'd') then
            numberLoop rest (s ++ [foldED ch0]) (numDigits ex (foldED ch0) dg) (dec || foldED ch0 = '.') ex
          else if pk = '!' || pk = '#' || pk = '%' then
            numberLoop rest (s ++ [foldED ch0]) (numDigits ex (foldED ch0) dg) (dec || foldED ch0 = '.') ex
          else (numberFinish (s ++ [foldED ch0]) (numDigits ex (foldED ch0) dg) (dec || foldED ch0 = '.') ex, rest) := by
  cases rest <;> rfl

/-- an exponent letter, either case -/
def isExpLetter (c : Char) : Bool := c = 'E' || c = 'e' || c = 'D' || c = 'd'

/-- the character after an exponent letter that makes `number()` take the letter as the start of an
    exponent part: a sign or a digit -/
def startsExponent (pk : Char) : Bool := pk = '+' || pk = '-' || isDigit pk

theorem isExpLetter_iff (e : Char) : isExpLetter e = true ↔ foldED e = 'E' ∨ foldED e = 'D' := by
  unfold foldED isExpLetter
  by_cases h1 : e = 'e'
  · subst h1
    decide
  · by_cases h2 : e = 'd'
    · subst h2
      decide
    · simp [h1, h2]

theorem foldED_expLetter (e : Char) (he : isExpLetter e = true) : foldED e = 'E' ∨ foldED e = 'D' :=
  (isExpLetter_iff e).1 he

/-- what `number()` does after a character that is no type suffix: go on (in which exponent state), stop, or un-read an
    exponent letter -/
inductive NumDec where
  | cont (ex : Bool) | stop | push

/-- the decision of `number()` after consuming `ch` (not a type suffix) and peeking `pk` -/
def numDecide (ch pk : Char) (dec ex : Bool) : NumDec :=
  if ch = 'E' || ch = 'D' then
    if pk = '+' || pk = '-' then .cont true
    else if !isDigit pk then .push else .cont true
  else if isDigit pk then .cont ex
  else if !ex && !dec && pk = '.' then .cont ex
  else if !ex && (pk = 'E' || pk = 'e' || pk = 'D' || pk = 'd') then .cont ex
  else if pk = '!' || pk = '#' || pk = '%' then .cont ex
  else .stop

theorem not_suffix_of_isNumSuffix (c : Char) (h : isNumSuffix c = false) : c ≠ '!' ∧ c ≠ '#' ∧ c ≠ '%' := by
  simpa [isNumSuffix, and_assoc] using h

/-- one turn of the loop of `number()` with a character to peek at.  `numberLoop_cons` and `numDecide`
    branch on the same conditions in the same order: a case split on those conditions (as Booleans, so that
    both sides are rewritten at once) leaves each case to reduction. -/
theorem numberLoop_step (ch0 pk : Char) (tl : List Char) (s : Str) (dg : Nat) (dec ex : Bool)
    (h : isNumSuffix (foldED ch0) = false) :
    numberLoop (ch0 :: pk :: tl) s dg dec ex =
      match numDecide (foldED ch0) pk (dec || foldED ch0 = '.') ex with
      | .cont ex' => numberLoop (pk :: tl) (s ++ [foldED ch0]) (numDigits ex (foldED ch0) dg)
          (dec || foldED ch0 = '.') ex'
      | .stop => (numberFinish (s ++ [foldED ch0]) (numDigits ex (foldED ch0) dg) (dec || foldED ch0 = '.') ex,
          pk :: tl)
      | .push => (numberFinish (s ++ [foldED ch0]).dropLast
          (if foldED ch0 = 'D' then numDigits ex (foldED ch0) dg - 8 else numDigits ex (foldED ch0) dg)
          (dec || foldED ch0 = '.') false, foldED ch0 :: pk :: tl) := by
  obtain ⟨h1, h2, h3⟩ := not_suffix_of_isNumSuffix _ h
  rw [numberLoop_cons, if_neg h1, if_neg h2, if_neg h3]
  simp only [numDecide]
  cases (decide (foldED ch0 = 'E') || decide (foldED ch0 = 'D')) with
  | true =>
    cases (decide (pk = '+') || decide (pk = '-')) with
    | true => rfl
    | false => cases (!isDigit pk) <;> rfl
  | false =>
    cases isDigit pk with
    | true => rfl
    | false =>
      cases (!ex && !(dec || decide (foldED ch0 = '.')) && decide (pk = '.')) with
      | true => rfl
      | false =>
        cases (!ex && (decide (pk = 'E') || decide (pk = 'e') || decide (pk = 'D') || decide (pk = 'd'))) with
        | true => rfl
        | false => cases (decide (pk = '!') || decide (pk = '#') || decide (pk = '%')) <;> rfl

theorem numberLoop_last (ch0 : Char) (s : Str) (dg : Nat) (dec ex : Bool)
    (h : isNumSuffix (foldED ch0) = false) :
    numberLoop [ch0] s dg dec ex =
      (numberFinish (s ++ [foldED ch0]) (numDigits ex (foldED ch0) dg) (dec || foldED ch0 = '.') ex, []) := by
  obtain ⟨h1, h2, h3⟩ := not_suffix_of_isNumSuffix _ h
  rw [numberLoop_cons, if_neg h1, if_neg h2, if_neg h3]

theorem numberLoop_sfx (ch0 : Char) (rest : List Char) (s : Str) (dg : Nat) (dec ex : Bool)
    (h : isNumSuffix (foldED ch0) = true) :
    numberLoop (ch0 :: rest) s dg dec ex = (.literal (suffixLiteral (foldED ch0) (s ++ [foldED ch0])), rest) := by
  rw [numberLoop_cons]
  rw [isNumSuffix_iff] at h
  rcases h with h | h | h <;> rw [h] <;> simp [suffixLiteral]

theorem foldED_foldED (c : Char) : foldED (foldED c) = foldED c := by
  unfold foldED
  by_cases h1 : c = 'e'
  · subst h1; decide
  · by_cases h2 : c = 'd'
    · subst h2; decide
    · simp [h1, h2]

theorem numDecide_foldED (ch pk : Char) (dec ex : Bool) :
    numDecide ch (foldED pk) dec ex = numDecide ch pk dec ex := by
  unfold foldED
  split
  · rename_i h; subst h; simp [numDecide, isDigit]
  split
  · rename_i h; subst h; simp [numDecide, isDigit]
  · rfl

theorem numDecide_stop (ch c : Char) (dec ex : Bool) (h1 : ch ≠ 'E') (h2 : ch ≠ 'D')
    (hc : numCont false false c = false) : numDecide ch c dec ex = .stop := by
  simp only [numCont, Bool.or_eq_false_iff, Bool.not_false, Bool.true_and,
    decide_eq_false_iff_not] at hc
  obtain ⟨⟨⟨hd, hdot⟩, ⟨⟨⟨he1, he2⟩, he3⟩, he4⟩⟩, ⟨⟨hs1, hs2⟩, hs3⟩⟩ := hc
  simp [numDecide, h1, h2, hd, hdot, he1, he2, he3, he4, hs1, hs2, hs3]

theorem numDecide_stop_inv (ch pk : Char) (dec ex : Bool) (h : numDecide ch pk dec ex = .stop) :
    ch ≠ 'E' ∧ ch ≠ 'D' ∧ isDigit pk = false ∧ isNumSuffix pk = false := by
  unfold numDecide at h
  split at h
  · split at h
    · cases h
    · split at h <;> cases h
  · rename_i hED
    split at h
    · cases h
    rename_i hd
    split at h
    · cases h
    split at h
    · cases h
    split at h
    · cases h
    rename_i hs
    simp only [Bool.or_eq_true, decide_eq_true_eq, not_or] at hED hs
    refine ⟨hED.1, hED.2, by simpa using hd, ?_⟩
    simp [isNumSuffix, hs.1.1, hs.1.2, hs.2]

theorem numDecide_push_inv (ch pk : Char) (dec ex : Bool) (h : numDecide ch pk dec ex = .push) :
    (ch = 'E' ∨ ch = 'D') ∧ startsExponent pk = false := by
  unfold numDecide at h
  split at h
  · rename_i hED
    split at h
    · cases h
    rename_i hsg
    split at h
    · rename_i hd
      simp only [Bool.or_eq_true, decide_eq_true_eq, not_or] at hED hsg
      exact ⟨hED, by simpa [startsExponent, hsg.1, hsg.2] using hd⟩
    · cases h
  · split at h
    · cases h
    split at h
    · cases h
    split at h
    · cases h
    split at h <;> cases h

theorem isDigit_foldED (c : Char) : isDigit (foldED c) = isDigit c := by
  unfold foldED
  split
  · rename_i h; subst h; decide
  split
  · rename_i h; subst h; decide
  · rfl

theorem numDecide_cont_ED (ch pk : Char) (dec ex ex' : Bool) (h : numDecide ch pk dec ex = .cont ex')
    (hE : foldED pk = 'E' ∨ foldED pk = 'D') : ch ≠ 'E' ∧ ch ≠ 'D' ∧ ex = false ∧ ex' = false := by
  have hd : isDigit pk = false := by
    rw [← isDigit_foldED]; rcases hE with e | e <;> rw [e] <;> decide
  have hsg : pk ≠ '+' ∧ pk ≠ '-' ∧ pk ≠ '.' ∧ pk ≠ '!' ∧ pk ≠ '#' ∧ pk ≠ '%' := by
    refine ⟨?_, ?_, ?_, ?_, ?_, ?_⟩ <;>
      (intro h; subst h; rcases hE with e | e <;> exact absurd e (by decide))
  unfold numDecide at h
  split at h
  · simp only [hsg.1, hsg.2.1, hd, decide_false, Bool.or_false, Bool.false_eq_true, if_false,
      Bool.not_false, if_true] at h
    cases h
  · rename_i hED
    simp only [Bool.or_eq_true, decide_eq_true_eq, not_or] at hED
    simp only [hd, Bool.false_eq_true, if_false, hsg.2.2.1, decide_false, Bool.and_false,
      hsg.2.2.2.1, hsg.2.2.2.2.1, hsg.2.2.2.2.2, Bool.or_false] at h
    split at h
    · rename_i hc
      cases h
      simp only [Bool.and_eq_true, Bool.not_eq_true'] at hc
      exact ⟨hED.1, hED.2, hc.1, hc.1⟩
    · cases h

theorem numberLoop_unread (e x : Char) (r : List Char) (he : isExpLetter e = true) (hx : startsExponent x = false)
    (s : Str) (dg : Nat) (dec : Bool) :
    numberLoop (e :: x :: r) s dg dec false = (numberFinish s dg dec false, foldED e :: x :: r) := by
  have hE := foldED_expLetter e he
  simp only [startsExponent, Bool.or_eq_false_iff, decide_eq_false_iff_not] at hx
  obtain ⟨⟨hx1, hx2⟩, hx3⟩ := hx
  have hpush : numDecide (foldED e) x (dec || decide (foldED e = '.')) false = .push := by
    rcases hE with h | h <;> simp [numDecide, h, hx1, hx2, hx3]
  rw [numberLoop_step e x r s dg dec false (by rcases hE with h | h <;> rw [h] <;> rfl), hpush]
  rcases hE with h | h <;> simp [h, numDigits, isDigit]

theorem ite_cascade {α} (a b c d : Bool) (x y : α) :
    (if a then x else if b then x else if c then x else if d then x else y) =
      if (a || b || c || d) then x else y := by
  cases a <;> cases b <;> cases c <;> cases d <;> rfl

/-! The loop of `number()` in a second presentation.  On the text of a canonical numeral nothing is un-read and an exponent
  letter is met at one place only (`numberAfter_exponent`), so the lemmas of Lemmas/LexForms go digit run by digit run and
  want, between two runs, "stop here or go on" (`numberAfter`, `numberLoop_plain`); on arbitrary text every turn can stop,
  go on or un-read, which is `numDecide` above (`numberLoop_step`). -/

/-- the state of `number()` after a character that is not an exponent letter: stop, or go on -/
def numberAfter (rest : List Char) (s : Str) (dg : Nat) (dec ex : Bool) : Token × List Char :=
  match rest with
  | [] => (numberFinish s dg dec ex, [])
  | pk :: _ => if numCont ex dec pk then numberLoop rest s dg dec ex else (numberFinish s dg dec ex, rest)

theorem numberLoop_plain (c : Char) (h : foldED c = c ∧ c ≠ 'E' ∧ c ≠ 'D' ∧ isNumSuffix c = false)
    (rest : List Char) (s : Str) (dg : Nat) (dec ex : Bool) :
    numberLoop (c :: rest) s dg dec ex =
      numberAfter rest (s ++ [c]) (if !ex && isDigit c then dg + 1 else dg) (dec || c = '.') ex := by
  obtain ⟨hf, h3, h4, hs⟩ := h
  obtain ⟨h5, h6, h7⟩ := not_suffix_of_isNumSuffix c hs
  rw [numberLoop_cons]
  simp only [hf, h3, h4, h5, h6, h7, if_false, numDigits, decide_false, Bool.or_false, Bool.false_eq_true]
  cases rest with
  | nil => rfl
  | cons pk tl =>
    simp only [numberAfter, numCont]
    exact ite_cascade _ _ _ _ _ _

theorem plain_of_isDigit (k : Char) (hk : isDigit k = true) :
    foldED k = k ∧ k ≠ 'E' ∧ k ≠ 'D' ∧ isNumSuffix k = false := by
  have hne : ∀ c : Char, isDigit c = false → k ≠ c := fun c hc e => by
    rw [e, hc] at hk
    cases hk
  refine ⟨?_, hne _ (by decide), hne _ (by decide), ?_⟩
  · simp [foldED, hne 'e' (by decide), hne 'd' (by decide)]
  · simp [isNumSuffix, hne '!' (by decide), hne '#' (by decide), hne '%' (by decide)]

theorem numHead_plain (c : Char) (h : (isDigit c || c = '.') = true) :
    foldED c = c ∧ c ≠ 'E' ∧ c ≠ 'D' ∧ isNumSuffix c = false := by
  simp only [Bool.or_eq_true, decide_eq_true_eq] at h
  rcases h with h | h
  · exact plain_of_isDigit c h
  · subst h
    decide

theorem numCont_of_isDigit (ex dec : Bool) (k : Char) (hk : isDigit k = true) : numCont ex dec k = true := by
  simp [numCont, hk]

theorem numberAfter_cont (k : Char) (tl : List Char) (s : Str) (dg : Nat) (dec ex : Bool)
    (h : numCont ex dec k = true) :
    numberAfter (k :: tl) s dg dec ex = numberLoop (k :: tl) s dg dec ex := by
  simp [numberAfter, h]

theorem numberLoop_digits (ds : List Char) (hds : ∀ c ∈ ds, isDigit c = true) (hne : ds ≠ [])
    (rest : List Char) (s : Str) (dg : Nat) (dec ex : Bool) :
    numberLoop (ds ++ rest) s dg dec ex =
      numberAfter rest (s ++ ds) (if ex then dg else dg + ds.length) dec ex := by
  induction ds generalizing s dg with
  | nil => contradiction
  | cons k ds ih =>
    have hk := hds k (by simp)
    have hdot : k ≠ '.' := ne_of_isDigit _ _ hk (by decide)
    rw [List.cons_append, numberLoop_plain k (plain_of_isDigit k hk)]
    simp only [hk, hdot, decide_false, Bool.or_false, Bool.and_true]
    cases ds with
    | nil => cases ex <;> simp
    | cons k' ds' =>
      have hk' := hds k' (by simp)
      rw [List.cons_append, numberAfter_cont _ _ _ _ _ _ (numCont_of_isDigit _ _ k' hk')]
      have := ih (fun c hc => hds c (by simp [hc])) (by simp) (s ++ [k])
        (if (!ex) = true then dg + 1 else dg)
      simp only [List.cons_append] at this
      rw [this]
      cases ex <;> simp <;> congr 1 <;> omega

/-- what may follow a numeral: nothing, or a character on which `number()` stops in every state -/
def NumBoundary (rest : List Char) : Prop := ∀ c ∈ rest.head?, numCont false false c = false

instance (rest : List Char) : Decidable (NumBoundary rest) := by
  unfold NumBoundary; infer_instance

theorem numCont_mono (ex dec : Bool) (c : Char) (h : numCont false false c = false) :
    numCont ex dec c = false := by
  simp only [numCont, Bool.or_eq_false_iff, Bool.and_eq_false_iff, Bool.not_false, Bool.true_and,
    decide_eq_false_iff_not] at h ⊢
  obtain ⟨⟨⟨h1, h2⟩, ⟨⟨h3, h4⟩, h5⟩, h6⟩, h7⟩ := h
  simp [h1, h2, h3, h4, h5, h6, h7]

theorem numberAfter_stop (rest : List Char) (s : Str) (dg : Nat) (dec ex : Bool)
    (hb : ∀ c ∈ rest.head?, numCont ex dec c = false) :
    numberAfter rest s dg dec ex = (numberFinish s dg dec ex, rest) := by
  cases rest with
  | nil => rfl
  | cons c tl => simp [numberAfter, hb c (by simp)]

theorem numberAfter_boundary (rest : List Char) (hb : NumBoundary rest) (s : Str) (dg : Nat)
    (dec ex : Bool) : numberAfter rest s dg dec ex = (numberFinish s dg dec ex, rest) :=
  numberAfter_stop rest s dg dec ex fun c hc => numCont_mono ex dec c (hb c hc)

theorem numberAfter_suffix (sfx : Char) (h : isNumSuffix sfx = true) (rest : List Char) (s : Str)
    (dg : Nat) (dec ex : Bool) :
    numberAfter (sfx :: rest) s dg dec ex = (.literal (suffixLiteral sfx (s ++ [sfx])), rest) := by
  rw [isNumSuffix_iff] at h
  rcases h with h | h | h <;> subst h <;>
    simp [numberAfter, numCont, numberLoop_cons, foldED, suffixLiteral]

theorem numberLoop_dot (rest : List Char) (s : Str) (dg : Nat) (dec ex : Bool) :
    numberLoop ('.' :: rest) s dg dec ex = numberAfter rest (s ++ ['.']) dg true ex := by
  rw [numberLoop_plain '.' (by decide)]
  simp [isDigit]

theorem numberAfter_digits (ds : List Char) (hds : ∀ c ∈ ds, isDigit c = true)
    (rest : List Char) (s : Str) (dg : Nat) (dec ex : Bool) :
    numberAfter (ds ++ rest) s dg dec ex =
      numberAfter rest (s ++ ds) (if ex then dg else dg + ds.length) dec ex := by
  cases ds with
  | nil => cases ex <;> simp
  | cons k ds' =>
    rw [List.cons_append, numberAfter_cont _ _ _ _ _ _ (numCont_of_isDigit _ _ k (hds k (by simp))),
      ← List.cons_append, numberLoop_digits (k :: ds') hds (by simp)]

theorem numberLoop_decimal (ds1 ds2 : List Char) (h1 : ∀ c ∈ ds1, isDigit c = true)
    (h2 : ∀ c ∈ ds2, isDigit c = true) (rest : List Char) :
    numberLoop (ds1 ++ '.' :: (ds2 ++ rest)) [] 0 false false =
      numberAfter rest (ds1 ++ '.' :: ds2) (ds1.length + ds2.length) true false := by
  have key : ∀ s dg, numberLoop ('.' :: (ds2 ++ rest)) s dg false false =
      numberAfter rest (s ++ '.' :: ds2) (dg + ds2.length) true false := by
    intro s dg
    rw [numberLoop_dot, numberAfter_digits ds2 h2]
    simp
  cases ds1 with
  | nil => simpa using key [] 0
  | cons k ds1' =>
    rw [numberLoop_digits (k :: ds1') h1 (by simp),
      numberAfter_cont '.' _ _ _ _ _ (by simp [numCont]), key]
    simp

theorem numberAfter_exponent (e : Char) (he : e = 'E' ∨ e = 'D' ∨ e = 'e' ∨ e = 'd')
    (sign : List Char) (hsign : sign = [] ∨ sign = ['+'] ∨ sign = ['-'])
    (ds : List Char) (hds : ∀ c ∈ ds, isDigit c = true) (hne : ds ≠ [])
    (rest : List Char) (s : Str) (dg : Nat) (dec : Bool) :
    numberAfter (e :: (sign ++ (ds ++ rest))) s dg dec false =
      numberAfter rest (s ++ foldED e :: sign ++ ds) (if foldED e = 'D' then dg + 8 else dg) dec true := by
  obtain ⟨k, ds', rfl⟩ : ∃ k ds', ds = k :: ds' := by
    cases ds with
    | nil => contradiction
    | cons k ds' => exact ⟨k, ds', rfl⟩
  have hk := hds k (by simp)
  have hcont : numCont false dec e = true := by
    rcases he with h | h | h | h <;> subst h <;> simp [numCont]
  have hE : foldED e = 'E' ∨ foldED e = 'D' := by
    rcases he with h | h | h | h <;> subst h <;> simp [foldED]
  have hns : foldED e ≠ '!' ∧ foldED e ≠ '#' ∧ foldED e ≠ '%' ∧ foldED e ≠ '.' := by
    rcases hE with h | h <;> rw [h] <;> decide
  have hnd : isDigit (foldED e) = false := by
    rcases hE with h | h <;> rw [h] <;> rfl
  have hED : (decide (foldED e = 'E') || decide (foldED e = 'D')) = true := by
    rcases hE with h | h <;> simp [h]
  have hdg : numDigits false (foldED e) dg = if foldED e = 'D' then dg + 8 else dg := by
    simp [numDigits, hnd]
  obtain ⟨n1, n2, n3, n4⟩ := hns
  rw [numberAfter_cont _ _ _ _ _ _ hcont, numberLoop_cons]
  simp only [n1, n2, n3, n4, if_false, hED, if_true, hdg, decide_false, Bool.or_false]
  have hpm : k ≠ '+' ∧ k ≠ '-' := ⟨ne_of_isDigit _ _ hk (by decide), ne_of_isDigit _ _ hk (by decide)⟩
  have hsgn : ∀ (sg : Char), sg = '+' ∨ sg = '-' → ∀ s' dg',
      numberLoop (sg :: k :: (ds' ++ rest)) s' dg' dec true =
        numberAfter rest (s' ++ sg :: k :: ds') dg' dec true := by
    intro sg hsg s' dg'
    rw [numberLoop_plain sg (by rcases hsg with h | h <;> subst h <;> decide)]
    have : isDigit sg = false ∧ sg ≠ '.' := by rcases hsg with h | h <;> subst h <;> decide
    simp only [this.1, this.2, Bool.and_false, Bool.false_eq_true, if_false, decide_false, Bool.or_false]
    rw [numberAfter_cont _ _ _ _ _ _ (numCont_of_isDigit _ _ k hk), ← List.cons_append,
      numberLoop_digits (k :: ds') hds (by simp)]
    simp
  simp only [List.cons_append]
  rcases hsign with h | h | h <;> subst h
  · simp only [List.nil_append, hpm.1, hpm.2, decide_false, Bool.or_false,
      Bool.false_eq_true, if_false, hk, Bool.not_true]
    rw [← List.cons_append, numberLoop_digits (k :: ds') hds (by simp)]
    simp
  · simp only [List.cons_append, List.nil_append, decide_true, Bool.true_or, if_true]
    rw [hsgn '+' (Or.inl rfl)]
    simp
  · simp only [List.cons_append, List.nil_append, decide_true, Bool.or_true, if_true]
    rw [hsgn '-' (Or.inr rfl)]
    simp

def numTok (t : Token) (s : Str) : Prop :=
  t = .literal (.single s) ∨ t = .literal (.double s) ∨ t = .literal (.integer s)

theorem numberFinish_numTok (s : Str) (dg : Nat) (dec ex : Bool) : numTok (numberFinish s dg dec ex) s := by
  unfold numberFinish numTok
  split
  · exact Or.inr (Or.inl rfl)
  split
  · exact Or.inr (Or.inr rfl)
  · exact Or.inl rfl

theorem suffixLiteral_numTok (c : Char) (s : Str) : numTok (.literal (suffixLiteral c s)) s := by
  unfold suffixLiteral numTok
  split
  · exact Or.inl rfl
  split
  · exact Or.inr (Or.inl rfl)
  · exact Or.inr (Or.inr rfl)

/-- the configuration in which `number()` un-reads an exponent letter -/
def PB (cs : List Char) : Prop :=
  ∃ e x r, cs = e :: x :: r ∧ isExpLetter e = true ∧ startsExponent x = false

theorem not_PB_of_numHead (c : Char) (cs : List Char) (h : (isDigit c || c = '.') = true) : ¬ PB (c :: cs) := by
  rintro ⟨e, x, r, he, hE', -⟩
  obtain ⟨rfl, -⟩ := List.cons.inj he
  have hE := foldED_expLetter _ hE'
  obtain ⟨hf, h1, h2, -⟩ := numHead_plain c h
  rw [hf] at hE
  exact hE.elim h1 h2

/-- induction along the loop of `number()` on a text that does not start with an exponent letter to be un-read: the
    numeral ends behind the first character with a type suffix (`sfx`), or without one (`ends`: at the end of the text,
    in front of a character the loop stops at, or in front of an exponent letter it un-reads), or the loop goes on -/
theorem numberLoop_induct {P : List Char → Str → Nat → Bool → Bool → Prop}
    (sfx : ∀ ch0 r s dg dec ex, isNumSuffix (foldED ch0) = true →
      numberLoop (ch0 :: r) s dg dec ex = (.literal (suffixLiteral (foldED ch0) (s ++ [foldED ch0])), r) →
      P (ch0 :: r) s dg dec ex)
    (ends : ∀ ch0 r s dg dec ex cs', isNumSuffix (foldED ch0) = false →
      numberLoop (ch0 :: r) s dg dec ex =
        (numberFinish (s ++ [foldED ch0]) (numDigits ex (foldED ch0) dg) (dec || foldED ch0 = '.') ex, cs') →
      (cs' = r ∨ ∃ e r', r = e :: r' ∧ cs' = foldED e :: r' ∧ (foldED e = 'E' ∨ foldED e = 'D')) →
      (∀ c ∈ cs'.head?, (foldED ch0 ≠ 'E' ∧ foldED ch0 ≠ 'D') ∧
        (isAlpha c = true ∨ (isDigit c = false ∧ isNumSuffix c = false))) →
      P (ch0 :: r) s dg dec ex)
    (cont : ∀ ch0 pk tl s dg dec ex ex', isNumSuffix (foldED ch0) = false →
      numDecide (foldED ch0) pk (dec || foldED ch0 = '.') ex = .cont ex' →
      numberLoop (ch0 :: pk :: tl) s dg dec ex =
        numberLoop (pk :: tl) (s ++ [foldED ch0]) (numDigits ex (foldED ch0) dg) (dec || foldED ch0 = '.') ex' →
      P (pk :: tl) (s ++ [foldED ch0]) (numDigits ex (foldED ch0) dg) (dec || foldED ch0 = '.') ex' →
      P (ch0 :: pk :: tl) s dg dec ex) :
    ∀ cs s dg dec ex, cs ≠ [] → ¬ PB cs → P cs s dg dec ex := by
  intro cs
  induction cs with
  | nil => intro s dg dec ex h; exact absurd rfl h
  | cons ch0 r ih =>
    intro s dg dec ex _ hpb
    by_cases hsfx : isNumSuffix (foldED ch0) = true
    · exact sfx ch0 r s dg dec ex hsfx (numberLoop_sfx ch0 r s dg dec ex hsfx)
    · have hsfx' : isNumSuffix (foldED ch0) = false := by simpa using hsfx
      cases r with
      | nil => exact ends ch0 [] s dg dec ex [] hsfx' (numberLoop_last ch0 s dg dec ex hsfx') (Or.inl rfl) nofun
      | cons pk tl =>
        have hstep := numberLoop_step ch0 pk tl s dg dec ex hsfx'
        cases hdec : numDecide (foldED ch0) pk (dec || foldED ch0 = '.') ex with
        | stop =>
          rw [hdec] at hstep
          obtain ⟨hE, hD, hdg, hsx⟩ := numDecide_stop_inv _ _ _ _ hdec
          exact ends ch0 _ s dg dec ex _ hsfx' hstep (Or.inl rfl)
            fun c hc => ⟨⟨hE, hD⟩, Or.inr (Option.some.inj hc ▸ ⟨hdg, hsx⟩)⟩
        | push =>
          exact absurd ⟨ch0, pk, tl, rfl, (isExpLetter_iff _).2 (numDecide_push_inv _ _ _ _ hdec).1,
            (numDecide_push_inv _ _ _ _ hdec).2⟩ hpb
        | cont ex' =>
          rw [hdec] at hstep
          simp only at hstep
          by_cases hpb2 : PB (pk :: tl)
          · -- the exponent letter `pk` is un-read
            obtain ⟨e, x, r', he, hE', hx⟩ := hpb2
            obtain ⟨rfl, rfl⟩ := List.cons.inj he
            have hE := foldED_expLetter _ hE'
            obtain ⟨hE0, hD0, hex, hex'⟩ := numDecide_cont_ED _ _ _ _ _ hdec hE
            subst hex; subst hex'
            rw [numberLoop_unread pk x r' hE' hx] at hstep
            refine ends ch0 _ s dg dec false _ hsfx' hstep (Or.inr ⟨pk, _, rfl, rfl, hE⟩)
              fun c hc => ⟨⟨hE0, hD0⟩, Or.inl ?_⟩
            cases hc
            rcases hE with e | e <;> rw [e] <;> decide
          · exact cont ch0 pk tl s dg dec ex ex' hsfx' hdec hstep (ih _ _ _ _ (by simp) hpb2)

/-- what `number()` consumes: the token text is the (case-folded) first `k` characters; the remainder is
    the rest, except that an un-read exponent letter comes back upper-cased; and if the rest starts with
    a digit, the consumed text holds a non-digit (a type suffix) -/
theorem numberLoop_consumed (cs : List Char) : ∀ (s : Str) (dg : Nat) (dec ex : Bool),
    cs ≠ [] → ¬ PB cs →
    ∃ k, 0 < k ∧ numTok (numberLoop cs s dg dec ex).1 (s ++ (cs.take k).map foldED) ∧
      ((numberLoop cs s dg dec ex).2 = cs.drop k ∨
        ∃ e r, cs.drop k = e :: r ∧ (numberLoop cs s dg dec ex).2 = foldED e :: r ∧
          (foldED e = 'E' ∨ foldED e = 'D')) ∧
      (∀ c ∈ (cs.drop k).head?, isDigit c = true → ∃ x ∈ cs.take k, isDigit x = false) := by
  revert cs
  refine numberLoop_induct ?_ ?_ ?_
  · intro ch0 r s dg dec ex hsfx heq
    rw [heq]
    refine ⟨1, by decide, by simpa using suffixLiteral_numTok _ _, Or.inl (by simp), ?_⟩
    intro c _ _
    refine ⟨ch0, by simp, ?_⟩
    rw [← isDigit_foldED]
    rw [isNumSuffix_iff] at hsfx
    rcases hsfx with e | e | e <;> rw [e] <;> decide
  · intro ch0 r s dg dec ex cs' _ heq hrest hstop
    rw [heq]
    refine ⟨1, by decide, by simpa using numberFinish_numTok _ _ _ _, by simpa using hrest, ?_⟩
    -- what is left starts with no digit
    intro c hc hd
    exfalso
    rcases hrest with rfl | ⟨e, r', rfl, -, hE⟩
    · rcases (hstop c (by simpa using hc)).2 with ha | ⟨hnd, -⟩
      · rw [not_isDigit_of_isAlpha c ha] at hd; cases hd
      · rw [hnd] at hd; cases hd
    · simp at hc; subst hc
      rw [← isDigit_foldED] at hd
      rcases hE with e | e <;> rw [e] at hd <;> exact absurd hd (by decide)
  · intro ch0 pk tl s dg dec ex ex' _ _ heq ⟨k, hk, h1, h2, h3⟩
    rw [heq]
    refine ⟨k + 1, by omega, by simpa using h1, by simpa using h2, ?_⟩
    intro c hc hd
    obtain ⟨x, hx, hxd⟩ := h3 c (by simpa using hc) hd
    exact ⟨x, by simp [hx], hxd⟩

end Lex
end Basic

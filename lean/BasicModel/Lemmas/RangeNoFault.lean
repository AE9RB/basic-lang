import BasicModel.Lemmas.Session
import BasicModel.Lemmas.ParseRun
/-
  The ranges handed to `Listing.removeRange` / `Listing.listLine` (the real code panics in
  `BTreeMap::range` when the start is greater than the end):

  * the parser's `lineNumberRange` only returns ordered pairs of line literals `m ≤ n ≤ 65529`;
  * `doList` / `doDelete` use exactly `toLineNumber` of the two top values of the stack (in closed form:
    `doList_range`, `run_doDelete`).

  `LineLiteralRoundTrip` is the one fact the kernel cannot compute (`Float32.ofNat` is opaque): a
  line-number literal converts back to its number.  It is validated by the differential tests
  (`toline` requests of the ops layer) and is a hypothesis wherever it is used.
-/
namespace Basic

/-- a Single literal built from a line number converts back to that line number -/
def LineLiteralRoundTrip : Prop :=
  ∀ n, n ≤ maxLineNumber → (Val.sng (F.b32 (Float32.ofNat n))).toLineNumber = .ok (some n)

namespace Parse

/-- partial correctness of a parser action, on the value only -/
structure Ret {α : Type} (m : PM α) (Q : α → Prop) : Prop where
  out : ∀ s a s', m.run s = .ok (a, s') → Q a

theorem Ret.pure {α} {Q : α → Prop} {a : α} (h : Q a) : Ret (pure a : PM α) Q :=
  ⟨fun s a' s' hr => by cases hr; exact h⟩

theorem Ret.bind {α β} {Q : α → Prop} {R : β → Prop} {m : PM α} {k : α → PM β}
    (hm : Ret m Q) (hk : ∀ a, Q a → Ret (k a) R) : Ret (m >>= k) R := by
  constructor
  intro s b s' hr
  simp only [StateT.run_bind] at hr
  cases hms : m.run s with
  | error e => rw [hms] at hr; cases hr
  | ok p =>
    rw [hms] at hr
    exact (hk p.1 (hm.out s p.1 p.2 hms)).out p.2 b s' hr

theorem Ret.any {α} (m : PM α) : Ret m (fun _ => True) := ⟨fun _ _ _ _ => trivial⟩

theorem Ret.fail {α} {Q : α → Prop} (code : Nat) (c : Col) (msg : String) : Ret (fail code c msg : PM α) Q :=
  ⟨fun s a s' hr => by cases hr⟩

theorem ret_maybeLineNumber : Ret maybeLineNumber (fun o => ∀ n, o = some n → n ≤ maxLineNumber) := by
  refine ⟨fun s o s' h => ?_⟩
  rw [Lemmas.ParseRun.maybeLineNumber_run] at h
  cases hs : Lemmas.RangeForms.numStr (Lemmas.ParseRun.tok s) with
  | none => rw [hs] at h; cases h; nofun
  | some str =>
    rw [hs] at h
    simp only [Lemmas.RangeForms.lineNumberOf] at h
    cases hp : Fmt.parseU16 str with
    | none => rw [hp] at h; cases h
    | some n =>
      rw [hp] at h
      by_cases hn : n ≤ maxLineNumber
      · simp only [hn, if_true] at h
        cases h
        rintro k ⟨⟩
        exact hn
      · simp only [hn, if_false] at h
        cases h

/-- **the parser only returns ordered ranges**: both ends are line literals, `m ≤ n ≤ 65529` -/
theorem lineNumberRange_ordered :
    Ret lineNumberRange (fun p => ∃ ca cb m n, p = (lineExpr ca m, lineExpr cb n) ∧ m ≤ n ∧ n ≤ maxLineNumber) := by
  unfold lineNumberRange
  refine Ret.bind (Ret.any _) (fun c0 _ => ?_)
  refine Ret.bind (Q := fun p => (∃ c, p.1 = lineExpr c p.2.1) ∧ p.2.1 ≤ maxLineNumber ∧ p.2.2 ≤ maxLineNumber) ?_
    (fun p hp => ?_)
  · refine Ret.bind ret_maybeLineNumber (fun o ho => ?_)
    split
    · rename_i n
      exact Ret.bind (Ret.any _) (fun c _ => Ret.pure ⟨⟨c, rfl⟩, ho n rfl, ho n rfl⟩)
    · exact Ret.bind (Ret.any _) (fun c _ => Ret.pure ⟨⟨_, rfl⟩, Nat.zero_le _, Nat.le_refl _⟩)
  · obtain ⟨from_, fromNum, toNum0⟩ := p
    obtain ⟨⟨cf, hf⟩, hfn, ht0⟩ := hp
    dsimp only at hf hfn ht0
    refine Ret.bind (Q := fun q => (∃ c, q.1 = lineExpr c q.2) ∧ q.2 ≤ maxLineNumber) ?_ (fun q hq => ?_)
    · refine Ret.bind (Ret.any _) (fun b _ => ?_)
      split
      · refine Ret.bind ret_maybeLineNumber (fun o ho => ?_)
        split
        · rename_i n
          exact Ret.bind (Ret.any _) (fun c _ => Ret.pure ⟨⟨c, rfl⟩, ho n rfl⟩)
        · exact Ret.bind (Ret.any _) (fun c _ => Ret.pure ⟨⟨_, rfl⟩, Nat.le_refl _⟩)
      · exact Ret.bind (Ret.any _) (fun c _ => Ret.pure ⟨⟨_, rfl⟩, ht0⟩)
    · obtain ⟨to_, toNum⟩ := q
      obtain ⟨⟨ct, ht⟩, htn⟩ := hq
      dsimp only at ht htn ⊢
      split
      · exact Ret.bind (Ret.any _) (fun _ _ => Ret.fail _ _ _)
      · rename_i hle
        refine Ret.pure ⟨cf, ct, fromNum, toNum, ?_, Nat.le_of_not_gt hle, htn⟩
        rw [hf, ht]

end Parse

namespace Listing

theorem inverted_some (a b : Nat) : inverted (some a) (some b) = decide (b < a) := rfl

theorem removeRange_unchanged (l : Listing) (lo hi : Option Nat) (h : (l.removeRange lo hi).2 = false) :
    (l.removeRange lo hi).1 = l := by
  unfold removeRange at h ⊢
  split
  · rename_i hc; rw [if_pos hc] at h; cases h
  · rfl

end Listing

namespace Runtime

theorem doList_range (s : Runtime) (stk : Array Val) (a b : Val) (lo hi : Option Nat)
    (h : s.stack = (stk.push a).push b) (ha : a.toLineNumber = .ok lo) (hb : b.toLineNumber = .ok hi) :
    doList.run.run s = (.ok (), { s with stack := stk, state := .listing lo hi }) := by
  unfold doList pop2
  simp only [run_bind, run_pop, h, Array.back?_push, Array.pop_push, run_pure, run_liftE, ha, hb, run_modify]

theorem doEnd_listing (s : Runtime) : (doEnd s).listing = s.listing := by rw [doEnd_eq]
theorem doEnd_dirty (s : Runtime) : (doEnd s).dirty = s.dirty := by rw [doEnd_eq]

/-- the state `r#delete` builds when lines were removed, before `r#end` -/
def deleted (s : Runtime) (l : Listing) : Runtime :=
  { s with listing := l, dirty := true, state := .stopped, cont := .stopped, stack := #[], functions := [] }

theorem run_doDelete (s : Runtime) (stk : Array Val) (a b : Val) (lo hi : Option Nat)
    (h : s.stack = (stk.push a).push b) (ha : a.toLineNumber = .ok lo) (hb : b.toLineNumber = .ok hi) :
    doDelete.run.run s =
      (.ok .stopped,
       doEnd (if (s.listing.removeRange lo hi).2 = true
              then deleted s (s.listing.removeRange lo hi).1 else { s with stack := stk })) := by
  unfold doDelete pop2
  simp only [run_bind, run_pop, h, Array.back?_push, Array.pop_push, run_pure, run_liftE, ha, hb, run_get]
  generalize s.listing.removeRange lo hi = r
  obtain ⟨l, removed⟩ := r
  cases removed with
  | true => simp only [if_true, run_bind, run_set, run_modify, run_pure]; rfl
  | false => simp only [Bool.false_eq_true, if_false, run_bind, run_pure, run_modify]

theorem doDelete_range (s : Runtime) (stk : Array Val) (a b : Val) (lo hi : Option Nat)
    (h : s.stack = (stk.push a).push b) (ha : a.toLineNumber = .ok lo) (hb : b.toLineNumber = .ok hi) :
    (doDelete.run.run s).2.listing = (s.listing.removeRange lo hi).1 := by
  rw [run_doDelete s stk a b lo hi h ha hb]
  show (doEnd _).listing = _
  rw [doEnd_listing]
  split
  · rfl
  · rename_i hr
    exact (Listing.removeRange_unchanged _ lo hi (Bool.eq_false_iff.2 hr)).symm

/-- with the two literals of an ordered range on top of the stack — what the code of a parsed
    LIST / DELETE pushes — neither statement is handed an inverted range -/
theorem range_literals_not_inverted (hrt : LineLiteralRoundTrip) (m n : Nat) (hmn : m ≤ n) (hn : n ≤ maxLineNumber) :
    (Val.sng (F.b32 (Float32.ofNat m))).toLineNumber = .ok (some m) ∧
    (Val.sng (F.b32 (Float32.ofNat n))).toLineNumber = .ok (some n) ∧
    Listing.inverted (some m) (some n) = false :=
  ⟨hrt m (Nat.le_trans hmn hn), hrt n hn, by simp [Listing.inverted_some]; omega⟩

end Runtime
end Basic

import BasicModel.Model.Codegen
import BasicModel.Lemmas.Link
/-
  Run equations of the generator monad `GM = ExceptT Error (StateM GState)`: what `bind`, the `l*` primitives and
  the pops return on a given state, one equation per primitive and outcome, the state written as a record update;
  the same read backwards from a successful run (`*_ok_inv`); a visit as a function of the generator's run on a
  fresh fragment; `pushAsExpression` in closed form; `codegen` in closed form over `Link.appendMany` (`codegen_eq`), with its
  induction rule `codegen_ind` and what a silent `codegen` has appended (`codegen_silent`).
-/
namespace Basic
/-- a table keyed by name and looked up with `find?`, as `Gen.opcodeAndArity` and `Spec.builtin1` do:
    what holds of every row holds of what a lookup returns -/
theorem table_lookup_ind {β : Type} {t : List (String × β)} {name : Str} {v : β} {P : Str → β → Prop}
    (key : ∀ r ∈ t, P r.1.toList r.2)
    (h : (t.find? fun r => r.1.toList == name).map (·.2) = some v) : P name v := by
  obtain ⟨r, hr, rfl⟩ := Option.map_eq_some_iff.1 h
  have e : r.1.toList = name := by simpa using List.find?_some hr
  exact e ▸ key r (List.mem_of_find?_eq_some hr)

namespace Codegen
open Link

theorem grun_pure {α} (a : α) (g : GState) : ((pure a : GM α).run).run g = (.ok a, g) := rfl

theorem grun_bind {α β} (m : GM α) (f : α → GM β) (g : GState) :
    ((m >>= f).run).run g =
      match (m.run).run g with
      | (.ok a, g1) => ((f a).run).run g1
      | (.error e, g1) => (.error e, g1) := by
  simp only [bind, ExceptT.bind, ExceptT.mk, ExceptT.run, StateT.bind, StateT.run, ExceptT.bindCont]
  cases h : m g with
  | mk r g1 => cases r <;> rfl

theorem grun_bind_ok {α β} {m : GM α} {f : α → GM β} {g g' : GState} {a : α} (h : m.run.run g = (.ok a, g')) :
    (m >>= f).run.run g = (f a).run.run g' := by rw [grun_bind, h]

theorem grun_get (g : GState) : ((get : GM GState).run).run g = (.ok g, g) := rfl
theorem grun_set (g1 g : GState) : ((set g1 : GM PUnit).run).run g = (.ok ⟨⟩, g1) := rfl
theorem grun_modify (f : GState → GState) (g : GState) : ((modify f : GM PUnit).run).run g = (.ok ⟨⟩, f g) := rfl
theorem grun_throw {α} (e : Error) (g : GState) : ((throw e : GM α).run).run g = (.error e, g) := rfl
theorem grun_liftE {α} (r : Except Error α) (g : GState) : ((liftE r : GM α).run).run g = (r, g) := by
  cases r <;> rfl
theorem grun_ite {α} (c : Prop) [Decidable c] (m1 m2 : GM α) (g : GState) :
    ((if c then m1 else m2).run).run g = if c then (m1.run).run g else (m2.run).run g := by
  split <;> rfl

theorem grun_lpush_eq (op : Opcode) (g : GState) :
    (lpush op).run.run g = ((g.cur.push op).2, { g with cur := (g.cur.push op).1 }) := by
  simp only [lpush, grun_bind, grun_get, grun_set, grun_liftE]

theorem grun_lpush_ok (op : Opcode) (g : GState) (h : g.cur.ops.size + 1 ≤ Gen.stackMaxLen) :
    ((lpush op).run).run g = (.ok (), { g with cur := (g.cur.push op).1 }) := by
  rw [grun_lpush_eq]
  simp only [Link.push, Array.size_push]
  rw [if_neg (by omega)]

theorem grun_lappend (f : Link) (g : GState) :
    ((lappend f).run).run g = ((g.cur.append f).2, { g with cur := (g.cur.append f).1 }) := by
  unfold lappend
  simp only [grun_bind, grun_get, grun_set, grun_liftE]

theorem grun_lappend_ok (f : Link) (g : GState) (hd : g.cur.directSet = false)
    (ho : g.cur.ops.size + f.ops.size ≤ Gen.stackMaxLen) (hdd : g.cur.data.size + f.data.size ≤ Gen.stackMaxLen) :
    ((lappend f).run).run g = (.ok (), { g with cur := appended g.cur f }) := by
  rw [grun_lappend]
  rcases append_cases g.cur f with ⟨h, _, _⟩ | ⟨h, _⟩ | ⟨_, h, _⟩ | ⟨_, _, e⟩
  · rw [hd] at h; cases h
  · omega
  · omega
  · rw [e]

theorem grun_lnextSymbol (g : GState) :
    (lnextSymbol.run).run g =
      (.ok (g.cur.currentSymbol - 1), { g with cur := { g.cur with currentSymbol := g.cur.currentSymbol - 1 } }) := by
  unfold lnextSymbol
  simp only [grun_bind, grun_get, Link.nextSymbol, grun_set, grun_pure]

theorem grun_lpushSymbol (sym : Symbol) (g : GState) :
    ((lpushSymbol sym).run).run g = (.ok ⟨⟩, { g with cur := g.cur.pushSymbol sym }) := rfl

theorem grun_laddUnlinked (c : Col) (sym : Symbol) (g : GState) :
    ((laddUnlinked c sym).run).run g = (.ok ⟨⟩, { g with cur := g.cur.addUnlinked c sym }) := rfl

theorem grun_lenVal (n : Nat) (g : GState) (h : n ≤ 32767) :
    ((lenVal n).run).run g = (.ok (.int (Int16.ofNat n)), g) := by
  unfold lenVal
  rw [grun_liftE]
  simp [Val.ofUsize, h]

theorem grun_forIn_lpush {α} (l : List α) (mk : α → Opcode) (g : GState)
    (h : g.cur.ops.size + l.length ≤ Gen.stackMaxLen) :
    ((forIn l PUnit.unit (fun a (_ : PUnit) => (do lpush (mk a); pure (ForInStep.yield PUnit.unit) : GM (ForInStep PUnit)))).run).run g =
      (.ok ⟨⟩, { g with cur := g.cur.pushOps (l.map mk).toArray }) := by
  induction l generalizing g with
  | nil =>
    simp only [List.forIn_nil, grun_pure, List.map_nil, pushOps]
    have : g.cur.ops ++ ([] : List Opcode).toArray = g.cur.ops := by simp
    rw [this]
  | cons hd tl ih =>
    rw [List.forIn_cons]
    simp only [List.length_cons] at h
    simp only [grun_bind, grun_lpush_ok (mk hd) g (by omega), grun_pure]
    have e : (g.cur.ops.push (mk hd)) ++ (tl.map mk).toArray = g.cur.ops ++ ((hd :: tl).map mk).toArray := by
      apply Array.ext'; simp
    rw [ih]
    · simp only [pushOps, Link.push]
      rw [e]
    · simp only [Link.push, Array.size_push]; omega

/-! `withCur g l`, `withExpr g e`: `g` with another fragment under construction, another expression stack.  No other
  module reads them: elsewhere states are record updates or constructors. -/

def withCur (g : GState) (l : Link) : GState := { g with cur := l }
@[simp] theorem withCur_cur (g : GState) (l : Link) : (withCur g l).cur = l := rfl
@[simp] theorem withCur_withCur (g : GState) (l l' : Link) : withCur (withCur g l) l' = withCur g l' := rfl
@[simp] theorem withCur_expr (g : GState) (l : Link) : (withCur g l).expr = g.expr := rfl
@[simp] theorem withCur_var (g : GState) (l : Link) : (withCur g l).var = g.var := rfl
@[simp] theorem withCur_stmt (g : GState) (l : Link) : (withCur g l).stmt = g.stmt := rfl

def withExpr (g : GState) (e : Array (Col × Link)) : GState := { g with expr := e }
@[simp] theorem withExpr_cur (g : GState) (e : Array (Col × Link)) : (withExpr g e).cur = g.cur := rfl
@[simp] theorem withExpr_expr (g : GState) (e : Array (Col × Link)) : (withExpr g e).expr = e := rfl
@[simp] theorem withExpr_withExpr (g : GState) (e e' : Array (Col × Link)) :
    withExpr (withExpr g e) e' = withExpr g e' := rfl

theorem popNExpr_run (g : GState) (pre : Array (Col × Link)) (frags : List (Col × Link))
    (h : g.expr = pre ++ frags.toArray) :
    ((popNExpr frags.length).run).run g = (.ok frags, { g with expr := pre }) := by
  unfold popNExpr
  have h1 : ¬ (frags.length > (pre ++ frags.toArray).size) := by simp
  simp only [grun_bind, grun_get, h, h1, if_false, grun_set, grun_pure]
  simp

theorem popExpr_run (g : GState) (pre : Array (Col × Link)) (x : Col × Link) (h : g.expr = pre.push x) :
    (popExpr.run).run g = (.ok x, { g with expr := pre }) := by
  unfold popExpr
  simp only [grun_bind, grun_get, h, Array.back?_push, grun_set, grun_pure, Array.pop_push]

theorem popVar_run (g : GState) (pre : Array VarItem) (x : VarItem) (h : g.var = pre.push x) :
    popVar.run.run g = (.ok x, { g with var := pre }) := by
  simp only [popVar, grun_bind, grun_get, h, Array.back?_push, grun_set, grun_pure, Array.pop_push]

theorem popNStmt_run (g : GState) (pre : Array (Col × Link)) (frs : List (Col × Link)) (h : g.stmt = pre ++ frs.toArray) :
    (popNStmt frs.length).run.run g = (.ok frs, { g with stmt := pre }) := by
  unfold popNStmt
  have h1 : ¬ (frs.length > (pre ++ frs.toArray).size) := by simp
  simp only [grun_bind, grun_get, h, h1, if_false, grun_set, grun_pure]
  simp

/-! Read backwards, from a successful run: for the clean path where the stacks are not known in closed form
  (`DataOrder.if_gen` in `Lemmas/DataOrder.lean`, `DataOrder.accept_shape` in `Lemmas/DataLits.lean`); forward on known
  stacks it is `Lemmas/GenClean.lean`, on all paths `H` of `Lemmas/GenWalk.lean`. -/

theorem bind_ok_inv {m : GM α} {f : α → GM β} {g g2 : GState} {b : β} (h : (m >>= f).run.run g = (.ok b, g2)) :
    ∃ a g1, m.run.run g = (.ok a, g1) ∧ (f a).run.run g1 = (.ok b, g2) := by
  rw [grun_bind] at h
  rcases hm : m.run.run g with ⟨r, g1⟩
  rw [hm] at h
  cases r with
  | ok a => exact ⟨a, g1, rfl, h⟩
  | error e => cases h

theorem pure_ok_inv {a b : α} {g g' : GState} (h : (pure a : GM α).run.run g = (.ok b, g')) : a = b ∧ g = g' := by
  have := Prod.mk.inj h
  exact ⟨Except.ok.inj this.1, this.2⟩

theorem lappend_ok_inv {f : Link} {g g' : GState} {u : Unit} (h : (lappend f).run.run g = (.ok u, g')) :
    g' = { g with cur := (g.cur.append f).1 } ∧ (g.cur.append f).2 = .ok () := by
  rw [grun_lappend] at h
  obtain ⟨h1, h2⟩ := Prod.mk.inj h
  exact ⟨h2.symm, h1⟩

theorem lpush_ok_inv {op : Opcode} {g g' : GState} {u : Unit} (h : (lpush op).run.run g = (.ok u, g')) :
    g' = { g with cur := (g.cur.push op).1 } := by
  rw [grun_lpush_eq] at h
  exact (Prod.mk.inj h).2.symm

/-- `transformToData` returns the fragment as it is, or without its code, or without its code and with one
    more constant: what holds of the three holds of what it returns -/
theorem transformToData_ind {P : Link → Prop} (l : Link) (c : Col) (h : P l) (h0 : P { l with ops := #[] })
    (hd : ∀ v, P (({ l with ops := #[] } : Link).pushData v).1) : P (transformToData l c).1 := by
  unfold transformToData
  dsimp only
  repeat' split
  all_goals first | exact h | exact h0 | exact hd _

theorem visitStatement_eq (st : Stmt) (s : VState) :
    visitStatement st s =
      match (genStatement st).run.run { s.g with cur := {} } with
      | (.ok c, g') => { s with g := { g' with cur := s.g.cur, stmt := g'.stmt.push (c, g'.cur) } }
      | (.error e, g') =>
        { g := { g' with cur := s.g.cur, stmt := g'.stmt.push ((0, 0), g'.cur) }, errors := s.errors ++ [e] } := by
  unfold visitStatement runFresh
  rcases (genStatement st).run.run { s.g with cur := {} } with ⟨r, g'⟩
  cases r <;> rfl

theorem visitExpression_eq (e : Expr) (s : VState) :
    visitExpression e s =
      match (genExpression e).run.run { s.g with cur := {} } with
      | (.ok c, g') => { s with g := { g' with cur := s.g.cur, expr := g'.expr.push (c, g'.cur) } }
      | (.error err, g') =>
        { g := { g' with cur := s.g.cur, expr := g'.expr.push ((0, 0), g'.cur) }, errors := s.errors ++ [err] } := by
  unfold visitExpression runFresh
  rcases (genExpression e).run.run { s.g with cur := {} } with ⟨r, g'⟩
  cases r <;> rfl

/-- the instructions a variable reference or call adds after the code of its arguments: the opcode of a
    built-in, `push`, or `fn` / `pushArr`, after the number of arguments where that is not fixed -/
def varCode (v : VarItem) : Except Error (List Opcode) :=
  let counted (len : Nat) (o : Opcode) : Except Error (List Opcode) :=
    (Val.ofUsize len).map fun n => [.literal n, o]
  let user : Except Error (List Opcode) :=
    match v.argLen with
    | none => .ok [.push v.name]
    | some len => counted len (if "FN".toList.isPrefixOf v.name then .fn v.name else .pushArr v.name)
  match Gen.opcodeAndArity v.name with
  | some (oc, lo, hi) =>
    if lo = 0 && hi = 0 && v.argLen.isNone then .ok [oc]
    else match v.argLen with
      | some len =>
        if lo ≤ len && len ≤ hi then (if lo ≠ hi then counted len oc else .ok [oc])
        else .error (((Error.mk' Code.illegalFunctionCall).inCol v.col.1 v.col.2).withMsg "WRONG NUMBER OF ARGUMENTS")
      | none => user
  | none => user

theorem varCode_ok {v : VarItem} {ops : List Opcode} (h : varCode v = .ok ops) :
    ∃ o, (ops = [o] ∨ ∃ n, ops = [.literal n, o]) ∧
      ((o = .push v.name ∧ v.argLen = none) ∨ (∃ len, v.argLen = some len ∧ (o = .fn v.name ∨ o = .pushArr v.name)) ∨
        ∃ lo hi, Gen.opcodeAndArity v.name = some (o, lo, hi)) := by
  unfold varCode at h
  cases ha : v.argLen <;> cases hb : Gen.opcodeAndArity v.name <;> simp [ha, hb] at h
  · exact ⟨_, .inl h.symm, .inl ⟨rfl, rfl⟩⟩
  · split at h <;> cases h
    · exact ⟨_, .inl rfl, .inr (.inr ⟨_, _, rfl⟩)⟩
    · exact ⟨_, .inl rfl, .inl ⟨rfl, rfl⟩⟩
  · simp only [Except.map] at h
    split at h <;> cases h
    exact ⟨_, .inr ⟨_, rfl⟩, .inr (.inl ⟨_, rfl, by split <;> simp⟩)⟩
  · split at h
    · split at h
      · cases h
        exact ⟨_, .inl rfl, .inr (.inr ⟨_, _, rfl⟩)⟩
      · simp only [Except.map] at h
        split at h <;> cases h
        exact ⟨_, .inr ⟨_, rfl⟩, .inr (.inr ⟨_, _, rfl⟩)⟩
    · cases h

theorem varCode_error {v : VarItem} {e : Error} (h : varCode v = .error e) :
    (∃ n, Val.ofUsize n = .error e) ∨
      e = ((Error.mk' Code.illegalFunctionCall).inCol v.col.1 v.col.2).withMsg "WRONG NUMBER OF ARGUMENTS" := by
  unfold varCode at h
  cases ha : v.argLen <;> cases hb : Gen.opcodeAndArity v.name <;> simp [ha, hb] at h
  · split at h <;> cases h
  · simp only [Except.map] at h
    split at h <;> cases h
    exact .inl ⟨_, ‹_›⟩
  · split at h
    · split at h
      · cases h
      · simp only [Except.map] at h
        split at h <;> cases h
        exact .inl ⟨_, ‹_›⟩
    · cases h
      exact .inr rfl

/-- `pushAsExpression` in closed form: the code of the arguments, then the instructions of `varCode`; every
    error (`WRONG NUMBER OF ARGUMENTS`, an argument count beyond an Integer) falls between the two -/
theorem pushAsExpression_eq (v : VarItem) :
    pushAsExpression v = (do
      lappend v.link
      let ops ← liftE (varCode v)
      for op in ops do
        lpush op
      pure v.col) := by
  unfold pushAsExpression varCode lenVal
  cases v.argLen <;> cases Gen.opcodeAndArity v.name <;> simp [liftE]
  · split <;> simp
  · cases Val.ofUsize _ <;> split <;> simp [Except.map]
  · split
    · split
      · simp
      · cases Val.ofUsize _ <;> simp [Except.map]
    · simp

/-- **`codegen` in closed form**: the statement fragments of the visit are appended one after the other
    (`Link.appendMany`), and the first `append` that fails is reported behind the visit's own reports -/
theorem codegen_eq (link : Link) (ast : List Stmt) :
    codegen link ast =
      ((Link.appendMany link ((acceptStmts ast {}).g.stmt.toList.map (·.2))).1,
       (acceptStmts ast {}).errors ++
         match (Link.appendMany link ((acceptStmts ast {}).g.stmt.toList.map (·.2))).2 with
         | .ok _ => []
         | .error e => [e]) := by
  unfold codegen
  dsimp only
  generalize (acceptStmts ast {}).g.stmt.toList = frags
  generalize (acceptStmts ast {}).errors = errs
  induction frags generalizing link with
  | nil => simp [codegen.appendAll, Link.appendMany]
  | cons hd tl ih =>
    obtain ⟨c, f⟩ := hd
    simp only [codegen.appendAll, List.map_cons, Link.appendMany]
    cases hr : link.append f with
    | mk l' r =>
      cases r with
      | ok u => exact ih l'
      | error e => rfl

theorem codegen_ind {P : Link → Prop} (link : Link) (ast : List Stmt) (h0 : P link)
    (h : ∀ l, ∀ x ∈ (acceptStmts ast {}).g.stmt.toList, P l → P (l.append x.2).1) :
    P (codegen link ast).1 := by
  rw [codegen_eq]
  exact Link.appendMany_ind (P := fun x => P x.1) _ link h0 fun l f hf hl => by
    obtain ⟨x, hx, rfl⟩ := List.mem_map.1 hf
    exact h l x hx hl

/-- when nothing is reported beyond the visit's own reports, every fragment has been appended -/
theorem codegen_appended (link : Link) (ast : List Stmt) (h : (codegen link ast).2 = (acceptStmts ast {}).errors) :
    (codegen link ast).1.data.toList =
      link.data.toList ++ ((acceptStmts ast {}).g.stmt.toList.map (·.2.data.toList)).flatten ∧
    (codegen link ast).1.ops.toList =
      link.ops.toList ++ ((acceptStmts ast {}).g.stmt.toList.map (·.2.ops.toList)).flatten := by
  rw [codegen_eq] at h ⊢
  have hok : (Link.appendMany link ((acceptStmts ast {}).g.stmt.toList.map (·.2))).2 = .ok () := by
    cases hr : (Link.appendMany link ((acceptStmts ast {}).g.stmt.toList.map (·.2))).2 with
    | ok u => rfl
    | error e =>
      rw [hr] at h
      exact absurd (List.append_right_eq_self.1 h) (List.cons_ne_nil _ _)
  have := Link.appendMany_ops_data link _ hok
  rw [List.map_map, List.map_map] at this
  exact ⟨this.2, this.1⟩

theorem codegen_silent (link : Link) (ast : List Stmt) (h : (codegen link ast).2 = []) :
    (acceptStmts ast {}).errors = [] ∧
    (codegen link ast).1.data.toList =
      link.data.toList ++ ((acceptStmts ast {}).g.stmt.toList.map (·.2.data.toList)).flatten ∧
    (codegen link ast).1.ops.toList =
      link.ops.toList ++ ((acceptStmts ast {}).g.stmt.toList.map (·.2.ops.toList)).flatten := by
  have he : (acceptStmts ast {}).errors = [] := by
    rw [codegen_eq] at h
    exact (List.append_eq_nil_iff.1 h).1
  exact ⟨he, codegen_appended link ast (h.trans he.symm)⟩

end Codegen
end Basic

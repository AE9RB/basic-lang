import BasicModel.Lemmas.LexTurn
/-
  Case folding (Thm/C16): every scanner, and the token iterator, commutes with `to_ascii_uppercase` on its input up to the
  payloads (`foldTok`): `X (cs.map upper) = ((X cs).1, (X cs).2.map upper)`.  `radix`, `whitespace`, `string`, `minutia` from
  their closed forms; `alphabetic` and `number` by a walk through the loop, since their statements speak of every text and
  every state of the loop; the iterator turn by turn (`Turn.map_upper`) along the derivation `Lexed` of Lemmas/LexTurn.
-/
namespace Basic
namespace Lex

/-- the loop of `alphabetic()` sees its input only through `to_ascii_uppercase` and the
    case-blind classes: upper-casing the input changes nothing but the case of the remainder -/
theorem alphaLoop_upper (cs : List Char) : ∀ (s : Str) (d : Bool) (p : List Token),
    alphaLoop (cs.map upper) s d p = ((alphaLoop cs s d p).1, (alphaLoop cs s d p).2.map upper) := by
  induction cs with
  | nil => intros; rfl
  | cons c cs ih =>
    intro s d p
    cases hs : isSuffixChar c with
    | true => rw [List.map_cons, upper_suffix c hs, alphaLoop_suffix c hs, alphaLoop_suffix c hs]
    | false =>
      have hs' : isSuffixChar (upper c) = false := by rw [upper_isSuffixChar]; exact hs
      cases cs with
      | nil =>
        rw [List.map_cons, List.map_nil, alphaLoop_last _ _ _ _ hs', alphaLoop_last _ _ _ _ hs, upper_upper]
        unfold alphaFinish
        split <;> rfl
      | cons pk tl =>
        rw [List.map_cons, List.map_cons, alphaLoop_step _ _ _ _ _ _ hs', alphaLoop_step _ _ _ _ _ _ hs,
          upper_upper, isAlpha_upper pk, isDigit_upper pk, upper_isSuffixChar pk]
        split
        · split
          · rfl
          · rw [← List.map_cons, ih]
        split
        · split
          · rfl
          · rw [← List.map_cons, ih]
        · unfold alphaFinish
          split <;> rfl

theorem map_upper_upper (l : List Char) : (l.map upper).map upper = l.map upper := by
  simp [List.map_map, Function.comp_def, upper_upper]

theorem radixDigits_upper (isHex : Bool) (cs : List Char) :
    radixDigits isHex (cs.map upper) =
      ((radixDigits isHex cs).1, (radixDigits isHex cs).2.map upper) := by
  have hn : (radixOk isHex ∘ upper) = radixOk isHex := by
    funext c; simp [radixOk, upper_upper]
  rw [radixDigits_eq, radixDigits_eq, List.takeWhile_map, List.dropWhile_map, hn, map_upper_upper]
  cases cs.dropWhile (radixOk isHex) with
  | nil => rfl
  | cons c r => simp [upper_upper]

theorem radix_upper (cs : List Char) :
    radix (cs.map upper) = ((radix cs).1, (radix cs).2.map upper) := by
  match cs with
  | [] => rfl
  | [a] => rfl
  | a :: x :: r =>
    rw [List.map_cons, List.map_cons, radix_eq, radix_eq, upper_upper]
    split
    · rw [radixDigits_upper]
    · rw [← List.map_cons, radixDigits_upper]

theorem upper_expLetter (c : Char) :
    (decide (upper c = 'E') || decide (upper c = 'e') || decide (upper c = 'D') || decide (upper c = 'd')) =
      (decide (c = 'E') || decide (c = 'e') || decide (c = 'D') || decide (c = 'd')) := by
  rw [Bool.eq_iff_iff]
  simp only [Bool.or_eq_true, decide_eq_true_eq, char_eq_iff, upper_toNat]
  have : 'E'.toNat = 69 := rfl
  have : 'e'.toNat = 101 := rfl
  have : 'D'.toNat = 68 := rfl
  have : 'd'.toNat = 100 := rfl
  split <;> omega

/-- characters whose folding by `number()` does not depend on their case: everything but the
    letters other than `e`, `d` -/
def NumHeadOk (c : Char) : Prop := foldED (upper c) = foldED c

instance (c : Char) : Decidable (NumHeadOk c) := by unfold NumHeadOk; infer_instance

theorem numHeadOk_of_not_lower (c : Char) (h : ¬ (97 ≤ c.toNat ∧ c.toNat ≤ 122)) : NumHeadOk c := by
  unfold NumHeadOk; rw [upper_of_not_lower c h]

theorem numHeadOk_e : NumHeadOk 'e' := by decide
theorem numHeadOk_d : NumHeadOk 'd' := by decide

theorem numHeadOk_of_isDigit (c : Char) (h : isDigit c = true) : NumHeadOk c := by
  rw [isDigit_iff] at h; exact numHeadOk_of_not_lower c (by omega)

theorem numDecide_upper (ch pk : Char) (dec ex : Bool) :
    numDecide ch (upper pk) dec ex = numDecide ch pk dec ex := by
  simp only [numDecide, isDigit_upper, upper_expLetter, upper_eq_nonletter pk '+' (by decide) (by decide),
    upper_eq_nonletter pk '-' (by decide) (by decide), upper_eq_nonletter pk '.' (by decide) (by decide),
    upper_eq_nonletter pk '!' (by decide) (by decide), upper_eq_nonletter pk '#' (by decide) (by decide),
    upper_eq_nonletter pk '%' (by decide) (by decide)]

/-- `number()` goes on only over characters whose folding does not depend on their case -/
theorem numHeadOk_of_cont (ch pk : Char) (dec ex ex' : Bool) (h : numDecide ch pk dec ex = .cont ex') :
    NumHeadOk pk := by
  by_cases hd : isDigit pk = true
  · exact numHeadOk_of_isDigit pk hd
  by_cases hm : pk ∈ ['+', '-', '.', 'E', 'e', 'D', 'd', '!', '#', '%']
  · exact (by decide : ∀ c ∈ ['+', '-', '.', 'E', 'e', 'D', 'd', '!', '#', '%'], NumHeadOk c) pk hm
  · simp only [List.mem_cons, List.not_mem_nil, or_false, not_or] at hm
    obtain ⟨m1, m2, m3, m4, m5, m6, m7, m8, m9, m10⟩ := hm
    simp only [numDecide, hd, m1, m2, m3, m4, m5, m6, m7, m8, m9, m10, decide_false, Bool.or_false,
      Bool.and_false, Bool.not_false, Bool.false_eq_true, if_false, if_true] at h
    split at h <;> cases h

theorem numberLoop_upper (cs : List Char) : ∀ (s : Str) (dg : Nat) (dec ex : Bool),
    (∀ c ∈ cs.head?, NumHeadOk c) →
    numberLoop (cs.map upper) s dg dec ex =
      ((numberLoop cs s dg dec ex).1, (numberLoop cs s dg dec ex).2.map upper) := by
  induction cs with
  | nil => intros; rfl
  | cons c cs ih =>
    intro s dg dec ex hc
    have hf : foldED (upper c) = foldED c := hc c rfl
    cases hs : isNumSuffix (foldED c) with
    | true =>
      rw [List.map_cons, numberLoop_sfx _ _ _ _ _ _ (hf ▸ hs), numberLoop_sfx _ _ _ _ _ _ hs, hf]
    | false =>
      cases cs with
      | nil =>
        rw [List.map_cons, List.map_nil, numberLoop_last _ _ _ _ _ (hf ▸ hs), numberLoop_last _ _ _ _ _ hs, hf]
        rfl
      | cons pk tl =>
        rw [List.map_cons, List.map_cons, numberLoop_step _ _ _ _ _ _ _ (hf ▸ hs), numberLoop_step _ _ _ _ _ _ _ hs,
          hf, numDecide_upper]
        split
        · next hd =>
          rw [← List.map_cons]
          exact ih _ _ _ _ fun x hx => Option.some.inj hx ▸ numHeadOk_of_cont _ _ _ _ _ hd
        · rfl
        · next hd =>
          -- the exponent letter that is pushed back is upper case already
          have : upper (foldED c) = foldED c := by
            rcases (numDecide_push_inv _ _ _ _ hd).1 with e | e <;> rw [e] <;> rfl
          simp only [List.map_cons, this]

theorem number_upper (c : Char) (cs : List Char) (h : (isDigit c || c = '.') = true) :
    number ((c :: cs).map upper) = ((number (c :: cs)).1, (number (c :: cs)).2.map upper) := by
  refine numberLoop_upper (c :: cs) [] 0 false false ?_
  intro x hx; simp at hx; subst hx
  simp only [Bool.or_eq_true, decide_eq_true_eq] at h
  rcases h with h | h
  · exact numHeadOk_of_isDigit _ h
  · subst h; decide

theorem isWs_comp_upper : (isWs ∘ upper) = isWs := by
  funext c; exact isWs_upper c

theorem whitespace_upper (cs : List Char) :
    whitespace (cs.map upper) = ((whitespace cs).1, (whitespace cs).2.map upper) := by
  cases cs with
  | nil => rfl
  | cons c cs =>
    simp only [List.map_cons, whitespace, List.takeWhile_map, List.dropWhile_map, isWs_comp_upper,
      List.length_map]

theorem stringBody_upper (cs : List Char) :
    stringBody (cs.map upper) = ((stringBody cs).1.map upper, (stringBody cs).2.map upper) := by
  have hn : (notQuote ∘ upper) = notQuote := by
    funext c
    rw [Function.comp, notQuote, notQuote, Bool.eq_iff_iff, bne_iff_ne, bne_iff_ne, Ne, Ne,
      upper_eq_nonletter c '"' (by decide) (by decide)]
  rw [stringBody_eq, stringBody_eq, List.takeWhile_map, List.dropWhile_map, hn, List.map_tail]

theorem upper_of_not_isAlpha (c : Char) (h : isAlpha c = false) : upper c = c := by
  apply upper_of_not_lower
  intro hh
  have : isAlpha c = true := (isAlpha_iff c).2 (Or.inr hh)
  rw [h] at this; exact absurd this (by simp)

theorem minutia_upper (pk : Char) (cs : List Char) :
    minutia (pk :: cs.map upper) = ((minutia (pk :: cs)).1, (minutia (pk :: cs)).2.map upper) := by
  have hn : (nADW ∘ upper) = nADW := by
    funext c; simp [nADW, isADW, isAlpha_upper, isDigit_upper, isWs_upper]
  -- the text of an `Unknown` holds no letter
  have hu : (cs.takeWhile nADW).map upper = cs.takeWhile nADW := by
    rw [List.map_congr_left (g := id), List.map_id]
    intro c hc
    have := takeWhile_all nADW cs c hc
    simp only [nADW, isADW, Bool.not_eq_true', Bool.or_eq_false_iff] at this
    exact upper_of_not_isAlpha c this.1.1
  rw [minutia_eq, minutia_eq]
  cases matchMinutia [pk] with
  | some t => rfl
  | none => simp only [List.takeWhile_map, List.dropWhile_map, hn, hu]

/-- upper-case the payloads that the lexer copies verbatim (remark text, string literals) -/
def foldTok : Token → Token
  | .unknown s => .unknown (s.map upper)
  | .literal (.string s) => .literal (.string (s.map upper))
  | t => t

/-- the turn on the upper-cased text: the same tokens up to the payloads, the text left upper-cased, the same flag -/
theorem Turn.map_upper {cs cs' : List Char} {q : List Token} {rm : Bool} (h : Turn cs q cs' rm) :
    ∃ q', Turn (cs.map upper) q' (cs'.map upper) rm ∧ q'.map foldTok = q.map foldTok := by
  cases h with
  | ws pk cs h =>
    have := Turn.ws (upper pk) (cs.map upper) (by rw [isWs_upper]; exact h)
    rw [← List.map_cons, whitespace_upper] at this
    exact ⟨_, this, rfl⟩
  | num pk cs h =>
    have hu : (isDigit (upper pk) || upper pk = '.') = true := by
      simp only [isDigit_upper, upper_eq_nonletter pk '.' (by decide) (by decide)]; exact h
    have := Turn.num (upper pk) (cs.map upper) hu
    rw [← List.map_cons, number_upper pk cs h] at this
    exact ⟨_, this, rfl⟩
  | alpha pk cs t ts h e =>
    have ha : alphabetic ((pk :: cs).map upper) =
        ((alphabetic (pk :: cs)).1, (alphabetic (pk :: cs)).2.map upper) := alphaLoop_upper (pk :: cs) [] false []
    have := Turn.alpha (upper pk) (cs.map upper) t ts (by rw [isAlpha_upper]; exact h)
      (by rw [← List.map_cons, ha]; exact e)
    rw [← List.map_cons, ha] at this
    exact ⟨_, this, rfl⟩
  | str cs =>
    have := Turn.str (cs.map upper)
    rw [stringBody_upper] at this
    rw [List.map_cons, (by decide : upper '"' = '"')]
    exact ⟨_, this, by simp only [List.map_cons, List.map_nil, foldTok, map_upper_upper]⟩
  | radix cs =>
    have hr := radix_upper ('&' :: cs)
    rw [List.map_cons, (by decide : upper '&' = '&')] at hr
    have := Turn.radix (cs.map upper)
    rw [hr] at this
    rw [List.map_cons, (by decide : upper '&' = '&')]
    exact ⟨_, this, rfl⟩
  | min pk cs h =>
    have := Turn.min pk (cs.map upper) h
    rw [minutia_upper] at this
    rw [List.map_cons, upper_of_not_isAlpha pk (isMinStart_classes pk h).2.2.2.1]
    exact ⟨_, this, rfl⟩

theorem lexFrom_upper (cs : List Char) (r : Bool) :
    (lexFrom (cs.map upper) r).map foldTok = (lexFrom cs r).map foldTok := by
  have htrue : ∀ cs : List Char, (lexFrom (cs.map upper) true).map foldTok = (lexFrom cs true).map foldTok := by
    intro cs
    rw [lexFrom_true, lexFrom_true]
    cases cs with
    | nil => rfl
    | cons c t => simp [foldTok, upper_upper]
  cases r with
  | true => exact htrue cs
  | false =>
    have h := lexed cs
    generalize lexFrom cs false = ts at h ⊢
    induction h with
    | nil => rfl
    | code ht _ ih =>
      obtain ⟨q', hu, e⟩ := ht.map_upper
      rw [hu.lex, List.map_append, List.map_append, e, ih]
    | remark ht =>
      obtain ⟨q', hu, e⟩ := ht.map_upper
      rw [hu.lex, List.map_append, List.map_append, e, htrue, remText_eq]

end Lex
end Basic

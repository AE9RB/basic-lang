import BasicModel.Lemmas.SpellingPost
import BasicModel.Lemmas.LexTrail
/-
  C16, scanner part: contexts.  `Cut pre A c` says that the token iterator, having read `pre`,
  has handed out `A` and stands at a token boundary in normal mode (not inside a string literal, a
  remark, a name or a numeral) when the next character is `c`; `lineNo` / `lineBody` split off the
  line-number prefix independently of what follows the junction (`splitLineNumber_ctx`, from the closed form
  `splitLineNumber_eq` of Lemmas/LexLine).
-/
namespace Basic
namespace Lex

/-- the scanner state after `pre`, seen from a following character `c`: the tokens `A` are out, the
    remark flag is off, and the next token starts at `c`, whatever follows `c` -/
def Cut (pre : Str) (A : List Token) (c : Char) : Prop :=
  ∀ r, lexFrom (pre ++ c :: r) false = A ++ lexFrom (c :: r) false

theorem Cut.nil (c : Char) : Cut [] [] c := fun _ => rfl

theorem Cut.append {pre mid : Str} {A B : List Token} {d c : Char} {m : Str} (hm : mid = d :: m)
    (h1 : Cut pre A d) (h2 : Cut mid B c) : Cut (pre ++ mid) (A ++ B) c := by
  intro r
  subst hm
  have := h1 (m ++ c :: r)
  simp only [List.append_assoc, List.cons_append] at this ⊢
  rw [this]
  have := h2 r
  simp only [List.cons_append] at this
  rw [this]

theorem follows_congr (t : Token) (r r' : List Char) (h : r.head? = r'.head?) (hf : Follows t r) :
    Follows t r' := by
  -- every clause of `Follows` asks something of the first character only
  have key : ∀ {P : Char → Prop}, (∀ c ∈ r.head?, P c) → ∀ c ∈ r'.head?, P c :=
    fun hP c hc => hP c (h ▸ hc)
  cases t with
  | literal l =>
    cases l with
    | string s => trivial
    | octal ds => simp only [Follows, RadixBoundary, List.head?_append] at hf ⊢; rw [← h]; exact hf
    | _ => exact key hf
  | word w => cases w <;> first | exact key hf | trivial
  | whitespace n => exact key hf
  | operator o => exact fun ho => key (hf ho)
  | ident i => exact key hf
  | _ => trivial

theorem canonRawT_congr (tail tail' : List Char) (h : tail.head? = tail'.head?) (ts : List Token)
    (hc : CanonRawT tail ts) : CanonRawT tail' ts := by
  induction ts with
  | nil => trivial
  | cons t rest ih =>
    obtain ⟨h1, h2, hp, hf, hr⟩ := hc
    refine ⟨h1, h2, hp, follows_congr t _ _ ?_ hf, ih hr⟩
    simp [List.head?_append, h]

theorem Cut.of_printTokens (ps : List Token) (c : Char) (h : CanonRawT [c] ps) :
    Cut (printTokens ps) (ps.flatMap rawOf) c := by
  intro r
  exact lexFrom_printTokens_tail (c :: r) ps (canonRawT_congr [c] (c :: r) rfl ps h)

/-- the line number of a line that continues after `pre` with a character that is neither a digit nor a blank -/
def lineNo (pre : Str) : Option Nat := (splitLineNumber (pre ++ ['?'])).1

/-- the part of `pre` that is handed to the token iterator -/
def lineBody (pre : Str) : Str := (splitLineNumber (pre ++ ['?'])).2.dropLast

theorem lineBody_nil : lineBody [] = [] := by decide +kernel

theorem lineNo_nil : lineNo [] = none := by decide +kernel

theorem lineBody_listed (n : Nat) (h : n ≤ 65529) (p : Str) :
    lineNo (RStd.natDigits n ++ ' ' :: p) = some n ∧ lineBody (RStd.natDigits n ++ ' ' :: p) = p := by
  have := splitLineNumber_listed n h (p ++ ['?'])
  simp only [lineNo, lineBody, List.append_assoc, List.cons_append, this]
  simp

theorem lineBody_plain (c : Char) (cs : Str) (hd : isDigit c = false) (hw : isWs c = false) :
    lineNo (c :: cs) = none ∧ lineBody (c :: cs) = c :: cs := by
  have := splitLineNumber_plain c (cs ++ ['?']) hd hw
  simp only [lineNo, lineBody, List.cons_append, this]
  rw [show c :: (cs ++ ['?']) = (c :: cs) ++ ['?'] from rfl, List.dropLast_concat]
  simp

theorem splitLineNumber_ctx (pre : Str) (c : Char) (r : Str) (h1 : isDigit c = false) (h2 : isWs c = false) :
    splitLineNumber (pre ++ c :: r) = (lineNo pre, lineBody pre ++ c :: r) := by
  -- behind the blanks and digits of `pre`, or else at `c`, both scans stop
  have key : ∀ (c : Char) (r : Str), isDigit c = false → isWs c = false →
      splitLineNumber (pre ++ c :: r) =
        match Fmt.parseU16 ((pre.dropWhile isWs).takeWhile isDigit) with
        | some num =>
          if num ≤ maxLineNumber then (some num, skipBlank ((pre.dropWhile isWs).dropWhile isDigit) ++ c :: r)
          else (none, pre ++ c :: r)
        | none => (none, pre ++ c :: r) := by
    intro c r h1 h2
    rw [splitLineNumber_eq, (span_append_stop isWs pre c r h2).2, (span_append_stop isDigit _ c r h1).1,
      (span_append_stop isDigit _ c r h1).2, skipBlank_append _ c r (by rintro rfl; cases h2)]
    rfl  -- this `match` and that of `splitLineNumber_eq` are two matchers with the same arms
  rw [lineNo, lineBody, key c r h1 h2, key '?' [] (by decide) (by decide)]
  split
  · split <;> simp
  · simp

theorem lex_ctx (pre : Str) (c : Char) (r : Str) (h1 : isDigit c = false) (h2 : isWs c = false) :
    lex (pre ++ c :: r) = (lineNo pre, postPasses (lexFrom (lineBody pre ++ c :: r) false)) := by
  simp only [lex, splitLineNumber_ctx pre c r h1 h2, rawTokens_eq]

theorem lex_cut {pre : Str} {A : List Token} {c : Char} (h : Cut (lineBody pre) A c)
    (hd : isDigit c = false) (hw : isWs c = false) (r : Str) :
    lex (pre ++ c :: r) = (lineNo pre, postPasses (A ++ lexFrom (c :: r) false)) := by
  rw [lex_ctx pre c r hd hw, h r]

theorem lex_cut_word {pre : Str} {A : List Token} {c : Char} (h : Cut (lineBody pre) A c)
    (hd : isDigit c = false) (hw : isWs c = false) (w r : Str) (hc : w.head? = some c) :
    lex (pre ++ (w ++ r)) = (lineNo pre, postPasses (A ++ lexFrom (w ++ r) false)) := by
  obtain ⟨cs, rfl⟩ : ∃ cs, w = c :: cs := by
    cases w with
    | nil => cases hc
    | cons d cs => cases hc; exact ⟨cs, rfl⟩
  exact lex_cut h hd hw (cs ++ r)

theorem lexFrom_keyword' (p : Str × Token) (hp : p ∈ keywords) (rest : List Char)
    (hb : ∀ c ∈ rest.head?, isAlpha c = false) :
    lexFrom (p.1 ++ rest) false = p.2 :: lexFrom rest (p.2 == .word .rem1) :=
  lexFrom_keyword_na p hp rest hb

end Lex
end Basic

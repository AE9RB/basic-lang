import BasicModel.Lemmas.LexStable
/-
  C05 for ALL strings: the tokens the scanners can produce.

  `number()` is idempotent on its own output: whatever it returns for an arbitrary text, the text of that
  token — followed by anything the scanner stops at — is scanned back to the same token (`number_rerun`),
  and the character it stopped at in the original text is such a character (`NumStop`).  On top of that:
  the per-token predicate `Tok` (what the scanners can produce), the follower condition `Bnd` (what the
  next printed character may be) and the boundary lemma `tok_rescan`: a `Tok` token followed by a `Bnd`
  character is lexed back as itself.
-/
namespace Basic
namespace Lex

/-- what may follow the text `u` of a numeral for it to be scanned back: nothing; anything after a type
    suffix; otherwise a character `number()` always stops at, and `u` must not end in an exponent letter -/
def NumBnd (u : Str) : Option Char → Prop
  | none => True
  | some c => (∃ l, u.getLast? = some l ∧ isNumSuffix l = true) ∨
      (numCont false false c = false ∧ ∀ l, u.getLast? = some l → l ≠ 'E' ∧ l ≠ 'D')

/-- what `number()` leaves behind -/
def NumStop (u : Str) (cs' : List Char) : Prop :=
  ∀ c ∈ cs'.head?, (∀ l, u.getLast? = some l → l ≠ 'E' ∧ l ≠ 'D') ∧
    ((∃ l, u.getLast? = some l ∧ isNumSuffix l = true) ∨ isAlpha c = true ∨
      (isDigit c = false ∧ isNumSuffix c = false))

theorem foldED_ne_of_ne (c k : Char) (hk : k ≠ 'E') (hk' : k ≠ 'D') (hke : k ≠ 'e') (hkd : k ≠ 'd') :
    (foldED c = k) = (c = k) := by
  unfold foldED
  split
  · rename_i h; subst h; simp [hk.symm, hke.symm]
  split
  · rename_i h; subst h; simp [hk'.symm, hkd.symm]
  · rfl

theorem numberLoop_rerun_one (ch : Char) (hf : foldED ch = ch) (hns : isNumSuffix ch = false)
    (s : Str) (dg : Nat) (dec ex : Bool) (rest : List Char) (hb : NumBnd [ch] rest.head?) :
    numberLoop (ch :: rest) s dg dec ex =
      (numberFinish (s ++ [ch]) (numDigits ex ch dg) (dec || ch = '.') ex, rest) := by
  have hns' : isNumSuffix (foldED ch) = false := by rw [hf]; exact hns
  cases rest with
  | nil =>
    have := numberLoop_last ch s dg dec ex hns'
    rw [hf] at this; exact this
  | cons c r2 =>
    have hb' : NumBnd [ch] (some c) := hb
    simp only [NumBnd, List.getLast?_singleton, Option.some.injEq, exists_eq_left', forall_eq'] at hb'
    rcases hb' with h | ⟨hc, hE, hD⟩
    · rw [hns] at h; exact absurd h (by simp)
    · have := numberLoop_step ch c r2 s dg dec ex hns'
      rw [hf, numDecide_stop ch c _ _ hE hD hc] at this
      exact this

theorem numberLoop_rerun : ∀ (cs : List Char) (s : Str) (dg : Nat) (dec ex : Bool), cs ≠ [] → ¬ PB cs →
    ∀ (t : Token) (cs' : List Char), numberLoop cs s dg dec ex = (t, cs') →
    ∃ u, u ≠ [] ∧ u.head? = cs.head?.map foldED ∧ numTok t (s ++ u) ∧ NumStop u cs' ∧
      ∀ rest, NumBnd u rest.head? → numberLoop (u ++ rest) s dg dec ex = (t, rest) := by
  refine numberLoop_induct ?_ ?_ ?_
  · -- a type suffix ends the numeral
    intro ch0 r s dg dec ex hsfx heq t cs' h
    have hf := foldED_foldED ch0
    obtain ⟨rfl, rfl⟩ := Prod.mk.inj (heq.symm.trans h)
    refine ⟨[foldED ch0], by simp, by simp, suffixLiteral_numTok _ _, ?_, ?_⟩
    · intro c _
      have hne : foldED ch0 ≠ 'E' ∧ foldED ch0 ≠ 'D' := by
        constructor <;> (intro e; rw [e] at hsfx; exact absurd hsfx (by decide))
      exact ⟨by intro l hl; simp at hl; subst hl; exact hne, Or.inl ⟨_, by simp, hsfx⟩⟩
    · intro rest _
      have := numberLoop_sfx (foldED ch0) rest s dg dec ex (by rw [hf]; exact hsfx)
      rw [hf] at this
      simpa using this
  · -- the numeral ends without one: its text is scanned back in front of anything `number()` stops at
    intro ch0 r s dg dec ex cs0 hsfx heq _ hstop t cs' h
    have hf := foldED_foldED ch0
    obtain ⟨rfl, rfl⟩ := Prod.mk.inj (heq.symm.trans h)
    refine ⟨[foldED ch0], by simp, by simp, numberFinish_numTok _ _ _ _, ?_, ?_⟩
    · intro c hc
      exact ⟨by intro l hl; simp at hl; subst hl; exact (hstop c hc).1, Or.inr (hstop c hc).2⟩
    · intro rest hb
      exact numberLoop_rerun_one (foldED ch0) hf hsfx s dg dec ex rest hb
  · intro ch0 pk tl s dg dec ex ex' hsfx hdec heq ih t cs' h
    have hf := foldED_foldED ch0
    obtain ⟨u', hne, hhd, htok, hstop, hre⟩ := ih t cs' (heq.symm.trans h)
    obtain ⟨k, u'', rfl⟩ := List.exists_cons_of_ne_nil hne
    have hk : k = foldED pk := by simpa using hhd
    refine ⟨foldED ch0 :: k :: u'', by simp, by simp, by simpa using htok, ?_, ?_⟩
    · intro c hc
      have := hstop c hc
      rw [getLast?_cons_of_ne_nil _ _ (by simp)]
      exact this
    · intro rest hb
      have hb' : NumBnd (k :: u'') rest.head? := by
        cases hr : rest.head? with
        | none => trivial
        | some c =>
          rw [hr] at hb
          simp only [NumBnd] at hb ⊢
          rw [getLast?_cons_of_ne_nil _ _ (by simp)] at hb
          exact hb
      have := numberLoop_step (foldED ch0) k (u'' ++ rest) s dg dec ex (by rw [hf]; exact hsfx)
      rw [hf, hk, numDecide_foldED, hdec] at this
      simp only [List.cons_append]
      rw [hk, this, ← hk]
      exact hre rest hb'

theorem number_rerun (c : Char) (cs : List Char) (hc : (isDigit c || c = '.') = true) (t : Token)
    (cs' : List Char) (hn : number (c :: cs) = (t, cs')) :
    ∃ u, u ≠ [] ∧ u.head? = some c ∧ numTok t u ∧ NumStop u cs' ∧
      ∀ rest, NumBnd u rest.head? → number (u ++ rest) = (t, rest) := by
  have hf := (numHead_plain c hc).1
  obtain ⟨u, h1, h2, h3, h4, h5⟩ :=
    numberLoop_rerun (c :: cs) [] 0 false false (by simp) (not_PB_of_numHead c cs hc) t cs' hn
  exact ⟨u, h1, by simpa [hf] using h2, by simpa using h3, h4, h5⟩

/-- text of an `Unknown` token outside remarks: starts with a character no scanner claims and
    `match_minutia` does not know, and holds no letter, digit or blank after it -/
def MinU (u : Str) : Prop :=
  ∃ c r, u = c :: r ∧ isMinStart c = true ∧ matchMinutia [c] = none ∧ ∀ x ∈ r, isADW x = false

/-- the follower condition on a character -/
def BndC : Token → Char → Prop
  | .unknown _, c => isADW c = true
  | .whitespace _, c => isWs c = false
  | .literal (.hex _), c => isRadixDigit true (upper c) = false ∧ upper c = c
  | .literal (.octal ds), c => isRadixDigit false (upper c) = false ∧ upper c = c ∧ (ds = [] → c ≠ 'H' ∧ c ≠ 'h')
  | .literal (.single s), c => NumBnd s (some c)
  | .literal (.double s), c => NumBnd s (some c)
  | .literal (.integer s), c => NumBnd s (some c)
  | .literal (.string _), _ => True
  | .word .rem2, _ => True
  | .word _, c => isAlpha c = false
  | .operator o, c => o.isWord = true → isAlpha c = false
  | .ident (.plain _), c => isAlpha c = false ∧ isDigit c = false ∧ isSuffixChar c = false
  | .ident _, _ => True
  | _, _ => True

/-- what may follow a token in the printed text (nothing, or a character the token's scanner stops at) -/
def Bnd (t : Token) : Option Char → Prop
  | none => True
  | some c => BndC t c

/-- a numeral token that `number()` scans back from its own text -/
def NumRe (t : Token) (s : Str) : Prop :=
  ∃ c cs, s = c :: cs ∧ (isDigit c || c = '.') = true ∧
    ∀ rest, NumBnd s rest.head? → number (s ++ rest) = (t, rest)

/-- tokens the scanners can produce (the remark markers and the remark text are treated apart) -/
def Tok : Token → Prop
  | .unknown u => MinU u
  | .whitespace n => 0 < n
  | .literal (.string s) => '"' ∉ s
  | .literal (.hex ds) => ∀ c ∈ ds, isRadixDigit true c = true
  | .literal (.octal ds) => ∀ c ∈ ds, isRadixDigit false c = true
  | .literal (.single s) => NumRe (.literal (.single s)) s
  | .literal (.double s) => NumRe (.literal (.double s)) s
  | .literal (.integer s) => NumRe (.literal (.integer s)) s
  | .ident i => Printable (.ident i)
  | _ => True

theorem minutia_unknown (u : Str) (h : MinU u) (rest : List Char) (hb : ∀ c ∈ rest.head?, isADW c = true) :
    minutia (u ++ rest) = (.unknown u, rest) := by
  obtain ⟨c, r, rfl, hc, hm, hr⟩ := h
  obtain ⟨e1, e2⟩ := span_append nADW r rest (fun x hx => by simp [nADW, hr x hx])
    (fun x hx => by simp [nADW, hb x hx])
  rw [List.cons_append, minutia_eq, hm]
  simp only [e1, e2]

theorem lexFrom_unknown (u : Str) (h : MinU u) (rest : List Char) (hb : ∀ c ∈ rest.head?, isADW c = true) :
    lexFrom (u ++ rest) false = .unknown u :: lexFrom rest false := by
  have hm := minutia_unknown u h rest hb
  obtain ⟨c, r, rfl, hc, -, -⟩ := h
  simp only [isMinStart, Bool.and_eq_true, Bool.not_eq_true', decide_eq_false_iff_not] at hc
  obtain ⟨⟨⟨⟨⟨h1, h2⟩, h3⟩, h4⟩, h5⟩, h6⟩ := hc
  rw [List.cons_append] at hm ⊢
  rw [lexFrom_cons]
  have hne : (Token.unknown (c :: r) == Token.word Word.rem2) = false := by simp
  simp [h1, h2, h3, h4, h5, h6, hm, hne]

theorem bnd_some (t : Token) (rest : List Char) (h : Bnd t rest.head?) : ∀ c ∈ rest.head?, BndC t c := by
  intro c hc
  cases rest with
  | nil => simp at hc
  | cons k tl => simp at hc; subst hc; exact h

theorem Name.token_plain_sfx (nm : Name) (s : Str) (h : nm.token = .ident (.plain s)) : nm.sfx = none := by
  cases hs : nm.sfx with
  | none => rfl
  | some c =>
    simp only [Name.token, hs, suffixIdent] at h
    split at h
    · cases h
    split at h
    · cases h
    split at h <;> cases h

theorem lexFrom_numRe (t : Token) (s : Str) (ht : NumRe t s) (rest : List Char) (hb : NumBnd s rest.head?) :
    lexFrom (s ++ rest) false = t :: lexFrom rest false := by
  obtain ⟨c, cs, rfl, hc, hre⟩ := ht
  rw [List.cons_append, lexFrom_number c _ hc, ← List.cons_append, hre rest hb]

theorem tok_rescan (t : Token) (ht : Tok t) (h1 : t ≠ .word .rem1) (h2 : t ≠ .word .rem2) (rest : List Char)
    (hb : Bnd t rest.head?) : lexFrom (t.text ++ rest) false = rawOf t ++ lexFrom rest false := by
  have hbc := bnd_some t rest hb
  cases t with
  | unknown u => exact lexFrom_unknown u ht rest hbc
  | whitespace n => exact lexFrom_token _ rest ht hbc h1 h2
  | literal l =>
    cases l with
    | string s => exact lexFrom_token _ rest ht trivial h1 h2
    | hex ds => exact lexFrom_token _ rest ht hbc h1 h2
    | octal ds =>
      refine lexFrom_token _ rest ht ⟨fun c hc => ⟨(hbc c hc).1, (hbc c hc).2.1⟩, ?_⟩ h1 h2
      intro c hc
      cases ds with
      | nil => exact (hbc c (by simpa using hc)).2.2 rfl
      | cons d ds' =>
        simp at hc
        have hd : isRadixDigit false d = true := ht d (by simp)
        rw [← hc]
        constructor <;> (intro e; rw [e] at hd; revert hd; decide)
    | single s => exact lexFrom_numRe _ s ht rest (by cases rest <;> first | trivial | exact hb)
    | double s => exact lexFrom_numRe _ s ht rest (by cases rest <;> first | trivial | exact hb)
    | integer s => exact lexFrom_numRe _ s ht rest (by cases rest <;> first | trivial | exact hb)
  | word w =>
    have hw : w ≠ .rem2 := fun e => h2 (by rw [e])
    refine lexFrom_wordTok w (fun e => h1 (by rw [e])) hw rest fun c hc => ?_
    have := hbc c hc
    cases w <;> first | exact this | exact absurd rfl hw
  | operator o =>
    by_cases ho : o.isWord = true
    · have := lexFrom_wordOp o ho rest fun c hc => hbc c hc ho
      cases o <;> first | exact absurd ho (by decide) | exact this
    · exact lexFrom_token _ rest trivial (fun h => absurd h ho) h1 h2
  | ident i =>
    obtain ⟨nm, hw, htk, htx⟩ := printable_ident i ht
    have hab : nm.sfx = none → AlphaBoundary rest := by
      intro hs
      have : ∃ s, i = .plain s := by
        simp only [Name.token, hs] at htk
        exact ⟨_, (Token.ident.inj htk).symm⟩
      obtain ⟨s, rfl⟩ := this
      intro c hc
      exact hbc c hc
    have := lexFrom_name nm hw rest hab
    rw [htx, this, htk]; rfl
  | lparen => exact lexFrom_token _ rest trivial trivial h1 h2
  | rparen => exact lexFrom_token _ rest trivial trivial h1 h2
  | comma => exact lexFrom_token _ rest trivial trivial h1 h2
  | colon => exact lexFrom_token _ rest trivial trivial h1 h2
  | semicolon => exact lexFrom_token _ rest trivial trivial h1 h2

end Lex
end Basic

import BasicModel.Model.Parse
/-
  Monotonicity of the expression parser in its fuel (DESIGN Appendix A; `mono_le`):
  a run of `descend` / `binLoop` / `exprList` that succeeds with some fuel succeeds with the same
  result with any larger fuel.  (Running out of fuel is the only effect of the fuel parameter.)
-/
namespace Basic
namespace Lemmas.ParseFuel
open Parse

def Sim {α β} (g : α → β) (x : PM α) (y : PM β) : Prop :=
  ∀ st r, x.run st = .ok r → y.run st = .ok (g r.1, r.2)

theorem Sim.bind {α α' β β'} {g : α → α'} {h : β → β'} {x : PM α} {x' : PM α'} {k : α → PM β}
    {k' : α' → PM β'} (hx : Sim g x x') (hk : ∀ a, Sim h (k a) (k' (g a))) : Sim h (x >>= k) (x' >>= k') := by
  intro st r hr
  simp only [StateT.run_bind] at hr ⊢
  cases hxs : x.run st with
  | error e => rw [hxs] at hr; cases hr
  | ok p =>
    rw [hxs] at hr
    rw [hx st p hxs]
    exact hk p.1 p.2 r hr

/-- `Sim id`, written out -/
def Le {α} (x y : PM α) : Prop := ∀ st r, x.run st = .ok r → y.run st = .ok r

theorem Le.refl {α} (x : PM α) : Le x x := fun _ _ h => h

theorem Le.bind {α β} {x x' : PM α} {k k' : α → PM β} (hx : Le x x') (hk : ∀ a, Le (k a) (k' a)) :
    Le (x >>= k) (x' >>= k') :=
  Sim.bind (g := id) (h := id) hx hk

theorem Le.outOfFuel {α} (y : PM α) : Le (outOfFuel : PM α) y := by
  intro st r h; cases h

theorem Le.ite {α} {c : Prop} [Decidable c] {x x' y y' : PM α} (hx : Le x x') (hy : Le y y') :
    Le (if c then x else y) (if c then x' else y') := by
  split <;> assumption

theorem descend_step (f f' : Nat)
    (hd : ∀ vm p, Le (descend f vm p) (descend f' vm p))
    (hb : ∀ vm p l, Le (binLoop f vm p l) (binLoop f' vm p l))
    (he : ∀ vm, Le (exprList f vm) (exprList f' vm)) :
    (∀ vm p, Le (descend (f+1) vm p) (descend (f'+1) vm p)) := by
  intro vm p
  simp only [descend]
  refine Le.bind (Le.bind (Le.refl _) ?_) (fun l => hb vm p l)
  intro t
  rcases t with _ | (_|_|_|_|op|_|_|_|_|_|_)
  all_goals try exact Le.refl _
  · -- operator
    cases op
    all_goals try exact Le.refl _
    · exact hd _ _
    · exact Le.bind (Le.refl _) (fun c => Le.bind (hd _ _) (fun _ => Le.refl _))
    · exact Le.bind (Le.refl _) (fun c => Le.bind (hd _ _) (fun _ => Le.refl _))
  · -- ident
    refine Le.bind (Le.refl _) (fun c => Le.bind (Le.refl _) (fun t => ?_))
    rcases t with _ | (_|_|_|_|op|_|_|_|_|_|_)
    all_goals try exact Le.refl _
    refine Le.bind (Le.refl _) (fun _ => Le.bind ?_ (fun _ => Le.refl _))
    refine Le.bind (Le.refl _) (fun b => ?_)
    exact Le.ite (Le.refl _) (Le.bind (he _) (fun _ => Le.refl _))
  · -- lparen
    exact Le.bind (hd _ _) (fun _ => Le.refl _)

theorem binLoop_step (f f' : Nat)
    (hd : ∀ vm p, Le (descend f vm p) (descend f' vm p))
    (hb : ∀ vm p l, Le (binLoop f vm p l) (binLoop f' vm p l)) :
    (∀ vm p l, Le (binLoop (f+1) vm p l) (binLoop (f'+1) vm p l)) := by
  intro vm p l
  simp only [binLoop]
  refine Le.bind (Le.refl _) (fun t => ?_)
  rcases t with _ | (_|_|_|_|op|_|_|_|_|_|_)
  all_goals try exact Le.refl _
  refine Le.ite (Le.refl _) (Le.bind (Le.refl _) (fun _ => Le.bind (Le.refl _) (fun c =>
    Le.bind (hd _ _) (fun r => ?_))))
  cases BinOp.ofOperator op with
  | none => exact Le.refl _
  | some b => exact hb _ _ _

theorem exprList_step (f f' : Nat)
    (hd : ∀ vm p, Le (descend f vm p) (descend f' vm p))
    (he : ∀ vm, Le (exprList f vm) (exprList f' vm)) :
    (∀ vm, Le (exprList (f+1) vm) (exprList (f'+1) vm)) := by
  intro vm
  simp only [exprList]
  refine Le.bind (hd _ _) (fun e => Le.bind (Le.refl _) (fun b => ?_))
  exact Le.ite (Le.bind (he _) (fun _ => Le.refl _)) (Le.refl _)

/-- one induction on the smaller fuel: the three steps above hold for any pair of fuels -/
theorem mono_le : ∀ {f f' : Nat}, f ≤ f' →
    (∀ vm p, Le (descend f vm p) (descend f' vm p)) ∧
    (∀ vm p l, Le (binLoop f vm p l) (binLoop f' vm p l)) ∧
    (∀ vm, Le (exprList f vm) (exprList f' vm))
  | 0, _, _ =>
    ⟨fun _ _ => by rw [descend]; exact Le.outOfFuel _, fun _ _ _ => by rw [binLoop]; exact Le.outOfFuel _,
      fun _ => by rw [exprList]; exact Le.outOfFuel _⟩
  | f + 1, f' + 1, h =>
    have ih := mono_le (Nat.le_of_succ_le_succ h)
    ⟨descend_step f f' ih.1 ih.2.1 ih.2.2, binLoop_step f f' ih.1 ih.2.1, exprList_step f f' ih.1 ih.2.2⟩

end Lemmas.ParseFuel
end Basic

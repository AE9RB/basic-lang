import BasicModel.Lemmas.LexForms
/-
  Printable tokens, what may follow them, and the boundary lemma
  `lexFrom (t.text ++ rest) = rawOf t ++ lexFrom rest` (DESIGN App. B), on top of table facts about the reserved words.
-/
namespace Basic
namespace Lex

theorem keywords_alpha : ∀ p ∈ keywords, p.1.map upper = p.1 ∧ (∀ c ∈ p.1, isAlpha c = true) ∧ p.1 ≠ [] := by
  rw [keywords_eq]; decide +kernel

theorem keywords_scan : ∀ p ∈ keywords, scanAlphabetic [] p.1 = ([p.2], []) := by
  simp only [scanAlphabetic, scanAlphaLoop_eq, keywords_eq]
  decide +kernel

/-- a reserved word typed in any mixture of cases and followed by anything but a letter is that word: the letters are
    folded before they are crunched, and the crunch leaves nothing, so a digit or a type suffix behind them is not looked at -/
theorem alphabetic_keyword_case (p : Str × Token) (hp : p ∈ keywords) (ls rest : List Char) (hl : ls.map upper = p.1)
    (ha : ∀ c ∈ ls, isAlpha c = true) (hb : ∀ c ∈ rest.head?, isAlpha c = false) :
    alphabetic (ls ++ rest) = ([p.2], rest) := by
  have hne : ls ≠ [] := fun h => (keywords_alpha p hp).2.2 (by rw [← hl, h]; rfl)
  obtain ⟨c, cs, e⟩ := List.exists_cons_of_ne_nil hne
  have hs := span_append isAlpha ls rest ha hb
  rw [e, List.cons_append, alphabetic_eq _ _ (ha c (e ▸ List.mem_cons_self)), ← List.cons_append, ← e, alphaSpan,
    hs.1, hs.2, hl, keywords_scan p hp]
  rfl

theorem alphabetic_keyword_na (p : Str × Token) (hp : p ∈ keywords) (rest : List Char)
    (hb : ∀ c ∈ rest.head?, isAlpha c = false) : alphabetic (p.1 ++ rest) = ([p.2], rest) :=
  alphabetic_keyword_case p hp p.1 rest (keywords_alpha p hp).1 (keywords_alpha p hp).2.1 hb

theorem word_in_keywords (w : Word) (h : w ≠ .rem2) : (w.text, Token.word w) ∈ keywords := by
  rw [keywords_eq]
  cases w <;> first | (exact absurd rfl h) | decide +kernel

theorem rem_in_keywords : ("REM".toList, Token.word .rem1) ∈ keywords := word_in_keywords .rem1 (by decide)

theorem operator_in_keywords (o : Operator) (h : o.isWord = true) :
    (o.text, Token.operator o) ∈ keywords := by
  rw [keywords_eq]
  cases o <;> first | (exact absurd h (by decide)) | decide +kernel

/-- `Display for Operator`, spelled as character lists (so that it reduces by `simp`) -/
def opChars : Operator → Str
  | .caret => ['^'] | .multiply => ['*'] | .divide => ['/'] | .divideInt => ['\\']
  | .modulo => ['M', 'O', 'D'] | .plus => ['+'] | .minus => ['-'] | .equal => ['=']
  | .notEqual => ['<', '>'] | .less => ['<'] | .lessEqual => ['<', '='] | .greater => ['>']
  | .greaterEqual => ['>', '='] | .not => ['N', 'O', 'T'] | .and => ['A', 'N', 'D'] | .or => ['O', 'R']
  | .xor => ['X', 'O', 'R'] | .imp => ['I', 'M', 'P'] | .eqv => ['E', 'Q', 'V']

theorem Operator.text_eq (o : Operator) : o.text = opChars o := by cases o <;> decide

/-- the raw tokens the iterator produces for the text of a token (before the post-passes) -/
def rawOf : Token → List Token
  | .operator .lessEqual => [.operator .less, .operator .equal]
  | .operator .greaterEqual => [.operator .greater, .operator .equal]
  | .operator .notEqual => [.operator .less, .operator .greater]
  | t => [t]

/-- tokens whose printed text lexes back to them -/
def Printable : Token → Prop
  | .unknown _ => False
  | .whitespace n => 0 < n
  | .literal (.string s) => '"' ∉ s
  | .literal (.hex ds) => ∀ c ∈ ds, isRadixDigit true c = true
  | .literal (.octal ds) => ∀ c ∈ ds, isRadixDigit false c = true
  | .literal l => ∃ nm : Numeral, nm.WF ∧ nm.token = .literal l
  | .ident i => ∃ nm : Name, nm.WF ∧ nm.token = .ident i ∧ nm.letters.map upper = nm.letters
  | _ => True

/-- what the text after a token must look like for the token to end where its text ends -/
def Follows : Token → List Char → Prop
  | .whitespace _, rest => ∀ c ∈ rest.head?, isWs c = false
  | .literal (.string _), _ => True
  | .literal (.hex _), rest => RadixBoundary true rest
  | .literal (.octal ds), rest => RadixBoundary false rest ∧ ∀ c ∈ (ds ++ rest).head?, c ≠ 'H' ∧ c ≠ 'h'
  | .literal _, rest => NumBoundary rest
  | .word .rem2, _ => True
  | .word _, rest => AlphaBoundary rest
  | .operator o, rest => o.isWord = true → AlphaBoundary rest
  | .ident _, rest => AlphaBoundary rest
  | _, _ => True

theorem Numeral.text_head (nm : Numeral) (h : nm.WF) :
    ∃ c cs, nm.text = c :: cs ∧ (isDigit c || c = '.') = true := by
  obtain ⟨int, frac, expo, sfx⟩ := nm
  obtain ⟨h1, h2, h3, -, -⟩ := h
  cases int with
  | cons k ks => exact ⟨k, _, rfl, by simp [h1 k (by simp)]⟩
  | nil =>
    cases frac with
    | none => exact absurd rfl (h3 rfl)
    | some f => exact ⟨'.', _, rfl, by simp⟩

theorem Name.text_head (nm : Name) (h : nm.WF) :
    ∃ c cs, nm.text = c :: cs ∧ isAlpha c = true := by
  obtain ⟨letters, digits, sfx⟩ := nm
  obtain ⟨h1, h2, -, -, -⟩ := h
  cases letters with
  | nil => exact absurd rfl h2
  | cons k ks => exact ⟨k, _, rfl, h1 k (by simp)⟩

theorem printable_ident (i : TIdent) (h : Printable (.ident i)) :
    ∃ nm : Name, nm.WF ∧ nm.token = .ident i ∧ (Token.ident i).text = nm.text := by
  obtain ⟨nm, hw, ht, hu⟩ := h
  exact ⟨nm, hw, ht, by rw [← ht, nm.token_text, Name.base, hu, Name.text, List.append_assoc]⟩

theorem lexFrom_numeral (nm : Numeral) (hw : nm.WF) (rest : List Char) (hb : nm.sfx = none → NumBoundary rest) :
    lexFrom (nm.text ++ rest) false = nm.token :: lexFrom rest false := by
  obtain ⟨c, cs, e, hc⟩ := nm.text_head hw
  have hn := number_numeral nm hw rest hb
  rw [e, List.cons_append] at hn ⊢
  rw [lexFrom_number c _ hc, hn]

theorem lexFrom_name (nm : Name) (hw : nm.WF) (rest : List Char) (hb : nm.sfx = none → AlphaBoundary rest) :
    lexFrom (nm.text ++ rest) false = nm.token :: lexFrom rest false := by
  obtain ⟨c, cs, e, hc⟩ := nm.text_head hw
  have hn := alphabetic_name nm hw rest hb
  rw [e, List.cons_append] at hn ⊢
  rw [lexFrom_alpha c _ hc _ _ _ hn]
  have : (nm.token == Token.word Word.rem1) = false := by
    simp only [Name.token]; split <;> simp
  simp [this]

theorem lexFrom_keyword_na (p : Str × Token) (hp : p ∈ keywords) (rest : List Char)
    (hb : ∀ c ∈ rest.head?, isAlpha c = false) :
    lexFrom (p.1 ++ rest) false = p.2 :: lexFrom rest (p.2 == .word .rem1) := by
  have ha := alphabetic_keyword_na p hp rest hb
  obtain ⟨-, h2, h3⟩ := keywords_alpha p hp
  obtain ⟨c, cs, e⟩ := List.exists_cons_of_ne_nil h3
  rw [e, List.cons_append] at ha ⊢
  rw [lexFrom_alpha c _ (h2 c (e ▸ List.mem_cons_self)) _ _ _ ha]
  rfl

theorem lexFrom_wordTok (w : Word) (h1 : w ≠ .rem1) (h2 : w ≠ .rem2) (rest : List Char)
    (hna : ∀ c ∈ rest.head?, isAlpha c = false) :
    lexFrom ((Token.word w).text ++ rest) false = .word w :: lexFrom rest false := by
  have := lexFrom_keyword_na _ (word_in_keywords w h2) rest hna
  have hne : (Token.word w == Token.word Word.rem1) = false := by simp [h1]
  simpa [hne, Token.text] using this

theorem lexFrom_wordOp (o : Operator) (ho : o.isWord = true) (rest : List Char)
    (hna : ∀ c ∈ rest.head?, isAlpha c = false) :
    lexFrom ((Token.operator o).text ++ rest) false = .operator o :: lexFrom rest false := by
  have := lexFrom_keyword_na _ (operator_in_keywords o ho) rest hna
  have hne : (Token.operator o == Token.word Word.rem1) = false := by simp
  simpa [hne, Token.text] using this

theorem lexFrom_numeral_token (nm : Numeral) (hw : nm.WF) (t : Token) (ht : nm.token = t) (rest : List Char)
    (hf : NumBoundary rest) : lexFrom (t.text ++ rest) false = t :: lexFrom rest false := by
  subst ht
  rw [nm.token_text]
  exact lexFrom_numeral nm hw rest (fun _ => hf)

/-- the boundary lemma: a printable token other than a remark marker, followed by text it cannot
    absorb, is lexed as itself (two-character comparison operators as their two halves) -/
theorem lexFrom_token (t : Token) (rest : List Char) (hp : Printable t) (hf : Follows t rest)
    (h1 : t ≠ .word .rem1) (h2 : t ≠ .word .rem2) :
    lexFrom (t.text ++ rest) false = rawOf t ++ lexFrom rest false := by
  cases t with
  | unknown s => exact absurd hp id
  | whitespace n =>
    obtain ⟨m, rfl⟩ : ∃ m, n = m + 1 := ⟨n - 1, by simp only [Printable] at hp; omega⟩
    simp only [Token.text, List.replicate_succ, List.cons_append]
    rw [lexFrom_ws ' ' _ (by decide)]
    have := whitespace_run m rest hf
    simp only [List.replicate_succ, List.cons_append] at this
    rw [this]; rfl
  | literal l =>
    cases l with
    | string s =>
      simp only [Token.text, Literal.text, List.cons_append]
      rw [lexFrom_string]
      have := string_text s rest hp
      simp only [Literal.text, List.cons_append, List.append_assoc, List.nil_append] at this
      simp only [List.append_assoc, List.cons_append, List.nil_append, this]; rfl
    | hex ds =>
      have := radix_hex_text ds rest hp hf
      simp only [Literal.text, List.cons_append] at this
      simp only [Token.text, Literal.text, List.cons_append]
      rw [lexFrom_radix, this]; rfl
    | octal ds =>
      have := radix_octal_text ds rest hp hf.1 hf.2
      simp only [Literal.text, List.cons_append] at this
      simp only [Token.text, Literal.text, List.cons_append]
      rw [lexFrom_radix, this]; rfl
    | single s | double s | integer s =>
      obtain ⟨nm, hw, ht⟩ := hp
      exact lexFrom_numeral_token nm hw _ ht rest hf
  | word w =>
    have hw : w ≠ .rem2 := fun e => h2 (by rw [e])
    have hb : AlphaBoundary rest := by
      cases w <;> first | exact hf | exact absurd rfl hw
    exact lexFrom_wordTok w (fun e => h1 (by rw [e])) hw rest fun c hc => (hb c hc).1
  | operator o =>
    by_cases ho : o.isWord = true
    · have := lexFrom_wordOp o ho rest fun c hc => (hf ho c hc).1
      cases o <;> first | exact absurd ho (by decide) | exact this
    · simp only [Token.text, Operator.text_eq]
      cases o <;> first
        | exact absurd rfl ho
        | (simp only [opChars, List.cons_append, List.nil_append]
           rw [lexFrom_minutia_one _ _ _ (by rfl)]
           first | rfl | (rw [show ((_ : Token) == Token.word Word.rem2) = false from by decide,
             lexFrom_minutia_one _ _ _ (by rfl)]; rfl))
  | ident i =>
    obtain ⟨nm, hw, ht, htx⟩ := printable_ident i hp
    have := lexFrom_name nm hw rest (fun _ => hf)
    rw [htx, this, ht]; rfl
  | lparen => exact lexFrom_minutia_one _ _ _ rfl
  | rparen => exact lexFrom_minutia_one _ _ _ rfl
  | comma => exact lexFrom_minutia_one _ _ _ rfl
  | colon => exact lexFrom_minutia_one _ _ _ rfl
  | semicolon => exact lexFrom_minutia_one _ _ _ rfl

end Lex
end Basic

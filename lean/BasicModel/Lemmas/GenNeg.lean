import BasicModel.Lemmas.GenWalk
/-
  The code generator only ever defines *local* labels.

  `NegSyms l`: every key of `l.symbols` is negative and `l.currentSymbol ≤ 0`.  Every fragment the
  generator builds (`acceptStmts ast {}`) satisfies it: `lpushSymbol` is only called with a label
  handed out by `lnextSymbol`, and `Link.append` re-bases negative keys by a non-positive offset.
  Consequence: compiling a statement never adds or changes a *line* symbol (key `≥ 0`) of the link it is
  appended to.

  The proof is the walk of `Lemmas/GenWalk.lean` for the invariants `negInv`: `NegSyms` of every
  fragment, and "negative" of the labels handed out.
-/
namespace Basic
namespace Link

/-- only local labels: what every generated fragment satisfies -/
def NegSyms (l : Link) : Prop := l.currentSymbol ≤ 0 ∧ ∀ p ∈ l.symbols, p.1 < 0

theorem NegSyms.empty : NegSyms {} := ⟨Int.le_refl 0, fun _ h => nomatch h⟩

theorem NegSyms.push {l : Link} (h : NegSyms l) (op : Opcode) : NegSyms (l.push op).1 := h
theorem NegSyms.pushData {l : Link} (h : NegSyms l) (v : Val) : NegSyms (l.pushData v).1 := h
theorem NegSyms.addUnlinked {l : Link} (h : NegSyms l) (c : Col) (s : Symbol) :
    NegSyms (l.addUnlinked c s) := h
theorem NegSyms.setWhiles {l : Link} (h : NegSyms l) (w : List (Bool × Col × Nat × Symbol)) :
    NegSyms { l with whiles := w } := h
theorem NegSyms.setOps {l : Link} (h : NegSyms l) (o : Array Opcode) :
    NegSyms { l with ops := o } := h

theorem NegSyms.nextSymbol {l : Link} (h : NegSyms l) :
    NegSyms l.nextSymbol.1 ∧ l.nextSymbol.2 < 0 := by
  have hc : l.currentSymbol ≤ 0 := h.1
  refine ⟨⟨?_, h.2⟩, ?_⟩
  · show l.currentSymbol - 1 ≤ 0
    simp only [Symbol] at *; omega
  · show l.currentSymbol - 1 < 0
    simp only [Symbol] at *; omega

theorem NegSyms.pushSymbol {l : Link} (h : NegSyms l) {sym : Symbol} (hs : sym < 0) :
    NegSyms (l.pushSymbol sym) := by
  refine ⟨h.1, ?_⟩
  intro p hp
  rcases mem_symInsert hp with e | hp
  · rw [e]; exact hs
  · exact h.2 p hp

theorem NegSyms.append {a b : Link} (ha : NegSyms a) (hb : NegSyms b) : NegSyms (a.append b).1 := by
  have key : NegSyms (appended a b) := by
    have hca : a.currentSymbol ≤ 0 := ha.1
    have hcb : b.currentSymbol ≤ 0 := hb.1
    refine ⟨show a.currentSymbol + b.currentSymbol ≤ 0 by simp only [Symbol] at *; omega, fun p hp => ?_⟩
    rcases mem_appendSymbols hp with h | ⟨q, hq, rfl⟩
    · exact ha.2 p h
    · have := hb.2 q hq
      show rebase a.currentSymbol q.1 < 0
      unfold rebase
      rw [if_pos this]
      simp only [Symbol] at *; omega
  exact append_ind a b ha fun _ => ⟨key, key⟩

end Link

namespace Codegen
open Link
variable {α β : Type}

structure GGood (g : GState) : Prop where
  cur : g.cur.NegSyms
  var : ∀ v ∈ g.var.toList, v.link.NegSyms
  expr : ∀ x ∈ g.expr.toList, x.2.NegSyms
  stmt : ∀ x ∈ g.stmt.toList, x.2.NegSyms

/-- `GH m Q`: `m` keeps the generator state good, and its successful results satisfy `Q` (the walk itself
    is stated with `H negInv`) -/
structure GH (m : GM α) (Q : α → Prop) : Prop where
  run : ∀ g, GGood g → GGood (m.run.run g).2 ∧ ∀ a, (m.run.run g).1 = .ok a → Q a

theorem GH.any {Q : α → Prop} {m : GM α} (h : GH m Q) : GH m T :=
  ⟨fun g hg => ⟨(h.run g hg).1, fun _ _ => trivial⟩⟩

theorem negSyms_transformToData {l : Link} (h : l.NegSyms) (c : Col) : (transformToData l c).1.NegSyms :=
  transformToData_ind l c h (h.setOps #[]) fun v => (h.setOps #[]).pushData v

theorem negSyms_of_transformToData {l l' : Link} {c : Col} {r : Except Error Unit} (h : l.NegSyms)
    (e : transformToData l c = (l', r)) : l'.NegSyms := by
  have := negSyms_transformToData h c
  rw [e] at this
  exact this

def negInv : GInv where
  C := NegSyms
  V := fun v => v.link.NegSyms
  E := NegSyms
  S := NegSyms
  K := T
  Y := (· < 0)
  N := T
  A := T
  R := T

theorem negInv_closed : Closed negInv NegSyms := by
  have e : ExprCl negInv :=
    ⟨.of_true fun _ => trivial, fun _ op h _ => h.push op, fun _ _ ha hb => ha.append hb, fun _ h => h, fun _ _ => trivial,
     fun _ _ _ _ => trivial, trivial⟩
  have l : LabelCl negInv := ⟨fun _ h => h.nextSymbol, fun _ _ h hs => h.pushSymbol hs⟩
  exact {
    expr := e, stmt := e, label := l
    ref := RefCl.of e l fun _ c s op h _ => (h.addUnlinked c s).push op
    mark := ⟨fun _ _ _ _ h => (h.setWhiles _).push _, fun _ _ _ _ h => (h.setWhiles _).push _⟩
    td := fun _ _ c ha h => ha.append (negSyms_transformToData h c)
    pop := fun _ _ _ => trivial
    appS := fun _ _ ha hb => ha.append hb
    nilE := NegSyms.empty, nilS := NegSyms.empty
    done := fun _ h => h
    var := fun _ _ _ _ h _ _ => h
    stk := fun _ _ _ _ => trivial }

theorem GGood.gen {g : GState} (h : GGood g) : Good (negInv.withC NegSyms) g :=
  ⟨h.cur, h.var, h.expr, h.stmt, trivial⟩

theorem acceptStmt_good : ∀ (st : Stmt) (s : VState), GGood s.g → GGood (acceptStmt st s).g :=
  fun st s h =>
    have r := acceptStmt_keeps negInv_closed (VarNames.of_true (fun _ => trivial) fun _ => trivial) st s h.gen
    ⟨r.cur, r.var, r.expr, r.stmt⟩

theorem fragments_negSyms (ast : List Stmt) :
    ∀ x ∈ (acceptStmts ast {}).g.stmt.toList, x.2.NegSyms :=
  (acceptStmts_keeps negInv_closed (VarNames.of_true (fun _ => trivial) fun _ => trivial) ast {}
    (Good.empty (C' := NegSyms) NegSyms.empty trivial)).stmt

end Codegen
end Basic

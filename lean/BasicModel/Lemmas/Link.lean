import BasicModel.Model.Link
import BasicModel.Spec.Bracket
import BasicModel.Lemmas.ListUtil
/-
  `Link` (src/mach/link.rs) operation by operation.  The symbol table and the pending references are association
  lists read with `List.lookup`; `append` is read through its closed form (`append_eq`, `appended`, the rule
  `append_ind`); `LocalOk` is why re-based labels of different fragments never collide; `linkWhiles` is bracket
  matching over `Spec/Bracket`, and `pend` is what `link` then resolves.
-/
namespace Basic
namespace Link

/-- the symbol table is strictly ascending by key (the `BTreeMap` order) -/
def SymSorted (m : List (Symbol × (Nat × Nat))) : Prop := m.Pairwise (fun p q => p.1 < q.1)

theorem mem_symInsert {k : Symbol} {v : Nat × Nat} {m : List (Symbol × (Nat × Nat))} {p : Symbol × (Nat × Nat)}
    (h : p ∈ symInsert k v m) : p = (k, v) ∨ p ∈ m := by
  induction m with
  | nil => exact .inl (List.mem_singleton.1 h)
  | cons hd tl ih =>
    simp only [symInsert] at h
    split at h
    · exact List.mem_cons.1 h
    · split at h
      · exact (List.mem_cons.1 h).imp_right (List.mem_cons_of_mem _)
      · rcases List.mem_cons.1 h with h | h
        · exact .inr (h ▸ List.mem_cons_self)
        · exact (ih h).imp_right (List.mem_cons_of_mem _)

theorem mem_symInsert_self (k : Symbol) (v : Nat × Nat) (m : List (Symbol × (Nat × Nat))) :
    (k, v) ∈ symInsert k v m := by
  induction m with
  | nil => exact List.mem_singleton.2 rfl
  | cons hd tl ih =>
    simp only [symInsert]
    split
    · exact List.mem_cons_self
    · split
      · exact List.mem_cons_self
      · exact List.mem_cons_of_mem _ ih

theorem mem_symInsert_of_mem {k : Symbol} {v : Nat × Nat} {m : List (Symbol × (Nat × Nat))}
    {p : Symbol × (Nat × Nat)} (h : p ∈ m) (hk : p.1 ≠ k) : p ∈ symInsert k v m := by
  induction m with
  | nil => cases h
  | cons hd tl ih =>
    simp only [symInsert]
    split
    · exact List.mem_cons_of_mem _ h
    · split
      · rename_i h2
        rcases List.mem_cons.1 h with h | h
        · exact absurd (h ▸ h2.symm) hk
        · exact List.mem_cons_of_mem _ h
      · exact (List.mem_cons.1 h).elim (· ▸ List.mem_cons_self) (fun h => List.mem_cons_of_mem _ (ih h))

theorem symInsert_lookup (k : Symbol) (v : Nat × Nat) (m : List (Symbol × (Nat × Nat))) (x : Symbol) :
    (symInsert k v m).lookup x = if x = k then some v else m.lookup x := by
  induction m with
  | nil => simp [symInsert, List.lookup_cons_eq]
  | cons hd tl ih =>
    obtain ⟨k', v'⟩ := hd
    simp only [symInsert]
    split
    · rw [List.lookup_cons_eq]
    · split
      · rename_i h2
        subst h2
        simp only [List.lookup_cons_eq]
        split <;> rfl
      · rename_i h1 h2
        simp only [List.lookup_cons_eq, ih]
        by_cases hx : x = k
        · subst hx; simp [h2]
        · simp [hx]

theorem symInsert_sorted (k : Symbol) (v : Nat × Nat) {m : List (Symbol × (Nat × Nat))}
    (h : SymSorted m) : SymSorted (symInsert k v m) := by
  induction m with
  | nil => simp [symInsert, SymSorted]
  | cons hd tl ih =>
    obtain ⟨k', v'⟩ := hd
    simp only [SymSorted, List.pairwise_cons] at h
    obtain ⟨h1, h2⟩ := h
    simp only [symInsert]
    split
    · rename_i hlt
      simp only [SymSorted, List.pairwise_cons, List.mem_cons]
      refine ⟨?_, h1, h2⟩
      rintro p (hp | hp)
      · subst hp; exact hlt
      · exact Int.lt_trans hlt (h1 p hp)
    · split
      · rename_i h3
        subst h3
        simp only [SymSorted, List.pairwise_cons]
        exact ⟨h1, h2⟩
      · rename_i h3 h4
        simp only [SymSorted, List.pairwise_cons]
        refine ⟨?_, ih h2⟩
        intro p hp
        rcases mem_symInsert hp with hp | hp
        · subst hp
          show k' < k
          simp only [Symbol] at *; omega
        · exact h1 p hp

private theorem symInsert_comm_lt {k k' : Symbol} (h : k < k') (v v' : Nat × Nat) (m : List (Symbol × (Nat × Nat))) :
    symInsert k v (symInsert k' v' m) = symInsert k' v' (symInsert k v m) := by
  have h' : ¬ k' < k ∧ ¬ k' = k := by simp only [Symbol] at *; omega
  induction m with
  | nil => simp only [symInsert, h, h'.1, h'.2, if_true, if_false]
  | cons hd tl ih =>
    obtain ⟨x, y⟩ := hd
    by_cases h1 : k' < x
    · have : k < x := Int.lt_trans h h1
      simp only [symInsert, h1, this, h, h'.1, h'.2, if_true, if_false]
    · by_cases h2 : k' = x
      · subst h2
        simp only [symInsert, h, h'.1, h'.2, Int.lt_irrefl, if_true, if_false]
      · by_cases h3 : k < x
        · simp only [symInsert, h1, h2, h3, h'.1, h'.2, if_true, if_false]
        · by_cases h4 : k = x
          · subst h4
            simp only [symInsert, h1, h2, Int.lt_irrefl, if_true, if_false]
          · simp only [symInsert, h1, h2, h3, h4, if_false, ih]

theorem symInsert_comm {k k' : Symbol} (h : k ≠ k') (v v' : Nat × Nat) (m : List (Symbol × (Nat × Nat))) :
    symInsert k v (symInsert k' v' m) = symInsert k' v' (symInsert k v m) := by
  rcases Int.lt_or_gt_of_ne h with h | h
  · exact symInsert_comm_lt h v v' m
  · exact (symInsert_comm_lt h v' v m).symm

theorem symInsert_symInsert (k : Symbol) (v v' : Nat × Nat) (m : List (Symbol × (Nat × Nat))) :
    symInsert k v' (symInsert k v m) = symInsert k v' m := by
  induction m with
  | nil => simp [symInsert]
  | cons hd tl ih =>
    obtain ⟨x, y⟩ := hd
    by_cases h1 : k < x
    · simp [symInsert, h1]
    · by_cases h2 : k = x
      · subst h2; simp [symInsert]
      · simp only [symInsert, if_neg h1, if_neg h2, ih]

theorem symInsert_filter_nonneg {k : Symbol} (hk : 0 ≤ k) (v : Nat × Nat) (m : List (Symbol × (Nat × Nat))) :
    (symInsert k v m).filter (fun p => p.1 ≥ 0) = symInsert k v (m.filter (fun p => p.1 ≥ 0)) := by
  have hkk : decide (k ≥ 0) = true := decide_eq_true hk
  induction m with
  | nil => simp only [symInsert, List.filter_cons, hkk, if_true, List.filter_nil]
  | cons hd tl ih =>
    obtain ⟨x, y⟩ := hd
    by_cases h1 : k < x
    · have hx : decide (x ≥ 0) = true := decide_eq_true (by simp only [Symbol] at *; omega)
      simp only [symInsert, if_pos h1, List.filter_cons, hkk, hx, if_true]
    · by_cases h2 : k = x
      · subst h2
        simp only [symInsert, if_neg h1, List.filter_cons, hkk, if_true]
      · simp only [symInsert, if_neg h1, if_neg h2, List.filter_cons]
        by_cases hx : x ≥ 0
        · simp only [decide_eq_true hx, if_true, symInsert, if_neg h1, if_neg h2, ih]
        · simp only [decide_eq_false hx, ih]
          simp

theorem symInsert_filter_neg {k : Symbol} (hk : k < 0) (v : Nat × Nat) (m : List (Symbol × (Nat × Nat))) :
    (symInsert k v m).filter (fun p => p.1 ≥ 0) = m.filter (fun p => p.1 ≥ 0) := by
  have hk' : decide ((k, v).1 ≥ 0) = false := by
    show decide (k ≥ 0) = false
    simp only [Symbol] at *
    simp; omega
  induction m with
  | nil => simp only [symInsert, List.filter_cons, hk', List.filter_nil]; rfl
  | cons hd tl ih =>
    rcases hd with ⟨k', v'⟩
    unfold symInsert
    split
    · rw [List.filter_cons, hk']; rfl
    · split
      · rename_i _ he
        have hk2 : decide ((k', v').1 ≥ 0) = false := by rw [← he]; exact hk'
        rw [List.filter_cons, hk', List.filter_cons, hk2]; rfl
      · rw [List.filter_cons, List.filter_cons, ih]

theorem any_symInsert (P : Symbol × (Nat × Nat) → Bool) {k : Symbol} {v : Nat × Nat}
    {m : List (Symbol × (Nat × Nat))} (hk : ∀ p ∈ m, p.1 ≠ k) :
    (symInsert k v m).any P = (P (k, v) || m.any P) := by
  induction m with
  | nil => simp [symInsert]
  | cons hd tl ih =>
    obtain ⟨x, y⟩ := hd
    have hx : x ≠ k := hk (x, y) List.mem_cons_self
    have ih' := ih (fun p hp => hk p (List.mem_cons_of_mem _ hp))
    by_cases h1 : k < x
    · simp only [symInsert, if_pos h1, List.any_cons]
    · simp only [symInsert, if_neg h1, if_neg (fun e : k = x => hx e.symm), List.any_cons, ih']
      cases P (x, y) <;> cases P (k, v) <;> simp

theorem mem_symInsert_new {k : Symbol} {v : Nat × Nat} {m : List (Symbol × (Nat × Nat))}
    (hk : ∀ p ∈ m, p.1 ≠ k) (p : Symbol × (Nat × Nat)) : p ∈ symInsert k v m ↔ p = (k, v) ∨ p ∈ m := by
  constructor
  · exact mem_symInsert
  · rintro (e | hp)
    · rw [e]; exact mem_symInsert_self k v m
    · exact mem_symInsert_of_mem hp (hk p hp)

theorem foldl_symInsert_comm (f : Symbol × (Nat × Nat) → Symbol × (Nat × Nat)) (bs : List (Symbol × (Nat × Nat)))
    (k : Symbol) (v : Nat × Nat) (h : ∀ b ∈ bs, (f b).1 ≠ k) (m : List (Symbol × (Nat × Nat))) :
    bs.foldl (fun m b => symInsert (f b).1 (f b).2 m) (symInsert k v m) =
      symInsert k v (bs.foldl (fun m b => symInsert (f b).1 (f b).2 m) m) := by
  induction bs generalizing m with
  | nil => rfl
  | cons b rest ih =>
    simp only [List.foldl_cons]
    rw [symInsert_comm (h b List.mem_cons_self), ih (fun b hb => h b (List.mem_cons_of_mem _ hb))]

theorem lookup_eq_some_iff_mem {m : List (Symbol × (Nat × Nat))} (h : SymSorted m) (k : Symbol) (v : Nat × Nat) :
    m.lookup k = some v ↔ (k, v) ∈ m :=
  ⟨List.mem_of_lookup, List.lookup_of_mem_of_keysPairwise (fun a => Int.lt_irrefl a) h⟩

theorem unlInsert_lookup (k : Nat) (v : Col × Symbol) (m : List (Nat × (Col × Symbol))) (x : Nat) :
    (unlInsert k v m).lookup x = if x = k then some v else m.lookup x := by
  unfold unlInsert
  rw [List.lookup_cons_eq]
  split
  · rfl
  · rename_i hx
    exact List.lookup_filter x m fun p _ e => by simpa [e] using hx

theorem mem_unlInsert {k : Nat} {v : Col × Symbol} {m : List (Nat × (Col × Symbol))} {p : Nat × (Col × Symbol)}
    (h : p ∈ unlInsert k v m) : p = (k, v) ∨ (p ∈ m ∧ p.1 ≠ k) := by
  unfold unlInsert at h
  simp only [List.mem_cons, List.mem_filter, ne_eq, decide_not, Bool.not_eq_eq_eq_not, Bool.not_true,
    decide_eq_false_iff_not] at h
  exact h

/-- re-basing of a symbol of the appended fragment: local (negative) labels are shifted below the
    receiver's labels, line numbers are kept -/
def rebase (so : Int) (s : Symbol) : Symbol := if s < 0 then s + so else s

-- `omega` does not see through the abbreviation `Symbol := Int`: `simp only [Symbol] at *` unfolds it first
theorem rebase_line (so : Int) (n : Symbol) (hn : 0 ≤ n) : rebase so n = n := by
  unfold rebase; rw [if_neg (by simp only [Symbol] at *; omega)]

theorem rebase_local (so : Int) (s : Symbol) (hs : s < 0) : rebase so s = s + so := by
  unfold rebase; rw [if_pos hs]

theorem rebase_neg_ne {cs : Int} (hc : cs ≤ 0) {s k : Symbol} (hs : s < 0) (hk : 0 ≤ k) : rebase cs s ≠ k := by
  rw [rebase_local cs s hs]
  simp only [Symbol] at *
  omega

def appendSymbols (a b : Link) : List (Symbol × (Nat × Nat)) :=
  b.symbols.foldl (fun m p => symInsert (rebase a.currentSymbol p.1) (p.2.1 + a.ops.size, p.2.2 + a.data.size) m)
    a.symbols

def appendUnlinked (a b : Link) : List (Nat × (Col × Symbol)) :=
  b.unlinked.foldr (fun p m => unlInsert (p.1 + a.ops.size) (p.2.1, rebase a.currentSymbol p.2.2) m) a.unlinked

def appendWhiles (a b : Link) : List (Bool × Col × Nat × Symbol) :=
  a.whiles ++ b.whiles.map (fun p => (p.1, p.2.1, p.2.2.1 + a.ops.size, p.2.2.2 + a.currentSymbol))

/-- what `a.append b` is when nothing overflows -/
def appended (a b : Link) : Link :=
  { a with symbols := appendSymbols a b, unlinked := appendUnlinked a b, whiles := appendWhiles a b,
           currentSymbol := a.currentSymbol + b.currentSymbol,
           ops := a.ops ++ b.ops, data := a.data ++ b.data }

theorem appended_empty (a : Link) : appended a {} = a := by
  simp [appended, appendSymbols, appendUnlinked, appendWhiles]

theorem append_eq (a b : Link) :
    a.append b =
      if (a.directSet && !b.data.isEmpty) = true then (a, .error (Error.mk' Code.illegalDirect))
      else if a.ops.size + b.ops.size > Gen.stackMaxLen then
        ({ appended a b with data := a.data }, .error opsOverflow)
      else (appended a b,
        if a.data.size + b.data.size > Gen.stackMaxLen then .error dataOverflow else .ok ()) := by
  unfold append
  split
  · rfl
  · simp only [Array.size_append]
    split
    · rfl
    · rfl

/-- how the invariants prove their `append` closure: `append` returns the receiver unchanged, or
    `appended a b`, possibly without `b`'s data (the second component: the code overflowed, so `b`'s data
    was not appended) -/
theorem append_ind {P : Link → Prop} (a b : Link) (h0 : P a)
    (h1 : (a.directSet && !b.data.isEmpty) = false →
      P (appended a b) ∧ P { appended a b with data := a.data }) : P (a.append b).1 := by
  rw [append_eq]
  split
  · exact h0
  · rename_i h
    have h1 := h1 (Bool.eq_false_iff.2 h)
    split
    · exact h1.2
    · exact h1.1

theorem append_cur_le (a b : Link) (ha : a.currentSymbol ≤ 0) (hb : b.currentSymbol ≤ 0) :
    (a.append b).1.currentSymbol ≤ 0 :=
  have hcs : a.currentSymbol + b.currentSymbol ≤ 0 := by simp only [Symbol] at *; omega
  append_ind (P := fun l => l.currentSymbol ≤ 0) a b ha fun _ => ⟨hcs, hcs⟩

theorem append_symbols_cases (a b : Link) :
    (a.append b).1.symbols = a.symbols ∨ (a.append b).1.symbols = appendSymbols a b :=
  append_ind (P := fun l => l.symbols = a.symbols ∨ l.symbols = appendSymbols a b) a b (.inl rfl) fun _ =>
    ⟨.inr rfl, .inr rfl⟩

theorem append_cases (a b : Link) :
    (a.directSet = true ∧ b.data.isEmpty = false ∧ a.append b = (a, .error (Error.mk' Code.illegalDirect))) ∨
    (a.ops.size + b.ops.size > Gen.stackMaxLen ∧
      a.append b = ({ appended a b with data := a.data }, .error opsOverflow)) ∨
    (a.ops.size + b.ops.size ≤ Gen.stackMaxLen ∧ a.data.size + b.data.size > Gen.stackMaxLen ∧
      a.append b = (appended a b, .error dataOverflow)) ∨
    (a.ops.size + b.ops.size ≤ Gen.stackMaxLen ∧ a.data.size + b.data.size ≤ Gen.stackMaxLen ∧
      a.append b = (appended a b, .ok ())) := by
  rw [append_eq]
  split
  · rename_i hd
    simp only [Bool.and_eq_true, Bool.not_eq_eq_eq_not, Bool.not_true] at hd
    exact .inl ⟨hd.1, hd.2, rfl⟩
  · split
    · rename_i ho
      exact .inr (.inl ⟨ho, rfl⟩)
    · rename_i ho
      split
      · rename_i hdd
        exact .inr (.inr (.inl ⟨Nat.le_of_not_gt ho, hdd, rfl⟩))
      · rename_i hdd
        exact .inr (.inr (.inr ⟨Nat.le_of_not_gt ho, Nat.le_of_not_gt hdd, rfl⟩))

theorem append_ok_cases {a b : Link} (h : (a.append b).2 = .ok ()) :
    a.ops.size + b.ops.size ≤ Gen.stackMaxLen ∧ a.data.size + b.data.size ≤ Gen.stackMaxLen ∧
      a.append b = (appended a b, .ok ()) := by
  rcases append_cases a b with ⟨_, _, e⟩ | ⟨_, e⟩ | ⟨_, _, e⟩ | h4
  · rw [e] at h; cases h
  · rw [e] at h; cases h
  · rw [e] at h; cases h
  · exact h4

theorem append_ok {a b : Link} (h : (a.append b).2 = .ok ()) : (a.append b).1 = appended a b := by
  rw [(append_ok_cases h).2.2]

theorem append_ops {a b : Link} (h : (a.append b).2 = .ok ()) : (a.append b).1.ops = a.ops ++ b.ops := by
  rw [append_ok h]; rfl
theorem append_data {a b : Link} (h : (a.append b).2 = .ok ()) : (a.append b).1.data = a.data ++ b.data := by
  rw [append_ok h]; rfl

/-- general form: the last entry of `b` whose re-based key is `x` wins, else `a`'s entry -/
theorem foldl_symInsert_lookup (f : Symbol → Symbol) (g : Nat × Nat → Nat × Nat)
    (l : List (Symbol × (Nat × Nat))) (init : List (Symbol × (Nat × Nat))) (x : Symbol) :
    (l.foldl (fun m p => symInsert (f p.1) (g p.2) m) init).lookup x =
      match l.reverse.find? (fun p => f p.1 = x) with
      | some p => some (g p.2)
      | none => init.lookup x := by
  induction l generalizing init with
  | nil => rfl
  | cons hd tl ih =>
    simp only [List.foldl_cons, List.reverse_cons, List.find?_append, ih]
    cases hf : tl.reverse.find? (fun p => decide (f p.1 = x)) with
    | some p => simp
    | none =>
      simp only [Option.none_or, List.find?_cons, List.find?_nil, symInsert_lookup]
      by_cases hx : f hd.1 = x
      · simp [hx]
      · have : ¬ x = f hd.1 := fun e => hx e.symm
        simp [hx, this]

theorem mem_appendSymbols {a b : Link} {p : Symbol × (Nat × Nat)} (h : p ∈ appendSymbols a b) :
    p ∈ a.symbols ∨ ∃ q ∈ b.symbols, p = (rebase a.currentSymbol q.1, (q.2.1 + a.ops.size, q.2.2 + a.data.size)) :=
  List.foldlRecOn (motive := fun m => p ∈ m → p ∈ a.symbols ∨
      ∃ q ∈ b.symbols, p = (rebase a.currentSymbol q.1, (q.2.1 + a.ops.size, q.2.2 + a.data.size)))
    b.symbols _ .inl (fun _ ih q hq h => (mem_symInsert h).elim (fun e => .inr ⟨q, hq, e⟩) ih) h

theorem appendSymbols_sorted {a b : Link} (h : SymSorted a.symbols) : SymSorted (appendSymbols a b) :=
  List.foldlRecOn b.symbols _ h fun _ hm _ _ => symInsert_sorted _ _ hm

theorem append_sorted (a b : Link) (ha : SymSorted a.symbols) : SymSorted (a.append b).1.symbols := by
  rcases append_symbols_cases a b with e | e <;> rw [e]
  · exact ha
  · exact appendSymbols_sorted ha

/-- in a list with distinct keys the last match is the first match -/
theorem find?_reverse_key {l : List (Symbol × (Nat × Nat))} (h : SymSorted l) (x : Symbol) :
    l.reverse.find? (fun p => p.1 = x) = (l.lookup x).map (fun v => (x, v)) := by
  rw [List.find?_key]
  congr 1
  cases hl : l.lookup x with
  | some v =>
    exact List.lookup_of_mem_of_keysPairwise (R := fun a b => b < a) (fun a => Int.lt_irrefl a)
      (List.pairwise_reverse.2 h) (List.mem_reverse.2 (List.mem_of_lookup hl))
  | none =>
    rw [List.lookup_eq_none_iff] at hl ⊢
    exact fun p hp => hl p (List.mem_reverse.1 hp)

/-- `hx`: re-basing takes exactly the key `x` of `b` to `x'` -/
theorem appendSymbols_lookup_of_key {a b : Link} (hb : SymSorted b.symbols) {x x' : Symbol}
    (hx : ∀ s, rebase a.currentSymbol s = x' ↔ s = x) :
    (appendSymbols a b).lookup x' =
      match b.symbols.lookup x with
      | some (o, d) => some (o + a.ops.size, d + a.data.size)
      | none => a.symbols.lookup x' := by
  unfold appendSymbols
  rw [foldl_symInsert_lookup (rebase a.currentSymbol) (fun v => (v.1 + a.ops.size, v.2 + a.data.size))]
  have hp : (fun (p : Symbol × (Nat × Nat)) => decide (rebase a.currentSymbol p.1 = x')) = (fun p => decide (p.1 = x)) :=
    funext fun p => decide_eq_decide.2 (hx p.1)
  rw [hp, find?_reverse_key hb]
  cases b.symbols.lookup x <;> rfl

theorem appendSymbols_lookup_local_right {a b : Link} (hb : SymSorted b.symbols) (ha : a.currentSymbol ≤ 0)
    (x : Symbol) (hx : x < 0)
    (hin : (b.symbols.lookup x).isSome) :
    (appendSymbols a b).lookup (x + a.currentSymbol) =
      (b.symbols.lookup x).map (fun v => (v.1 + a.ops.size, v.2 + a.data.size)) := by
  rw [appendSymbols_lookup_of_key hb (x := x)]
  · cases hl : b.symbols.lookup x with
    | none => rw [hl] at hin; cases hin
    | some v => rfl
  · intro s
    unfold rebase
    simp only [Symbol] at *
    split <;> omega

theorem appendSymbols_lookup_left {a b : Link} (x : Symbol)
    (hno : ∀ q ∈ b.symbols, rebase a.currentSymbol q.1 ≠ x) :
    (appendSymbols a b).lookup x = a.symbols.lookup x := by
  unfold appendSymbols
  rw [foldl_symInsert_lookup (rebase a.currentSymbol) (fun v => (v.1 + a.ops.size, v.2 + a.data.size))]
  have : b.symbols.reverse.find? (fun p => decide (rebase a.currentSymbol p.1 = x)) = none := by
    rw [List.find?_eq_none]
    intro q hq
    simp only [decide_eq_true_eq]
    exact hno q (List.mem_reverse.1 hq)
  rw [this]

theorem foldr_unlInsert_lookup (f : Nat → Nat) (g : Col × Symbol → Col × Symbol)
    (l : List (Nat × (Col × Symbol))) (init : List (Nat × (Col × Symbol))) (x : Nat) :
    (l.foldr (fun p m => unlInsert (f p.1) (g p.2) m) init).lookup x =
      match l.find? (fun p => f p.1 = x) with
      | some p => some (g p.2)
      | none => init.lookup x := by
  induction l with
  | nil => rfl
  | cons hd tl ih =>
    simp only [List.foldr_cons, unlInsert_lookup, List.find?_cons, ih]
    by_cases hx : f hd.1 = x
    · simp [hx]
    · have : ¬ x = f hd.1 := fun e => hx e.symm
      simp [hx, this]

theorem appendUnlinked_lookup_right (a b : Link) (y : Nat) :
    (appendUnlinked a b).lookup (y + a.ops.size) =
      match b.unlinked.lookup y with
      | some (c, s) => some (c, rebase a.currentSymbol s)
      | none => a.unlinked.lookup (y + a.ops.size) := by
  unfold appendUnlinked
  rw [foldr_unlInsert_lookup (· + a.ops.size) (fun v => (v.1, rebase a.currentSymbol v.2))]
  have hp : (fun (p : Nat × (Col × Symbol)) => decide (p.1 + a.ops.size = y + a.ops.size)) = (fun p => decide (p.1 = y)) :=
    funext fun p => decide_eq_decide.2 (by omega)
  rw [hp, List.find?_key]
  cases b.unlinked.lookup y <;> rfl

theorem appendUnlinked_lookup_left (a b : Link) (x : Nat) (hx : x < a.ops.size) :
    (appendUnlinked a b).lookup x = a.unlinked.lookup x := by
  unfold appendUnlinked
  rw [foldr_unlInsert_lookup (· + a.ops.size) (fun v => (v.1, rebase a.currentSymbol v.2))]
  have : b.unlinked.find? (fun p => decide (p.1 + a.ops.size = x)) = none := by
    rw [List.find?_eq_none]
    intro q _
    simp only [decide_eq_true_eq]
    omega
  rw [this]

theorem mem_appendUnlinked {a b : Link} {p : Nat × (Col × Symbol)} (h : p ∈ appendUnlinked a b) :
    p ∈ a.unlinked ∨ ∃ q ∈ b.unlinked, p = (q.1 + a.ops.size, (q.2.1, rebase a.currentSymbol q.2.2)) :=
  List.foldrRecOn (motive := fun m => p ∈ m → p ∈ a.unlinked ∨
      ∃ q ∈ b.unlinked, p = (q.1 + a.ops.size, (q.2.1, rebase a.currentSymbol q.2.2)))
    b.unlinked _ .inl (fun _ ih q hq h => (mem_unlInsert h).elim (fun e => .inr ⟨q, hq, e⟩) fun h' => ih h'.1) h

theorem mem_appendWhiles {a b : Link} {p : Bool × Col × Nat × Symbol} (h : p ∈ appendWhiles a b) :
    p ∈ a.whiles ∨ ∃ q ∈ b.whiles, p = (q.1, q.2.1, q.2.2.1 + a.ops.size, q.2.2.2 + a.currentSymbol) := by
  unfold appendWhiles at h
  simp only [List.mem_append, List.mem_map] at h
  exact h.imp_right fun ⟨q, hq, e⟩ => ⟨q, hq, e.symm⟩

theorem empty_append_ops_data {b : Link} (h : (({} : Link).append b).2 = .ok ()) :
    (({} : Link).append b).1.ops = b.ops ∧ (({} : Link).append b).1.data = b.data := by
  rw [append_ops h, append_data h]; simp

/-- append fragments one after the other, stopping at the first failure (the loop of `codegen`) -/
def appendMany (a : Link) : List Link → Link × Except Error Unit
  | [] => (a, .ok ())
  | f :: fs =>
    match a.append f with
    | (a', .ok ()) => appendMany a' fs
    | (a', .error e) => (a', .error e)

/-- the one rule for `appendMany`: what holds of the start, and of every `append` made from a link reached without
    a failure, holds of the result — link and outcome; the first failure is the result -/
theorem appendMany_ind {P : Link × Except Error Unit → Prop} (fs : List Link) (a : Link) (h0 : P (a, .ok ()))
    (h : ∀ l, ∀ f ∈ fs, P (l, .ok ()) → P (l.append f)) : P (appendMany a fs) := by
  induction fs generalizing a with
  | nil => exact h0
  | cons f fs ih =>
    have h1 := h a f List.mem_cons_self h0
    unfold appendMany
    generalize a.append f = r at h1
    obtain ⟨a', r'⟩ := r
    cases r' with
    | ok u => exact ih a' h1 fun l g hg => h l g (List.mem_cons_of_mem _ hg)
    | error e => exact h1

/-- two runs over the same fragments, in step: a relation between the two links that every pair of `append`s keeps,
    with one outcome, relates the results, and the outcome is one -/
theorem appendMany_rel {R : Link → Link → Prop} (fs : List Link) {a a' : Link} (h0 : R a a')
    (h : ∀ l l', ∀ f ∈ fs, R l l' → R (l.append f).1 (l'.append f).1 ∧ (l'.append f).2 = (l.append f).2) :
    R (appendMany a fs).1 (appendMany a' fs).1 ∧ (appendMany a' fs).2 = (appendMany a fs).2 := by
  induction fs generalizing a a' with
  | nil => exact ⟨h0, rfl⟩
  | cons f fs ih =>
    have h1 := h a a' f List.mem_cons_self h0
    unfold appendMany
    generalize a.append f = r at h1
    generalize a'.append f = r' at h1
    obtain ⟨l, o⟩ := r
    obtain ⟨l', o'⟩ := r'
    obtain ⟨h2, rfl⟩ := h1
    cases o' with
    | ok u => exact ih h2 fun l l' g hg => h l l' g (List.mem_cons_of_mem _ hg)
    | error e => exact ⟨h2, rfl⟩

/-- fragments without DATA whose code fits are all appended: no `append` on the way can fail -/
theorem appendMany_ok : ∀ (fs : List Link) (a : Link), (∀ f ∈ fs, f.data = #[]) →
    a.ops.size + (fs.map (·.ops.size)).sum ≤ Gen.stackMaxLen → a.data.size ≤ Gen.stackMaxLen →
    appendMany a fs = (fs.foldl appended a, .ok ())
  | [], _, _, _, _ => rfl
  | f :: fs, a, hd, hs, hdd => by
    rw [List.map_cons, List.sum_cons] at hs
    have hf : f.data = #[] := hd f List.mem_cons_self
    have happ : a.append f = (appended a f, .ok ()) := by
      rcases append_cases a f with ⟨_, h, _⟩ | ⟨h, _⟩ | ⟨_, h, _⟩ | ⟨_, _, e⟩
      · rw [hf] at h; cases h
      · omega
      · rw [hf, Array.size_empty] at h; omega
      · exact e
    unfold appendMany
    rw [happ, List.foldl_cons]
    exact appendMany_ok fs (appended a f) (fun g hg => hd g (List.mem_cons_of_mem _ hg))
      (by show (a.ops ++ f.ops).size + _ ≤ _; rw [Array.size_append]; omega)
      (by show (a.data ++ f.data).size ≤ _; rw [hf, Array.append_empty]; exact hdd)

theorem appendMany_ops_data (a : Link) (fs : List Link) (h : (appendMany a fs).2 = .ok ()) :
    (appendMany a fs).1.ops.toList = a.ops.toList ++ (fs.map (·.ops.toList)).flatten ∧
    (appendMany a fs).1.data.toList = a.data.toList ++ (fs.map (·.data.toList)).flatten := by
  induction fs generalizing a with
  | nil => simp [appendMany]
  | cons f fs ih =>
    simp only [appendMany] at h ⊢
    cases hr : a.append f with
    | mk a' r =>
      cases r with
      | error e => rw [hr] at h; simp only at h; cases h
      | ok u =>
        rw [hr] at h
        simp only at h ⊢
        have hok : (a.append f).2 = .ok () := by rw [hr]
        have h1 := append_ops hok
        have h2 := append_data hok
        rw [hr] at h1 h2
        simp only at h1 h2
        obtain ⟨i1, i2⟩ := ih a' h
        rw [i1, i2, h1, h2]
        simp [List.append_assoc]

/-- every local (negative) label mentioned by the link was handed out by `nextSymbol`:
    it lies in `currentSymbol ≤ s < 0` -/
structure LocalOk (l : Link) : Prop where
  cur : l.currentSymbol ≤ 0
  symbols : ∀ p ∈ l.symbols, p.1 < 0 → l.currentSymbol ≤ p.1
  unlinked : ∀ p ∈ l.unlinked, p.2.2 < 0 → l.currentSymbol ≤ p.2.2
  whiles : ∀ p ∈ l.whiles, l.currentSymbol ≤ p.2.2.2 ∧ p.2.2.2 < 0

theorem LocalOk.empty : LocalOk {} :=
  ⟨Int.le_refl 0, fun _ h => (nomatch h), fun _ h => (nomatch h), fun _ h => (nomatch h)⟩

theorem LocalOk.push {l : Link} (h : LocalOk l) (op : Opcode) : LocalOk (l.push op).1 :=
  ⟨h.cur, h.symbols, h.unlinked, h.whiles⟩

theorem LocalOk.pushData {l : Link} (h : LocalOk l) (v : Val) : LocalOk (l.pushData v).1 :=
  ⟨h.cur, h.symbols, h.unlinked, h.whiles⟩

theorem LocalOk.nextSymbol {l : Link} (h : LocalOk l) :
    LocalOk l.nextSymbol.1 ∧ l.nextSymbol.2 = l.nextSymbol.1.currentSymbol ∧ l.nextSymbol.2 < 0 ∧
    l.nextSymbol.2 < l.currentSymbol :=
  have hc : l.nextSymbol.1.currentSymbol ≤ l.currentSymbol := Int.sub_le_self _ (by decide)
  ⟨⟨Int.le_trans hc h.cur, fun p hp hn => Int.le_trans hc (h.symbols p hp hn),
    fun p hp hn => Int.le_trans hc (h.unlinked p hp hn),
    fun p hp => ⟨Int.le_trans hc (h.whiles p hp).1, (h.whiles p hp).2⟩⟩,
   rfl, Int.sub_one_lt_of_le h.cur, Int.sub_one_lt_of_le (Int.le_refl _)⟩

theorem LocalOk.pushSymbol {l : Link} (h : LocalOk l) (sym : Symbol) (hs : 0 ≤ sym ∨ l.currentSymbol ≤ sym) :
    LocalOk (l.pushSymbol sym) := by
  refine ⟨h.cur, ?_, h.unlinked, h.whiles⟩
  intro p hp hn
  rcases mem_symInsert hp with rfl | hp
  · exact hs.resolve_left (Int.not_le.2 hn)
  · exact h.symbols p hp hn

theorem LocalOk.addUnlinked {l : Link} (h : LocalOk l) (c : Col) (sym : Symbol)
    (hs : 0 ≤ sym ∨ l.currentSymbol ≤ sym) : LocalOk (l.addUnlinked c sym) := by
  refine ⟨h.cur, h.symbols, ?_, h.whiles⟩
  intro p hp hn
  rcases mem_unlInsert hp with rfl | ⟨hp, _⟩
  · exact hs.resolve_left (Int.not_le.2 hn)
  · exact h.unlinked p hp hn

theorem rebase_lower {ca cb : Int} {s : Symbol} (h : s < 0 → cb ≤ s) (hn : rebase ca s < 0) :
    ca + cb ≤ rebase ca s := by
  unfold rebase at hn ⊢
  simp only [Symbol] at *
  split at hn <;> rename_i hs
  · have := h hs
    rw [if_pos hs]; omega
  · omega

/-- `append` keeps the invariant: the labels of `b` land strictly below those of `a` -/
theorem LocalOk.appended {a b : Link} (ha : LocalOk a) (hb : LocalOk b) : LocalOk (appended a b) := by
  have hca := ha.cur
  have hcb := hb.cur
  have hle : ∀ {x : Symbol}, a.currentSymbol ≤ x → a.currentSymbol + b.currentSymbol ≤ x := by
    intro x hx
    simp only [Symbol] at *; omega
  refine ⟨?_, ?_, ?_, ?_⟩
  · show a.currentSymbol + b.currentSymbol ≤ 0
    simp only [Symbol] at *; omega
  · intro p hp hn
    rcases mem_appendSymbols hp with hp | ⟨q, hq, rfl⟩
    · exact hle (ha.symbols p hp hn)
    · exact rebase_lower (hb.symbols q hq) hn
  · intro p hp hn
    rcases mem_appendUnlinked hp with hp | ⟨q, hq, rfl⟩
    · exact hle (ha.unlinked p hp hn)
    · exact rebase_lower (hb.unlinked q hq) hn
  · intro p hp
    rcases mem_appendWhiles hp with hp | ⟨q, hq, rfl⟩
    · exact ⟨hle (ha.whiles p hp).1, (ha.whiles p hp).2⟩
    · have := hb.whiles q hq
      show a.currentSymbol + b.currentSymbol ≤ q.2.2.2 + a.currentSymbol ∧ q.2.2.2 + a.currentSymbol < 0
      simp only [Symbol] at *; omega

theorem LocalOk.append {a b : Link} (ha : LocalOk a) (hb : LocalOk b) (h : (a.append b).2 = .ok ()) :
    LocalOk (a.append b).1 := by
  rw [append_ok h]; exact LocalOk.appended ha hb

/-- after `append`, a re-based local label of `b` lies strictly below
    `a.currentSymbol`, every local label of `a` lies at or above it — they never collide -/
theorem local_symbols_disjoint {a b : Link} (ha : LocalOk a) (hb : LocalOk b) :
    (∀ p ∈ a.symbols, p.1 < 0 → ∀ q ∈ b.symbols, q.1 < 0 → p.1 ≠ rebase a.currentSymbol q.1) ∧
    (∀ p ∈ a.unlinked, p.2.2 < 0 → ∀ q ∈ b.symbols, q.1 < 0 → p.2.2 ≠ rebase a.currentSymbol q.1) ∧
    (∀ p ∈ a.symbols, p.1 < 0 → ∀ q ∈ b.unlinked, q.2.2 < 0 → p.1 ≠ rebase a.currentSymbol q.2.2) ∧
    (∀ p ∈ a.whiles, ∀ q ∈ b.symbols, q.1 < 0 → p.2.2.2 ≠ rebase a.currentSymbol q.1) ∧
    (∀ p ∈ a.symbols, p.1 < 0 → ∀ q ∈ b.whiles, p.1 ≠ q.2.2.2 + a.currentSymbol) := by
  have hlow : ∀ {x s : Symbol}, a.currentSymbol ≤ x → s < 0 → x ≠ rebase a.currentSymbol s := by
    intro x s hx hs
    rw [rebase, if_pos hs]
    simp only [Symbol] at *; omega
  refine ⟨fun p hp hn q _ hq0 => hlow (ha.symbols p hp hn) hq0,
    fun p hp hn q _ hq0 => hlow (ha.unlinked p hp hn) hq0,
    fun p hp hn q _ hq0 => hlow (ha.symbols p hp hn) hq0,
    fun p hp q _ hq0 => hlow (ha.whiles p hp).1 hq0, ?_⟩
  intro p hp hn q hq
  have := ha.symbols p hp hn
  have := hb.whiles q hq
  simp only [Symbol] at *; omega

private theorem find?_desc_eq_some_iff {P : Symbol × (Nat × Nat) → Bool} {l : List (Symbol × (Nat × Nat))}
    (hl : l.Pairwise (fun p q => q.1 < p.1)) (x : Symbol × (Nat × Nat)) :
    l.find? P = some x ↔ x ∈ l ∧ P x = true ∧ ∀ y ∈ l, P y = true → y.1 ≤ x.1 := by
  induction l with
  | nil => simp
  | cons hd tl ih =>
    rw [List.pairwise_cons] at hl
    rw [List.find?_cons]
    cases hP : P hd with
    | true =>
      constructor
      · rintro ⟨rfl⟩
        refine ⟨List.mem_cons_self, hP, fun y hy _ => ?_⟩
        rcases List.mem_cons.1 hy with rfl | hy
        · exact Int.le_refl _
        · exact Int.le_of_lt (hl.1 y hy)
      · rintro ⟨hx, -, hmax⟩
        rcases List.mem_cons.1 hx with rfl | hx
        · rfl
        · exact absurd (hmax hd List.mem_cons_self hP) (Int.not_le.2 (hl.1 x hx))
    | false =>
      rw [ih hl.2]
      constructor
      · rintro ⟨hx, hPx, hmax⟩
        refine ⟨List.mem_cons_of_mem _ hx, hPx, fun y hy hPy => ?_⟩
        rcases List.mem_cons.1 hy with rfl | hy
        · rw [hP] at hPy; cases hPy
        · exact hmax y hy hPy
      · rintro ⟨hx, hPx, hmax⟩
        rcases List.mem_cons.1 hx with rfl | hx
        · rw [hP] at hPx; cases hPx
        · exact ⟨hx, hPx, fun y hy => hmax y (List.mem_cons_of_mem _ hy)⟩

/-- `n` is the greatest non-negative symbol (line number) of the table whose code address is `≤ a` -/
def IsLineOf (m : List (Symbol × (Nat × Nat))) (a n : Nat) : Prop :=
  (∃ o d, ((n : Int), (o, d)) ∈ m ∧ o ≤ a) ∧ (∀ p ∈ m, 0 ≤ p.1 → p.2.1 ≤ a → p.1 ≤ (n : Int))

/-- `lineNumberFor a` is the greatest line whose code starts at or before `a` (`IsLineOf`): the line `a` belongs to
    if line addresses are non-decreasing, which is not asked here -/
theorem lineNumberFor_eq_some_iff {l : Link} (hs : SymSorted l.symbols) (a n : Nat) :
    l.lineNumberFor a = some n ↔ n ≤ Gen.maxLineNumber ∧ IsLineOf l.symbols a n := by
  have hdesc : ((l.symbols.filter (fun p => p.1 ≥ 0)).reverse).Pairwise (fun p q => q.1 < p.1) :=
    List.pairwise_reverse.2 (List.Pairwise.filter _ hs)
  have hfind := find?_desc_eq_some_iff (P := fun p => decide (a ≥ p.2.1)) hdesc
  simp only [List.mem_reverse, List.mem_filter, ge_iff_le, decide_eq_true_eq] at hfind
  unfold lineNumberFor IsLineOf
  simp only [ge_iff_le]
  constructor
  · intro h
    split at h
    · rename_i k v hf
      obtain ⟨⟨hmem, hk0⟩, hoa, hmax⟩ := (hfind _).1 hf
      split at h
      · rename_i hk
        injection h with h
        have hkn : k = (n : Int) := by simp only [Symbol] at *; omega
        subst hkn
        exact ⟨by exact_mod_cast hk, ⟨v.1, v.2, hmem, hoa⟩, fun p hp h0 hpa => hmax p ⟨hp, h0⟩ hpa⟩
      · cases h
    · cases h
  · rintro ⟨hn, ⟨o, d, hmem, hoa⟩, hmax⟩
    have hf := (hfind ((n : Int), (o, d))).2
      ⟨⟨hmem, Int.natCast_nonneg n⟩, hoa, fun p hp hpa => hmax p hp.1 hp.2 hpa⟩
    simp only [hf]
    rw [if_pos (by exact_mod_cast hn), Int.toNat_natCast]

theorem lineNumberFor_eq_of_iff {l l' : Link} (hs : SymSorted l.symbols) (hs' : SymSorted l'.symbols) (a : Nat)
    (h : ∀ n : Nat, IsLineOf l'.symbols a n ↔ IsLineOf l.symbols a n) :
    l'.lineNumberFor a = l.lineNumberFor a :=
  Option.ext fun n => by
    rw [lineNumberFor_eq_some_iff hs', lineNumberFor_eq_some_iff hs, h n]

theorem lineNumberFor_congr {l l' : Link}
    (h : l'.symbols.filter (fun p => p.1 ≥ 0) = l.symbols.filter (fun p => p.1 ≥ 0)) (a : Nat) :
    l'.lineNumberFor a = l.lineNumberFor a := by
  unfold lineNumberFor
  rw [h]

theorem lineNumberFor_eq_none_of_no_line {l : Link} (a : Nat)
    (h : ∀ p ∈ l.symbols, 0 ≤ p.1 → a < p.2.1) : l.lineNumberFor a = none := by
  unfold lineNumberFor
  simp only
  have : ((l.symbols.filter (fun p => p.1 ≥ 0)).reverse).find? (fun p => decide (a ≥ p.2.1)) = none := by
    rw [List.find?_eq_none]
    intro x hx
    simp only [List.mem_reverse, List.mem_filter, ge_iff_le, decide_eq_true_eq] at hx
    have := h x hx.1 hx.2
    simp only [ge_iff_le, decide_eq_true_eq]
    omega
  rw [this]

/-- the ops that carry a link-time operand, with the operand replaced -/
def patched (op : Opcode) (o d : Nat) : Option Opcode :=
  match op with
  | .ifNot _ => some (.ifNot o)
  | .jump _ => some (.jump o)
  | .literal (.ret _) => some (.literal (.ret o))
  | .literal (.nxt _) => some (.literal (.nxt o))
  | .restore _ => some (.restore d)
  | _ => none

theorem patched_some {op op' : Opcode} {o d : Nat} (h : patched op o d = some op') :
    op' = .ifNot o ∨ op' = .jump o ∨ op' = .literal (.ret o) ∨ op' = .literal (.nxt o) ∨ op' = .restore d := by
  unfold patched at h
  split at h <;> simp_all

/-- what `linkOne` reports when it does not patch: the line is not defined, or (never for generated
    code) there is nothing to patch -/
def linkOneErr (ln : Option Nat) (c : Col) (undefinedLine : Bool) : Error :=
  if undefinedLine then mkErr Code.undefinedLine ln c
  else (((Error.mk' Code.internalError).inLine ln).inCol c.1 c.2).withMsg "LINK FAILURE"

theorem linkOne_eq (l : Link) (a : Nat) (c : Col) (sym : Symbol) :
    l.linkOne a c sym =
      match l.symbols.lookup sym with
      | none => (l, some (linkOneErr (l.lineNumberFor a) c (decide (sym ≥ 0))))
      | some (o, d) =>
        match l.ops[a]?.bind (patched · o d) with
        | some op' => ({ l with ops := l.ops.setIfInBounds a op' }, none)
        | none => (l, some (linkOneErr (l.lineNumberFor a) c false)) := by
  unfold linkOne
  cases l.symbols.lookup sym with
  | none => by_cases h : sym ≥ 0 <;> simp [linkOneErr, mkErr, h]
  | some od =>
    cases l.ops[a]? with
    | none => rfl
    | some op =>
      cases op with
      | literal v => cases v <;> rfl
      | _ => rfl

theorem linkOne_resolves {l : Link} {a : Nat} {c : Col} {sym : Symbol} {o d : Nat} {op op' : Opcode}
    (hsym : l.symbols.lookup sym = some (o, d)) (hop : l.ops[a]? = some op) (hp : patched op o d = some op') :
    l.linkOne a c sym = ({ l with ops := l.ops.setIfInBounds a op' }, none) := by
  rw [linkOne_eq, hsym, hop]
  show (match patched op o d with | some op' => _ | none => _) = _
  rw [hp]

theorem linkOne_resolves_get {l : Link} {a : Nat} {c : Col} {sym : Symbol} {o d : Nat} {op op' : Opcode}
    (hsym : l.symbols.lookup sym = some (o, d)) (hop : l.ops[a]? = some op) (hp : patched op o d = some op') :
    (l.linkOne a c sym).1.ops[a]? = some op' ∧ (l.linkOne a c sym).2 = none ∧
    (∀ j, j ≠ a → (l.linkOne a c sym).1.ops[j]? = l.ops[j]?) ∧
    (l.linkOne a c sym).1.ops.size = l.ops.size := by
  rw [linkOne_resolves hsym hop hp]
  have hlt : a < l.ops.size := (Array.getElem?_eq_some_iff.1 hop).1
  refine ⟨?_, rfl, ?_, ?_⟩
  · simp [hlt]
  · intro j hj
    simp only [Array.getElem?_setIfInBounds]
    rw [if_neg (fun e => hj e.symm)]
  · simp

theorem linkOne_undefined {l : Link} {a : Nat} {c : Col} {sym : Symbol}
    (hsym : l.symbols.lookup sym = none) (h0 : 0 ≤ sym) :
    l.linkOne a c sym = (l, some (mkErr Code.undefinedLine (l.lineNumberFor a) c)) := by
  rw [linkOne_eq, hsym]
  simp [linkOneErr, h0]

theorem mkErr_fields (code : Nat) (line : Option Nat) (c : Col) :
    (mkErr code line c).code = code ∧ (mkErr code line c).line = line ∧
    (mkErr code line c).colStart = c.1 ∧ (mkErr code line c).colEnd = c.2 := ⟨rfl, rfl, rfl, rfl⟩

/-- a WHILE/WEND mark as recorded by codegen: column, code address, label -/
abbrev Mark := Col × Nat × Symbol

/-- the two pending references recorded for a matched pair: the WHILE's `ifNot` (at `w.address`) exits to
    the WEND's label, the WEND's `jump` (at `e.address`) goes back to the WHILE's label -/
def pairRefs (u : List (Nat × (Col × Symbol))) (pr : Mark × Mark) : List (Nat × (Col × Symbol)) :=
  unlInsert pr.2.2.1 (pr.2.1, pr.1.2.2) (unlInsert pr.1.2.1 (pr.1.1, pr.2.2.2) u)

theorem linkWhiles_go_matches (l : Link) (ws : List (Bool × Mark)) (stack : List Mark)
    (unl : List (Nat × (Col × Symbol))) (errs : List Error) :
    linkWhiles.go l ws stack unl errs =
      ((Spec.bracketAux ws stack).1.foldl pairRefs unl,
       errs ++ (Spec.bracketAux ws stack).2.1.map (fun e => mkErr Code.wendWithoutWhile (l.lineNumberFor e.2.1) e.1),
       (Spec.bracketAux ws stack).2.2) := by
  induction ws generalizing stack unl errs with
  | nil => simp [linkWhiles.go, Spec.bracketAux]
  | cons hd tl ih =>
    obtain ⟨k, c, a, s⟩ := hd
    cases k with
    | true =>
      simp only [linkWhiles.go, Spec.bracketAux]
      exact ih _ _ _
    | false =>
      cases stack with
      | nil =>
        simp only [linkWhiles.go, Spec.bracketAux]
        rw [ih]
        simp [List.append_assoc]
      | cons w st =>
        obtain ⟨wc, wa, ws'⟩ := w
        simp only [linkWhiles.go, Spec.bracketAux]
        rw [ih]
        simp [pairRefs]

theorem linkWhiles_matches (l : Link) :
    l.linkWhiles =
      ({ l with whiles := [], unlinked := (Spec.bracketMatch l.whiles).1.foldl pairRefs l.unlinked },
       (Spec.bracketMatch l.whiles).2.1.map (fun e => mkErr Code.wendWithoutWhile (l.lineNumberFor e.2.1) e.1) ++
       (Spec.bracketMatch l.whiles).2.2.map (fun w => mkErr Code.whileWithoutWend (l.lineNumberFor w.2.1) w.1)) := by
  unfold linkWhiles
  simp only [linkWhiles_go_matches, Spec.bracketMatch, List.nil_append]

/-- what `link` resolves: the pending references, with two more for every matched WHILE / WEND pair -/
def pend (l : Link) : List (Nat × (Col × Symbol)) := (Spec.bracketMatch l.whiles).1.foldl pairRefs l.unlinked

theorem pend_eq_linkWhiles (l : Link) : l.linkWhiles.1.unlinked = pend l := by rw [linkWhiles_matches]; rfl

theorem linkOne_fst (l : Link) (a : Nat) (c : Col) (sym : Symbol) :
    (l.linkOne a c sym).1 = l ∨ ∃ op, (l.linkOne a c sym).1 = { l with ops := l.ops.setIfInBounds a op } := by
  rw [linkOne_eq]
  split
  · exact .inl rfl
  · split
    · exact .inr ⟨_, rfl⟩
    · exact .inl rfl

theorem linkOne_symbols (l : Link) (a : Nat) (c : Col) (sym : Symbol) :
    (l.linkOne a c sym).1.symbols = l.symbols := by
  rcases linkOne_fst l a c sym with e | ⟨_, e⟩ <;> rw [e]

theorem linkOne_lineNumberFor (l : Link) (a : Nat) (c : Col) (sym : Symbol) (x : Nat) :
    (l.linkOne a c sym).1.lineNumberFor x = l.lineNumberFor x :=
  lineNumberFor_congr (by rw [linkOne_symbols]) x

/-- the pending references form a map: addresses are distinct -/
def KeysDistinct (m : List (Nat × (Col × Symbol))) : Prop := m.Pairwise (fun p q => p.1 ≠ q.1)

theorem unlInsert_distinct (k : Nat) (v : Col × Symbol) {m : List (Nat × (Col × Symbol))} (h : KeysDistinct m) :
    KeysDistinct (unlInsert k v m) := by
  unfold unlInsert KeysDistinct
  rw [List.pairwise_cons]
  refine ⟨?_, List.Pairwise.filter _ h⟩
  intro q hq
  simp only [List.mem_filter, ne_eq, decide_not, Bool.not_eq_eq_eq_not, Bool.not_true, decide_eq_false_iff_not] at hq
  exact fun e => hq.2 e.symm

theorem addUnlinked_distinct {l : Link} (c : Col) (s : Symbol) (h : KeysDistinct l.unlinked) :
    KeysDistinct (l.addUnlinked c s).unlinked := unlInsert_distinct _ _ h

theorem appendUnlinked_distinct {a b : Link} (h : KeysDistinct a.unlinked) : KeysDistinct (appendUnlinked a b) :=
  List.foldrRecOn b.unlinked _ h fun _ hm _ _ => unlInsert_distinct _ _ hm

theorem pend_distinct {l : Link} (h : KeysDistinct l.unlinked) : KeysDistinct (pend l) :=
  List.foldlRecOn _ _ h fun _ hu _ _ => unlInsert_distinct _ _ (unlInsert_distinct _ _ hu)

theorem linkWhiles_distinct {l : Link} (h : KeysDistinct l.unlinked) : KeysDistinct l.linkWhiles.1.unlinked :=
  pend_eq_linkWhiles l ▸ pend_distinct h

theorem pushSymbol_lookup (f : Link) (sym : Symbol) :
    (f.pushSymbol sym).symbols.lookup sym = some (f.ops.size, f.data.size) := by
  show (symInsert sym (f.ops.size, f.data.size) f.symbols).lookup sym = _
  rw [symInsert_lookup, if_pos rfl]

theorem push_keeps {l : Link} {i : Nat} {o : Opcode} (h : l.ops[i]? = some o) (op : Opcode) :
    (l.push op).1.ops[i]? = some o := by
  show (l.ops.push op)[i]? = some o
  have hi : i < l.ops.size := (Array.getElem?_eq_some_iff.1 h).1
  rw [Array.getElem?_push, if_neg (by omega)]
  exact h

-- the field projections of the link operations below are a simp set for the generator proofs

/-- append raw ops (a run of `push`es) -/
def pushOps (l : Link) (ops : Array Opcode) : Link := { l with ops := l.ops ++ ops }

section fields
variable (l : Link) (op : Opcode) (c : Col) (s : Symbol) (f : Link) (os : Array Opcode)
@[simp] theorem push_ops : (l.push op).1.ops = l.ops.push op := rfl
@[simp] theorem push_data : (l.push op).1.data = l.data := rfl
@[simp] theorem push_symbols : (l.push op).1.symbols = l.symbols := rfl
@[simp] theorem push_unlinked : (l.push op).1.unlinked = l.unlinked := rfl
@[simp] theorem push_currentSymbol : (l.push op).1.currentSymbol = l.currentSymbol := rfl
@[simp] theorem push_directSet : (l.push op).1.directSet = l.directSet := rfl
@[simp] theorem nextSymbol_ops : l.nextSymbol.1.ops = l.ops := rfl
@[simp] theorem nextSymbol_data : l.nextSymbol.1.data = l.data := rfl
@[simp] theorem nextSymbol_symbols : l.nextSymbol.1.symbols = l.symbols := rfl
@[simp] theorem nextSymbol_unlinked : l.nextSymbol.1.unlinked = l.unlinked := rfl
@[simp] theorem nextSymbol_currentSymbol : l.nextSymbol.1.currentSymbol = l.currentSymbol - 1 := rfl
@[simp] theorem nextSymbol_snd : l.nextSymbol.2 = l.currentSymbol - 1 := rfl
@[simp] theorem nextSymbol_directSet : l.nextSymbol.1.directSet = l.directSet := rfl
@[simp] theorem addUnlinked_ops : (l.addUnlinked c s).ops = l.ops := rfl
@[simp] theorem addUnlinked_data : (l.addUnlinked c s).data = l.data := rfl
@[simp] theorem addUnlinked_symbols : (l.addUnlinked c s).symbols = l.symbols := rfl
@[simp] theorem addUnlinked_unlinked : (l.addUnlinked c s).unlinked = unlInsert l.ops.size (c, s) l.unlinked := rfl
@[simp] theorem addUnlinked_currentSymbol : (l.addUnlinked c s).currentSymbol = l.currentSymbol := rfl
@[simp] theorem addUnlinked_directSet : (l.addUnlinked c s).directSet = l.directSet := rfl
@[simp] theorem pushSymbol_ops : (l.pushSymbol s).ops = l.ops := rfl
@[simp] theorem pushSymbol_data : (l.pushSymbol s).data = l.data := rfl
@[simp] theorem pushSymbol_symbols : (l.pushSymbol s).symbols = symInsert s (l.ops.size, l.data.size) l.symbols := rfl
@[simp] theorem pushSymbol_unlinked : (l.pushSymbol s).unlinked = l.unlinked := rfl
@[simp] theorem pushSymbol_currentSymbol : (l.pushSymbol s).currentSymbol = l.currentSymbol := rfl
@[simp] theorem pushSymbol_directSet : (l.pushSymbol s).directSet = l.directSet := rfl
@[simp] theorem appended_ops : (appended l f).ops = l.ops ++ f.ops := rfl
@[simp] theorem appended_data : (appended l f).data = l.data ++ f.data := rfl
@[simp] theorem appended_symbols : (appended l f).symbols = appendSymbols l f := rfl
@[simp] theorem appended_unlinked : (appended l f).unlinked = appendUnlinked l f := rfl
@[simp] theorem appended_currentSymbol : (appended l f).currentSymbol = l.currentSymbol + f.currentSymbol := rfl
@[simp] theorem appended_directSet : (appended l f).directSet = l.directSet := rfl
@[simp] theorem pushOps_ops : (l.pushOps os).ops = l.ops ++ os := rfl
@[simp] theorem pushOps_data : (l.pushOps os).data = l.data := rfl
@[simp] theorem pushOps_symbols : (l.pushOps os).symbols = l.symbols := rfl
@[simp] theorem pushOps_unlinked : (l.pushOps os).unlinked = l.unlinked := rfl
@[simp] theorem pushOps_currentSymbol : (l.pushOps os).currentSymbol = l.currentSymbol := rfl
@[simp] theorem pushOps_directSet : (l.pushOps os).directSet = l.directSet := rfl
end fields
end Link
end Basic

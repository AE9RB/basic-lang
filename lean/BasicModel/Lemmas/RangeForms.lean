import BasicModel.Lemmas.C19
import BasicModel.Lemmas.Control
import BasicModel.Lemmas.RangeNoFault
import BasicModel.Lemmas.LexNumber
/-
  Statement-level lemmas for C15: the operand parser of LIST / DELETE (`Parse.lineNumberRange`),
  the refusal of a bare DELETE by `Parse.statement`; of the runtime, `doDelete` (`doDelete_listing`)
  and `executeN`, `k` calls of `execute`, over which Thm/C15 follows a LIST (`doList_range` is in
  Lemmas/RangeNoFault).  `rm_pure` … `rm_modify` restate `Runtime.run_*`; kept for their statements,
  nothing uses them.

  The parser part says what the token source (`ParseRun.tok` / `adv` / `pk`) is on the states
  `st0 ts cs ce` (no look-ahead, no remark seen) and `stPeeked t ts cs ce`, and reads the run
  equations of `Lemmas/ParseRun.lean` on them; arbitrary runs of `.whitespace _` tokens are allowed
  before every operand token (`AllWs`).
-/
namespace Basic
namespace Lemmas.RangeForms
open Parse Lemmas.C19 Lemmas.ParseRun

/-- a parser state without look-ahead in which no remark has been seen -/
def st0 (ts : List Token) (cs ce : Nat) : PState :=
  { toks := ts, peeked := none, rem := false, cs := cs, ce := ce }

/-- the state in which the token `t` has been peeked (columns `cs`, `ce` are those of `t`) -/
def stPeeked (t : Token) (ts : List Token) (cs ce : Nat) : PState :=
  { toks := ts, peeked := some t, rem := false, cs := cs, ce := ce }

/-- the state `peek` leaves behind when started without look-ahead: `afterPeek ts false cs ce = pk (st0 ts cs ce)` -/
def afterPeek (ts : List Token) (rem : Bool) (cs ce : Nat) : PState :=
  let r := nextLoop ts rem cs ce
  { toks := r.2.1, peeked := r.1, rem := r.2.2.1, cs := r.2.2.2.1, ce := r.2.2.2.2 }

/-- the token `peek` delivers when started without look-ahead: `peekTok ts false cs ce = tok (st0 ts cs ce)` -/
def peekTok (ts : List Token) (rem : Bool) (cs ce : Nat) : Option Token := (nextLoop ts rem cs ce).1

/-- width of a run of tokens as listed -/
def width (ws : List Token) : Nat := (printTokens ws).length

/-- neither whitespace nor a remark word: `nextLoop` hands such a token out (the same as `ParseExpr.Plain`) -/
def Solid (t : Token) : Prop := (∀ n, t ≠ .whitespace n) ∧ isRem t = false

theorem nextLoop_solid (ws : List Token) (t : Token) (ts : List Token) (h : AllWs ws) (ht : Solid t)
    (cs ce : Nat) :
    nextLoop (ws ++ t :: ts) false cs ce
      = (some t, ts, false, ce + width ws, ce + width ws + t.text.length) := by
  rw [nextLoop_ws_append ws _ h, nextLoop_tok t ts _ _ ht.2 ht.1]
  rfl

theorem tok_st0 (ts : List Token) (cs ce : Nat) : tok (st0 ts cs ce) = peekTok ts false cs ce := rfl
theorem pk_st0 (ts : List Token) (cs ce : Nat) : pk (st0 ts cs ce) = afterPeek ts false cs ce := rfl
theorem tok_stPeeked (t : Token) (ts : List Token) (cs ce : Nat) : tok (stPeeked t ts cs ce) = some t := rfl
theorem adv_stPeeked (t : Token) (ts : List Token) (cs ce : Nat) :
    adv (stPeeked t ts cs ce) = st0 ts cs ce := rfl

section
variable {ws : List Token} {t : Token} (hw : AllWs ws) (ht : Solid t) (ts : List Token) (cs ce : Nat)
include hw ht

theorem tok_solid : tok (st0 (ws ++ t :: ts) cs ce) = some t := by
  simp [tok, st0, nextLoop_solid ws t ts hw ht]

theorem adv_solid :
    adv (st0 (ws ++ t :: ts) cs ce) = st0 ts (ce + width ws) (ce + width ws + t.text.length) := by
  simp [adv, st0, nextLoop_solid ws t ts hw ht]

theorem pk_solid :
    pk (st0 (ws ++ t :: ts) cs ce) = stPeeked t ts (ce + width ws) (ce + width ws + t.text.length) := by
  simp [pk, tok, adv, st0, stPeeked, nextLoop_solid ws t ts hw ht]

end

/-- a numeral token: `numStr (some t) = some s` (`IsNum.numStr`) -/
def IsNum (t : Token) (s : Str) : Prop :=
  t = .literal (.integer s) ∨ t = .literal (.single s) ∨ t = .literal (.double s)

theorem IsNum.solid {t : Token} {s : Str} (h : IsNum t s) : Solid t := by
  rcases h with rfl | rfl | rfl <;> exact ⟨fun n => by simp, rfl⟩

theorem IsNum.numStr {t : Token} {s : Str} (h : IsNum t s) : numStr (some t) = some s := by
  rcases h with rfl | rfl | rfl <;> rfl

theorem IsNum.text {t : Token} {s : Str} (h : IsNum t s) : t.text = s := by
  rcases h with rfl | rfl | rfl <;> rfl

theorem lineNumberOf_bad {s : Str} (hs : ∀ a, Fmt.parseU16 s = some a → maxLineNumber < a)
    (st : PState) :
    lineNumberOf s st = .error (errAt Code.undefinedLine st.cs st.ce "INVALID LINE NUMBER") := by
  unfold lineNumberOf
  cases h : Fmt.parseU16 s with
  | none => rfl
  | some n =>
    have := hs n h
    simp only
    rw [if_neg (by omega)]

theorem maybeLineNumber_num (ws : List Token) (t : Token) (s : Str) (ts : List Token)
    (hw : AllWs ws) (ht : IsNum t s) (cs ce : Nat) :
    maybeLineNumber.run (st0 (ws ++ t :: ts) cs ce)
      = lineNumberOf s (st0 ts (ce + width ws) (ce + width ws + s.length)) := by
  rw [maybeLineNumber_run, tok_solid hw ht.solid, adv_solid hw ht.solid, ht.numStr, ht.text]

/-- the token of the decimal numeral of `a` (`Lex.numberFinish`: an Integer literal when it fits
    `i16`, a Single literal otherwise; see `Thm.C15.lit_is_lexed`) -/
def lit (a : Nat) : Token :=
  if a ≤ 32767 then .literal (.integer (RStd.natDigits a)) else .literal (.single (RStd.natDigits a))

theorem lit_isNum (a : Nat) : IsNum (lit a) (RStd.natDigits a) := by
  unfold lit; split
  · exact Or.inl rfl
  · exact Or.inr (Or.inl rfl)

/-- a numeral does not end a statement -/
theorem isEnd_lit (ws : List Token) (a : Nat) (tl : List Token) (hw : AllWs ws) (cs ce : Nat) :
    isEnd (peekTok (ws ++ lit a :: tl) false cs ce) = false := by
  rw [← tok_st0, tok_solid hw (lit_isNum a).solid]
  rcases lit_isNum a with h | h | h <;> rw [h] <;> rfl

theorem parseU16_lit {a : Nat} (h : a ≤ maxLineNumber) : Fmt.parseU16 (RStd.natDigits a) = some a :=
  Lex.parseU16_natDigits a (by simp only [maxLineNumber] at h; omega)

theorem parseU16_lit_bad {a : Nat} (h : maxLineNumber < a) :
    ∀ n, Fmt.parseU16 (RStd.natDigits a) = some n → maxLineNumber < n := by
  intro n hn
  by_cases h2 : a ≤ 65535
  · rw [Lex.parseU16_natDigits a h2] at hn
    cases hn; exact h
  · rw [Lex.parseU16_natDigits_big a (by omega)] at hn
    cases hn

theorem maybeLineNumber_lit (ws : List Token) (a : Nat) (ts : List Token) (hw : AllWs ws)
    (ha : a ≤ maxLineNumber) (cs ce : Nat) :
    maybeLineNumber.run (st0 (ws ++ lit a :: ts) cs ce)
      = .ok (some a, st0 ts (ce + width ws) (ce + width ws + (RStd.natDigits a).length)) := by
  rw [maybeLineNumber_num ws _ _ ts hw (lit_isNum a)]
  simp [lineNumberOf, parseU16_lit ha, ha]

theorem maybeLineNumber_other (ws : List Token) (t : Token) (ts : List Token) (hw : AllWs ws)
    (ht : Solid t) (hn : numStr (some t) = none) (cs ce : Nat) :
    maybeLineNumber.run (st0 (ws ++ t :: ts) cs ce)
      = .ok (none, stPeeked t ts (ce + width ws) (ce + width ws + t.text.length)) := by
  rw [maybeLineNumber_run, tok_solid hw ht, hn, pk_solid hw ht]

/-- the statement ends after any whitespace: end of the tokens, `:`, ELSE (or a remark) -/
def StmtEnd (ts : List Token) : Prop := ∀ cs ce, isEnd (peekTok ts false cs ce) = true

/-- the next token is not `-` -/
def NoMinusNext (ts : List Token) : Prop := ∀ cs ce, peekTok ts false cs ce ≠ some (.operator .minus)

/-- the next token is not a numeral -/
def NoNumNext (ts : List Token) : Prop := ∀ cs ce, numStr (peekTok ts false cs ce) = none

theorem StmtEnd.noMinus {ts : List Token} (h : StmtEnd ts) : NoMinusNext ts := by
  intro cs ce hm
  have := h cs ce
  rw [hm] at this
  cases this

theorem StmtEnd.noNum {ts : List Token} (h : StmtEnd ts) : NoNumNext ts := by
  intro cs ce
  have := h cs ce
  rcases hp : peekTok ts false cs ce with _ | (_|_|l|_|_|_|_|_|_|_|_) <;> try rfl
  rw [hp] at this
  cases l <;> cases this

theorem maybeLineNumber_noNum {tl : List Token} (h : NoNumNext tl) (cs ce : Nat) :
    maybeLineNumber.run (st0 tl cs ce) = .ok (none, afterPeek tl false cs ce) := by
  rw [maybeLineNumber_run, tok_st0, h]
  rfl

/-- nothing but whitespace (or a remark) is left -/
def LineEnd (ts : List Token) : Prop := ∀ cs ce, peekTok ts false cs ce = none

theorem LineEnd.stmtEnd {ts : List Token} (h : LineEnd ts) : StmtEnd ts := by
  intro cs ce; rw [h cs ce]; rfl

theorem lineEnd_nil : LineEnd [] := fun _ _ => rfl

theorem lineEnd_ws (ws : List Token) (hw : AllWs ws) : LineEnd ws := by
  intro cs ce
  have := nextLoop_ws_append ws [] hw cs ce
  rw [List.append_nil] at this
  simp [peekTok, this, nextLoop]

theorem stmtEnd_nil : StmtEnd [] := fun _ _ => rfl

theorem stmtEnd_colon (more : List Token) : StmtEnd (.colon :: more) := by
  intro cs ce; simp [peekTok, nextLoop, isRem, isEnd]

theorem stmtEnd_else (more : List Token) : StmtEnd (.word .else :: more) := by
  intro cs ce; simp [peekTok, nextLoop, isRem, isEnd]

theorem stmtEnd_rem (t : Token) (more : List Token) (h : isRem t = true) : StmtEnd (t :: more) := by
  intro cs ce; simp [peekTok, nextLoop_rem_head t more false cs ce h, isEnd]

theorem stmtEnd_ws (ws ts : List Token) (hw : AllWs ws) (h : StmtEnd ts) : StmtEnd (ws ++ ts) := by
  intro cs ce
  unfold peekTok
  rw [nextLoop_ws_append ws ts hw]
  exact h cs _

/-- the error of an inverted range -/
def rangeErr (c0 c : Nat) : Error := errAt Code.undefinedLine c0 c "INVALID RANGE"

theorem minus_len : (Token.operator Operator.minus).text.length = 1 := rfl

theorem minus_solid : Solid (.operator .minus) := ⟨fun n => by simp, rfl⟩

/-! The forms of the operand of LIST / DELETE.  Each is `lineNumberRange_run` with the two
    `maybeLineNumber` and the token between them read off the shape of the tokens. -/

/-- form `n`: both ends are `n` -/
theorem range_n (ws : List Token) (a : Nat) (tl : List Token) (hw : AllWs ws) (ha : a ≤ maxLineNumber)
    (htl : NoMinusNext tl) (cs ce : Nat) :
    lineNumberRange.run (st0 (ws ++ lit a :: tl) cs ce) =
      let c1 := ce + width ws
      let c2 := c1 + (RStd.natDigits a).length
      let st := afterPeek tl false c1 c2
      .ok ((lineExpr (c1, c2) a, lineExpr (st.cs, st.cs) a), st) := by
  simp only [lineNumberRange_run, maybeLineNumber_lit ws a tl hw ha, ok_bind, tok_st0, htl _ _,
    if_false, gt_iff_lt, Nat.lt_irrefl]
  rfl

/-- form `n-`: from `n` to the largest line number -/
theorem range_n_minus (ws ws1 : List Token) (a : Nat) (tl : List Token)
    (hw : AllWs ws) (hw1 : AllWs ws1) (ha : a ≤ maxLineNumber) (htl : NoNumNext tl) (cs ce : Nat) :
    lineNumberRange.run (st0 (ws ++ lit a :: (ws1 ++ .operator .minus :: tl)) cs ce) =
      let c1 := ce + width ws
      let c2 := c1 + (RStd.natDigits a).length
      let c3 := c2 + width ws1
      let st := afterPeek tl false c3 (c3 + 1)
      .ok ((lineExpr (c1, c2) a, lineExpr (st.cs, st.cs) maxLineNumber), st) := by
  simp only [lineNumberRange_run, maybeLineNumber_lit ws a _ hw ha, ok_bind, tok_solid hw1 minus_solid,
    adv_solid hw1 minus_solid, maybeLineNumber_noNum htl, if_false, if_true, gt_iff_lt, Nat.not_lt.2 ha,
    minus_len]
  rfl

/-- form `-n`: from 0 to `n` -/
theorem range_minus_n (ws ws1 : List Token) (b : Nat) (tl : List Token)
    (hw : AllWs ws) (hw1 : AllWs ws1) (hb : b ≤ maxLineNumber) (cs ce : Nat) :
    lineNumberRange.run (st0 (ws ++ .operator .minus :: (ws1 ++ lit b :: tl)) cs ce) =
      let c1 := ce + width ws
      let c3 := c1 + 1 + width ws1
      let c4 := c3 + (RStd.natDigits b).length
      .ok ((lineExpr (c1, c1) 0, lineExpr (c3, c4) b), st0 tl c3 c4) := by
  simp only [lineNumberRange_run, maybeLineNumber_other ws _ _ hw minus_solid rfl, ok_bind, tok_stPeeked,
    adv_stPeeked, maybeLineNumber_lit ws1 b tl hw1 hb, if_false, if_true, gt_iff_lt, Nat.not_lt_zero,
    minus_len]
  rfl

/-- the two-numeral form `a-b`: the ends are compared; an inverted range is refused
    (UNDEFINED LINE, "INVALID RANGE") -/
theorem range_n_minus_n (ws ws1 ws2 : List Token) (a b : Nat) (tl : List Token)
    (hw : AllWs ws) (hw1 : AllWs ws1) (hw2 : AllWs ws2) (ha : a ≤ maxLineNumber)
    (hb : b ≤ maxLineNumber) (cs ce : Nat) :
    lineNumberRange.run (st0 (ws ++ lit a :: (ws1 ++ .operator .minus :: (ws2 ++ lit b :: tl))) cs ce) =
      let c1 := ce + width ws
      let c2 := c1 + (RStd.natDigits a).length
      let c3 := c2 + width ws1 + 1 + width ws2
      let c4 := c3 + (RStd.natDigits b).length
      if a > b then .error (rangeErr cs c4)
      else .ok ((lineExpr (c1, c2) a, lineExpr (c3, c4) b), st0 tl c3 c4) := by
  simp only [lineNumberRange_run, maybeLineNumber_lit ws a _ hw ha, ok_bind, tok_solid hw1 minus_solid,
    adv_solid hw1 minus_solid, maybeLineNumber_lit ws2 b tl hw2 hb, if_true, minus_len]
  rfl

/-- no operand: the full range -/
theorem range_empty (tl : List Token) (h1 : NoNumNext tl) (h2 : NoMinusNext tl) (cs ce : Nat) :
    lineNumberRange.run (st0 tl cs ce) =
      let st := afterPeek tl false cs ce
      .ok ((lineExpr (st.cs, st.cs) 0, lineExpr (st.cs, st.cs) maxLineNumber), st) := by
  simp only [lineNumberRange_run, maybeLineNumber_noNum h1, ok_bind, ← pk_st0, tok_pk, pk_pk, tok_st0,
    h2 cs ce, if_false, gt_iff_lt, Nat.not_lt_zero]

theorem range_bad_first (ws : List Token) (t : Token) (s : Str) (tl : List Token)
    (hw : AllWs ws) (ht : IsNum t s) (hs : ∀ a, Fmt.parseU16 s = some a → maxLineNumber < a)
    (cs ce : Nat) :
    lineNumberRange.run (st0 (ws ++ t :: tl) cs ce) =
      .error (errAt Code.undefinedLine (ce + width ws) (ce + width ws + s.length)
        "INVALID LINE NUMBER") := by
  rw [lineNumberRange_run, maybeLineNumber_num ws t s tl hw ht, lineNumberOf_bad hs]
  rfl

theorem range_minus_bad (ws ws1 : List Token) (t : Token) (s : Str) (tl : List Token)
    (hw : AllWs ws) (hw1 : AllWs ws1) (ht : IsNum t s)
    (hs : ∀ a, Fmt.parseU16 s = some a → maxLineNumber < a) (cs ce : Nat) :
    lineNumberRange.run (st0 (ws ++ .operator .minus :: (ws1 ++ t :: tl)) cs ce) =
      .error (errAt Code.undefinedLine (ce + width ws + 1 + width ws1)
        (ce + width ws + 1 + width ws1 + s.length) "INVALID LINE NUMBER") := by
  simp only [lineNumberRange_run, maybeLineNumber_other ws _ _ hw minus_solid rfl, ok_bind, tok_stPeeked,
    adv_stPeeked, maybeLineNumber_num ws1 t s tl hw1 ht, lineNumberOf_bad hs, if_true, minus_len]
  rfl

theorem range_bad_second (ws ws1 ws2 : List Token) (t' : Token) (s' : Str) (a : Nat)
    (tl : List Token) (hw : AllWs ws) (hw1 : AllWs ws1) (hw2 : AllWs ws2)
    (ht' : IsNum t' s') (ha : a ≤ maxLineNumber)
    (hs' : ∀ b, Fmt.parseU16 s' = some b → maxLineNumber < b) (cs ce : Nat) :
    lineNumberRange.run (st0 (ws ++ lit a :: (ws1 ++ .operator .minus :: (ws2 ++ t' :: tl))) cs ce) =
      .error (errAt Code.undefinedLine
        (ce + width ws + (RStd.natDigits a).length + width ws1 + 1 + width ws2)
        (ce + width ws + (RStd.natDigits a).length + width ws1 + 1 + width ws2 + s'.length)
        "INVALID LINE NUMBER") := by
  simp only [lineNumberRange_run, maybeLineNumber_lit ws a _ hw ha, ok_bind, tok_solid hw1 minus_solid,
    adv_solid hw1 minus_solid, maybeLineNumber_num ws2 t' s' tl hw2 ht', lineNumberOf_bad hs', if_true,
    minus_len]
  rfl

/-- only the start column of a state without look-ahead differs from the state that `peek` left,
    and `nextLoop` does not read it -/
theorem peek_afterPeek_eq (ts : List Token) (cs cs' ce : Nat) :
    peek.run (afterPeek ts false cs ce) = peek.run (st0 ts cs' ce) := by
  rw [← pk_st0, peek_run, peek_run, tok_pk, pk_pk]
  simp only [tok, pk, adv, st0, nextLoop_cs ts false cs cs' ce]

theorem maybeLineNumber_afterPeek (ts : List Token) (cs cs' ce : Nat) :
    maybeLineNumber.run (afterPeek ts false cs ce) = maybeLineNumber.run (st0 ts cs' ce) := by
  rw [← pk_st0, maybeLineNumber_run, maybeLineNumber_run, tok_pk, pk_pk, adv_pk]
  simp only [tok, pk, adv, st0, nextLoop_cs ts false cs cs' ce]

/-- the operand parser started on a state with look-ahead behaves as on the state without, except
    that its column range starts at the peeked token -/
theorem lineNumberRange_afterPeek (ts : List Token) (cs ce : Nat) :
    lineNumberRange.run (afterPeek ts false cs ce)
      = lineNumberRange.run (st0 ts (afterPeek ts false cs ce).cs ce) := by
  rw [lineNumberRange_run, lineNumberRange_run, maybeLineNumber_afterPeek ts cs (afterPeek ts false cs ce).cs ce]
  rfl

theorem word_solid_delete : Solid (.word .delete) := ⟨fun n => by simp, rfl⟩
theorem word_solid_list : Solid (.word .list) := ⟨fun n => by simp, rfl⟩

/-- the error of a bare DELETE: ILLEGAL FUNCTION CALL at the columns of the word -/
def bareDeleteErr (cs ce : Nat) : Error := (Error.mk' Code.illegalFunctionCall).inCol cs ce

/-- `statement` at DELETE, from any state: with nothing after it (end of line, `:`, ELSE, remark)
    the word is refused (fix D17); otherwise the operand parser runs -/
theorem statement_delete_run (fuel : Nat) (st : PState) (h : tok st = some (.word .delete)) :
    (statement (fuel + 1)).run st =
      if isEnd (tok (adv st)) then .error (bareDeleteErr (adv st).cs (adv st).ce)
      else lineNumberRange.run (pk (adv st)) >>= fun p =>
        .ok (.delete ((adv st).cs, (adv st).ce) p.1.1 p.1.2, p.2) := by
  rw [statement]
  simp only [StateT.run_bind, peek_run, h, ok_bind, next_run, adv_pk, col_run]
  split
  · rfl
  · simp only [StateT.run_pure, StateT.run_bind]
    cases lineNumberRange.run (pk (adv st)) <;> rfl

theorem statement_list_run (fuel : Nat) (st : PState) (h : tok st = some (.word .list)) :
    (statement (fuel + 1)).run st =
      lineNumberRange.run (adv st) >>= fun p => .ok (.list ((adv st).cs, (adv st).ce) p.1.1 p.1.2, p.2) := by
  rw [statement]
  simp only [StateT.run_bind, peek_run, h, ok_bind, next_run, adv_pk, col_run]
  cases lineNumberRange.run (adv st) <;> rfl

theorem statement_delete_bare (fuel : Nat) (ws tl : List Token) (hw : AllWs ws) (htl : StmtEnd tl)
    (cs ce : Nat) :
    (statement (fuel + 1)).run (st0 (ws ++ .word .delete :: tl) cs ce)
      = .error (bareDeleteErr (ce + width ws) (ce + width ws + 6)) := by
  rw [statement_delete_run _ _ (tok_solid hw word_solid_delete ..), adv_solid hw word_solid_delete,
    tok_st0, htl]
  rfl

theorem statement_delete (fuel : Nat) (ws rest : List Token) (hw : AllWs ws) (cs ce : Nat)
    (hne : isEnd (peekTok rest false (ce + width ws) (ce + width ws + 6)) = false) :
    (statement (fuel + 1)).run (st0 (ws ++ .word .delete :: rest) cs ce) =
      let c1 := ce + width ws
      let c2 := c1 + 6
      (lineNumberRange.run (st0 rest (afterPeek rest false c1 c2).cs c2)) >>= fun p =>
        .ok (.delete (c1, c2) p.1.1 p.1.2, p.2) := by
  rw [statement_delete_run _ _ (tok_solid hw word_solid_delete ..), adv_solid hw word_solid_delete,
    tok_st0, pk_st0, lineNumberRange_afterPeek]
  exact if_neg (ne_true_of_eq_false hne)

theorem statement_list (fuel : Nat) (ws rest : List Token) (hw : AllWs ws) (cs ce : Nat) :
    (statement (fuel + 1)).run (st0 (ws ++ .word .list :: rest) cs ce) =
      let c1 := ce + width ws
      let c2 := c1 + 4
      (lineNumberRange.run (st0 rest c1 c2)) >>= fun p => .ok (.list (c1, c2) p.1.1 p.1.2, p.2) := by
  rw [statement_list_run _ _ (tok_solid hw word_solid_list ..), adv_solid hw word_solid_list]
  rfl

/-! Whole lines `LIST <operand>` / `DELETE <operand>`: if the operand is refused so is the line; if
    it is accepted and nothing follows, the line is that one statement. -/

theorem parseTokens_list (ws rest : List Token) (hw : AllWs ws) :
    (∀ e, lineNumberRange.run (st0 rest (width ws) (width ws + 4)) = .error e →
      parseTokens (ws ++ .word .list :: rest) = .error e) ∧
    (∀ a b st', lineNumberRange.run (st0 rest (width ws) (width ws + 4)) = .ok ((a, b), st') →
      tok st' = none →
      parseTokens (ws ++ .word .list :: rest) = .ok [.list (width ws, width ws + 4) a b]) := by
  have ht := tok_solid hw word_solid_list rest 0 0
  have hs := fun fuel => statement_list fuel ws rest hw 0 0
  simp only [Nat.zero_add] at hs
  constructor
  · intro e he
    exact parseTokens_one_error ht (by decide) fun fuel => (hs fuel).trans (by rw [he]; rfl)
  · intro a b st' hr hend
    exact parseTokens_one_ok ht (by decide) (fun fuel => (hs fuel).trans (by rw [hr]; rfl)) hend

theorem parseTokens_delete (ws rest : List Token) (hw : AllWs ws)
    (hne : isEnd (peekTok rest false (width ws) (width ws + 6)) = false) :
    let c0 := (afterPeek rest false (width ws) (width ws + 6)).cs
    (∀ e, lineNumberRange.run (st0 rest c0 (width ws + 6)) = .error e →
      parseTokens (ws ++ .word .delete :: rest) = .error e) ∧
    (∀ a b st', lineNumberRange.run (st0 rest c0 (width ws + 6)) = .ok ((a, b), st') →
      tok st' = none →
      parseTokens (ws ++ .word .delete :: rest) = .ok [.delete (width ws, width ws + 6) a b]) := by
  have ht := tok_solid hw word_solid_delete rest 0 0
  have hs := fun fuel => statement_delete fuel ws rest hw 0 0 (by rw [Nat.zero_add]; exact hne)
  simp only [Nat.zero_add] at hs
  constructor
  · intro e he
    exact parseTokens_one_error ht (by decide) fun fuel => (hs fuel).trans (by rw [he]; rfl)
  · intro a b st' hr hend
    exact parseTokens_one_ok ht (by decide) (fun fuel => (hs fuel).trans (by rw [hr]; rfl)) hend

section Rt
open _root_.Basic.Runtime

theorem rm_pure {α} (a : α) (s : Runtime) : ((pure a : RM α).run).run s = (.ok a, s) := Runtime.run_pure a s
theorem rm_get (s : Runtime) : ((get : RM Runtime).run).run s = (.ok s, s) := Runtime.run_get s
theorem rm_set (s1 s : Runtime) : ((set s1 : RM PUnit).run).run s = (.ok ⟨⟩, s1) := Runtime.run_set s1 s
theorem rm_modify (f : Runtime → Runtime) (s : Runtime) :
    ((modify f : RM PUnit).run).run s = (.ok ⟨⟩, f s) := Runtime.run_modify f s
theorem rm_pop2 (s : Runtime) (stk : Array Val) (a b : Val) (h : s.stack = (stk.push a).push b) :
    (pop2.run).run s = (.ok (a, b), { s with stack := stk }) := by
  unfold pop2
  rw [run_bind, run_pop_push b _ s h]
  simp only
  rw [run_bind, run_pop_push a stk _ rfl]
  rfl

/-- the store after DELETE is `remove_range` of the store before, and `dirty` is raised exactly
    when a line was removed -/
theorem doDelete_listing (s : Runtime) (stk : Array Val) (a b : Val) (lo hi : Option Nat)
    (h : s.stack = (stk.push a).push b) (ha : a.toLineNumber = .ok lo) (hb : b.toLineNumber = .ok hi) :
    ((doDelete.run).run s).1 = .ok .stopped ∧
    ((doDelete.run).run s).2.listing = (s.listing.removeRange lo hi).1 ∧
    ((doDelete.run).run s).2.dirty = (s.dirty || (s.listing.removeRange lo hi).2) := by
  refine ⟨?_, doDelete_range s stk a b lo hi h ha hb, ?_⟩ <;> rw [run_doDelete s stk a b lo hi h ha hb]
  simp only [doEnd_dirty]
  cases hr : (s.listing.removeRange lo hi).2 <;> simp [deleted]

theorem toLineNumber_eq (v : Val) :
    v.toLineNumber = match v.toU16 with
      | .ok n => if n ≤ maxLineNumber then .ok (some n) else err Code.undefinedLine
      | .error e => .error e := by
  unfold Val.toLineNumber
  cases v.toU16 <;> rfl

theorem toLineNumber_ok (v : Val) (r : Option Nat) (h : v.toLineNumber = .ok r) :
    ∃ n, r = some n ∧ n ≤ maxLineNumber ∧ v.toU16 = .ok n := by
  rw [toLineNumber_eq] at h
  cases hu : v.toU16 with
  | error e => rw [hu] at h; cases h
  | ok n =>
    rw [hu] at h
    dsimp only at h
    split at h
    · cases h; exact ⟨n, rfl, by assumption, rfl⟩
    · cases h

/-- `k` calls of `execute`: the events and the final state -/
def executeN (env : Env) (n : Nat) : Nat → Runtime → List Event × Runtime
  | 0, s => ([], s)
  | k + 1, s =>
    let r := execute env s n
    let rest := executeN env n k r.1
    (r.2 :: rest.1, rest.2)

end Rt

end Lemmas.RangeForms
end Basic

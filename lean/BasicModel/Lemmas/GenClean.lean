import BasicModel.Lemmas.Codegen
/-
  The clean path of generator code.

  `Clean m g a g'`: the generator code `m`, run from `g`, returns `a` in the state `g'` — provided the
  fragment under construction FITS at the end (`Fits`: code and data within the limit, no direct
  fragment).  The generator only ever appends to that fragment (`Grows`), so every overflow check on the
  way follows from the last one, and the rules below — one per primitive, `Clean.bind` for `do` — have
  no side conditions: the bound is asked once, by whoever uses `Clean.run`.

  A run lemma is a chain of these rules (the states are found by unification) followed by one equation
  for the fragment that came out (`Clean.congr`).  Nothing is said off the clean path; the logic for all
  paths is `H` of `Lemmas/GenWalk.lean`.
-/
namespace Basic
namespace Codegen
open Link

variable {α β : Type}

/-- the fragment fits: code and data within the limit, and it is no direct fragment (to which data
    cannot be appended) -/
structure Fits (l : Link) : Prop where
  ops : l.ops.size ≤ Gen.stackMaxLen
  data : l.data.size ≤ Gen.stackMaxLen
  direct : l.directSet = false

structure Grows (l l' : Link) : Prop where
  ops : l.ops.size ≤ l'.ops.size
  data : l.data.size ≤ l'.data.size
  direct : l'.directSet = l.directSet

theorem Grows.refl (l : Link) : Grows l l := ⟨Nat.le_refl _, Nat.le_refl _, rfl⟩

theorem Grows.trans {a b c : Link} (h1 : Grows a b) (h2 : Grows b c) : Grows a c :=
  ⟨Nat.le_trans h1.ops h2.ops, Nat.le_trans h1.data h2.data, h2.direct.trans h1.direct⟩

theorem Grows.of_eq {l l' : Link} (ho : l'.ops = l.ops) (hd : l'.data = l.data) (hs : l'.directSet = l.directSet) :
    Grows l l' := ⟨by rw [ho]; exact Nat.le_refl _, by rw [hd]; exact Nat.le_refl _, hs⟩

theorem Fits.of_grows {l l' : Link} (h : Grows l l') (hf : Fits l') : Fits l :=
  ⟨Nat.le_trans h.ops hf.ops, Nat.le_trans h.data hf.data, h.direct ▸ hf.direct⟩

structure Clean (m : GM α) (g : GState) (a : α) (g' : GState) : Prop where
  grows : Grows g.cur g'.cur
  run : Fits g'.cur → m.run.run g = (.ok a, g')

namespace Clean

theorem congr {m : GM α} {g g' g'' : GState} {a : α} (h : Clean m g a g') (e : g' = g'') : Clean m g a g'' := e ▸ h

/-- what cannot fail -/
theorem of_eq {m : GM α} {g g' : GState} {a : α} (hg : Grows g.cur g'.cur) (h : m.run.run g = (.ok a, g')) :
    Clean m g a g' := ⟨hg, fun _ => h⟩

theorem pure (a : α) (g : GState) : Clean (Pure.pure a : GM α) g a g := ⟨.refl _, fun _ => rfl⟩

theorem bind {m : GM α} {f : α → GM β} {g g1 g2 : GState} {a : α} {b : β} (h1 : Clean m g a g1)
    (h2 : Clean (f a) g1 b g2) : Clean (m >>= f) g b g2 :=
  ⟨h1.grows.trans h2.grows, fun hf => by rw [grun_bind_ok (h1.run (hf.of_grows h2.grows)), h2.run hf]⟩

theorem ite_pos {c : Prop} [Decidable c] {m1 m2 : GM α} {g g' : GState} {a : α} (hc : c) (h : Clean m1 g a g') :
    Clean (if c then m1 else m2) g a g' := by rw [if_pos hc]; exact h

theorem ite_neg {c : Prop} [Decidable c] {m1 m2 : GM α} {g g' : GState} {a : α} (hc : ¬ c) (h : Clean m2 g a g') :
    Clean (if c then m1 else m2) g a g' := by rw [if_neg hc]; exact h

section
variable (v : Array VarItem) (ex st : Array (Col × Link)) (cur : Link)

theorem liftE {r : Except Error α} {a : α} (h : r = .ok a) (g : GState) : Clean (Codegen.liftE r) g a g :=
  .of_eq (.refl _) (by rw [grun_liftE, h])

theorem lenVal {n : Nat} (h : n ≤ 32767) (g : GState) : Clean (Codegen.lenVal n) g (.int (Int16.ofNat n)) g :=
  .of_eq (.refl _) (grun_lenVal n g h)

theorem lpush (op : Opcode) : Clean (Codegen.lpush op) ⟨v, ex, st, cur⟩ () ⟨v, ex, st, (cur.push op).1⟩ :=
  ⟨⟨by simp [Link.push], Nat.le_refl _, rfl⟩, fun hf => grun_lpush_ok op _ (by simpa [Link.push] using hf.ops)⟩

theorem lappend (f : Link) : Clean (Codegen.lappend f) ⟨v, ex, st, cur⟩ () ⟨v, ex, st, appended cur f⟩ :=
  ⟨⟨by simp [appended], by simp [appended], rfl⟩, fun hf =>
    grun_lappend_ok f _ hf.direct (by simpa [appended] using hf.ops) (by simpa [appended] using hf.data)⟩

theorem lnextSymbol : Clean Codegen.lnextSymbol ⟨v, ex, st, cur⟩ (cur.currentSymbol - 1) ⟨v, ex, st, cur.nextSymbol.1⟩ :=
  .of_eq (.of_eq rfl rfl rfl) (grun_lnextSymbol _)

theorem lpushSymbol (sym : Symbol) : Clean (Codegen.lpushSymbol sym) ⟨v, ex, st, cur⟩ ⟨⟩ ⟨v, ex, st, cur.pushSymbol sym⟩ :=
  .of_eq (.of_eq rfl rfl rfl) rfl

theorem laddUnlinked (c : Col) (sym : Symbol) :
    Clean (Codegen.laddUnlinked c sym) ⟨v, ex, st, cur⟩ ⟨⟩ ⟨v, ex, st, cur.addUnlinked c sym⟩ :=
  .of_eq (.of_eq rfl rfl rfl) rfl

/-- a change of the fragment that leaves code, data and the direct flag alone (a WHILE / WEND mark) -/
theorem modifyCur (f : Link → Link) (hf : ∀ l, Grows l (f l)) :
    Clean (modify fun s => { s with cur := f s.cur } : GM PUnit) ⟨v, ex, st, cur⟩ ⟨⟩ ⟨v, ex, st, f cur⟩ :=
  .of_eq (hf _) rfl

theorem popExpr (x : Col × Link) : Clean Codegen.popExpr ⟨v, ex.push x, st, cur⟩ x ⟨v, ex, st, cur⟩ :=
  .of_eq (.refl _) (popExpr_run _ ex x rfl)

theorem popVar (x : VarItem) : Clean Codegen.popVar ⟨v.push x, ex, st, cur⟩ x ⟨v, ex, st, cur⟩ :=
  .of_eq (.refl _) (popVar_run _ v x rfl)

theorem popNExpr (frs : List (Col × Link)) :
    Clean (Codegen.popNExpr frs.length) ⟨v, ex ++ frs.toArray, st, cur⟩ frs ⟨v, ex, st, cur⟩ :=
  .of_eq (.refl _) (popNExpr_run _ ex frs rfl)

theorem popNStmt (frs : List (Col × Link)) :
    Clean (Codegen.popNStmt frs.length) ⟨v, ex, st ++ frs.toArray, cur⟩ frs ⟨v, ex, st, cur⟩ :=
  .of_eq (.refl _) (popNStmt_run _ st frs rfl)

theorem popNVar (items : List VarItem) :
    Clean (Codegen.popNVar items.length) ⟨v ++ items.toArray, ex, st, cur⟩ items ⟨v, ex, st, cur⟩ := by
  refine .of_eq (.refl _) ?_
  unfold Codegen.popNVar
  have h1 : ¬ (items.length > (v ++ items.toArray).size) := by simp
  simp only [grun_bind, grun_get, h1, if_false, grun_set, grun_pure]
  simp

theorem forIn_lpush {γ : Type} (l : List γ) (mk : γ → Opcode) :
    Clean (forIn l PUnit.unit (fun a (_ : PUnit) =>
        (do Codegen.lpush (mk a); Pure.pure (ForInStep.yield PUnit.unit) : GM (ForInStep PUnit))))
      ⟨v, ex, st, cur⟩ ⟨⟩ ⟨v, ex, st, cur.pushOps (l.map mk).toArray⟩ :=
  ⟨⟨by simp [pushOps], Nat.le_refl _, rfl⟩, fun hf => grun_forIn_lpush l mk _ (by simpa [pushOps] using hf.ops)⟩

end

/-- a loop in which every pass appends code: `f x` appends `code x` (READ, PRINT, INPUT, subscripts) -/
theorem forIn_emit {γ : Type} (code : γ → List Opcode) (f : γ → PUnit → GM (ForInStep PUnit))
    (v : Array VarItem) (ex st : Array (Col × Link)) :
    ∀ (l : List γ), (∀ x ∈ l, ∀ cur, Clean (f x ⟨⟩) ⟨v, ex, st, cur⟩ (.yield ⟨⟩) ⟨v, ex, st, cur.pushOps (code x).toArray⟩) →
      ∀ cur, Clean (ForIn.forIn l PUnit.unit f) ⟨v, ex, st, cur⟩ ⟨⟩ ⟨v, ex, st, cur.pushOps (l.flatMap code).toArray⟩
  | [], _, cur => (pure _ _).congr (by simp [pushOps])
  | x :: l, hf, cur => by
    rw [List.forIn_cons]
    refine (bind (hf x List.mem_cons_self cur)
      (forIn_emit code f v ex st l (fun y hy => hf y (List.mem_cons_of_mem _ hy)) _)).congr ?_
    simp [pushOps]

theorem pushAsExpression {vi : VarItem} {ops : List Opcode} (h : varCode vi = .ok ops) (v : Array VarItem)
    (ex st : Array (Col × Link)) (cur : Link) :
    Clean (Codegen.pushAsExpression vi) ⟨v, ex, st, cur⟩ vi.col ⟨v, ex, st, (appended cur vi.link).pushOps ops.toArray⟩ := by
  rw [pushAsExpression_eq]
  refine (bind (lappend ..) <| bind (liftE h _) <| bind (forIn_lpush (mk := fun op => op) ..) (pure vi.col _)).congr ?_
  simp

end Clean

theorem visitStatement_clean {x : Stmt} {v v' : Array VarItem} {ex ex' st st' : Array (Col × Link)} {c : Col}
    {frag : Link} (h : Clean (genStatement x) ⟨v, ex, st, {}⟩ c ⟨v', ex', st', frag⟩) (hf : Fits frag) (cur : Link)
    (errs : List Error) :
    visitStatement x ⟨⟨v, ex, st, cur⟩, errs⟩ = ⟨⟨v', ex', st'.push (c, frag), cur⟩, errs⟩ := by
  unfold visitStatement runFresh
  simp only [h.run hf]

theorem visitExpression_clean {x : Expr} {v v' : Array VarItem} {ex ex' st st' : Array (Col × Link)} {c : Col}
    {frag : Link} (h : Clean (genExpression x) ⟨v, ex, st, {}⟩ c ⟨v', ex', st', frag⟩) (hf : Fits frag) (cur : Link)
    (errs : List Error) :
    visitExpression x ⟨⟨v, ex, st, cur⟩, errs⟩ = ⟨⟨v', ex'.push (c, frag), st', cur⟩, errs⟩ := by
  unfold visitExpression runFresh
  simp only [h.run hf]

theorem visitVariable_clean {x : Variable} {v v' : Array VarItem} {ex ex' st st' : Array (Col × Link)}
    {r : Col × Str × Option Nat} {frag : Link} (h : Clean (genVariable x) ⟨v, ex, st, {}⟩ r ⟨v', ex', st', frag⟩)
    (hf : Fits frag) (cur : Link) (errs : List Error) :
    visitVariable x ⟨⟨v, ex, st, cur⟩, errs⟩ = ⟨⟨v'.push ⟨r.1, r.2.1, frag, r.2.2⟩, ex', st', cur⟩, errs⟩ := by
  unfold visitVariable runFresh
  obtain ⟨c, n, l⟩ := r
  simp only [h.run hf]

end Codegen
end Basic

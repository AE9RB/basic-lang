import BasicModel.Lemmas.Codegen
/-
  The visitor of `Model/Codegen.lean` as one post-order walk over a tree of nodes (`Node`: a variable,
  an expression or a statement; `Node.kids`: its children in the order they are visited):
  `accept n = visit n ∘ acceptAll n.kids` (`accept_eq`), and the rule by which everything about the
  walk is proved, `accept_ind`: a relation `P n s s'` between a node, the state before and the state
  after holds of `accept` as soon as every `visit n` establishes it from `P` along `n.kids` (`Chain`).
  `accept_inv` is the rule for a property of the state that may depend on what the node is asked.
  Only IF has statements as children (`Node.kids_operand`).
-/
namespace Basic
namespace Codegen

inductive Node where
  | var (v : Variable)
  | expr (e : Expr)
  | stmt (st : Stmt)

/-- the children of a node, in the order the visitor goes through them -/
def Node.kids : Node → List Node
  | .var (.unary _ _) => []
  | .var (.array _ _ es) => es.map .expr
  | .expr (.var v) => [.var v]
  | .expr (.neg _ e) | .expr (.not _ e) => [.expr e]
  | .expr (.bin _ _ l r) => [.expr l, .expr r]
  | .expr (.single _ _) | .expr (.double _ _) | .expr (.integer _ _) | .expr (.string _ _) => []
  | .stmt (.data _ es) | .stmt (.print _ es) => es.map .expr
  | .stmt (.def _ v ps e) => .var v :: (ps.map .var ++ [.expr e])
  | .stmt (.defdbl _ a b) | .stmt (.defint _ a b) | .stmt (.defsng _ a b) | .stmt (.defstr _ a b)
  | .stmt (.swap _ a b) => [.var a, .var b]
  | .stmt (.mid _ v e1 e2 e3) | .stmt (.for _ v e1 e2 e3) => [.var v, .expr e1, .expr e2, .expr e3]
  | .stmt (.gosub _ e) | .stmt (.goto _ e) | .stmt (.load _ e) | .stmt (.restore _ e) | .stmt (.run _ e)
  | .stmt (.save _ e) | .stmt (.while _ e) => [.expr e]
  | .stmt (.if _ p th el) => .expr p :: (th.map .stmt ++ el.map .stmt)
  | .stmt (.let _ v e) => [.var v, .expr e]
  | .stmt (.delete _ a b) | .stmt (.list _ a b) => [.expr a, .expr b]
  | .stmt (.input _ e1 e2 vs) => .expr e1 :: .expr e2 :: vs.map .var
  | .stmt (.onGoto _ e ls) | .stmt (.onGosub _ e ls) => .expr e :: ls.map .expr
  | .stmt (.renum _ a b st) => [.expr a, .expr b, .expr st]
  | .stmt (.dim _ vs) | .stmt (.erase _ vs) | .stmt (.next _ vs) | .stmt (.read _ vs) => vs.map .var
  | .stmt (.clear _) | .stmt (.cls _) | .stmt (.cont _) | .stmt (.end _) | .stmt (.new _) | .stmt (.return _)
  | .stmt (.stop _) | .stmt (.troff _) | .stmt (.tron _) | .stmt (.wend _) => []

def Node.operand : Node → Bool
  | .stmt _ => false
  | _ => true

theorem Node.kids_operand : ∀ (n : Node), (∀ c p th el, n ≠ .stmt (.if c p th el)) →
    ∀ k ∈ n.kids, k.operand = true
  | .var v, _ => by
    cases v <;> simp only [Node.kids, Node.operand, List.forall_mem_map, List.not_mem_nil, false_imp_iff, implies_true]
  | .expr e, _ => by
    cases e <;> simp only [Node.kids, Node.operand, List.forall_mem_cons, List.not_mem_nil, false_imp_iff,
      implies_true, and_true]
  | .stmt st, h => by
    cases st with
    | «if» c p th el => exact absurd rfl (h c p th el)
    | _ => simp only [Node.kids, Node.operand, List.forall_mem_cons, List.forall_mem_append, List.forall_mem_map,
        List.not_mem_nil, false_imp_iff, implies_true, and_true]

def visit : Node → VState → VState
  | .var v => visitVariable v
  | .expr e => visitExpression e
  | .stmt st => visitStatement st

def accept : Node → VState → VState
  | .var v => acceptVar v
  | .expr e => acceptExpr e
  | .stmt st => acceptStmt st

def acceptAll (ns : List Node) (s : VState) : VState := ns.foldl (fun s n => accept n s) s

theorem acceptExprs_all (es : List Expr) (s : VState) : acceptExprs es s = acceptAll (es.map .expr) s := by
  induction es generalizing s with
  | nil => rfl
  | cons e es ih => rw [acceptExprs, ih]; rfl

theorem acceptVars_all (vs : List Variable) (s : VState) : acceptVars vs s = acceptAll (vs.map .var) s := by
  unfold acceptVars acceptAll
  rw [List.foldl_map]; rfl

theorem acceptStmts_all (sts : List Stmt) (s : VState) : acceptStmts sts s = acceptAll (sts.map .stmt) s := by
  induction sts generalizing s with
  | nil => rfl
  | cons st sts ih => rw [acceptStmts, ih]; rfl

theorem accept_eq (n : Node) (s : VState) : accept n s = visit n (acceptAll n.kids s) := by
  rcases n with v | e | st
  · cases v <;> simp only [accept, visit, Node.kids, acceptAll, acceptVar, acceptExprs_all, List.foldl_nil]
  · cases e <;> simp only [accept, visit, Node.kids, acceptAll, acceptExpr, List.foldl_cons, List.foldl_nil]
  · cases st <;>
      simp only [accept, visit, Node.kids, acceptAll, acceptStmt, acceptExprs_all, acceptVars_all, acceptStmts_all,
        List.foldl_cons, List.foldl_nil, List.foldl_append]

/-- `P` along a list of nodes, each starting where the one before ended -/
inductive Chain (P : Node → VState → VState → Prop) : List Node → VState → VState → Prop
  | nil (s : VState) : Chain P [] s s
  | cons {n ns s s1 s2} : P n s s1 → Chain P ns s1 s2 → Chain P (n :: ns) s s2

variable {P : Node → VState → VState → Prop}

theorem Chain.append {a b : List Node} {s s1 s2 : VState} (h1 : Chain P a s s1) (h2 : Chain P b s1 s2) :
    Chain P (a ++ b) s s2 := by
  induction h1 with
  | nil => exact h2
  | cons h _ ih => exact .cons h (ih h2)

theorem Chain.one {n : Node} {s s1 : VState} (h : P n s s1) : Chain P [n] s s1 := .cons h (.nil _)

theorem Chain.cons_inv {n : Node} {ns : List Node} {s s2 : VState} :
    Chain P (n :: ns) s s2 → ∃ s1, P n s s1 ∧ Chain P ns s1 s2
  | .cons h hc => ⟨_, h, hc⟩

theorem Chain.append_inv : ∀ {a b : List Node} {s s2 : VState},
    Chain P (a ++ b) s s2 → ∃ s1, Chain P a s s1 ∧ Chain P b s1 s2
  | [], _, _, _, h => ⟨_, .nil _, h⟩
  | _ :: _, _, _, _, .cons h hc => let ⟨s1, h1, h2⟩ := hc.append_inv; ⟨s1, .cons h h1, h2⟩

theorem Chain.one_inv {n : Node} {s s1 : VState} : Chain P [n] s s1 → P n s s1
  | .cons h (.nil _) => h

section
variable (step : ∀ n s s', Chain P n.kids s s' → P n s (visit n s'))
include step

-- In every case below the goal `P n s (acceptX x s)` is `P n s (visit n s')` by the defining equation of
-- `acceptX` (Lean checks it by unfolding); what is written out is the chain of the children.
set_option linter.unusedSectionVars false in
mutual
theorem acceptVar_ch : ∀ (v : Variable) (s : VState), P (.var v) s (acceptVar v s)
  | .unary _ _, s => step _ s s (.nil s)
  | .array _ _ es, s => step _ s _ (acceptExprs_ch es s)
theorem acceptExpr_ch : ∀ (e : Expr) (s : VState), P (.expr e) s (acceptExpr e s)
  | .var v, s => step _ s _ (.one (acceptVar_ch v s))
  | .neg _ e, s | .not _ e, s => step _ s _ (.one (acceptExpr_ch e s))
  | .bin _ _ l r, s => step _ s _ (.cons (acceptExpr_ch l s) (.one (acceptExpr_ch r _)))
  | .single _ _, s | .double _ _, s | .integer _ _, s | .string _ _, s => step _ s s (.nil s)
theorem acceptExprs_ch : ∀ (es : List Expr) (s : VState), Chain P (es.map .expr) s (acceptExprs es s)
  | [], s => .nil s
  | e :: es, s => .cons (acceptExpr_ch e s) (acceptExprs_ch es _)
end

theorem acceptVars_ch (vs : List Variable) (s : VState) : Chain P (vs.map .var) s (acceptVars vs s) := by
  unfold acceptVars
  induction vs generalizing s with
  | nil => exact .nil s
  | cons v vs ih => exact .cons (acceptVar_ch step v s) (ih _)

set_option linter.unusedSectionVars false in
mutual
theorem acceptStmt_ch : ∀ (st : Stmt) (s : VState), P (.stmt st) s (acceptStmt st s)
  | .data _ es, s | .print _ es, s => step _ s _ (acceptExprs_ch step es s)
  | .def _ v ps e, s => step _ s _
      (.cons (acceptVar_ch step v s) ((acceptVars_ch step ps _).append (.one (acceptExpr_ch step e _))))
  | .defdbl _ a b, s | .defint _ a b, s | .defsng _ a b, s | .defstr _ a b, s | .swap _ a b, s =>
    step _ s _ (.cons (acceptVar_ch step a s) (.one (acceptVar_ch step b _)))
  | .mid _ v e1 e2 e3, s | .for _ v e1 e2 e3, s => step _ s _ (.cons (acceptVar_ch step v s)
      (.cons (acceptExpr_ch step e1 _) (.cons (acceptExpr_ch step e2 _) (.one (acceptExpr_ch step e3 _)))))
  | .gosub _ e, s | .goto _ e, s | .load _ e, s | .restore _ e, s | .run _ e, s | .save _ e, s | .while _ e, s =>
    step _ s _ (.one (acceptExpr_ch step e s))
  | .if _ p th el, s => step _ s _ (.cons (acceptExpr_ch step p s) ((acceptStmts_ch th _).append (acceptStmts_ch el _)))
  | .let _ v e, s => step _ s _ (.cons (acceptVar_ch step v s) (.one (acceptExpr_ch step e _)))
  | .delete _ a b, s | .list _ a b, s => step _ s _ (.cons (acceptExpr_ch step a s) (.one (acceptExpr_ch step b _)))
  | .input _ e1 e2 vs, s => step _ s _
      (.cons (acceptExpr_ch step e1 s) (.cons (acceptExpr_ch step e2 _) (acceptVars_ch step vs _)))
  | .onGoto _ e ls, s | .onGosub _ e ls, s => step _ s _ (.cons (acceptExpr_ch step e s) (acceptExprs_ch step ls _))
  | .renum _ a b st, s => step _ s _
      (.cons (acceptExpr_ch step a s) (.cons (acceptExpr_ch step b _) (.one (acceptExpr_ch step st _))))
  | .dim _ vs, s | .erase _ vs, s | .next _ vs, s | .read _ vs, s => step _ s _ (acceptVars_ch step vs s)
  | .clear _, s | .cls _, s | .cont _, s | .end _, s | .new _, s | .return _, s | .stop _, s | .troff _, s
  | .tron _, s | .wend _, s => step _ s s (.nil s)
theorem acceptStmts_ch : ∀ (sts : List Stmt) (s : VState), Chain P (sts.map .stmt) s (acceptStmts sts s)
  | [], s => .nil s
  | st :: sts, s => .cons (acceptStmt_ch st s) (acceptStmts_ch sts _)
end

theorem accept_ind : ∀ (n : Node) (s : VState), P n s (accept n s)
  | .var v, s => acceptVar_ch step v s
  | .expr e, s => acceptExpr_ch step e s
  | .stmt st, s => acceptStmt_ch step st s

end

/-- tree induction over nodes (`accept_ind` for a predicate that does not look at the states) -/
theorem Node.ind {Q : Node → Prop} (step : ∀ n, (∀ k ∈ n.kids, Q k) → Q n) (n : Node) : Q n := by
  refine accept_ind (P := fun n _ _ => Q n) (fun n _ _ hc => step n ?_) n {}
  generalize n.kids = ks at hc
  induction hc with
  | nil => exact fun _ h => nomatch h
  | cons h _ ih => exact fun k hk => (List.mem_cons.1 hk).elim (· ▸ h) (ih k)

theorem acceptAll_ch {P : Node → VState → VState → Prop} (h : ∀ n s, P n s (accept n s)) (ns : List Node)
    (s : VState) : Chain P ns s (acceptAll ns s) := by
  induction ns generalizing s with
  | nil => exact .nil s
  | cons n ns ih => exact .cons (h n s) (ih _)

theorem Chain.inv {W : Node → Prop} {Q : VState → Prop} {ns : List Node} {s s' : VState}
    (hc : Chain (fun n s s' => W n → Q s → Q s') ns s s') (hn : ∀ k ∈ ns, W k) (h : Q s) : Q s' := by
  induction hc with
  | nil => exact h
  | cons h1 _ ih => exact ih (fun k hk => hn k (List.mem_cons_of_mem _ hk)) (h1 (hn _ List.mem_cons_self) h)

section
variable {W : Node → Prop} {Q : VState → Prop} (hk : ∀ n, W n → ∀ k ∈ n.kids, W k)
  (hv : ∀ n s, W n → Q s → Q (visit n s))
include hk hv

theorem accept_inv : ∀ (n : Node) (s : VState), W n → Q s → Q (accept n s) :=
  accept_ind fun n _ _ hc hn h => hv n _ hn (hc.inv (hk n hn) h)

theorem acceptStmts_inv (sts : List Stmt) (s : VState) (hn : ∀ st ∈ sts, W (.stmt st)) (h : Q s) :
    Q (acceptStmts sts s) :=
  (acceptStmts_ch (fun n _ _ hc hn h => hv n _ hn (Chain.inv hc (hk n hn) h)) sts s).inv
    (List.forall_mem_map.2 hn) h

end

end Codegen
end Basic

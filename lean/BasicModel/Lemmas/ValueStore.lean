import BasicModel.Thm.C06
import BasicModel.Lemmas.NumFunc
import BasicModel.Lemmas.Control
import BasicModel.Lemmas.Codegen
/-
  A value store: every stored value is a number or a string, never a return address or a loop frame (`ValueStore`;
  so it is in every reachable state, `valueStore_of_typed`, and `store` keeps it).  Over such a store the value of a
  tree of `Spec.Pure` is a number or a string too (`eval_isValue`): what RETURN must find on top of the return
  address (`FnCall`) and what the targets of INPUT are assigned (`InputRun`).
-/
namespace Basic
namespace Lemmas.FnCall
open Basic.Spec
open Basic.Runtime (isValue)
open Thm.C06 (bind_ok)

/-- every stored value is a number or a string (never a return address or a loop frame) -/
def ValueStore (v : Var) : Prop := ∀ p ∈ v.vars, isValue p.2 = true

theorem isValue_of_ty {v : Val} {t : VarTy} (h : v.ty = t.toTy) : isValue v = true := by
  cases v <;> cases t <;> simp_all [Val.ty, VarTy.toTy, isValue]

theorem valueStore_new : ValueStore Var.new := fun _ h => by cases h

theorem valueStore_of_typed {v : Var} (h : Thm.C06.Typed v) : ValueStore v := by
  intro p hp
  obtain ⟨t, _, ht, _⟩ := h p hp
  exact isValue_of_ty ht

theorem fetch_isValue {v : Var} (hv : ValueStore v) {n : Str} {x : Val} (h : v.fetch n = .ok x) :
    isValue x = true := by
  cases hg : AL.get n v.vars with
  | some y => cases (Thm.C06.fetch_present v n y hg).symm.trans h; exact hv _ (AL.mem_of_get hg)
  | none => obtain ⟨t, ht⟩ := Thm.C06.fetch_absent hg; cases ht.symm.trans h; cases t <;> rfl

theorem store_valueStore {v v' : Var} (hv : ValueStore v) {n : Str} {x : Val} (h : v.store n x = .ok v') :
    ValueStore v' := by
  obtain ⟨_, t, y, _, hy, rfl⟩ := Thm.C06.store_ok h
  intro p hp
  rcases Thm.C06.mem_updateVal hp with hp | ⟨rfl, _⟩
  · exact hv p hp
  · exact isValue_of_ty hy

theorem isValue_eq_ty (v : Val) : isValue v = v.ty.isValue := by cases v <;> rfl

theorem isValue_int {v : Val} (h : ∃ n, v = .int n) : isValue v = true := by
  obtain ⟨n, rfl⟩ := h; rfl

theorem meaningOf_isValue (op : BinOp) {a b v : Val} (h : meaningOf op a b = .ok v) : isValue v = true :=
  (isValue_eq_ty v).trans (OpsTypes.meaningOf_isValue op h)

theorem negate_isValue {a v : Val} (h : Ops.negate a = .ok v) : isValue v = true := by
  cases a <;> simp only [Ops.negate, err, reduceCtorEq] at h <;> try (cases h; rfl)
  split at h
  · cases h; rfl
  · cases h

theorem ofStr_isValue (s : Str) : isValue (Val.ofStr s) = true := by
  unfold Val.ofStr
  split
  · split
    · split
      · generalize Fmt.parseI16Radix _ _ = o
        cases o
        · simp only [Option.map_none]; split <;> rfl
        · simp only [Option.map_some]; rfl
      · generalize Fmt.parseI16Radix _ _ = o
        cases o
        · simp only [Option.map_none]; split <;> rfl
        · simp only [Option.map_some]; rfl
    · simp only []; split <;> rfl
  · simp only []; split <;> rfl

/-- a consequence of the result types of the table (`NumFunc.builtin1_ty`) -/
theorem builtin1_isValue {name : Str} {f : Val → Res Val} (hf : builtin1 name = some f) {a v : Val}
    (ha : isValue a = true) (h : f a = .ok v) : isValue v = true := by
  rw [isValue_eq_ty] at ha ⊢
  exact table_lookup_ind (P := fun _ f => f a = .ok v → v.ty.isValue = true)
    (fun _ hm => NumFunc.builtin1_ty_isValue hm ha) hf h

theorem eval_isValue {e : Expr} (hp : Pure e) {vars : Var} (hv : ValueStore vars) :
    ∀ {v : Val}, eval vars e = .ok v → isValue v = true := by
  induction hp with
  | single c b => intro v h; cases h; rfl
  | double c b => intro v h; cases h; rfl
  | integer c b => intro v h; cases h; rfl
  | string c b => intro v h; cases h; rfl
  | scalar c i hz => intro v h; exact fetch_isValue hv h
  | call c i e hf _ ih =>
    intro v h
    obtain ⟨f, hf⟩ := Option.isSome_iff_exists.1 hf
    simp only [eval, hf] at h
    obtain ⟨a, ha, h2⟩ := bind_ok h
    exact builtin1_isValue hf (ih ha) h2
  | neg c e _ ih =>
    intro v h
    simp only [eval] at h
    obtain ⟨a, _, h2⟩ := bind_ok h
    exact negate_isValue h2
  | not c e _ ih =>
    intro v h
    simp only [eval] at h
    obtain ⟨a, _, h2⟩ := bind_ok h
    exact isValue_int (OpsTypes.not_int h2)
  | bin op c l r _ _ ihl ihr =>
    intro v h
    simp only [eval] at h
    obtain ⟨a, _, h2⟩ := bind_ok h
    obtain ⟨b, _, h3⟩ := bind_ok h2
    exact meaningOf_isValue op h3

end Lemmas.FnCall
end Basic

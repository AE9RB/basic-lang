import BasicModel.Lemmas.NoFaultOps
import BasicModel.Lemmas.GenWalk
import BasicModel.Lemmas.ParseNoFault
import BasicModel.Lemmas.Program
/-
  Compile-time diagnostics are never *faults*: every error the code generator, the linker and
  `Program.codegenLine` / `linkProg` report has an ordinary error code (the parser's by
  `Lemmas/ParseNoFault.lean`).  For the generator this is the error clause of the walk of
  `Lemmas/GenWalk.lean` (`eInv`).
-/
namespace Basic

def ErrsOk (es : List Error) : Prop := ∀ e ∈ es, e.isFault = false

theorem ErrsOk.nil : ErrsOk [] := fun _ h => nomatch h
theorem ErrsOk.append {a b : List Error} (ha : ErrsOk a) (hb : ErrsOk b) : ErrsOk (a ++ b) := by
  intro e he
  rcases List.mem_append.1 he with h | h
  · exact ha e h
  · exact hb e h
theorem ErrsOk.single {e : Error} (h : e.isFault = false) : ErrsOk [e] := by
  intro e' he; rw [List.mem_singleton] at he; subst he; exact h
theorem Error.isFault_inLine (e : Error) (l : Option Nat) : (e.inLine l).isFault = e.isFault := rfl
theorem Error.isFault_inCol (e : Error) (a b : Nat) : (e.inCol a b).isFault = e.isFault := rfl
theorem ErrsOk.map_inLine {es : List Error} (h : ErrsOk es) (l : Option Nat) : ErrsOk (es.map (·.inLine l)) := by
  intro e he
  obtain ⟨x, hx, rfl⟩ := List.mem_map.1 he
  exact h x hx

namespace Codegen
open Link
variable {α β : Type}

theorem nfe_lineNumberOfLink (l : Link) : NFE (lineNumberOfLink l) := by
  unfold lineNumberOfLink
  split
  · split
    · exact nfe_toLineNumber _
    · exact NFE.error _ rfl
  · exact NFE.error _ rfl

theorem nfe_symbolForLineNumber (o : Option Nat) : NFE (Link.symbolForLineNumber o) := by
  unfold Link.symbolForLineNumber
  split
  · exact NFE.ok _
  · exact NFE.error _ rfl

theorem nfe_testForBuiltIn (v : VarItem) (b : Bool) : NFE (testForBuiltIn v b) := by
  unfold testForBuiltIn
  split
  · split
    · exact NFE.ok _
    · split
      · exact NFE.ok _
      · exact NFE.error _ rfl
  · exact NFE.ok _

theorem nfe_push (l : Link) (op : Opcode) : NFE (l.push op).2 := by
  unfold Link.push
  dsimp only
  split
  · exact NFE.error _ rfl
  · exact NFE.ok _

theorem nfe_pushData (l : Link) (v : Val) : NFE (l.pushData v).2 := by
  unfold Link.pushData
  dsimp only
  split
  · exact NFE.error _ rfl
  · exact NFE.ok _

theorem nfe_append (a b : Link) : NFE (a.append b).2 := by
  unfold Link.append
  split
  · exact NFE.error _ rfl
  · dsimp only
    split
    · exact NFE.error _ rfl
    · dsimp only
      split
      · exact NFE.error _ rfl
      · exact NFE.ok _

theorem nfe_transformToData (l : Link) (c : Col) : NFE (transformToData l c).2 := by
  unfold transformToData
  dsimp only
  split
  · split
    · exact nfe_pushData _ _
    · exact NFE.error _ rfl
  · split
    · split
      · split
        · exact nfe_pushData _ _
        · rename_i e he
          exact NFE.error _ ((Ops.nfe_negate _).out e he)
      · exact NFE.error _ rfl
    · exact NFE.error _ rfl

theorem nfe_of_transformToData {l l' : Link} {c : Col} {r : Except Error Unit}
    (e : transformToData l c = (l', r)) : NFE r := by
  have := nfe_transformToData l c
  rw [e] at this; exact this

def eInv : GInv where
  C := T
  V := T
  E := T
  S := T
  K := T
  Y := T
  N := T
  A := T
  R := fun e => e.isFault = false

theorem eInv_closed : Closed eInv T := by
  have e : ExprCl eInv :=
    ⟨⟨fun l op => (nfe_push l op).out, fun a b => (nfe_append a b).out,
      fun v b => (nfe_testForBuiltIn v b).out, fun n => (nfe_ofUsize n).out,
      fun n => (nfe_ofLineNumber n).out, fun o => (nfe_symbolForLineNumber o).out,
      fun l c => (nfe_transformToData l c).out,
      fun l c e h => (Error.isFault_inCol e c.1 c.2).trans ((nfe_lineNumberOfLink l).out e h),
      fun _ _ => rfl, fun _ => rfl⟩,
     fun _ _ _ _ => trivial, fun _ _ _ _ => trivial, fun _ _ => trivial, fun _ _ => trivial,
     fun _ _ _ _ => trivial, trivial⟩
  have l : LabelCl eInv := ⟨fun _ _ => ⟨trivial, trivial⟩, fun _ _ _ _ => trivial⟩
  exact {
    expr := e, stmt := e, label := l
    ref := RefCl.of e l fun _ _ _ _ _ _ => trivial
    mark := ⟨fun _ _ _ _ _ => trivial, fun _ _ _ _ _ => trivial⟩
    td := fun _ _ _ _ _ => trivial
    pop := fun _ _ _ => trivial
    appS := fun _ _ _ _ => trivial
    nilE := trivial, nilS := trivial
    done := fun _ _ => trivial
    var := fun _ _ _ _ _ _ _ => trivial
    stk := fun _ _ _ _ => trivial }

/-- the errors collected so far are not faults -/
def EOk (s : VState) : Prop := ErrsOk s.errors

theorem runFresh_error {m : GM α} {Q : α → Prop} (hm : H eInv m Q) (g : GState) (e : Error)
    (h : (runFresh m g).1 = .error e) : e.isFault = false := by
  have hg : Good (eInv.withC T) g :=
    ⟨trivial, fun _ _ => trivial, fun _ _ => trivial, fun _ _ => trivial, trivial⟩
  rcases (runFresh_keeps (I := eInv) (C := T) hm trivial hg).2.2.2 e h with rfl | h
  · rfl
  · exact h

/-- a visit adds no error or the one its generator function raised, which is no fault -/
theorem visit_eok (n : Node) (s : VState) (h : EOk s) : EOk (visit n s) := by
  have key : ∀ {γ : Type} {m : GM γ} {Q : γ → Prop}, H eInv m Q → ∀ e, (runFresh m s.g).1 = .error e →
      ErrsOk (s.errors ++ [e]) :=
    fun hm e he => ErrsOk.append h (ErrsOk.single (runFresh_error hm s.g e he))
  cases n with
  | var v =>
    have hr := key (h_genVariable eInv_closed.expr v (.of_true (fun _ => trivial) (fun _ => trivial) v))
    simp only [visit, visitVariable]
    split
    · exact h
    · exact hr _ ‹_›
  | expr e =>
    have hr := key (h_genExpression eInv_closed.expr e)
    simp only [visit, visitExpression]
    split
    · exact h
    · exact hr _ ‹_›
  | stmt st =>
    have hr := key (h_genStatement eInv_closed st)
    simp only [visit, visitStatement]
    split
    · exact h
    · exact hr _ ‹_›

theorem acceptStmt_eok : ∀ (st : Stmt) (s : VState), EOk s → EOk (acceptStmt st s) :=
  fun st s => accept_inv (W := fun _ => True) (fun _ _ _ _ => trivial) (fun n s _ => visit_eok n s) (.stmt st) s trivial

theorem acceptStmts_eok : ∀ (sts : List Stmt) (s : VState), EOk s → EOk (acceptStmts sts s) :=
  fun sts s => acceptStmts_inv (W := fun _ => True) (fun _ _ _ _ => trivial) (fun n s _ => visit_eok n s) sts s
    fun _ _ => trivial

theorem codegen_errsOk (link : Link) (ast : List Stmt) : ErrsOk (codegen link ast).2 := by
  rw [codegen_eq]
  refine ErrsOk.append (acceptStmts_eok ast {} ErrsOk.nil) ?_
  have h := Link.appendMany_ind (P := fun x => NFE x.2) ((acceptStmts ast {}).g.stmt.toList.map (·.2)) link
    (NFE.ok _) fun l f _ _ => nfe_append l f
  split
  · exact ErrsOk.nil
  · rename_i e he
    exact ErrsOk.single (h.out e he)

end Codegen
namespace Link

/-- **the linker reports no fault**: its reports are WHILE / WEND mismatches and those of `linkOne` -/
theorem link_errsOk (l : Link) : ErrsOk l.link.2 := by
  rw [link_eq_pass]
  refine pass_errs_forall (Q := fun e => e.isFault = false) (fun _ _ b => by cases b <;> rfl) _ _ _ _ fun e he => ?_
  rcases List.mem_append.1 he with h | h <;> (obtain ⟨x, _, rfl⟩ := List.mem_map.1 h; rfl)

end Link

namespace Program

/-- the diagnostics kept in program memory are not faults -/
def PErrOk (p : Program) : Prop := ErrsOk p.errors ∧ ErrsOk p.indirectErrors

theorem PErrOk.empty : PErrOk {} := ⟨ErrsOk.nil, ErrsOk.nil⟩
theorem PErrOk.clear (p : Program) : PErrOk p.clear := ⟨ErrsOk.nil, ErrsOk.nil⟩
theorem PErrOk.withDP {p : Program} (h : PErrOk p) (d : Nat) : PErrOk (p.withDP d) := h

theorem PErrOk.pushEndP {p : Program} (h : PErrOk p) : PErrOk (pushEndP p) := by
  unfold Program.pushEndP
  have := Codegen.nfe_push p.link .end
  generalize p.link.push Opcode.end = r at this
  obtain ⟨l, r'⟩ := r
  cases r' with
  | ok u => exact h
  | error e => exact ⟨ErrsOk.append h.1 (ErrsOk.single (this.out e rfl)), h.2⟩

theorem PErrOk.resolve {p : Program} (h : PErrOk p) : PErrOk (resolve p) := by
  unfold Program.resolve
  have hl := Link.link_errsOk p.link
  dsimp only
  split
  · exact ⟨hl, h.2⟩
  · exact h

theorem PErrOk.markDirect {p : Program} (h : PErrOk p) : PErrOk (markDirect p) := by
  unfold Program.markDirect
  split
  · exact ⟨ErrsOk.nil, h.1⟩
  · exact h

theorem PErrOk.linkProg {p : Program} (h : PErrOk p) : PErrOk p.linkProg :=
  linkProg_ind p h (fun _ => .pushEndP) (fun _ => .resolve) (fun _ => .markDirect)

theorem PErrOk.codegenLine {p : Program} (h : PErrOk p) (line : Line) : PErrOk (p.codegenLine line) := by
  refine codegenLine_ind p line h (fun _ => .linkProg) ?_ ?_ ?_ (fun _ => .pushEndP)
  · intro q hq
    unfold startLine
    split
    · exact hq
    · exact ⟨ErrsOk.nil, hq.2⟩
  · intro q e he hq
    exact ⟨hq.1.append (.single (Lemmas.ParseNoFault.parse_never_faults _ _ e he)), hq.2⟩
  · intro q ast _ hq
    exact ⟨hq.1.append ((Codegen.codegen_errsOk _ ast).map_inLine _), hq.2⟩

theorem PErrOk.codegenLines {p : Program} (h : PErrOk p) (lines : List Line) : PErrOk (p.codegenLines lines) :=
  List.foldlRecOn lines _ h fun _ hq l _ => hq.codegenLine l

end Program
end Basic

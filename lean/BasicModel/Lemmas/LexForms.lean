import BasicModel.Lemmas.LexLine
/-
  Canonical numerals and names: the printed forms for which the scanners are proved to be the inverse of `Display`.
  `number_spec`: what `number()` makes of a well-formed numeral in front of ANY text it stops at; reading a numeral back
  from its text (`number_numeral`) is the case where nothing is un-read.  `alphabetic_name`: a name without reserved words
  inside is one identifier, in any case.
-/
namespace Basic
namespace Lex

abbrev AllDigits (ds : List Char) : Prop := ∀ c ∈ ds, isDigit c = true

/-- exponent part of a printed numeral: `E` or `D`, optional sign, digits -/
structure Exponent where
  letter : Char
  sign : List Char
  digits : List Char

def Exponent.WF (x : Exponent) : Prop :=
  (x.letter = 'E' ∨ x.letter = 'D') ∧ (x.sign = [] ∨ x.sign = ['+'] ∨ x.sign = ['-']) ∧
    AllDigits x.digits ∧ x.digits ≠ []

instance (x : Exponent) : Decidable x.WF := by unfold Exponent.WF; infer_instance

def Exponent.text (x : Exponent) : Str := x.letter :: (x.sign ++ x.digits)

/-- the numerals the theorems speak about: `d+`, `d*.d*`, either with an exponent `E|D [+-] d+`,
    optionally followed by a type suffix `! # %` -/
structure Numeral where
  int : List Char
  frac : Option (List Char)
  expo : Option Exponent
  sfx : Option Char

def Numeral.WF (nm : Numeral) : Prop :=
  AllDigits nm.int ∧ (∀ f, nm.frac = some f → AllDigits f) ∧ (nm.frac = none → nm.int ≠ []) ∧
    (∀ x, nm.expo = some x → x.WF) ∧ (∀ c, nm.sfx = some c → isNumSuffix c = true)

instance (nm : Numeral) : Decidable nm.WF := by unfold Numeral.WF; infer_instance

def fracText : Option (List Char) → Str
  | some f => '.' :: f
  | none => []
def fracCount : Option (List Char) → Nat
  | some f => f.length
  | none => 0
def expoText : Option Exponent → Str
  | some x => x.text
  | none => []
def expoCount : Option Exponent → Nat
  | some x => if x.letter = 'D' then 8 else 0
  | none => 0

def Numeral.mantissa (nm : Numeral) : Str := nm.int ++ fracText nm.frac
def Numeral.body (nm : Numeral) : Str := nm.mantissa ++ expoText nm.expo
def Numeral.text (nm : Numeral) : Str := nm.body ++ nm.sfx.toList

/-- the digit counter of `number()` at the end of the numeral -/
def Numeral.count (nm : Numeral) : Nat := nm.int.length + fracCount nm.frac + expoCount nm.expo

/-- the token a finished numeral becomes -/
def numeralToken (sfx : Option Char) (s : Str) (dg : Nat) (dec ex : Bool) : Token :=
  match sfx with
  | some c => .literal (suffixLiteral c (s ++ [c]))
  | none => numberFinish s dg dec ex

/-- the token `number()` makes of the numeral -/
def Numeral.token (nm : Numeral) : Token :=
  numeralToken nm.sfx nm.body nm.count nm.frac.isSome nm.expo.isSome

theorem Numeral.token_text (nm : Numeral) : nm.token.text = nm.text := by
  simp only [Numeral.token, numeralToken, Numeral.text]
  cases nm.sfx with
  | none =>
    simp only [numberFinish, Option.toList_none, List.append_nil]
    split
    · rfl
    split <;> rfl
  | some c =>
    simp only [suffixLiteral, Option.toList_some]
    split
    · rfl
    split <;> rfl

theorem numberLoop_mantissa (nm : Numeral) (h : nm.WF) (tail : List Char) :
    numberLoop (nm.mantissa ++ tail) [] 0 false false =
      numberAfter tail nm.mantissa (nm.int.length + fracCount nm.frac) nm.frac.isSome false := by
  obtain ⟨int, frac, expo, sfx⟩ := nm
  obtain ⟨h1, h2, h3, -, -⟩ := h
  cases frac with
  | none =>
    have := numberLoop_digits int h1 (h3 rfl) tail [] 0 false false
    simpa [Numeral.mantissa, fracText, fracCount] using this
  | some f =>
    have := numberLoop_decimal int f h1 (h2 f rfl) tail
    simpa [Numeral.mantissa, fracText, fracCount] using this

/-- how `number()` ends after the text of `nm` when `rest` follows, and what it leaves: after a type
    suffix anything may follow; otherwise either `rest` starts with a character on which the scanner
    stops in the state it is in (after a fraction a second point stops it, after an exponent a
    letter does), or — no exponent yet — with an `E`/`D` that neither a sign nor a digit follows:
    that letter is un-read, upper-cased -/
def Numeral.Ends (nm : Numeral) (rest left : List Char) : Prop :=
  match nm.sfx with
  | some _ => left = rest
  | none =>
    (left = rest ∧ ∀ c ∈ rest.head?, numCont nm.expo.isSome nm.frac.isSome c = false) ∨
    (nm.expo = none ∧ ∃ e pk tl, rest = e :: pk :: tl ∧ left = foldED e :: pk :: tl ∧
      isExpLetter e = true ∧ startsExponent pk = false)

theorem numberAfter_unread (e pk : Char) (tl : List Char) (he : isExpLetter e = true)
    (hpk : startsExponent pk = false) (s : Str) (dg : Nat) (dec : Bool) :
    numberAfter (e :: pk :: tl) s dg dec false = (numberFinish s dg dec false, foldED e :: pk :: tl) := by
  have hcont : numCont false dec e = true := by
    simp only [isExpLetter, Bool.or_eq_true, decide_eq_true_eq] at he
    rcases he with ((rfl | rfl) | rfl) | rfl <;> simp [numCont]
  rw [numberAfter_cont _ _ _ _ _ _ hcont, numberLoop_unread e pk tl he hpk]

theorem numberAfter_expo (expo : Option Exponent) (hx : ∀ x, expo = some x → x.WF) (tail : List Char) (s : Str)
    (dg : Nat) (dec : Bool) :
    numberAfter (expoText expo ++ tail) s dg dec false =
      numberAfter tail (s ++ expoText expo) (dg + expoCount expo) dec expo.isSome := by
  cases expo with
  | none => simp [expoText, expoCount]
  | some x =>
    obtain ⟨hl, hsg, hd, hne⟩ := hx x rfl
    have hf : foldED x.letter = x.letter := by rcases hl with h | h <;> rw [h] <;> rfl
    have := numberAfter_exponent x.letter (by rcases hl with h | h <;> simp [h]) x.sign hsg x.digits hd hne tail s dg dec
    simp only [expoText, Exponent.text, List.cons_append, List.append_assoc]
    rw [this, hf]
    simp only [expoCount, Option.isSome_some]
    rw [show (if x.letter = 'D' then dg + 8 else dg) = dg + if x.letter = 'D' then 8 else 0 by split <;> rfl]
    simp

/-- **what `number()` makes of a well-formed numeral**, with the exact condition on what follows -/
theorem number_spec (nm : Numeral) (h : nm.WF) (rest left : List Char) (he : nm.Ends rest left) :
    number (nm.text ++ rest) = (nm.token, left) := by
  have hm := numberLoop_mantissa nm h
  obtain ⟨h1, h2, h3, h4, h5⟩ := h
  unfold number
  simp only [Numeral.text, Numeral.body, List.append_assoc]
  rw [hm, numberAfter_expo nm.expo h4]
  unfold Numeral.Ends at he
  simp only [Numeral.token, numeralToken, Numeral.body, Numeral.count]
  cases hs : nm.sfx with
  | some c =>
    rw [hs] at he
    subst he
    exact numberAfter_suffix c (h5 c hs) _ _ _ _ _
  | none =>
    rw [hs] at he
    simp only [Option.toList_none, List.nil_append]
    rcases he with ⟨rfl, hb⟩ | ⟨hx, e, pk, tl, rfl, rfl, hE, hpk⟩
    · exact numberAfter_stop _ _ _ _ _ hb
    · rw [hx]
      exact numberAfter_unread e pk tl hE hpk _ _ _

theorem number_numeral (nm : Numeral) (h : nm.WF) (rest : List Char)
    (hb : nm.sfx = none → NumBoundary rest) : number (nm.text ++ rest) = (nm.token, rest) := by
  refine number_spec nm h rest rest ?_
  unfold Numeral.Ends
  cases hs : nm.sfx with
  | some c => rfl
  | none => exact .inl ⟨rfl, fun c hc => numCont_mono _ _ c (hb hs c hc)⟩

/-- a variable name as typed: letters (any case), digits, optional type suffix -/
structure Name where
  letters : List Char
  digits : List Char
  sfx : Option Char

/-- the name as the lexer stores it (without the suffix) -/
def Name.base (nm : Name) : Str := nm.letters.map upper ++ nm.digits

def Name.WF (nm : Name) : Prop :=
  (∀ c ∈ nm.letters, isAlpha c = true) ∧ nm.letters ≠ [] ∧ (∀ c ∈ nm.digits, isDigit c = true) ∧
    (∀ c, nm.sfx = some c → isSuffixChar c = true) ∧ NoKeyword nm.base

/-- the source text -/
def Name.text (nm : Name) : Str := nm.letters ++ (nm.digits ++ nm.sfx.toList)

def Name.token (nm : Name) : Token :=
  match nm.sfx with
  | none => .ident (.plain nm.base)
  | some c => .ident (suffixIdent c (nm.base ++ [c]))

theorem alphabetic_name (nm : Name) (h : nm.WF) (rest : List Char)
    (hb : nm.sfx = none → AlphaBoundary rest) :
    alphabetic (nm.text ++ rest) = ([nm.token], rest) := by
  obtain ⟨letters, digits, sfx⟩ := nm
  obtain ⟨hl, hne, hd, hs, hk⟩ := h
  dsimp only [Name.base] at hl hne hd hs hb hk
  obtain ⟨c, cs, e⟩ := List.exists_cons_of_ne_nil hne
  -- what follows the digits is no digit; what follows the letters is no letter
  have hnd : ∀ x ∈ (sfx.toList ++ rest).head?, isDigit x = false := by
    cases sfx with
    | none => intro x hx; exact (hb rfl x hx).2.1
    | some s =>
      intro x hx; simp at hx; subst hx
      cases hx : isDigit s with
      | false => rfl
      | true => exact absurd (hs s rfl) (by rw [isSuffixChar_of_isDigit s hx]; simp)
  have hna : ∀ x ∈ (digits ++ (sfx.toList ++ rest)).head?, isAlpha x = false := by
    cases digits with
    | cons k ds => intro x hx; simp at hx; subst hx; exact not_isAlpha_of_isDigit _ (hd _ (by simp))
    | nil =>
      cases sfx with
      | none => intro x hx; exact (hb rfl x hx).1
      | some s =>
        intro x hx; simp at hx; subst hx
        exact not_isAlpha_of_digit_or_suffix _ (by rw [hs s rfl, Bool.or_true])
  have s1 := span_append isAlpha letters _ hl hna
  have s2 := span_append isDigit digits _ hd hnd
  have hnk := scanAlphabetic_noKeyword [] _ (NoKeyword.prefix _ _ hk)
  have hemp : (letters.map upper).isEmpty = false := by rw [e]; rfl
  simp only [Name.text, Name.token, Name.base, List.append_assoc]
  rw [e, List.cons_append, alphabetic_eq _ _ (hl c (e ▸ List.mem_cons_self)), ← List.cons_append, ← e, alphaSpan,
    s1.1, s1.2, hnk]
  simp only [hemp, Bool.false_eq_true, if_false, alphaTail, s2.1, s2.2]
  cases sfx with
  | some s => simp [hs s rfl]
  | none =>
    cases rest with
    | nil => simp
    | cons x r => simp [(hb rfl x rfl).2.2]

theorem Name.token_text (nm : Name) : nm.token.text = nm.base ++ nm.sfx.toList := by
  obtain ⟨letters, digits, sfx⟩ := nm
  cases sfx with
  | none => simp [Name.token, Token.text, TIdent.name]
  | some c =>
    simp only [Name.token, Token.text, suffixIdent]
    split
    · simp [TIdent.name]
    split
    · simp [TIdent.name]
    split <;> simp [TIdent.name]

end Lex
end Basic

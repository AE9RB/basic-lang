import BasicModel.Model.Runtime
import BasicModel.Lemmas.ProgramNames
import BasicModel.Lemmas.LexIdent
import BasicModel.Model.Renum
import BasicModel.Lemmas.SortedList
import BasicModel.Lemmas.RenumPlan
/-
  The listing half of the session-level invariant behind "the modelled panic sites are unreachable"
  (the other half, `NoFaultSt`, is with its users in `NoFaultSession`):
  `ListingOk`: every stored line has fine identifier tokens; `EnvOk env`: the lexer and the RENUM
  rewriter of the environment only produce such lines.

  `ListingOk` is kept by every listing operation; the model's own lexer and RENUM rewriter satisfy `EnvOk`.
-/
namespace Basic
open Lemmas.ParseNames Program

def ListingOk (l : Listing) : Prop := ∀ p ∈ l.source, LineOk p.2

/-- the lexer and the RENUM rewriter only produce lines whose identifiers start with a letter -/
structure EnvOk (env : Env) : Prop where
  lex : ∀ src, LineOk (env.lex src)
  renum : ∀ ch l, LineOk l → LineOk (env.lineRenum ch l)

namespace Listing

theorem listingOk_lines {l : Listing} (h : ListingOk l) : ∀ x ∈ l.lines, LineOk x := by
  intro x hx
  unfold Listing.lines at hx
  obtain ⟨p, hp, rfl⟩ := List.mem_map.1 hx
  exact h p hp

theorem insertSorted_ok (n : Nat) (line : Line) (hl : LineOk line) (src : List (Nat × Line))
    (h : ∀ p ∈ src, LineOk p.2) : ∀ p ∈ insertSorted n line src, LineOk p.2 :=
  fun p hp => (mem_insertSorted hp).elim (fun e => e ▸ hl) (h p)

theorem ListingOk.empty : ListingOk {} := fun _ h => nomatch h
theorem ListingOk.clear (l : Listing) : ListingOk l.clear := fun _ h => nomatch h

theorem ListingOk.insert {l : Listing} (h : ListingOk l) {line : Line} (hl : LineOk line) :
    ListingOk (l.insert line) := by
  unfold Listing.insert
  split
  · exact insertSorted_ok _ _ hl _ h
  · exact h

theorem ListingOk.remove {l : Listing} (h : ListingOk l) (n : Option Nat) : ListingOk (l.remove n).1 := by
  unfold Listing.remove
  split
  · exact h
  · exact fun p hp => h p ((List.mem_filter.1 hp).1)

theorem ListingOk.removeRange {l : Listing} (h : ListingOk l) (lo hi : Option Nat) :
    ListingOk (l.removeRange lo hi).1 := by
  rw [Listing.removeRange_eq]
  exact fun p hp => h p (List.mem_filter.1 hp).1

theorem ListingOk.renum {l l' : Listing} (h : ListingOk l) (f : List (Nat × Nat) → Line → Line)
    (hf : ∀ ch x, LineOk x → LineOk (f ch x)) (a b c : Nat) (he : l.renum f a b c = .ok l') : ListingOk l' := by
  obtain ⟨ch, _, rfl⟩ := renum_ok he
  refine rebuild_all LineOk _ ?_
  intro x hx
  obtain ⟨y, hy, rfl⟩ := List.mem_map.1 hx
  exact hf _ _ (listingOk_lines h y hy)

end Listing
open Listing

-- `lex_ident_letter1` is about `(lex src).2`, proved through a lemma about `postPasses l`: left open, the unifier walks into the passes
seal Lex.postPasses

theorem lineOk_lineNew (src : Str) : LineOk (Lex.lineNew src) :=
  fun i hi => Lemmas.LexIdent.lineNew_ident_letter1 src i hi

theorem lineOk_lineRenum (ch : List (Nat × Nat)) (l : Line) (h : LineOk l) : LineOk (Lex.lineRenum ch l) := by
  unfold Lex.lineRenum
  dsimp only
  split
  · exact h
  · split
    · exact h
    · exact fun i hi => Lemmas.LexIdent.lex_ident_letter1 _ i hi

theorem envOk_model (env : Env) (h1 : env.lex = Lex.lineNew) (h2 : env.lineRenum = Lex.lineRenum) : EnvOk env :=
  ⟨fun src => h1 ▸ lineOk_lineNew src, fun ch l hl => h2 ▸ lineOk_lineRenum ch l hl⟩

end Basic

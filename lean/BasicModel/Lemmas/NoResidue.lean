import BasicModel.Lemmas.StructCompile
import BasicModel.Lemmas.PrintRun
/-
  "A statement that completes leaves no residue" (C18), on the machine, on top of the block calculus of
  `Lemmas/StructCompile.lean`: loops with an explicit pass count (`k` passes, `k` arbitrary); the fragment beyond `SStmt`
  — GOSUB to a block ending in RETURN, ON … GOSUB selecting nothing or a target —; `k` passes of `10 PRINT items : GOTO 10`;
  and the one statement that does leave something: FOR does not look for an older frame of its variable, so the program
  `10 FOR I%=1 TO 2 / 20 GOTO 10` ends in OUT OF MEMORY "STACK OVERFLOW" after 16 383 completed rounds, and `execute`
  empties the stack.
-/
namespace Basic
namespace Lemmas.NoResidue
open Basic.Spec Basic.Lemmas.ExprCompile Basic.Lemmas.StructCompile Basic.Runtime
open Basic.Lemmas.OpsTypes (toInt_ofNat_len)
open Basic.Lemmas.VarPool

/-- **a WHILE loop of `k` passes leaves no residue** — for every `k`: the machine ends past the
    loop with the variables of the last pass and everything else, THE STACK INCLUDED, as it started -/
theorem while_passes_no_residue {env : Env} {hie : Bool} {c : Expr} (hp : Spec.Pure c) {body : Nat → List Opcode}
    {fb : Trans} (lb : Nat) (hlb : ∀ a, (body a).length = lb) (hb : Implements env hie body fb)
    (s : Runtime) (hpl : Placed hie (whileCode c lb body) s) (k : Nat) (τ : Nat → Var) (h0 : τ 0 = s.vars)
    (hpass : ∀ i, i < k → holds (τ i) c = .ok true ∧ fb (τ i) = some (.ok (τ (i + 1))))
    (hend : holds (τ k) c = .ok false) :
    Goes env hie s { s with pc := s.pc + ((flat c).length + 1 + lb + 1), vars := τ k } := by
  have h := implements_while hp lb hlb hb (k + 1) s hpl (.ok (τ k))
    (by rw [← h0]; exact whileT_of_passes c fb k τ hpass hend)
  rw [whileCode_length c lb body hlb] at h
  exact h

theorem for_passes_no_residue {env : Env} {hie : Bool} {a b st : Expr} (hpa : Spec.Pure a) (hpb : Spec.Pure b)
    (hps : Spec.Pure st) {body : Nat → List Opcode} {fb : Trans} (lb : Nat) (hlb : ∀ x, (body x).length = lb)
    (hb : Implements env hie body fb) (name : Str)
    (s : Runtime) (hpl : Placed hie (forCode name a b st body) s) (k : Nat) (τ υ : Nat → Var) (σ' : Var)
    (toV stepV : Val) (hinit : forInit s.vars name a b st = .ok (τ 0, toV, stepV))
    (hbody : ∀ i, i ≤ k → fb (τ i) = some (.ok (υ i)))
    (hnext : ∀ i, i < k → nextStep stepNeg (υ i) name toV stepV = some (.ok (τ (i + 1), true)))
    (hend : nextStep stepNeg (υ k) name toV stepV = some (.ok (σ', false))) :
    Goes env hie s { s with pc := s.pc + (forInitLen a b st + lb + 1), vars := σ' } := by
  have hf : forT stepNeg name a b st fb (k + 1) s.vars = some (.ok σ') := by
    simp only [forT, hinit]
    exact forIter_of_passes stepNeg fb name toV stepV k τ υ σ' hbody hnext hend
  have h := implements_for hpa hpb hps lb hlb hb name (k + 1) s hpl (.ok σ') hf
  rw [forCode_length name a b st lb body hlb] at h
  exact h

/-- the code of `GOSUB` to the address `sub`, placed at `a`: the return address (the address after
    the jump) as a literal, the jump -/
def gosubCode (sub : Nat) (a : Nat) : List Opcode := [.literal (.ret (a + 2)), .jump sub]

/-- a subroutine: a block, then RETURN -/
def subCode (body : Nat → List Opcode) (sub : Nat) : List Opcode := body sub ++ [.return]

/-- a block entered at `sub` with a return address on top of `stk`, followed by RETURN: control comes
    back to `R` with the stack `stk` -/
theorem sub_returns {env : Env} {hie : Bool} {body : Nat → List Opcode} {fb : Trans}
    (hb : Implements env hie body fb) (s : Runtime) (sub R : Nat) (stk : Array Val) (σ : Var)
    (hsub : CodeAt s.program.link.ops sub (subCode body sub)) (htr : s.tron = false)
    (hroom : stk.size + 1 + (body sub).length ≤ Gen.stackMaxLen)
    (hgate : hie = false ∨ s.entryAddress ≤ sub) (r : Res Var) (hr : fb σ = some r) :
    Reaches env hie (s.at sub (stk.push (.ret R)) σ) (fun σ' => s.at R stk σ') r := by
  have e1 := hb (s.at sub (stk.push (.ret R)) σ)
    ⟨hsub.left, htr, by show (stk.push _).size + (body sub).length ≤ _; rw [Array.size_push]; omega, hgate⟩ r hr
  cases r with
  | error e => exact e1
  | ok σ' => exact Goes.trans e1 (Goes.step (return_plain_at env hie s _ R stk σ' hsub.right.head htr))

/-- **GOSUB to a subroutine whose body is a block followed by RETURN is stack-neutral**: the call
    pushes one return address, the block leaves the stack as it finds it, RETURN pops exactly that
    address; the machine continues after the GOSUB with the stack (and everything but the variables)
    as before.  An error of the block is the error of the run. -/
theorem gosub_block_balanced {env : Env} {hie : Bool} {body : Nat → List Opcode} {fb : Trans}
    (hb : Implements env hie body fb) (s : Runtime) (pc : Nat) (stk : Array Val) (σ : Var) (sub : Nat)
    (hcall : CodeAt s.program.link.ops pc (gosubCode sub pc))
    (hsub : CodeAt s.program.link.ops sub (subCode body sub)) (htr : s.tron = false)
    (hroom : stk.size + 1 + (body sub).length ≤ Gen.stackMaxLen)
    (hgate : hie = false ∨ s.entryAddress ≤ sub) (r : Res Var) (hr : fb σ = some r) :
    Reaches env hie (s.at pc stk σ) (fun σ' => s.at (pc + 2) stk σ') r :=
  (Goes.trans ⟨_, literal_at env hie s _ _ _ _ hcall.head htr (by omega)⟩
    (Goes.step (jump_at env hie s _ sub _ _ (by simpa [gosubCode] using hcall 1 (by simp [gosubCode])) htr
      hgate))).reaches (sub_returns hb s sub _ stk σ hsub htr hroom hgate r hr)

/-- the code of `ON sel GOSUB t₁,…,tₖ` placed at `a` (the linked form of `Thm.C18.genOn_gosub_shape`):
    return address (the address after the statement), `k`, the selector, `on`, the jump table, `return` -/
def onGosubCode (sel : Expr) (targets : List Nat) (a : Nat) : List Opcode :=
  [.literal (.ret (a + (2 + (flat sel).length + 1 + targets.length + 1))),
   .literal (.int (Int16.ofNat targets.length))] ++ flat sel ++ [.on] ++ targets.map Opcode.jump ++ [.return]

theorem onGosubCode_length (sel : Expr) (targets : List Nat) (a : Nat) :
    (onGosubCode sel targets a).length = 2 + (flat sel).length + 1 + targets.length + 1 := by
  simp only [onGosubCode, List.length_append, List.length_cons, List.length_nil, List.length_map]

/-- the statement up to and including `on` (`2 + (flat sel).length + 1` steps): the return address is on
    the stack, control is in the jump table (a target was selected) or on the `return` after it (none was) -/
theorem on_gosub_dispatch (env : Env) (hie : Bool) {sel : Expr} (hp : Spec.Pure sel) (targets : List Nat) (s : Runtime)
    (pc : Nat) (stk : Array Val) (σ : Var)
    (hcode : CodeAt s.program.link.ops pc (onGosubCode sel targets pc)) (htr : s.tron = false)
    (hroom : stk.size + 2 + (flat sel).length ≤ Gen.stackMaxLen) (hk : targets.length ≤ 32767)
    (selV : Val) (j : Int16) (hv : eval σ sel = .ok selV) (hj : selV.toI16 = .ok j) (hj0 : 0 ≤ j.toInt) :
    runSteps env hie (1 + (1 + ((flat sel).length + 1))) (s.at pc stk σ) =
      (.ok .continue,
        s.at (if j.toInt = 0 ∨ j.toInt > targets.length then pc + (2 + (flat sel).length + 1) + targets.length
              else pc + (2 + (flat sel).length + 1) + (j.toInt.toNat - 1))
          (stk.push (.ret (pc + (2 + (flat sel).length + 1 + targets.length + 1)))) σ) := by
  unfold onGosubCode at hcode
  have hc1 := hcode.left.left.left.left
  have hcs : CodeAt s.program.link.ops (pc + 1 + 1) (flat sel) := by
    simpa [Nat.add_assoc] using hcode.left.left.left.right
  have hon : s.program.link.ops[pc + 1 + 1 + (flat sel).length]? = some .on := by
    have := hcode.left.left.right.head
    simp only [List.length_append, List.length_cons, List.length_nil] at this
    rwa [show pc + 1 + 1 + (flat sel).length = pc + (0 + 1 + 1 + (flat sel).length) by omega]
  rw [runSteps_ok_add (literal_at env hie s _ _ _ _ hc1.head htr (by omega)),
    runSteps_ok_add (literal_at env hie s _ _ _ _ (by simpa using hc1 1 (by simp)) htr
      (by rw [Array.size_push]; omega)),
    runSteps_ok_add ((expr_at env hie hp s _ _ _ hcs htr (by simp only [Array.size_push]; omega)).run_ok hv),
    on_at env hie s _ _ _ _ _ _ j hon htr hj rfl (by rw [toInt_ofNat_len hk]; omega), toInt_ofNat_len hk]
  congr 2
  rw [Int.toNat_natCast]
  split <;> omega

/-- **ON … GOSUB that selects nothing** (selector 0, or beyond the list) **is stack-neutral**: `on` skips the table
    onto the `return` behind it, which pops the return address pushed at the start of the statement -/
theorem on_gosub_fallthrough (env : Env) (hie : Bool) {sel : Expr} (hp : Spec.Pure sel) (targets : List Nat) (s : Runtime)
    (pc : Nat) (stk : Array Val) (σ : Var)
    (hcode : CodeAt s.program.link.ops pc (onGosubCode sel targets pc)) (htr : s.tron = false)
    (hroom : stk.size + 2 + (flat sel).length ≤ Gen.stackMaxLen) (hk : targets.length ≤ 32767)
    (selV : Val) (j : Int16) (hv : eval σ sel = .ok selV) (hj : selV.toI16 = .ok j)
    (hfall : j.toInt = 0 ∨ j.toInt > targets.length) :
    Goes env hie (s.at pc stk σ) (s.at (pc + (onGosubCode sel targets pc).length) stk σ) := by
  have g := on_gosub_dispatch env hie hp targets s pc stk σ hcode htr hroom hk selV j hv hj (by omega)
  rw [if_pos hfall] at g
  have hret : s.program.link.ops[pc + (2 + (flat sel).length + 1) + targets.length]? = some .return := by
    have := hcode.right.head
    simp only [List.length_append, List.length_cons, List.length_nil, List.length_map] at this
    rwa [show pc + (2 + (flat sel).length + 1) + targets.length =
      pc + (0 + 1 + 1 + (flat sel).length + (0 + 1) + targets.length) by omega]
  rw [onGosubCode_length]
  exact Goes.trans ⟨_, g⟩ (Goes.step (return_plain_at env hie s _ _ stk σ hret htr))

/-- **ON … GOSUB that selects its `j`-th target, a block followed by RETURN, is stack-neutral**: the
    subroutine's RETURN pops the return address pushed at the start of the statement -/
theorem on_gosub_selected_balanced {env : Env} {hie : Bool} {sel : Expr} (hp : Spec.Pure sel) (targets : List Nat)
    {body : Nat → List Opcode} {fb : Trans} (hb : Implements env hie body fb)
    (s : Runtime) (pc : Nat) (stk : Array Val) (σ : Var)
    (hcode : CodeAt s.program.link.ops pc (onGosubCode sel targets pc)) (htr : s.tron = false)
    (hroom : stk.size + 2 + (flat sel).length ≤ Gen.stackMaxLen) (hk : targets.length ≤ 32767)
    (selV : Val) (j : Int16) (hv : eval σ sel = .ok selV) (hj : selV.toI16 = .ok j)
    (hj1 : 1 ≤ j.toInt) (hjk : j.toInt ≤ targets.length) (sub : Nat)
    (htarget : targets[j.toInt.toNat - 1]? = some sub)
    (hsub : CodeAt s.program.link.ops sub (subCode body sub))
    (hroomB : stk.size + 1 + (body sub).length ≤ Gen.stackMaxLen)
    (hgate : hie = false ∨ s.entryAddress ≤ sub) (r : Res Var) (hr : fb σ = some r) :
    Reaches env hie (s.at pc stk σ) (fun σ' => s.at (pc + (onGosubCode sel targets pc).length) stk σ') r := by
  have g := on_gosub_dispatch env hie hp targets s pc stk σ hcode htr hroom hk selV j hv hj (by omega)
  rw [if_neg (by omega)] at g
  have hlt : j.toInt.toNat - 1 < targets.length := by omega
  have hjump : s.program.link.ops[pc + (2 + (flat sel).length + 1) + (j.toInt.toNat - 1)]? = some (.jump sub) := by
    have hc := hcode.left.right
    simp only [List.length_append, List.length_cons, List.length_nil] at hc
    have := hc (j.toInt.toNat - 1) (by rw [List.length_map]; exact hlt)
    rw [List.getElem_map, Option.some.inj ((List.getElem?_eq_getElem hlt).symm.trans htarget)] at this
    rwa [show pc + (2 + (flat sel).length + 1) + (j.toInt.toNat - 1) =
      pc + (0 + 1 + 1 + (flat sel).length + (0 + 1)) + (j.toInt.toNat - 1) by omega]
  rw [onGosubCode_length]
  exact (Goes.trans ⟨_, g⟩ (Goes.step (jump_at env hie s _ sub _ _ hjump htr hgate))).reaches
    (sub_returns hb s sub _ stk σ hsub htr hroomB hgate r hr)

/-! ## FOR never looks for an older frame of its variable

  `r#for` exists at compile time only: the code of FOR evaluates start, limit and step and pushes the
  four-value frame with plain `literal` instructions.  Nothing inspects the stack, so a loop left by GOTO
  and entered again leaves its old frame where it was and pushes a new one. -/

/-- **entering a FOR pushes one frame — always**: whatever the stack holds (frames of the same
    variable included), after the entry code it holds four values more, the old ones untouched below -/
theorem for_entry_pushes_frame (env : Env) (hie : Bool) {a b st : Expr} (hpa : Spec.Pure a) (hpb : Spec.Pure b)
    (hps : Spec.Pure st) (name : Str) (s : Runtime)
    (hcode : CodeAt s.program.link.ops s.pc (forEntryCode name a b st s.pc)) (htr : s.tron = false)
    (hroom : s.stack.size + forInitLen a b st ≤ Gen.stackMaxLen)
    {σ1 : Var} {t sv : Val} (hi : forInit s.vars name a b st = .ok (σ1, t, sv)) :
    Goes env hie s
      { s with pc := s.pc + forInitLen a b st, vars := σ1,
               stack := s.stack ++ forFrame t sv name (s.pc + forInitLen a b st) } := by
  have h := (for_entry_seg env hie hpa hpb hps name s s.pc s.stack s.vars hcode htr hroom).run_ok hi
  exact ⟨_, h⟩

/-- the minimal loop that abandons its FOR: the entry code of `FOR name = a TO b STEP st`, then a jump
    back to it (`10 FOR … / 20 GOTO 10`) -/
def abandonCode (name : Str) (a b st : Expr) (start : Nat) : List Opcode :=
  forEntryCode name a b st start ++ [Opcode.jump start]

/-- **a FOR left by GOTO and entered again grows the stack by four values per round**: after `k`
    rounds the stack is the old one with `4·k` values on top — no frame is reused or dropped.
    (`τ i`: the variables at the start of round `i`.) -/
theorem abandoned_for_rounds (env : Env) (hie : Bool) {a b st : Expr} (hpa : Spec.Pure a) (hpb : Spec.Pure b)
    (hps : Spec.Pure st) (name : Str) (s : Runtime) (pc : Nat)
    (hcode : CodeAt s.program.link.ops pc (abandonCode name a b st pc)) (htr : s.tron = false)
    (hgate : hie = false ∨ s.entryAddress ≤ pc) :
    ∀ (k : Nat) (stk : Array Val) (τ : Nat → Var),
      stk.size + 4 * k + forInitLen a b st ≤ Gen.stackMaxLen + 4 →
      (∀ i, i < k → ∃ t sv, forInit (τ i) name a b st = .ok (τ (i + 1), t, sv)) →
      ∃ frames : Array Val, frames.size = 4 * k ∧
        Goes env hie (s.at pc stk (τ 0)) (s.at pc (stk ++ frames) (τ k)) := by
  intro k
  induction k with
  | zero =>
    intro stk τ _ _
    exact ⟨#[], rfl, by rw [Array.append_empty]; exact Goes.refl env hie _⟩
  | succ k ih =>
    intro stk τ hroom hinit
    obtain ⟨t, sv, hi⟩ := hinit 0 (Nat.succ_pos k)
    have g1 := (for_entry_seg env hie hpa hpb hps name s pc stk (τ 0) hcode.left htr (by omega)).run_ok hi
    have hj : s.program.link.ops[pc + forInitLen a b st]? = some (.jump pc) := by
      have := hcode.right.head
      rwa [forEntryCode_length] at this
    obtain ⟨frames, hsz, g3⟩ := ih (stk ++ forFrame t sv name (pc + forInitLen a b st)) (fun i => τ (i + 1))
      (by simp only [Array.size_append, forFrame]
          show stk.size + 4 + 4 * k + _ ≤ _
          omega)
      (fun i hi => hinit (i + 1) (Nat.succ_lt_succ hi))
    refine ⟨forFrame t sv name (pc + forInitLen a b st) ++ frames, ?_, ?_⟩
    · rw [Array.size_append, hsz]
      show 4 + 4 * k = _
      omega
    · rw [← Array.append_assoc]
      exact (Goes.trans ⟨_, g1⟩ (Goes.step (jump_at env hie s _ pc _ _ hj htr hgate))).trans g3

/-- the Integer literal `k` -/
def cI (k : Int16) : Expr := .integer (0, 0) k

/-- the code the compiler produces for the two lines (the program segment continues with `end`
    and the direct line `RUN` = `clear, jump 0, end`): `1, pop I%, 2, 1, "I%", nxt→6, jump 0` -/
def abandonedOps : List Opcode := abandonCode "I%".toList (cI 1) (cI 2) (cI 1) 0

example : abandonedOps =
    [.literal (.int 1), .pop "I%".toList, .literal (.int 2), .literal (.int 1), .literal (.str "I%".toList),
     .literal (.nxt 6), .jump 0] := by decide

/-- `I% = 1`: the variables after the first round, and after every other -/
def abandonedVars (v : Var) : Var := v.updateVal "I%".toList (.int 1)

theorem abandoned_store (v : Var) (hlen : v.vars.length ≤ 65535) :
    v.store "I%".toList (.int 1) = .ok (abandonedVars v) :=
  store_eq_conv v _ _ .integer (.inl hlen) rfl

theorem abandoned_forInit (v : Var) (hlen : v.vars.length ≤ 65535) :
    forInit v "I%".toList (cI 1) (cI 2) (cI 1) = .ok (abandonedVars v, .int 2, .int 1) := by
  have hs := abandoned_store v hlen
  simp only [forInit, cI, eval, bind, Except.bind, hs, pure, Except.pure]

/-- `I% = 1` and nothing else: the variables from the second round on, when the program was started by
    RUN (which clears the variables) -/
def abandonedV1 : Var := { vars := [("I%".toList, .int 1)] }

/-- the last round: with 65 532 values on the stack the fourth push of the frame is the 65 536th value —
    OUT OF MEMORY "STACK OVERFLOW"; the state it leaves has a full stack -/
theorem abandoned_last_round (env : Env) (hie : Bool) (s : Runtime)
    (hcode : CodeAt s.program.link.ops 0 abandonedOps) (htr : s.tron = false) (stk : Array Val) (σ : Var)
    (hsz : stk.size = 65532) (hlen : σ.vars.length ≤ 65535) :
    runSteps env hie 6 (s.at 0 stk σ) =
      (.error stackOverflow,
       s.at 6 ((((stk.push (.int 2)).push (.int 1)).push (.str "I%".toList)).push (.nxt 6)) (abandonedVars σ)) := by
  have hs := abandoned_store σ hlen
  show runSteps env hie (1 + (1 + (1 + (1 + (1 + 1))))) _ = _
  rw [runSteps_ok_add (literal_at env hie s 0 stk σ (.int 1) hcode.head htr (by rw [hsz]; decide)),
    runSteps_ok_add ((pop_at env hie s _ _ _ _ "I%".toList (hcode 1 (by decide)) htr).run_ok hs),
    runSteps_ok_add (literal_at env hie s _ _ _ (.int 2) (hcode 2 (by decide)) htr (by rw [hsz]; decide)),
    runSteps_ok_add (literal_at env hie s _ _ _ (.int 1) (hcode 3 (by decide)) htr
      (by rw [Array.size_push, hsz]; decide)),
    runSteps_ok_add (literal_at env hie s _ _ _ (.str "I%".toList) (hcode 4 (by decide)) htr
      (by simp only [Array.size_push, hsz]; decide)),
    runSteps_one,
    run_step_literal env hie
      (s.at 5 (((stk.push (.int 2)).push (.int 1)).push (.str "I%".toList)) (abandonedVars σ)) (.nxt 6) htr
      (hcode 5 (by decide)),
    if_pos (by show (((stk.push _).push _).push _).size + 1 > _; simp only [Array.size_push, hsz]; decide)]
  rfl

/-- the machine right after RUN's CLEAR, at the first instruction of `10 FOR I%=1 TO 2 / 20 GOTO 10` -/
structure AbandonedStart (s : Runtime) : Prop where
  code : CodeAt s.program.link.ops 0 abandonedOps
  pc : s.pc = 0
  tron : s.tron = false
  stack : s.stack = #[]
  vars : s.vars = {}

/-- **`k` rounds of the abandoned loop leave `4·k` values on the stack** (`1 ≤ k ≤ 16 383`) -/
theorem abandonedLoop_rounds (env : Env) (hie : Bool) (s : Runtime) (h : AbandonedStart s)
    (hgate : hie = false ∨ s.entryAddress ≤ s.pc) (k : Nat) (hk1 : 1 ≤ k) (hk : k ≤ 16383) :
    ∃ frames : Array Val, frames.size = 4 * k ∧
      Goes env hie s { s with vars := abandonedV1, stack := frames } := by
  have hs : s = s.at 0 #[] {} := by rw [← h.pc, ← h.stack, ← h.vars]; rfl
  obtain ⟨frames, hsz, g⟩ := abandoned_for_rounds env hie (a := cI 1) (b := cI 2) (st := cI 1)
    (Pure.integer (0, 0) 1) (Pure.integer (0, 0) 2) (Pure.integer (0, 0) 1) "I%".toList s 0 h.code h.tron
    (h.pc ▸ hgate) k #[] (fun i => if i = 0 then {} else abandonedV1)
    (by show 0 + 4 * k + 6 ≤ 65535 + 4; omega)
    (fun i _ => by
      refine ⟨.int 2, .int 1, ?_⟩
      by_cases h0 : i = 0
      · subst h0
        simp only [if_true, Nat.zero_add, Nat.one_ne_zero, if_false]
        exact abandoned_forInit {} (by decide)
      · simp only [h0, if_false, Nat.add_eq_zero_iff, Nat.one_ne_zero, and_false]
        exact abandoned_forInit abandonedV1 (by decide))
  refine ⟨frames, hsz, ?_⟩
  have hk0 : k ≠ 0 := by omega
  simp only [hk0, if_true, if_false, Array.empty_append] at g
  rw [hs]
  exact g

/-- **abandoned FOR loops end in OUT OF MEMORY**: the program fails with "STACK OVERFLOW" in its
    16 384th round, when the push of the frame's last value would be the 65 536th value; the state at
    the error has that full stack, `I% = 1`, and is otherwise the state the run started from -/
theorem abandonedLoop_overflows (env : Env) (hie : Bool) (s : Runtime) (h : AbandonedStart s)
    (hgate : hie = false ∨ s.entryAddress ≤ s.pc) :
    ∃ (n : Nat) (stk : Array Val), stk.size = 65536 ∧
      runSteps env hie n s = (.error stackOverflow, { s with pc := 6, vars := abandonedV1, stack := stk }) := by
  obtain ⟨frames, hsz, ⟨n, hn⟩⟩ := abandonedLoop_rounds env hie s h hgate 16383 (by decide) (by decide)
  have hl := abandoned_last_round env hie s h.code h.tron frames abandonedV1 (by rw [hsz])
    (by show abandonedV1.vars.length ≤ 65535; decide)
  refine ⟨n + 6, (((frames.push (.int 2)).push (.int 1)).push (.str "I%".toList)).push (.nxt 6), ?_, ?_⟩
  · simp only [Array.size_push, hsz]
  · rw [runSteps_ok_add hn, show ({ s with vars := abandonedV1, stack := frames } : Runtime) = s.at 0 frames abandonedV1 by
      rw [← h.pc]; rfl, hl]
    rfl

/-- **… and the session goes on**: `execute` (with a quantum that reaches the failure) records OUT OF
    MEMORY and EMPTIES the stack — all 65 536 values are gone, nothing can be continued; the variables
    (`I% = 1`), the program and the listing are untouched -/
theorem abandonedLoop_execute (env : Env) (s : Runtime) (h : AbandonedStart s) (hst : s.state = .running)
    (hde : s.listing.directErrors.isEmpty = true) (hie : s.listing.indirectErrors.isEmpty = true) :
    ∃ n, ∀ q, n ≤ q →
      execute env s q =
        ({ s with pc := 6, vars := abandonedV1, stack := #[], cont := .stopped, contPc := 6,
                  state := .runtimeError (stackOverflow.inLine (s.program.link.lineNumberFor 5)) }, .running) := by
  obtain ⟨n, stk, hsz, hrun⟩ := abandonedLoop_overflows env (!s.listing.indirectErrors.isEmpty) s h
    (.inl (by rw [hie]; rfl))
  refine ⟨n, fun q hq => ?_⟩
  have hfull : isFull ({ s with pc := 6, vars := abandonedV1, stack := stk } : Runtime) = true := by
    unfold isFull
    exact decide_eq_true (by show stk.size > _; rw [hsz]; decide)
  rw [ExecSteps.execute_error_full_clears env s _ q stackOverflow hst hde (runSteps_error_le hrun hq) hst hfull]
  rfl

section printLoop
open Basic.Lemmas.PrintRun

/-- `10 PRINT items : GOTO 10` -/
def printLoopCode (items : List PrItem) (start : Nat) : List Opcode := stmtCode items ++ [Opcode.jump start]

/-- the print column after `k` passes -/
def printLoopCol (vars : Var) (items : List PrItem) : Nat → Nat → Nat
  | 0, c => c
  | k+1, c => printLoopCol vars items k (printSpec vars c items).col

/-- the texts of `k` passes -/
def printLoopChunks (vars : Var) (items : List PrItem) : Nat → Nat → List Str
  | 0, _ => []
  | k+1, c => (printSpec vars c items).chunks ++ printLoopChunks vars items k (printSpec vars c items).col

/-- **`k` passes of `10 PRINT items : GOTO 10`** (`k` arbitrary, no failing item): the texts of `k` statements, each
    computed from the column the one before has left; the machine is the one it started as except for the
    print column -/
theorem print_loop_run (env : Env) (hie : Bool) (items : List PrItem) (hok : ∀ it ∈ items, it.Ok) :
    ∀ (k : Nat) (s : Runtime) (acc : List Str),
      CodeAt s.program.link.ops s.pc (printLoopCode items s.pc) → s.tron = false →
      s.stack.size + (stmtCode items).length ≤ Gen.stackMaxLen →
      (hie = false ∨ s.entryAddress ≤ s.pc) → (∀ c, (printSpec s.vars c items).err = none) →
      runCollect env hie (k * ((stmtCode items).length + 1)) s acc =
        (.done, { s with printCol := printLoopCol s.vars items k s.printCol },
         acc ++ printLoopChunks s.vars items k s.printCol)
  | 0, s, acc, _, _, _, _, _ => by
    simp only [Nat.zero_mul, runCollect, printLoopCol, printLoopChunks, List.append_nil]
  | k+1, s, acc, hcode, htr, hroom, hgate, herr => by
    -- one statement, the jump back, then `k` passes from the column the statement has left
    have e : (k + 1) * ((stmtCode items).length + 1) =
        (stmtCode items).length + (k * ((stmtCode items).length + 1) + 1) := by
      rw [Nat.succ_mul]; omega
    have hj := run_step_jump env hie
      { s with pc := s.pc + (stmtCode items).length, printCol := (printSpec s.vars s.printCol items).col } s.pc htr
      hcode.right.head hgate
    rw [e, (print_run env hie items hok s hcode.left htr hroom).1 (herr s.printCol), runCollect_succ_continue hj]
    exact (print_loop_run env hie items hok k { s with printCol := (printSpec s.vars s.printCol items).col }
      (acc ++ (printSpec s.vars s.printCol items).chunks) hcode htr hroom hgate herr).trans
      (by simp only [printLoopCol, printLoopChunks, List.append_assoc])

end printLoop

end Lemmas.NoResidue
end Basic

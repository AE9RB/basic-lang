import BasicModel.Lemmas.Step
/-
  Frame properties that hold for the instructions that can return events as well:
  `KeepListing` (all but DELETE / RENUM / NEW; `step_keepListing`) and `Weak` (every update of a
  kind other than `sched`, hence all instructions; `Weak.of_prim`; its one use is `NoIntro.of_prim`).
  `NoIntro`, the invariant "neither `state` nor `cont` is `intro`", is kept by every primitive
  update (`NoIntro.of_prim`).
-/
namespace Basic
namespace Runtime
variable {α β : Type}

structure KeepListing (s t : Runtime) : Prop where
  eq : t.listing = s.listing

instance : FrameRel KeepListing where
  refl _ := ⟨rfl⟩
  trans h1 h2 := ⟨h2.eq.trans h1.eq⟩

theorem KeepListing.of_prim {env : Env} {k : Kind} {s t : Runtime} (p : Prim env k s t) (hk : k ≠ .listing) :
    KeepListing s t := by
  cases p <;> first | exact ⟨rfl⟩ | exact absurd rfl hk

theorem step_keepListing (env : Env) (h : Bool) (s : Runtime)
    (hop : ∀ op, s.program.link.ops[s.pc]? = some op → editsListing op = false) :
    ((step env h).run.run s).2.listing = s.listing :=
  ((step_eff env h s (K := (· ≠ .listing)) nofun nofun fun op hq k hk e => by
      subst e; exact absurd hk.2.2 (by rw [hop op hq]; nofun)).to KeepListing.of_prim).eq

/-- neither `state` nor `cont` is `intro` (true after the first `execute`) -/
def NoIntro (s : Runtime) : Prop := s.state ≠ .intro ∧ s.cont ≠ .intro

structure Weak (s t : Runtime) : Prop where
  entry : t.entryAddress = s.entryAddress
  prompt : t.prompt = s.prompt
  ops : t.program.link.ops = s.program.link.ops
  data : t.program.link.data = s.program.link.data
  symbols : t.program.link.symbols = s.program.link.symbols
  errors : t.program.errors = s.program.errors
  indirectErrors : t.program.indirectErrors = s.program.indirectErrors
  directAddress : t.program.directAddress = s.program.directAddress
  noIntro : NoIntro s → NoIntro t

macro "weak" : tactic =>
  `(tactic| (constructor <;> first
      | rfl
      | (intro ⟨h1, h2⟩; constructor <;> first | exact h1 | exact h2 | (intro h; cases h))))

theorem Carried.ne_intro {s : Runtime} {a : RState} (h : NoIntro s) (ha : Carried s a) : a ≠ .intro := by
  rcases ha with rfl | rfl | ha
  · exact h.1
  · exact h.2
  · exact ha.1

theorem Weak.of_prim {env : Env} {k : Kind} {s t : Runtime} (p : Prim env k s t) (hk : k ≠ .sched) : Weak s t := by
  cases p with
  | resched _ _ _ _ _ ha hb =>
    exact ⟨rfl, rfl, rfl, rfl, rfl, rfl, rfl, rfl, fun h => ⟨ha.ne_intro h, hb.ne_intro h⟩⟩
  | sched => exact absurd rfl hk
  | _ => weak

theorem NoIntro.of_prim {env : Env} {k : Kind} {s t : Runtime} (p : Prim env k s t) : Stays NoIntro s t := by
  intro h
  cases k with
  | sched => cases p with | sched _ _ _ _ _ _ _ _ _ ha hb => exact ⟨ha.ne_intro h, hb.ne_intro h⟩
  | _ => exact (Weak.of_prim p nofun).noIntro h

end Runtime
end Basic

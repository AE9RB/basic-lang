import BasicModel.Model.Program
import BasicModel.Lemmas.Codegen
import BasicModel.Lemmas.LinkPass
/-
  Whole-program compile, as equations: `linkProg` is three stages (`linkProg_eq`), each described field by field;
  `codegenLine` is `startLine` then `genAst` (`codegenLine_eq`), and a listing of numbered lines is walked by
  `codegenLines_ind`.  Read off the stages: `linkProg` keeps the data (`linkProg_data`), and a program that links without
  a report was compiled without one (`linkProg_indirect`).

  The compiler never reads or writes the DATA cursor (`Link.dataPos`): every function of `Link` / `Codegen` /
  `Program` used by a compile commutes with setting it (`withDP`).  Consequence: compiling a listing into a
  cleared program (`Program.clear` keeps the cursor) and into a fresh one give the same result up to the cursor.
-/
namespace Basic

/-- `l` with an `End` pushed behind its code -/
def Link.withEnd (l : Link) : Link := { l with ops := l.ops.push .end }

namespace Program

/-- `linkProg`, stage 1: make sure the code ends with `End` -/
def pushEndP (p : Program) : Program :=
  let (l, r) := p.link.push .end
  match r with
  | .ok () => { p with link := l }
  | .error e => { p with link := l, errors := p.errors ++ [e] }

def ensureEnd (p : Program) : Program :=
  match p.link.ops.back? with
    | some .end => if p.link.hasLineAtEnd then pushEndP p else p
    | _ => pushEndP p

/-- stage 2: resolve the pending references -/
def resolve (p : Program) : Program :=
  let (l, linkErrs) := p.link.link
  let p := { p with link := l }
  if p.errors.isEmpty then { p with errors := linkErrs } else p

/-- stage 3: the first link after the indirect lines fixes the start of direct code -/
def markDirect (p : Program) : Program :=
  if p.directAddress = 0 then
    { p with indirectErrors := p.errors, errors := [], directAddress := p.link.ops.size,
             link := p.link.setStartOfDirect p.link.ops.size }
  else p

theorem linkProg_eq (p : Program) : p.linkProg = markDirect (resolve (ensureEnd p)) := rfl

theorem pushEndP_eq (p : Program) :
    pushEndP p = { p with link := p.link.withEnd,
                          errors := if p.link.ops.size + 1 > Gen.stackMaxLen then p.errors ++ [Link.opsOverflow]
                                    else p.errors } := by
  unfold pushEndP Link.push
  dsimp only
  rw [Array.size_push]
  by_cases h : p.link.ops.size + 1 > Gen.stackMaxLen
  · rw [if_pos h, if_pos h]; rfl
  · rw [if_neg h, if_neg h]; rfl

theorem pushEndP_link (p : Program) : (pushEndP p).link = p.link.withEnd := by rw [pushEndP_eq]

theorem pushEndP_directAddress (p : Program) : (pushEndP p).directAddress = p.directAddress := by rw [pushEndP_eq]

theorem ensureEnd_ind {P : Program → Prop} (p : Program) (h : P p) (h1 : P (pushEndP p)) : P (ensureEnd p) := by
  unfold ensureEnd
  split
  · split
    · exact h1
    · exact h
  · exact h1

theorem ensureEnd_eq (p : Program) :
    ensureEnd p =
      if p.link.ops.back? = some .end ∧ p.link.hasLineAtEnd = false then p else pushEndP p := by
  unfold ensureEnd
  split
  · rename_i hb
    split
    · rename_i hh
      rw [if_neg (fun h => by rw [hh] at h; exact absurd h.2 (by simp))]
    · rename_i hh
      rw [if_pos ⟨hb, by simpa using hh⟩]
  · rename_i hb
    rw [if_neg (fun h => hb h.1)]

theorem ensureEnd_link (p : Program) : (ensureEnd p).link = p.link ∨ (ensureEnd p).link = p.link.withEnd :=
  ensureEnd_ind (P := fun q => q.link = p.link ∨ q.link = p.link.withEnd) p (.inl rfl) (.inr (pushEndP_link p))

theorem ensureEnd_symbols (p : Program) :
    (ensureEnd p).link.symbols = p.link.symbols ∧ (ensureEnd p).link.unlinked = p.link.unlinked ∧
    (ensureEnd p).link.whiles = p.link.whiles ∧ (ensureEnd p).link.data = p.link.data := by
  rcases ensureEnd_link p with e | e <;> rw [e] <;> exact ⟨rfl, rfl, rfl, rfl⟩

theorem pend_withEnd (l : Link) : l.withEnd.pend = l.pend := rfl

theorem pend_ensureEnd (p : Program) : (ensureEnd p).link.pend = p.link.pend := by
  rcases ensureEnd_link p with e | e <;> rw [e]
  rfl

theorem ensureEnd_directAddress (p : Program) : (ensureEnd p).directAddress = p.directAddress :=
  ensureEnd_ind (P := fun q => q.directAddress = p.directAddress) p rfl (pushEndP_directAddress p)

theorem resolve_eq (q : Program) :
    resolve q =
      if q.errors.isEmpty = true then { q with link := q.link.link.1, errors := q.link.link.2 }
      else { q with link := q.link.link.1 } := rfl

theorem resolve_link (p : Program) : (resolve p).link = p.link.link.1 := by
  unfold resolve; dsimp only; split <;> rfl

theorem resolve_directAddress (p : Program) : (resolve p).directAddress = p.directAddress := by
  unfold resolve; dsimp only; split <;> rfl

/-- the result of `markDirect` when the direct segment has not been started yet -/
def startDirect (q : Program) : Program :=
  { q with indirectErrors := q.errors, errors := [], directAddress := q.link.ops.size,
           link := q.link.setStartOfDirect q.link.ops.size }

theorem markDirect_eq (q : Program) : markDirect q = if q.directAddress = 0 then startDirect q else q := rfl

/-- stage 3 touches the table and the direct-mode flag only.  Stated field by field, to rewrite with: on a program
    that is a long term, `exact` would first try to identify the two links and unfold `Link.link` over it -/
theorem markDirect_fields (q : Program) :
    (markDirect q).link.ops = q.link.ops ∧ (markDirect q).link.data = q.link.data ∧
    (markDirect q).link.dataPos = q.link.dataPos ∧ (markDirect q).link.unlinked = q.link.unlinked ∧
    (markDirect q).link.whiles = q.link.whiles := by
  rw [markDirect_eq]
  split <;> exact ⟨rfl, rfl, rfl, rfl, rfl⟩

theorem linkProg_fresh (P : Program) (h : P.directAddress = 0) :
    P.linkProg = startDirect (resolve (ensureEnd P)) := by
  rw [linkProg_eq, markDirect_eq, if_pos]
  rw [resolve_directAddress, ensureEnd_directAddress, h]

theorem linkProg_ind {P : Program → Prop} (p : Program) (h : P p) (h1 : ∀ q, P q → P (pushEndP q))
    (h2 : ∀ q, P q → P (resolve q)) (h3 : ∀ q, P q → P (markDirect q)) : P p.linkProg :=
  h3 _ (h2 _ (ensureEnd_ind p h (h1 p h)))

theorem linkProg_ops_eq (p : Program) : p.linkProg.link.ops = (ensureEnd p).link.link.1.ops := by
  rw [linkProg_eq, (markDirect_fields _).1, resolve_link]

/-- after `linkProg` no WHILE is pending: the hypothesis of `clear_codegenLines` holds for every
    program the runtime holds after `enterDirect` -/
theorem linkProg_whiles (p : Program) : (p.linkProg).link.whiles = [] := by
  rw [linkProg_eq, (markDirect_fields _).2.2.2.2, resolve_link]
  exact Link.link_whiles _

/-- the start of `codegenLine`, after the `linkProg` a direct line begins with: the line's number is recorded; a
    numbered line defines its symbol, a direct line cuts the code back to `directAddress` and drops the errors -/
def startLine (q : Program) : Option Nat → Program
  | some n => { q with lineNumber := some n, link := q.link.pushSymbol n }
  | none =>
    { q with lineNumber := none, link := { q.link with ops := q.link.ops.extract 0 q.directAddress },
             errors := [] }

/-- the statements compiled onto the link, their errors reported under the line's number -/
def genAst (q : Program) (ast : List Stmt) : Program :=
  { q with link := (Codegen.codegen q.link ast).1,
           errors := q.errors ++ (Codegen.codegen q.link ast).2.map (·.inLine q.lineNumber) }

theorem codegenLine_eq (p : Program) (line : Line) :
    p.codegenLine line =
      match Parse.parse line.number line.tokens with
      | .error e =>
        { startLine (if line.number.isNone then p.linkProg else p) line.number with
          errors := (startLine (if line.number.isNone then p.linkProg else p) line.number).errors ++ [e] }
      | .ok ast =>
        if line.number.isNone then
          pushEndP (genAst (startLine (if line.number.isNone then p.linkProg else p) line.number) ast)
        else genAst (startLine (if line.number.isNone then p.linkProg else p) line.number) ast := by
  unfold codegenLine
  cases line.number <;> cases Parse.parse _ line.tokens <;> rfl

/-- what `codegenLine` does with the numbered line `n` (`codegenLine_numbered`) -/
def genNumbered (p : Program) (n : Nat) (toks : List Token) : Program :=
  match Parse.parse (some n) toks with
  | .error e => { startLine p (some n) with errors := p.errors ++ [e] }
  | .ok ast => genAst (startLine p (some n)) ast

theorem codegenLine_numbered (p : Program) (line : Line) (n : Nat) (h : line.number = some n) :
    p.codegenLine line = genNumbered p n line.tokens := by
  rw [codegenLine_eq, h]
  rfl

theorem genNumbered_ok {p : Program} {n : Nat} {toks : List Token} {ast : List Stmt}
    (h : Parse.parse (some n) toks = .ok ast) : genNumbered p n toks = genAst (startLine p (some n)) ast := by
  unfold genNumbered; rw [h]

theorem genNumbered_error {p : Program} {n : Nat} {toks : List Token} {e : Error}
    (h : Parse.parse (some n) toks = .error e) :
    genNumbered p n toks = { startLine p (some n) with errors := p.errors ++ [e] } := by
  unfold genNumbered; rw [h]

def Numbered (ls : List Line) : Prop := ∀ l ∈ ls, ∃ n : Nat, l.number = some n

theorem codegenLines_cons (p : Program) (l : Line) (ls : List Line) :
    p.codegenLines (l :: ls) = (p.codegenLine l).codegenLines ls := rfl

theorem codegenLines_append (p : Program) (xs ys : List Line) :
    p.codegenLines (xs ++ ys) = (p.codegenLines xs).codegenLines ys := by
  unfold codegenLines; rw [List.foldl_append]

/-- (for a list that may hold direct lines there is no `genNumbered`: use core's `List.foldlRecOn` with `codegenLine`) -/
theorem codegenLines_ind {P : Program → Prop} {ls : List Line} (hnum : Numbered ls)
    (step : ∀ q, ∀ line ∈ ls, ∀ n, line.number = some n → P q → P (genNumbered q n line.tokens))
    (p : Program) (h : P p) : P (p.codegenLines ls) :=
  List.foldlRecOn ls _ h fun q hq l hl => by
    obtain ⟨n, hn⟩ := hnum l hl
    rw [codegenLine_numbered q l n hn]
    exact step q l hl n hn hq

theorem genNumbered_link_ind {P : Link → Prop} (p : Program) (n : Nat) (toks : List Token)
    (h0 : P (p.link.pushSymbol n))
    (happ : ∀ ast l, ∀ x ∈ (Codegen.acceptStmts ast {}).g.stmt.toList, P l → P (l.append x.2).1) :
    P (genNumbered p n toks).link := by
  unfold genNumbered
  split
  · exact h0
  · exact Codegen.codegen_ind _ _ h0 (happ _)

theorem genNumbered_directAddress (p : Program) (n : Nat) (toks : List Token) :
    (genNumbered p n toks).directAddress = p.directAddress := by
  unfold genNumbered
  split <;> rfl

theorem codegenLines_directAddress {ls : List Line} (hnum : Numbered ls) (p : Program) :
    (p.codegenLines ls).directAddress = p.directAddress :=
  codegenLines_ind (P := fun q => q.directAddress = p.directAddress) hnum
    (fun q _ _ _ _ h => (genNumbered_directAddress q _ _).trans h) p rfl

theorem codegenLines_inv {P Q : Link → Prop} (happ : ∀ l f, P l → Q f → P (l.append f).1)
    (hQ : ∀ ast, ∀ x ∈ (Codegen.acceptStmts ast {}).g.stmt.toList, Q x.2)
    (hsym : ∀ l s, P l → P (l.pushSymbol s)) (lines : List Line) (p : Program) (hnum : Numbered lines)
    (h : P p.link) : P (p.codegenLines lines).link :=
  codegenLines_ind (P := fun q => P q.link) hnum
    (fun q _ _ n _ hq => genNumbered_link_ind q n _ (hsym _ _ hq) fun ast l x hx hl => happ l x.2 hl (hQ ast x hx)) p h

theorem codegenLine_ind {P : Program → Prop} (p : Program) (line : Line) (h : P p)
    (h1 : ∀ q, P q → P q.linkProg) (h2 : ∀ q, P q → P (startLine q line.number))
    (h3 : ∀ q e, Parse.parse line.number line.tokens = .error e → P q → P { q with errors := q.errors ++ [e] })
    (h4 : ∀ q ast, Parse.parse line.number line.tokens = .ok ast → P q → P (genAst q ast))
    (h5 : ∀ q, P q → P (pushEndP q)) : P (p.codegenLine line) := by
  rw [codegenLine_eq]
  have hq : P (startLine (if line.number.isNone then p.linkProg else p) line.number) := by
    refine h2 _ ?_
    split
    · exact h1 p h
    · exact h
  generalize startLine (if line.number.isNone then p.linkProg else p) line.number = q at hq ⊢
  split
  · exact h3 _ _ ‹_› hq
  · split
    · exact h5 _ (h4 _ _ ‹_› hq)
    · exact h4 _ _ ‹_› hq

/-- the program the interpreter holds after a direct line `d` has been entered over the listing
    `ls` (`enterDirect`: compile the lines, the direct line, link) -/
def runProg (ls : List Line) (d : Line) : Program := ((({} : Program).codegenLines ls).codegenLine d).linkProg

theorem linkProg_data (p : Program) :
    p.linkProg.link.data = p.link.data ∧ p.linkProg.link.dataPos = p.link.dataPos :=
  linkProg_ind (P := fun q => q.link.data = p.link.data ∧ q.link.dataPos = p.link.dataPos) p ⟨rfl, rfl⟩
    (fun q h => by rw [pushEndP_link]; exact h)
    (fun q h => by rw [resolve_link]; exact ⟨(Link.link_data _).1.trans h.1, (Link.link_data _).2.trans h.2⟩)
    (fun q h => by rw [(markDirect_fields q).2.1, (markDirect_fields q).2.2.1]; exact h)

theorem linkProg_indirect (p : Program) (hd : p.directAddress = 0) (h : p.linkProg.indirectErrors = []) :
    p.errors = [] := by
  rw [linkProg_fresh p hd] at h
  -- the reports of the compile state come first: `resolve` keeps them, `ensureEnd` only adds to them
  have hr : (ensureEnd p).errors = [] := by
    have h' : (resolve (ensureEnd p)).errors = [] := h
    rw [resolve_eq] at h'
    split at h'
    · exact List.isEmpty_iff.1 ‹_›
    · exact h'
  revert hr
  refine ensureEnd_ind (P := fun q => q.errors = [] → p.errors = []) p id ?_
  unfold pushEndP
  dsimp only
  split
  · exact id
  · exact fun h => (List.append_eq_nil_iff.1 h).1

end Program

def Link.withDP (l : Link) (d : Nat) : Link := { l with dataPos := d }
def Program.withDP (p : Program) (d : Nat) : Program := { p with link := p.link.withDP d }

namespace Link

theorem pushSymbol_withDP (l : Link) (d : Nat) (sym : Symbol) :
    (l.withDP d).pushSymbol sym = (l.pushSymbol sym).withDP d := rfl

theorem lineNumberFor_withDP (l : Link) (d : Nat) (a : Nat) :
    (l.withDP d).lineNumberFor a = l.lineNumberFor a := rfl

theorem setStartOfDirect_withDP (l : Link) (d : Nat) (a : Nat) :
    (l.withDP d).setStartOfDirect a = (l.setStartOfDirect a).withDP d := rfl

theorem append_withDP (l : Link) (d : Nat) (f : Link) :
    (l.withDP d).append f = ((l.append f).1.withDP d, (l.append f).2) := by
  rw [append_eq, append_eq l]
  show (if (l.directSet && !f.data.isEmpty) = true then _
    else if l.ops.size + f.ops.size > Gen.stackMaxLen then _ else _) = _
  split
  · rfl
  · split <;> rfl

theorem link_withDP (l : Link) (d : Nat) :
    (l.withDP d).link = ((l.link).1.withDP d, (l.link).2) := by
  rw [link_eq_pass, link_eq_pass l]; rfl

end Link

namespace Codegen

theorem codegen_withDP (l : Link) (d : Nat) (ast : List Stmt) :
    codegen (l.withDP d) ast = ((codegen l ast).1.withDP d, (codegen l ast).2) := by
  obtain ⟨h1, h2⟩ := Link.appendMany_rel (R := fun a a' => a' = a.withDP d)
    ((acceptStmts ast {}).g.stmt.toList.map (·.2)) (a := l) rfl
    fun a a' f _ e => by rw [e, Link.append_withDP]; exact ⟨rfl, rfl⟩
  rw [codegen_eq, codegen_eq l, h1, h2]

end Codegen

namespace Program

theorem pushEndP_withDP (p : Program) (d : Nat) : pushEndP (p.withDP d) = (pushEndP p).withDP d := by
  rw [pushEndP_eq, pushEndP_eq p]
  rfl

theorem ensureEnd_withDP (p : Program) (d : Nat) : ensureEnd (p.withDP d) = (ensureEnd p).withDP d := by
  rw [ensureEnd_eq, ensureEnd_eq p, pushEndP_withDP]
  exact (apply_ite (fun q : Program => q.withDP d) _ _ _).symm

theorem resolve_withDP (p : Program) (d : Nat) : resolve (p.withDP d) = (resolve p).withDP d := by
  unfold resolve
  rw [show (p.withDP d).link = p.link.withDP d from rfl, Link.link_withDP]
  dsimp only
  rw [show (p.withDP d).errors = p.errors from rfl]
  split <;> rfl

theorem markDirect_withDP (p : Program) (d : Nat) : markDirect (p.withDP d) = (markDirect p).withDP d := by
  unfold markDirect
  rw [show (p.withDP d).directAddress = p.directAddress from rfl]
  split <;> rfl

theorem linkProg_withDP (p : Program) (d : Nat) : (p.withDP d).linkProg = (p.linkProg).withDP d := by
  rw [linkProg_eq, linkProg_eq, ensureEnd_withDP, resolve_withDP, markDirect_withDP]

theorem startLine_withDP (q : Program) (d : Nat) (n : Option Nat) :
    startLine (q.withDP d) n = (startLine q n).withDP d := by
  cases n <;> rfl

theorem genAst_withDP (q : Program) (d : Nat) (ast : List Stmt) : genAst (q.withDP d) ast = (genAst q ast).withDP d := by
  unfold genAst
  rw [show (q.withDP d).link = q.link.withDP d from rfl, Codegen.codegen_withDP]
  rfl

theorem codegenLine_withDP (p : Program) (d : Nat) (line : Line) :
    (p.withDP d).codegenLine line = (p.codegenLine line).withDP d := by
  rw [codegenLine_eq, codegenLine_eq]
  have h1 : (if line.number.isNone then (p.withDP d).linkProg else p.withDP d) =
      (if line.number.isNone then p.linkProg else p).withDP d := by
    rw [linkProg_withDP]
    split <;> rfl
  rw [h1, startLine_withDP]
  generalize startLine (if line.number.isNone then p.linkProg else p) line.number = q
  cases Parse.parse line.number line.tokens with
  | error e => rfl
  | ok ast =>
    dsimp only
    rw [genAst_withDP]
    split
    · exact pushEndP_withDP _ d
    · rfl

theorem codegenLines_withDP (p : Program) (d : Nat) (lines : List Line) :
    (p.withDP d).codegenLines lines = (p.codegenLines lines).withDP d := by
  induction lines generalizing p with
  | nil => rfl
  | cons l ls ih => rw [codegenLines_cons, codegenLines_cons, codegenLine_withDP, ih]

/-- a compile step that commutes with setting the DATA cursor neither reads nor moves it -/
theorem dataPos_of_withDP (f : Program → Program) (hf : ∀ p d, f (p.withDP d) = (f p).withDP d)
    (p : Program) : (f p).link.dataPos = p.link.dataPos := by
  have := hf p p.link.dataPos
  rw [show p.withDP p.link.dataPos = p from rfl] at this
  rw [this]
  rfl

theorem codegenLine_dataPos (p : Program) (line : Line) :
    (p.codegenLine line).link.dataPos = p.link.dataPos :=
  dataPos_of_withDP (·.codegenLine line) (fun p d => codegenLine_withDP p d line) p

theorem linkProg_dataPos (p : Program) : (p.linkProg).link.dataPos = p.link.dataPos :=
  dataPos_of_withDP (·.linkProg) linkProg_withDP p

theorem codegenLines_dataPos (p : Program) (lines : List Line) :
    (p.codegenLines lines).link.dataPos = p.link.dataPos :=
  dataPos_of_withDP (·.codegenLines lines) (fun p d => codegenLines_withDP p d lines) p

/-- `Program.clear` keeps only the data cursor and the WHILE list of the old link -/
theorem clear_eq_withDP (p : Program) (hw : p.link.whiles = []) :
    p.clear = ({} : Program).withDP p.link.dataPos := by
  unfold clear Link.clear withDP Link.withDP
  rw [hw]

theorem clear_codegenLines (p : Program) (hw : p.link.whiles = []) (lines : List Line) :
    (p.clear).codegenLines lines = (({} : Program).codegenLines lines).withDP p.link.dataPos := by
  rw [clear_eq_withDP p hw, codegenLines_withDP]

theorem fresh_dataPos (lines : List Line) : (({} : Program).codegenLines lines).link.dataPos = 0 := by
  have h := codegenLines_withDP {} 0 lines
  rw [show ({} : Program).withDP 0 = {} from rfl] at h
  rw [h]; rfl

end Program
end Basic

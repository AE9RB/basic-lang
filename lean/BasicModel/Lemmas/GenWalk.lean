import BasicModel.Lemmas.Visit
/-
  One Hoare calculus for the generator monad `GM` of `Model/Codegen.lean`, and one walk through the
  generator functions.

  `H I m Q`: from a generator state that is good for `I`, the action `m` ends in a good state
  (whether it succeeds or throws), every successful result satisfies `Q`, and every error it
  raises, the generator's own `underflow` apart, satisfies `I.R`.  `I : GInv` says what "good" means,
  component by component; what the primitives of `Link` must preserve is asked once, as the record
  `Closed I Cs` (`ClosedE I` for variables and expressions alone): its fields are the closure conditions `ExprCl` (with the
  errors, `ErrCl`), `LabelCl`, `RefCl`, `MarkCl` and the single conditions `TdCl`, `PopCl`, `AppSCl` for DATA and IF.  The walk
  follows the `do` blocks line by line: each bind is one `H.seq`/`H.seq_any`, the hypotheses are found by unification.
  `accept_keeps`: a closed invariant holds of the stacks after any walk of the visitor; with `codegen_ind` of
  `Lemmas/Codegen.lean` (what every append keeps holds of the link `codegen` returns) that is an invariant of compiled code.
  What the record cannot say: a condition that ties a label to the link it goes into (`Link.LocalOk`: local labels lie above
  the link's counter), since `I.Y` sees the symbol alone.
-/
namespace Basic

/-- the name operands of an opcode: `A` holds of the array names, `N` of the others -/
def Opcode.NamesIn (N A : Str → Prop) : Opcode → Prop
  | .push n | .pop n | .eraseArr n | .next n | .def n | .fn n | .input n => N n
  | .pushArr n | .popArr n | .dimArr n => A n
  | _ => True

def Opcode.nameFree : Opcode → Bool
  | .push _ | .pop _ | .eraseArr _ | .next _ | .def _ | .fn _ | .input _
  | .pushArr _ | .popArr _ | .dimArr _ => false
  | _ => true

theorem Opcode.nameFree.namesIn {op : Opcode} (h : op.nameFree = true) (N A : Str → Prop) :
    op.NamesIn N A := by
  cases op <;> first | exact trivial | cases h


theorem builtin_namesIn {name : Str} {oc : Opcode} {lo hi : Nat}
    (ho : Gen.opcodeAndArity name = some (oc, lo, hi)) : ∀ N A, oc.NamesIn N A :=
  Opcode.nameFree.namesIn (table_lookup_ind (P := fun _ v => v.1.nameFree = true) (by decide) ho)

theorem binOp_namesIn (b : BinOp) : ∀ N A, (Gen.opcodeOfBinOp b).NamesIn N A := by
  cases b <;> exact fun _ _ => trivial

namespace Codegen
open Link
variable {α β : Type}

theorem g_pure (a : α) (g : GState) : (pure a : GM α).run.run g = (.ok a, g) := rfl
theorem g_throw (e : Error) (g : GState) : (throw e : GM α).run.run g = (.error e, g) := rfl
theorem g_get (g : GState) : (get : GM GState).run.run g = (.ok g, g) := rfl
theorem g_set (t g : GState) : (set t : GM Unit).run.run g = (.ok (), t) := rfl
theorem g_modify (f : GState → GState) (g : GState) : (modify f : GM Unit).run.run g = (.ok (), f g) := rfl

theorem mem_of_back? {γ : Type} {a : Array γ} {x : γ} (h : a.back? = some x) : x ∈ a.toList := by
  rw [Array.back?_eq_getElem?] at h
  exact Array.mem_toList_iff.2 (Array.mem_of_getElem? h)

theorem mem_of_mem_pop {γ : Type} {a : Array γ} {x : γ} (h : x ∈ a.pop.toList) : x ∈ a.toList := by
  rw [Array.toList_pop] at h
  exact List.dropLast_subset _ h

theorem mem_of_mem_extract {γ : Type} {a : Array γ} {i j : Nat} {x : γ} (h : x ∈ (a.extract i j).toList) :
    x ∈ a.toList := by
  rw [Array.toList_extract] at h
  exact List.mem_of_mem_drop (List.mem_of_mem_take h)

theorem mem_push_toList {γ : Type} {a : Array γ} {x y : γ} (h : y ∈ (a.push x).toList) :
    y ∈ a.toList ∨ y = x := by
  rw [Array.toList_push, List.mem_append, List.mem_singleton] at h
  exact h

/-- what is to hold of a generator state: `C` of the fragment under construction, `V` of the items
    on the variable stack, `E` and `S` of the fragments on the expression and statement stacks, `K`
    of the statement stack as a whole; `Y` of the labels the generator defines, `N` and `A` of the
    scalar and array names in the opcodes it emits, `R` of the errors it raises (other than its own
    `underflow`) -/
structure GInv where
  C : Link → Prop
  V : VarItem → Prop
  E : Link → Prop
  S : Link → Prop
  K : Array (Col × Link) → Prop
  Y : Symbol → Prop
  N : Str → Prop
  A : Str → Prop
  R : Error → Prop

/-- the same invariants while a fragment of another kind is under construction: a variable's or
    expression's (`I.withC I.E`), a statement's (`I.withC I.S`) -/
def GInv.withC (I : GInv) (C : Link → Prop) : GInv := { I with C := C }

structure Good (I : GInv) (g : GState) : Prop where
  cur : I.C g.cur
  var : ∀ v ∈ g.var.toList, I.V v
  expr : ∀ x ∈ g.expr.toList, I.E x.2
  stmt : ∀ x ∈ g.stmt.toList, I.S x.2
  stk : I.K g.stmt

variable {I : GInv}

theorem Good.empty {C' : Link → Prop} (h0 : C' {}) (hk : I.K #[]) : Good (I.withC C') {} :=
  ⟨h0, fun _ h => (nomatch h), fun _ h => (nomatch h), fun _ h => (nomatch h), hk⟩

theorem Good.setCur {g : GState} (h : Good I g) {l : Link} (hl : I.C l) : Good I { g with cur := l } :=
  ⟨hl, h.var, h.expr, h.stmt, h.stk⟩

abbrev T {α : Type} : α → Prop := fun _ => True

structure H (I : GInv) (m : GM α) (Q : α → Prop) : Prop where
  run : ∀ g, Good I g → Good I (m.run.run g).2 ∧ (∀ a, (m.run.run g).1 = .ok a → Q a) ∧
    ∀ e, (m.run.run g).1 = .error e → e = underflow ∨ I.R e

theorem H.ret {Q : α → Prop} {a : α} (h : Q a) : H I (pure a : GM α) Q :=
  ⟨fun _ hg => ⟨hg, fun b hb => by cases hb; exact h, fun _ he => (nomatch he)⟩⟩

theorem H.thr {Q : α → Prop} (e : Error) (h : I.R e) : H I (throw e : GM α) Q :=
  ⟨fun _ hg => ⟨hg, fun _ hb => (nomatch hb), fun e' he => by cases he; exact .inr h⟩⟩

theorem H.lift (r : Except Error α) (h : ∀ e, r = .error e → I.R e) : H I (liftE r : GM α) (r = .ok ·) :=
  ⟨fun g hg => by rw [grun_liftE]; exact ⟨hg, fun _ ha => ha, fun e he => .inr (h e he)⟩⟩

theorem H.mod {f : GState → GState} (h : ∀ g, Good I g → Good I (f g)) : H I (modify f : GM Unit) T :=
  ⟨fun g hg => ⟨h g hg, fun _ _ => trivial, fun _ he => (nomatch he)⟩⟩

theorem H.weaken {Q Q' : α → Prop} {m : GM α} (h : H I m Q) (hq : ∀ a, Q a → Q' a) : H I m Q' :=
  ⟨fun g hg => ⟨(h.run g hg).1, fun a ha => hq a ((h.run g hg).2.1 a ha), (h.run g hg).2.2⟩⟩

theorem H.any {Q : α → Prop} {m : GM α} (h : H I m Q) : H I m T := h.weaken fun _ _ => trivial

theorem H.seq {Q : α → Prop} {Q' : β → Prop} {m : GM α} {f : α → GM β}
    (hm : H I m Q) (hf : ∀ a, Q a → H I (f a) Q') : H I (m >>= f) Q' := by
  constructor
  intro g hg
  have h1 := hm.run g hg
  rw [grun_bind]
  rcases h : m.run.run g with ⟨r, g'⟩
  rw [h] at h1
  cases r with
  | ok a => exact (hf a (h1.2.1 a rfl)).run g' h1.1
  | error e => exact ⟨h1.1, fun _ hb => (nomatch hb), fun e' he => by cases he; exact h1.2.2 e rfl⟩

theorem H.seq_any {Q : α → Prop} {Q' : β → Prop} {m : GM α} {f : α → GM β}
    (hm : H I m Q) (hf : ∀ a, H I (f a) Q') : H I (m >>= f) Q' :=
  H.seq hm fun a _ => hf a

theorem H.ite {c : Prop} [Decidable c] {a b : GM α} {Q : α → Prop}
    (ha : c → H I a Q) (hb : ¬c → H I b Q) : H I (if c then a else b) Q := by
  split
  · exact ha ‹_›
  · exact hb ‹_›

theorem H.forLoop {γ : Type} {P : γ → Prop} (l : List γ) (init : β) (f : γ → β → GM (ForInStep β))
    (hl : ∀ a ∈ l, P a) (hf : ∀ a b, P a → H I (f a b) T) : H I (forIn l init f) T := by
  induction l generalizing init with
  | nil => exact H.ret trivial
  | cons a as ih =>
    rw [List.forIn_cons]
    refine H.seq_any (hf a init (hl a List.mem_cons_self)) ?_
    intro r
    cases r with
    | done b => exact H.ret trivial
    | yield b => exact ih b (fun x hx => hl x (List.mem_cons_of_mem _ hx))

theorem H.of_run {m : GM α} {Q : α → Prop}
    (h : ∀ g, Good I g → m.run.run g = (.error underflow, g) ∨
      ∃ a g', m.run.run g = (.ok a, g') ∧ Good I g' ∧ Q a) : H I m Q := by
  constructor
  intro g hg
  rcases h g hg with e | ⟨a, g', e, hg', hq⟩
  · rw [e]
    exact ⟨hg, fun _ ha => (nomatch ha), fun _ he => by cases he; exact .inl rfl⟩
  · rw [e]
    exact ⟨hg', fun _ ha => by cases ha; exact hq, fun _ he => (nomatch he)⟩

theorem h_popExpr : H I popExpr (fun x => I.E x.2) := .of_run fun g hg => by
  simp only [popExpr, grun_bind, grun_get]
  cases hb : g.expr.back? with
  | none => exact .inl rfl
  | some x =>
    exact .inr ⟨_, _, rfl, ⟨hg.cur, hg.var, fun y hy => hg.expr y (mem_of_mem_pop hy), hg.stmt, hg.stk⟩,
      hg.expr x (mem_of_back? hb)⟩

theorem h_popVar : H I popVar I.V := .of_run fun g hg => by
  simp only [popVar, grun_bind, grun_get]
  cases hb : g.var.back? with
  | none => exact .inl rfl
  | some x =>
    exact .inr ⟨_, _, rfl, ⟨hg.cur, fun y hy => hg.var y (mem_of_mem_pop hy), hg.expr, hg.stmt, hg.stk⟩,
      hg.var x (mem_of_back? hb)⟩

theorem h_popNExpr (n : Nat) : H I (popNExpr n) (fun l => ∀ x ∈ l, I.E x.2) := .of_run fun g hg => by
  simp only [popNExpr, grun_bind, grun_get]
  split
  · exact .inl rfl
  · exact .inr ⟨_, _, rfl, ⟨hg.cur, hg.var, fun y hy => hg.expr y (mem_of_mem_extract hy), hg.stmt, hg.stk⟩,
      fun y hy => hg.expr y (mem_of_mem_extract hy)⟩

theorem h_popNVar (n : Nat) : H I (popNVar n) (fun l => ∀ x ∈ l, I.V x) := .of_run fun g hg => by
  simp only [popNVar, grun_bind, grun_get]
  split
  · exact .inl rfl
  · exact .inr ⟨_, _, rfl, ⟨hg.cur, fun y hy => hg.var y (mem_of_mem_extract hy), hg.expr, hg.stmt, hg.stk⟩,
      fun y hy => hg.var y (mem_of_mem_extract hy)⟩

def PopCl (I : GInv) : Prop := ∀ (st : Array (Col × Link)) k, I.K st → I.K (st.extract 0 k)

/-- popping statement fragments (IF only) needs the stack invariant to survive it -/
theorem h_popNStmt (hK : PopCl I) (n : Nat) : H I (popNStmt n) (fun l => ∀ x ∈ l, I.S x.2) :=
  .of_run fun g hg => by
    simp only [popNStmt, grun_bind, grun_get]
    split
    · exact .inl rfl
    · exact .inr ⟨_, _, rfl,
        ⟨hg.cur, hg.var, hg.expr, fun y hy => hg.stmt y (mem_of_mem_extract hy), hK _ _ hg.stk⟩,
        fun y hy => hg.stmt y (mem_of_mem_extract hy)⟩

structure ErrCl (I : GInv) : Prop where
  pushErr : ∀ (l : Link) op e, (l.push op).2 = .error e → I.R e
  appendErr : ∀ (a b : Link) e, (a.append b).2 = .error e → I.R e
  builtin : ∀ v b e, testForBuiltIn v b = .error e → I.R e
  usize : ∀ n e, Val.ofUsize n = .error e → I.R e
  ofLine : ∀ n e, Val.ofLineNumber n = .error e → I.R e
  symbol : ∀ o e, Link.symbolForLineNumber o = .error e → I.R e
  toData : ∀ l c e, (transformToData l c).2 = .error e → I.R e
  lineNumber : ∀ l (c : Col) e, lineNumberOfLink l = .error e → I.R (e.inCol c.1 c.2)
  syntaxAt : ∀ c msg, I.R (syntaxAt c msg)
  wrongArgs : ∀ c : Col, I.R (((Error.mk' Code.illegalFunctionCall).inCol c.1 c.2).withMsg "WRONG NUMBER OF ARGUMENTS")

theorem ErrCl.of_true (h : ∀ e, I.R e) : ErrCl I :=
  ⟨fun _ _ _ _ => h _, fun _ _ _ _ => h _, fun _ _ _ _ => h _, fun _ _ _ => h _, fun _ _ _ => h _,
   fun _ _ _ => h _, fun _ _ _ _ => h _, fun _ _ _ _ => h _, fun _ _ => h _, fun _ => h _⟩

structure ExprCl (I : GInv) : Prop extends ErrCl I where
  push : ∀ l op, I.C l → op.NamesIn I.N I.A → I.C (l.push op).1
  append : ∀ a b, I.C a → I.E b → I.C (a.append b).1
  link : ∀ v, I.V v → I.E v.link
  name : ∀ v, I.V v → I.N v.name
  arr : ∀ v n, I.V v → v.argLen = some n → I.A v.name
  nil : I.N []

structure LabelCl (I : GInv) : Prop where
  nextSymbol : ∀ l, I.C l → I.C l.nextSymbol.1 ∧ I.Y l.nextSymbol.2
  pushSymbol : ∀ l s, I.C l → I.Y s → I.C (l.pushSymbol s)

theorem h_lpush (hC : ExprCl I) (op : Opcode) (ho : op.NamesIn I.N I.A) : H I (lpush op) T := by
  constructor
  intro g hg
  rw [grun_lpush_eq]
  exact ⟨hg.setCur (hC.push _ op hg.cur ho), fun _ _ => trivial, fun e he => .inr (hC.pushErr _ op e he)⟩

theorem h_lappend_of (hC : ExprCl I) (f : Link) (h : ∀ a, I.C a → I.C (a.append f).1) : H I (lappend f) T := by
  constructor
  intro g hg
  rw [grun_lappend]
  exact ⟨hg.setCur (h _ hg.cur), fun _ _ => trivial, fun e he => .inr (hC.appendErr _ f e he)⟩

theorem h_lappend (hC : ExprCl I) (f : Link) (hf : I.E f) : H I (lappend f) T :=
  h_lappend_of hC f fun a ha => hC.append a f ha hf

def AppSCl (I : GInv) : Prop := ∀ a b, I.C a → I.S b → I.C (a.append b).1

theorem h_lnextSymbol (hL : LabelCl I) : H I lnextSymbol I.Y := by
  constructor
  intro g hg
  simp only [lnextSymbol, grun_bind, grun_get, grun_set, grun_pure]
  refine ⟨hg.setCur (hL.nextSymbol _ hg.cur).1, ?_, fun _ he => (nomatch he)⟩
  intro a ha
  cases ha
  exact (hL.nextSymbol _ hg.cur).2

theorem h_lpushSymbol (hL : LabelCl I) (sym : Symbol) (hs : I.Y sym) : H I (lpushSymbol sym) T :=
  H.mod fun _ hg => hg.setCur (hL.pushSymbol _ sym hg.cur hs)

theorem h_exprPopLineNumber (hC : ExprCl I) : H I exprPopLineNumber T := by
  unfold exprPopLineNumber
  refine .seq_any h_popExpr fun x => ?_
  split
  split
  · exact .ret trivial
  · exact .thr _ (hC.lineNumber _ _ _ ‹_›)

section expr
variable (hC : ExprCl I)
include hC

theorem h_pushAsDim (v : VarItem) (hv : I.V v) : H I (pushAsDim v) T := by
  unfold pushAsDim
  refine .seq_any (.lift _ (hC.builtin _ _)) fun _ => ?_
  split
  · refine .ite (fun _ => ?_) fun _ => .thr _ (hC.syntaxAt _ _)
    exact .seq_any (h_lappend hC _ (hC.link v hv)) fun _ => .seq_any (.lift _ (hC.usize _)) fun _ =>
      .seq_any (h_lpush hC _ trivial) fun _ =>
      .seq_any (h_lpush hC _ (hC.arr v _ hv ‹_›)) fun _ => .ret trivial
  · exact .thr _ (hC.syntaxAt _ _)

theorem h_pushAsPopUnary (v : VarItem) (hv : I.V v) : H I (pushAsPopUnary v) T :=
  .seq_any (.lift _ (hC.builtin _ _)) fun _ => .seq_any (h_lpush hC _ (hC.name v hv)) fun _ => .ret trivial

theorem h_pushAsPop (v : VarItem) (hv : I.V v) : H I (pushAsPop v) T := by
  unfold pushAsPop
  refine .seq_any (.lift _ (hC.builtin _ _)) fun _ => ?_
  split
  · refine .ite (fun _ => ?_) fun _ => .seq_any (Q := T) (.thr _ (hC.syntaxAt _ _)) fun _ => .ret trivial
    exact .seq_any (h_lappend hC _ (hC.link v hv)) fun _ => .seq_any (.lift _ (hC.usize _)) fun _ =>
      .seq_any (h_lpush hC _ trivial) fun _ =>
      .seq_any (h_lpush hC _ (hC.arr v _ hv ‹_›)) fun _ => .ret trivial
  · exact .seq_any (h_lpush hC _ (hC.name v hv)) fun _ => .ret trivial

theorem h_pushAsExpression (v : VarItem) (hv : I.V v) : H I (pushAsExpression v) T := by
  rw [pushAsExpression_eq]
  refine .seq_any (h_lappend hC _ (hC.link v hv)) fun _ => .seq (.lift _ fun e he => ?_) fun ops ho => ?_
  · rcases varCode_error he with ⟨n, hn⟩ | rfl
    · exact hC.usize n e hn
    · exact hC.wrongArgs _
  obtain ⟨o, hops, ho⟩ := varCode_ok ho
  have hn : o.NamesIn I.N I.A := by
    rcases ho with ⟨rfl, -⟩ | ⟨len, hl, rfl | rfl⟩ | ⟨lo, hi, hb⟩
    · exact hC.name v hv
    · exact hC.name v hv
    · exact hC.arr v _ hv hl
    · exact builtin_namesIn hb _ _
  have hall : ∀ op ∈ ops, op.NamesIn I.N I.A := by
    rcases hops with rfl | ⟨n, rfl⟩
    · exact List.forall_mem_singleton.2 hn
    · exact List.forall_mem_cons.2 ⟨trivial, List.forall_mem_singleton.2 hn⟩
  exact .seq_any (.forLoop _ _ _ hall fun op _ h => .seq_any (h_lpush hC op h) fun _ => .ret trivial) fun _ =>
    .ret trivial


def VarNames (I : GInv) : Variable → Prop
  | .unary _ i => I.N i.name
  | .array _ i _ => I.N i.name ∧ I.A i.name

omit hC in
theorem VarNames.of_true (hN : ∀ s, I.N s) (hA : ∀ s, I.A s) (v : Variable) : VarNames I v := by
  cases v
  · exact hN _
  · exact ⟨hN _, hA _⟩

theorem h_genVariable (v : Variable) (hv : VarNames I v) :
    H I (genVariable v) (fun r => I.N r.2.1 ∧ ∀ n, r.2.2 = some n → I.A r.2.1) := by
  cases v with
  | unary c i => exact .ret ⟨hv, fun _ h => nomatch h⟩
  | array c i es =>
    exact .seq (h_popNExpr _) fun frags hf =>
      .seq_any (.forLoop _ _ _ hf fun ⟨_, ops⟩ _ hx => .seq_any (h_lappend hC ops hx) fun _ => .ret trivial)
        fun _ => .ret ⟨hv.1, fun _ _ => hv.2⟩

theorem h_unaryExpr (op : Opcode) (c : Col) (ho : op.NamesIn I.N I.A) : H I (unaryExpr op c) T :=
  .seq h_popExpr fun ⟨_, ops⟩ hx => .seq_any (h_lappend hC ops hx) fun _ =>
    .seq_any (h_lpush hC op ho) fun _ => .ret trivial

theorem h_binaryExpr (op : Opcode) (ho : op.NamesIn I.N I.A) : H I (binaryExpr op) T :=
  .seq h_popExpr fun ⟨_, rhs⟩ hr => .seq h_popExpr fun ⟨_, lhs⟩ hl =>
    .seq_any (h_lappend hC lhs hl) fun _ => .seq_any (h_lappend hC rhs hr) fun _ =>
    .seq_any (h_lpush hC op ho) fun _ => .ret trivial

theorem h_genExpression (e : Expr) : H I (genExpression e) T := by
  cases e with
  | single c b | double c b | integer c b | string c b =>
    exact .seq_any (h_lpush hC _ trivial) fun _ => .ret trivial
  | var v => exact .seq h_popVar fun v hv => h_pushAsExpression hC v hv
  | neg c e | not c e => exact h_unaryExpr hC _ c trivial
  | bin op c l r => exact h_binaryExpr hC _ (binOp_namesIn op _ _)

end expr

structure RefCl (I : GInv) : Prop where
  pushJump : ∀ c sym, H I (pushJump c sym) T
  pushIfnot : ∀ c sym, H I (pushIfnot c sym) T
  pushReturnVal : ∀ c sym, H I (pushReturnVal c sym) T
  pushGoto : ∀ c ln, H I (pushGoto c ln) T
  pushGosub : ∀ c ln, H I (pushGosub c ln) T
  pushFor : ∀ c, H I (pushFor c) T
  pushRestore : ∀ c ln, H I (pushRestore c ln) T
  pushRun : ∀ c ln, H I (pushRun c ln) T

structure MarkCl (I : GInv) : Prop where
  markJump : ∀ (l : Link) k c s, I.C l →
    I.C (({ l with whiles := l.whiles ++ [(k, c, l.ops.size, s)] } : Link).push (.jump 0)).1
  markIfNot : ∀ (l : Link) k c s, I.C l →
    I.C (({ l with whiles := l.whiles ++ [(k, c, l.ops.size, s)] } : Link).push (.ifNot 0)).1

/-- what DATA needs: a stacked fragment, turned into data, can be appended to the fragment under construction -/
def TdCl (I : GInv) : Prop := ∀ a l c, I.C a → I.E l → I.C (a.append (transformToData l c).1).1

theorem H.assoc {γ : Type} {m : GM α} {f : α → GM β} {g : β → GM γ} {Q : γ → Prop}
    (h : H I (m >>= f >>= g) Q) : H I (m >>= fun a => f a >>= g) Q := by
  rwa [bind_assoc] at h

theorem h_mark (hC : ExprCl I) (hM : MarkCl I) (k : Bool) (c : Col) (sym : Symbol) (op : Opcode)
    (hop : op = .jump 0 ∨ op = .ifNot 0) :
    H I ((modify fun s => { s with cur := { s.cur with whiles := s.cur.whiles ++ [(k, c, s.cur.ops.size, sym)] } } :
      GM Unit) >>= fun _ => lpush op) T := by
  constructor
  intro g hg
  simp only [grun_bind, grun_modify, grun_lpush_eq]
  refine ⟨hg.setCur ?_, fun _ _ => trivial, fun e he => .inr (hC.pushErr _ op e he)⟩
  rcases hop with rfl | rfl
  · exact hM.markJump g.cur k c sym hg.cur
  · exact hM.markIfNot g.cur k c sym hg.cur

section stmt
variable (hC : ExprCl I) (hL : LabelCl I)
include hC hL

/-- the eight follow from the primitives when a reference and its instruction together keep the
    invariant; `laddUnlinked` alone need not: "reference addresses lie below the end of the code"
    holds again only after the instruction is pushed -/
theorem RefCl.of (href : ∀ l c s op, I.C l → op.NamesIn I.N I.A → I.C ((l.addUnlinked c s).push op).1) :
    RefCl I := by
  have ref : ∀ c sym op, op.NamesIn I.N I.A → H I (laddUnlinked c sym >>= fun _ => lpush op) T := by
    intro c sym op ho
    constructor
    intro g hg
    simp only [laddUnlinked, grun_bind, grun_modify, grun_lpush_eq]
    exact ⟨hg.setCur (href _ c sym op hg.cur ho), fun _ _ => trivial, fun e he => .inr (hC.pushErr _ op e he)⟩
  refine ⟨fun c sym => ref c sym _ trivial, fun c sym => ref c sym _ trivial,
    fun c sym => ref c sym _ trivial, fun c ln => .seq_any (.lift _ (hC.symbol _)) fun sym => ref c sym _ trivial,
    fun c ln => ?_, fun c => ?_, fun c ln => ?_, fun c ln => ?_⟩
  · exact .seq (h_lnextSymbol hL) fun ret hret => .seq_any (ref c ret _ trivial) fun _ =>
      .seq_any (.lift _ (hC.symbol _)) fun sym => .assoc (.seq_any (ref c sym _ trivial) fun _ => h_lpushSymbol hL ret hret)
  · exact .seq (h_lnextSymbol hL) fun nxt hn =>
      .assoc (.seq_any (ref c nxt _ trivial) fun _ => h_lpushSymbol hL nxt hn)
  · exact .ite (fun _ => .seq_any (.lift _ (hC.symbol _)) fun sym => ref c sym _ trivial) fun _ => h_lpush hC _ trivial
  · exact .seq_any (h_lpush hC _ trivial) fun _ =>
      .ite (fun _ => .seq_any (.lift _ (hC.symbol _)) fun sym => ref c sym _ trivial) fun _ => h_lpush hC _ trivial

variable (hR : RefCl I) (hM : MarkCl I)
include hR hM

omit hR in
theorem h_pushWend (c : Col) : H I (pushWend c) T :=
  .seq (h_lnextSymbol hL) fun sym hs =>
    .assoc (.seq_any (h_mark hC hM false c sym _ (.inl rfl)) fun _ => h_lpushSymbol hL sym hs)

omit hR in
theorem h_pushWhile (c : Col) (e : Link) (he : I.E e) : H I (pushWhile c e) T :=
  .seq (h_lnextSymbol hL) fun sym hs => .seq_any (h_lpushSymbol hL sym hs) fun _ =>
    .seq_any (h_lappend hC e he) fun _ => h_mark hC hM true c sym _ (.inr rfl)

omit hM in
theorem h_pushDefFn (c : Col) (ident : Str) (vars : List Str) (e : Link) (hi : I.N ident)
    (hv : ∀ v ∈ vars, I.N v) (he : I.E e) : H I (pushDefFn c ident vars e) T :=
  .seq_any (.lift _ (hC.usize _)) fun _ => .seq_any (h_lpush hC _ trivial) fun _ =>
    .seq_any (h_lpush hC _ hi) fun _ => .seq (h_lnextSymbol hL) fun skip hs =>
    .seq_any (hR.pushJump c skip) fun _ =>
    .seq_any (.forLoop _ _ _ hv fun _ _ hv => .seq_any (h_lpush hC _ hv) fun _ => .ret trivial) fun _ =>
    .seq_any (h_lappend hC e he) fun _ => .seq_any (h_lpush hC _ trivial) fun _ => h_lpushSymbol hL skip hs

omit hL hR hM in
theorem h_defType (op : Opcode) (c : Col) (ho : op.NamesIn I.N I.A) : H I (defType op c) T :=
  .seq_any h_popVar fun _ => .seq_any h_popVar fun _ => .seq_any (h_lpush hC _ trivial) fun _ =>
    .seq_any (h_lpush hC _ trivial) fun _ => .seq_any (h_lpush hC op ho) fun _ => .ret trivial

omit hL hR hM in
theorem h_rangeStmt (op : Opcode) (c : Col) (ho : op.NamesIn I.N I.A) : H I (rangeStmt op c) T :=
  .seq_any (h_exprPopLineNumber hC) fun ⟨_, _⟩ => .seq_any (h_exprPopLineNumber hC) fun ⟨_, _⟩ =>
    .seq_any (.lift _ (hC.ofLine _)) fun _ => .seq_any (h_lpush hC _ trivial) fun _ =>
    .seq_any (.lift _ (hC.ofLine _)) fun _ => .seq_any (h_lpush hC _ trivial) fun _ =>
    .seq_any (h_lpush hC op ho) fun _ => .ret trivial

omit hM in
theorem h_genOn (c : Col) (len : Nat) (b : Bool) : H I (genOn c len b) T := by
  unfold genOn
  refine .seq (h_popNExpr len) fun lns hl => .seq_any (.lift _ (hC.usize _)) fun lenV =>
    .seq h_popExpr fun ⟨subCol, varOps⟩ hv => .seq (h_lnextSymbol hL) fun ret hret =>
    .ite (fun _ => .seq_any (hR.pushReturnVal c ret) fun _ => ?_) fun _ => ?_
  all_goals
    refine .seq_any (h_lpush hC _ trivial) fun _ => .seq_any (h_lappend hC _ hv) fun _ =>
      .seq_any (h_lpush hC _ trivial) fun _ => .seq_any (.forLoop _ _ _ hl fun ⟨col, ops⟩ _ _ => ?_) fun _ =>
      .ite (Q := T) (fun _ => .seq_any (h_lpush hC _ trivial) fun _ =>
        .seq_any (h_lpushSymbol hL ret hret) fun _ => .ret trivial) fun _ => .ret trivial
    dsimp only
    split
    · exact .seq_any (hR.pushGoto _ _) fun _ => .ret trivial
    · exact .seq_any (Q := T) (.thr _ (hC.lineNumber _ _ _ ‹_›)) fun _ => .ret trivial

omit hL hR hM in
theorem h_gs_data (hT : TdCl I) (c : Col) (es : List Expr) : H I (genStatement (.data c es)) T :=
  .seq (h_popNExpr _) fun _ hx =>
    .seq_any (.forLoop _ _ _ hx fun ⟨ec, el⟩ _ h => .seq_any (.lift _ (hC.toData _ _)) fun _ =>
      .seq_any (h_lappend_of hC _ fun a ha => hT a el ec ha h) fun _ => .ret trivial) fun _ => .ret trivial

omit hM in
theorem h_gs_if (hK : PopCl I) (hS : AppSCl I) (c : Col) (p : Expr) (th el : List Stmt) :
    H I (genStatement (.if c p th el)) T := by
  have branch : ∀ frags : List (Col × Link), (∀ x ∈ frags, I.S x.2) →
      H I (forIn frags PUnit.unit fun (x : Col × Link) (_ : PUnit) => do
        lappend x.2; pure (ForInStep.yield PUnit.unit)) T :=
    fun frags hf => .forLoop _ _ _ hf fun x _ h =>
      .seq_any (h_lappend_of hC x.2 fun a ha => hS a x.2 ha h) fun _ => .ret trivial
  simp only [genStatement]
  exact .seq h_popExpr fun x hp => .seq_any (h_lappend hC _ hp) fun _ =>
    .seq (h_lnextSymbol hL) fun elseSym he => .seq_any (hR.pushIfnot c elseSym) fun _ =>
    .seq (h_popNStmt hK _) fun elses hel => .seq (h_popNStmt hK _) fun thens hth =>
    .seq_any (branch thens hth) fun _ =>
    .ite (fun _ => .seq_any (h_lpushSymbol hL _ he) fun _ => .ret trivial) fun _ =>
    .seq (h_lnextSymbol hL) fun fin hf => .seq_any (hR.pushJump c fin) fun _ =>
    .seq_any (h_lpushSymbol hL _ he) fun _ => .seq_any (branch elses hel) fun _ =>
    .seq_any (h_lpushSymbol hL _ hf) fun _ => .ret trivial

/-- every statement, DATA and IF being given: they are the two that not every invariant survives -/
theorem h_genStatement_of (st : Stmt)
    (hdata : ∀ c es, st = .data c es → H I (genStatement st) T)
    (hif : ∀ c p th el, st = .if c p th el → H I (genStatement st) T) : H I (genStatement st) T := by
  cases st with
  | data c es => exact hdata c es rfl
  | «if» c p th el => exact hif c p th el rfl
  | clear c | cls c | cont c | «end» c | new c | «return» c | stop c | troff c | tron c =>
    exact .seq_any (h_lpush hC _ trivial) fun _ => .ret trivial
  | «def» c v ps e =>
    exact .seq (h_popNVar _) fun vars hvs => .seq h_popVar fun fn hfn => .seq h_popExpr fun ⟨_, e⟩ he =>
      .seq_any (h_pushDefFn hC hL hR c fn.name _ e (hC.name fn hfn)
        (List.forall_mem_map.2 fun v hv => hC.name v (hvs v hv)) he) fun _ => .ret trivial
  | defdbl c a b | defint c a b | defsng c a b | defstr c a b => exact h_defType hC _ c trivial
  | delete c a b | list c a b => exact h_rangeStmt hC _ c trivial
  | dim c vs =>
    exact .seq (h_popNVar _) fun vars hvs =>
      .seq_any (.forLoop _ _ _ hvs fun var _ hv => .seq_any (h_pushAsDim hC var hv) fun _ => .ret trivial)
        fun _ => .ret trivial
  | erase c vs =>
    exact .seq (h_popNVar _) fun vars hvs =>
      .seq_any (.forLoop _ _ _ hvs fun var _ hv => .seq_any (h_lpush hC _ (hC.name var hv)) fun _ => .ret trivial)
        fun _ => .ret trivial
  | «for» c v a b s =>
    exact .seq h_popExpr fun ⟨_, stepOps⟩ hs => .seq h_popExpr fun ⟨_, toOps⟩ ht =>
      .seq h_popExpr fun ⟨_, fromOps⟩ hf => .seq h_popVar fun var hv =>
      .seq_any (h_lappend hC fromOps hf) fun _ => .seq_any (h_pushAsPopUnary hC var hv) fun _ =>
      .seq_any (h_lappend hC toOps ht) fun _ => .seq_any (h_lappend hC stepOps hs) fun _ =>
      .seq_any (h_lpush hC _ trivial) fun _ => .seq_any (hR.pushFor _) fun _ => .ret trivial
  | gosub c e =>
    exact .seq_any (h_exprPopLineNumber hC) fun ⟨sub, ln⟩ => .seq_any (hR.pushGosub sub ln) fun _ => .ret trivial
  | goto c e =>
    exact .seq_any (h_exprPopLineNumber hC) fun ⟨sub, ln⟩ => .seq_any (hR.pushGoto sub ln) fun _ => .ret trivial
  | input c caps prompt vs =>
    exact .seq h_popExpr fun ⟨_, prompt⟩ hp => .seq h_popExpr fun ⟨_, caps⟩ hc =>
      .seq_any (h_lappend hC prompt hp) fun _ => .seq_any (h_lappend hC caps hc) fun _ =>
      .seq_any (.lift _ (hC.usize _)) fun _ => .seq_any (h_lpush hC _ trivial) fun _ => .seq (h_popNVar _) fun vars hvs =>
      .seq_any (.forLoop _ _ _ hvs fun var _ hv => .seq_any (h_lpush hC _ (hC.name var hv)) fun _ =>
        .seq_any (h_pushAsPop hC var hv) fun _ => .ret trivial) fun _ =>
      .seq_any (h_lpush hC _ hC.nil) fun _ => .ret trivial
  | «let» c v e =>
    exact .seq h_popExpr fun ⟨_, ops⟩ he => .seq_any (h_lappend hC ops he) fun _ =>
      .seq h_popVar fun var hv => .seq_any (h_pushAsPop hC var hv) fun _ => .ret trivial
  | load c e | save c e =>
    exact .seq h_popExpr fun ⟨_, ops⟩ he => .seq_any (h_lappend hC ops he) fun _ =>
      .seq_any (h_lpush hC _ trivial) fun _ => .ret trivial
  | mid c v pos len e =>
    exact .seq h_popVar fun var hv => .seq h_popExpr fun ⟨_, exprLink⟩ he =>
      .seq h_popExpr fun ⟨_, lenLink⟩ hl => .seq h_popExpr fun ⟨_, posLink⟩ hp =>
      .seq_any (h_pushAsExpression hC var hv) fun _ => .seq_any (h_lappend hC exprLink he) fun _ =>
      .seq_any (h_lappend hC lenLink hl) fun _ => .seq_any (h_lappend hC posLink hp) fun _ =>
      .seq_any (h_lpush hC _ trivial) fun _ => .seq_any (h_pushAsPop hC var hv) fun _ => .ret trivial
  | next c vs =>
    exact .seq (h_popNVar _) fun vars hvs =>
      .seq_any (.forLoop _ _ _ hvs fun var _ hv => .seq_any (.lift _ (hC.builtin _ _)) fun _ =>
        .seq_any (h_lpush hC _ (hC.name var hv)) fun _ => .ret trivial) fun _ => .ret trivial
  | onGoto c e ls | onGosub c e ls => exact h_genOn hC hL hR c _ _
  | print c es =>
    exact .seq (h_popNExpr _) fun exprs hx =>
      .seq_any (.forLoop _ _ _ hx fun ⟨_, ops⟩ _ h => .seq_any (h_lappend hC ops h) fun _ =>
        .seq_any (h_lpush hC _ trivial) fun _ => .ret trivial) fun _ => .ret trivial
  | read c vs =>
    exact .seq (h_popNVar _) fun vars hvs =>
      .seq_any (.forLoop _ _ _ hvs fun var _ hv => .seq_any (h_lpush hC _ trivial) fun _ =>
        .seq_any (h_pushAsPop hC var hv) fun _ => .ret trivial) fun _ => .ret trivial
  | renum c a b s =>
    simp only [genStatement]
    refine .seq_any (h_exprPopLineNumber hC) fun _ => .seq_any (h_exprPopLineNumber hC) fun _ =>
      .seq_any (h_exprPopLineNumber hC) fun _ => ?_
    split
    · exact .seq_any (h_lpush hC _ trivial) fun _ => .seq_any (h_lpush hC _ trivial) fun _ =>
        .seq_any (h_lpush hC _ trivial) fun _ => .seq_any (h_lpush hC _ trivial) fun _ => .ret trivial
    · exact .ret trivial
  | restore c e =>
    exact .seq_any h_popExpr fun ⟨sub, _⟩ => .seq_any (hR.pushRestore sub _) fun _ => .ret trivial
  | run c e =>
    simp only [genStatement]
    refine .seq_any h_popExpr fun x => ?_
    split
    · exact .seq_any (h_lpush hC _ trivial) fun _ => .seq_any (h_lpush hC _ trivial) fun _ => .ret trivial
    · split
      · exact .seq_any (hR.pushRun x.1 _) fun _ => .ret trivial
      · exact .seq_any (hR.pushRun x.1 _) fun _ => .ret trivial
  | swap c a b =>
    exact .seq h_popVar fun var1 h1 => .seq h_popVar fun var2 h2 =>
      .seq_any (.lift _ (hC.builtin _ _)) fun _ => .seq_any (.lift _ (hC.builtin _ _)) fun _ =>
      .seq_any (h_pushAsExpression hC var1 h1) fun _ => .seq_any (h_pushAsExpression hC var2 h2) fun _ =>
      .seq_any (h_lpush hC _ trivial) fun _ => .seq_any (h_pushAsPop hC var1 h1) fun _ =>
      .seq_any (h_pushAsPop hC var2 h2) fun _ => .ret trivial
  | wend c => exact .seq_any (h_pushWend hC hL hM c) fun _ => .ret trivial
  | «while» c e =>
    exact .seq h_popExpr fun ⟨_, ops⟩ he => .seq_any (h_pushWhile hC hL hM c ops he) fun _ => .ret trivial

end stmt

/-- `runFresh` builds the new fragment from the empty one (invariant `C`) and puts the one under
    construction aside, so whatever held of it (`C'`) still does -/
theorem runFresh_keeps {m : GM α} {Q : α → Prop} {C C' : Link → Prop} (hm : H (I.withC C) m Q) (h0 : C {})
    {g : GState} (hg : Good (I.withC C') g) :
    C (runFresh m g).2.1 ∧ Good (I.withC C') (runFresh m g).2.2 ∧
      (∀ a, (runFresh m g).1 = .ok a → Q a) ∧ ∀ e, (runFresh m g).1 = .error e → e = underflow ∨ I.R e := by
  have h := hm.run { g with cur := {} } ⟨h0, hg.var, hg.expr, hg.stmt, hg.stk⟩
  exact ⟨h.1.cur, ⟨hg.cur, h.1.var, h.1.expr, h.1.stmt, h.1.stk⟩, h.2⟩

/-- what the visits of variables and expressions need of `I`: the closure conditions while an expression
    is generated, that the empty fragment is fine, and that the variable item built from fine parts is -/
structure ClosedE (I : GInv) : Prop where
  expr : ExprCl (I.withC I.E)
  nilE : I.E {}
  var : ∀ c name link len, I.E link → I.N name → (∀ n, len = some n → I.A name) → I.V ⟨c, name, link, len⟩

/-- everything the generator and the visitor need of `I`: also the closure conditions while a statement
    is generated, and that what the visitor stacks is fine.  `Cs` is what holds of a statement's fragment
    while it is under construction; complete, it is stacked under `I.S` (`done`) -/
structure Closed (I : GInv) (Cs : Link → Prop) : Prop extends ClosedE I where
  stmt : ExprCl (I.withC Cs)
  label : LabelCl (I.withC Cs)
  ref : RefCl (I.withC Cs)
  mark : MarkCl (I.withC Cs)
  td : TdCl (I.withC Cs)
  pop : PopCl I
  appS : AppSCl (I.withC Cs)
  nilS : Cs {}
  done : ∀ l, Cs l → I.S l
  stk : ∀ st x, I.K st → I.S x.2 → I.K (st.push x)

variable {Cs : Link → Prop}

theorem h_genStatement (hI : Closed I Cs) (st : Stmt) : H (I.withC Cs) (genStatement st) T :=
  h_genStatement_of hI.stmt hI.label hI.ref hI.mark st
    (fun c es e => e ▸ h_gs_data hI.stmt hI.td c es)
    (fun c p th el e => e ▸ h_gs_if hI.stmt hI.label hI.ref hI.pop hI.appS c p th el)

section visit
variable {C' : Link → Prop}

theorem visitVariable_keeps (hE : ClosedE I) (v : Variable) (hv : VarNames I v) (s : VState)
    (h : Good (I.withC C') s.g) : Good (I.withC C') (visitVariable v s).g := by
  obtain ⟨hl, hg, hq, -⟩ := runFresh_keeps (h_genVariable hE.expr v hv) hE.nilE h
  simp only [visitVariable]
  split
  · have hq := hq _ ‹_›
    exact ⟨hg.cur, fun y hy => (mem_push_toList hy).elim (hg.var y)
      (fun e => e ▸ hE.var _ _ _ _ hl hq.1 hq.2), hg.expr, hg.stmt, hg.stk⟩
  · exact ⟨hg.cur, fun y hy => (mem_push_toList hy).elim (hg.var y)
      (fun e => e ▸ hE.var _ _ _ none hl hE.expr.nil (fun _ h => nomatch h)), hg.expr, hg.stmt, hg.stk⟩

theorem visitExpression_keeps (hE : ClosedE I) (e : Expr) (s : VState) (h : Good (I.withC C') s.g) :
    Good (I.withC C') (visitExpression e s).g := by
  obtain ⟨hl, hg, -⟩ := runFresh_keeps (h_genExpression hE.expr e) hE.nilE h
  simp only [visitExpression]
  split <;>
    exact ⟨hg.cur, hg.var, fun y hy => (mem_push_toList hy).elim (hg.expr y) (fun e => e ▸ hl), hg.stmt, hg.stk⟩

theorem visitStatement_keeps (hI : Closed I Cs) (st : Stmt) (s : VState) (h : Good (I.withC C') s.g) :
    Good (I.withC C') (visitStatement st s).g := by
  obtain ⟨hl, hg, -⟩ := runFresh_keeps (h_genStatement hI st) hI.nilS h
  simp only [visitStatement]
  split <;>
    exact ⟨hg.cur, hg.var, hg.expr, fun y hy => (mem_push_toList hy).elim (hg.stmt y) (fun e => e ▸ hI.done _ hl),
      hI.stk _ _ hg.stk (hI.done _ hl)⟩

end visit

theorem visit_keeps (hI : Closed I Cs) {C' : Link → Prop} (n : Node) (hn : ∀ v, n = .var v → VarNames I v)
    (s : VState) (h : Good (I.withC C') s.g) : Good (I.withC C') (visit n s).g := by
  cases n with
  | var v => exact visitVariable_keeps hI.toClosedE v (hn v rfl) s h
  | expr e => exact visitExpression_keeps hI.toClosedE e s h
  | stmt st => exact visitStatement_keeps hI st s h

section keeps
variable (hI : Closed I Cs) {C' : Link → Prop} {W : Node → Prop} (hk : ∀ n, W n → ∀ k ∈ n.kids, W k)
  (hv : ∀ v, W (.var v) → VarNames I v)
include hI hk hv

/-- the walk keeps the stacks good as long as the variables UNDER the node have good names: `W` is
    what is asked of a node, handed down to its children (`hk`), and gives `VarNames` at a variable -/
theorem accept_keeps : ∀ (n : Node) (s : VState), W n → Good (I.withC C') s.g → Good (I.withC C') (accept n s).g :=
  accept_inv (Q := fun s => Good (I.withC C') s.g) hk fun n s hn => visit_keeps hI n (fun v e => hv v (e ▸ hn)) s

theorem acceptStmts_keeps_under (sts : List Stmt) (s : VState) (hn : ∀ st ∈ sts, W (.stmt st)) :
    Good (I.withC C') s.g → Good (I.withC C') (acceptStmts sts s).g :=
  acceptStmts_inv (Q := fun s => Good (I.withC C') s.g) hk
    (fun n s hn => visit_keeps hI n (fun v e => hv v (e ▸ hn)) s) sts s hn

end keeps

section
variable (hI : Closed I Cs) (hN : ∀ v, VarNames I v) {C' : Link → Prop}
include hI hN

theorem acceptStmt_keeps (st : Stmt) (s : VState) :
    Good (I.withC C') s.g → Good (I.withC C') (acceptStmt st s).g :=
  accept_keeps hI (W := fun _ => True) (fun _ _ _ _ => trivial) (fun v _ => hN v) (.stmt st) s trivial

theorem acceptStmts_keeps (sts : List Stmt) (s : VState) :
    Good (I.withC C') s.g → Good (I.withC C') (acceptStmts sts s).g :=
  acceptStmts_keeps_under hI (W := fun _ => True) (fun _ _ _ _ => trivial) (fun v _ => hN v) sts s fun _ _ => trivial

end

end Codegen
end Basic

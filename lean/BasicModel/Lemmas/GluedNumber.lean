import BasicModel.Lemmas.LiteralTy
import BasicModel.Lemmas.LexLine
import BasicModel.Lemmas.SpellingPost
/-
  A digit string glued to a following word (`200ELSE`, `100EQV`, `5DIV`), for `Thm/C16Glued.lean`: instances of
  `number_spec` (Lemmas/LexForms: what `number()` makes of a well-formed numeral in front of any text it stops at).

  `number()` treats an `E`/`D` (either case) after the mantissa as the start of an exponent exactly
  when the character AFTER it is `+`, `-` or a digit (`startsExponent`); otherwise the letter is
  un-read (upper-cased) and the numeral ends in front of it.
-/
namespace Basic
namespace Lex
open Spec

/-- the token `number()` makes of a plain digit string -/
def digitsToken (ds : Str) : Token :=
  if ds.length > 7 then .literal (.double ds)
  else if decimalValue ds ≤ 32767 then .literal (.integer ds)
  else .literal (.single ds)

theorem digitsToken_eq (ds : Str) (hne : ds ≠ []) (hd : AllDigits ds) :
    digitsToken ds = (Numeral.plain ds).token := by
  rw [Numeral.token_eq _ (Numeral.plain_wf ds hne hd), Numeral.plain_text, Numeral.plain_ty, digitsToken]
  split
  · rfl
  · split <;> rfl

theorem number_digits_boundary (ds : Str) (hne : ds ≠ []) (hd : AllDigits ds) (rest : List Char)
    (hb : NumBoundary rest) : number (ds ++ rest) = (digitsToken ds, rest) := by
  have := number_spec _ (Numeral.plain_wf ds hne hd) rest rest
    (.inl ⟨rfl, fun c hc => numCont_mono _ _ c (hb c hc)⟩)
  rwa [Numeral.plain_text, ← digitsToken_eq ds hne hd] at this

theorem number_glued (ds : Str) (hne : ds ≠ []) (hd : AllDigits ds) (e pk : Char) (tl : List Char)
    (he : isExpLetter e = true) (hpk : startsExponent pk = false) :
    number (ds ++ e :: pk :: tl) = (digitsToken ds, foldED e :: pk :: tl) := by
  have := number_spec _ (Numeral.plain_wf ds hne hd) (e :: pk :: tl) (foldED e :: pk :: tl)
    (.inr ⟨rfl, e, pk, tl, rfl, rfl, he, hpk⟩)
  rwa [Numeral.plain_text, ← digitsToken_eq ds hne hd] at this

/-- the un-read exponent letter (upper-cased by `number()`) starts the same tokens as the letter
    that was typed: `alphabetic()` upper-cases what it consumes -/
theorem lexFrom_foldED (e : Char) (he : isExpLetter e = true) (r : List Char) :
    lexFrom (foldED e :: r) false = lexFrom (e :: r) false := by
  have ha : isAlpha e = true ∧ isAlpha (foldED e) = true ∧ upper (foldED e) = upper e ∧ e ≠ '.' ∧
      foldED e ≠ '.' := by
    simp only [isExpLetter, Bool.or_eq_true, decide_eq_true_eq] at he
    rcases he with ((rfl | rfl) | rfl) | rfl <;> decide
  have h : alphabetic (foldED e :: r) = alphabetic (e :: r) := by
    rw [alphabetic_eq _ _ ha.1, alphabetic_eq _ _ ha.2.1]
    simp only [alphaSpan, List.takeWhile_cons, List.dropWhile_cons, ha.1, ha.2.1, if_true, List.map_cons,
      ha.2.2.1]
  rw [lexFrom_cons, lexFrom_cons, h]
  simp [ha.1, ha.2.1, ha.2.2.2.1, ha.2.2.2.2, not_isWs_of_isAlpha, not_isDigit_of_isAlpha]

theorem expLetter_classes (e : Char) (he : isExpLetter e = true) :
    isDigit e = false ∧ isWs e = false ∧ e ≠ '.' := by
  simp only [isExpLetter, Bool.or_eq_true, decide_eq_true_eq] at he
  rcases he with ((rfl | rfl) | rfl) | rfl <;> decide

theorem digits_head (ds : Str) (hne : ds ≠ []) (hd : AllDigits ds) :
    ∃ d ds', ds = d :: ds' ∧ (isDigit d || d = '.') = true := by
  cases ds with
  | nil => contradiction
  | cons d ds' => exact ⟨d, ds', rfl, by simp [hd d (by simp)]⟩

theorem lexFrom_glued (ds : Str) (hne : ds ≠ []) (hd : AllDigits ds) (e pk : Char) (tl : List Char)
    (he : isExpLetter e = true) (hpk : startsExponent pk = false) :
    lexFrom (ds ++ e :: pk :: tl) false = digitsToken ds :: lexFrom (e :: pk :: tl) false := by
  obtain ⟨d, ds', rfl, hd0⟩ := digits_head ds hne hd
  have hn := number_glued (d :: ds') hne hd e pk tl he hpk
  rw [List.cons_append] at hn ⊢
  rw [lexFrom_number d _ hd0, hn, lexFrom_foldED e he]

theorem lexFrom_spaced (ds : Str) (hne : ds ≠ []) (hd : AllDigits ds) (sep : List Char)
    (hsep : ∀ c ∈ sep, isWs c = true) (hsne : sep ≠ []) (e : Char) (tl : List Char)
    (he : isExpLetter e = true) :
    lexFrom (ds ++ (sep ++ e :: tl)) false =
      digitsToken ds :: .whitespace sep.length :: lexFrom (e :: tl) false := by
  obtain ⟨d, ds', rfl, hd0⟩ := digits_head ds hne hd
  obtain ⟨w, sep', rfl⟩ := List.exists_cons_of_ne_nil hsne
  have hb : NumBoundary ((w :: sep') ++ e :: tl) := by
    have hw := hsep w (by simp)
    intro c hc
    simp at hc; subst hc
    simp only [isWs, Bool.or_eq_true, decide_eq_true_eq] at hw
    rcases hw with rfl | rfl <;> decide
  have hn := number_digits_boundary (d :: ds') hne hd _ hb
  rw [List.cons_append] at hn ⊢
  rw [lexFrom_number d _ hd0, hn,
    lexFrom_blankRun _ hsep hsne _ (fun c hc => by cases hc; exact (expLetter_classes e he).2.1)]

theorem digitsToken_inert (ds : Str) : isInert (digitsToken ds) = true ∧ isSolid (digitsToken ds) = true := by
  unfold digitsToken
  split
  · exact ⟨rfl, rfl⟩
  · split <;> exact ⟨rfl, rfl⟩

end Lex
end Basic

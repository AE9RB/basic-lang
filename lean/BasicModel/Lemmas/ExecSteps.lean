import BasicModel.Lemmas.RunSteps
import BasicModel.Lemmas.Session
import BasicModel.Lemmas.Slice
/-
  `executeLoop.loop` has two pure readings: `Runtime.sliceRun` (with a counter; "quantum exhausted" is
  `none`) and `ExprCompile.runSteps` (the result of the last step; "quantum exhausted" is `continue`).
  `sliceRun_eq_runSteps` says they are one, so that what is proved of a run of given code holds of a
  slice and of `execute` (`execute_slice`: `execute` in the two states in which a program runs is
  `finishLoop` of the steps).
-/
namespace Basic
namespace Lemmas.ExecSteps
open Basic.Runtime Basic.Lemmas.ExprCompile

/-- the result of the last step as `sliceRun` reports it: `continue` is the exhausted quantum -/
def ended : Except Error Step → Except Error (Option Event)
  | .ok .continue => .ok none
  | .ok (.event e) => .ok (some e)
  | .error e => .error e

theorem sliceRun_eq_runSteps (env : Env) (h : Bool) (n : Nat) (s : Runtime) :
    (sliceRun env h n s).1 = ended (runSteps env h n s).1 ∧ (sliceRun env h n s).2.1 = (runSteps env h n s).2 := by
  induction n generalizing s with
  | zero => exact ⟨rfl, rfl⟩
  | succ k ih =>
    rw [sliceRun_succ, runSteps]
    rcases (step env h).run.run s with ⟨r, s'⟩
    rcases r with e | st
    · exact ⟨rfl, rfl⟩
    · cases st with
      | «continue» => exact ih s'
      | event e => exact ⟨rfl, rfl⟩

/-- `execute_loop` reports the outcome of its steps through `toEvent`: running out of quantum is the event `running` -/
theorem executeLoop_run (env : Env) (n : Nat) (s : Runtime) :
    ((executeLoop env n).run).run s =
      (toEvent (ended (runSteps env (!s.listing.indirectErrors.isEmpty) n s).1),
       (runSteps env (!s.listing.indirectErrors.isEmpty) n s).2) := by
  rw [Runtime.executeLoop_run]
  unfold slice hasIndirectErrors
  rw [(sliceRun_eq_runSteps env _ n s).1, (sliceRun_eq_runSteps env _ n s).2]

theorem execute_slice (env : Env) (s : Runtime) (q : Nat)
    (hst : s.state = .running ∨ s.state = .inputRunning) (hde : s.listing.directErrors.isEmpty = true) :
    execute env s q =
      finishLoop (toEvent (ended (runSteps env (!s.listing.indirectErrors.isEmpty) q s).1))
        (runSteps env (!s.listing.indirectErrors.isEmpty) q s).2 := by
  rw [execute_active env s q hst (List.isEmpty_iff.1 hde), executeLoop_run]

/-- a slice that runs out of quantum or meets an event returns what the loop returned (out of quantum
    is the event `running`), unless that is the end of the program -/
theorem execute_of_runSteps (env : Env) (s s' : Runtime) (q : Nat) (st : Step) (ev : Event)
    (hst : s.state = .running ∨ s.state = .inputRunning) (hde : s.listing.directErrors.isEmpty = true)
    (hrun : runSteps env (!s.listing.indirectErrors.isEmpty) q s = (.ok st, s'))
    (hev : toEvent (ended (.ok st)) = .ok ev) (hns : ¬ (s'.state = .stopped ∧ ev = .stopped)) :
    execute env s q = (s', ev) := by
  rw [execute_slice env s q hst hde, hrun]
  dsimp only
  rw [hev]
  exact finishLoop_ok ev s' hns

theorem execute_print_slice (env : Env) (s s' : Runtime) (q : Nat) (t : Str)
    (hst : s.state = .running) (hde : s.listing.directErrors.isEmpty = true)
    (hrun : runSteps env (!s.listing.indirectErrors.isEmpty) q s = (.ok (.event (.print t)), s')) :
    execute env s q = (s', .print t) :=
  execute_of_runSteps env s s' q _ _ (.inl hst) hde hrun rfl fun h => nomatch h.2

theorem execute_split (env : Env) (s s' : Runtime) (n m : Nat)
    (hst : s.state = .running ∨ s.state = .inputRunning) (hst' : s'.state = .running ∨ s'.state = .inputRunning)
    (hl : s'.listing = s.listing) (hde : s.listing.directErrors.isEmpty = true)
    (hrun : runSteps env (!s.listing.indirectErrors.isEmpty) n s = (.ok .continue, s')) :
    execute env s (n + m) = execute env s' m := by
  rw [execute_slice env s _ hst hde, execute_slice env s' _ hst' (hl ▸ hde), runSteps_ok_add hrun, hl]

/-- an error on a full stack (more than 65 503 values: every stack overflow, whatever pushed) ends the
    call with the error recorded, the stack EMPTY and nothing to continue, also inside a program -/
theorem execute_error_full_clears (env : Env) (s s' : Runtime) (q : Nat) (e : Error)
    (hst : s.state = .running) (hde : s.listing.directErrors.isEmpty = true)
    (hrun : runSteps env (!s.listing.indirectErrors.isEmpty) q s = (.error e, s'))
    (hs' : s'.state = .running) (hfull : isFull s' = true) :
    execute env s q =
      ({ s' with cont := .stopped, state := .runtimeError (e.inLine (lineNumber s')), contPc := s'.pc,
                 stack := #[] }, .running) := by
  rw [execute_slice env s q (.inl hst) hde, hrun]
  show finishLoop (.error e) s' = _
  rw [finishLoop_error, if_neg (by rw [hs']; nofun), hfull, Bool.or_true, if_pos rfl, if_pos rfl]

end Lemmas.ExecSteps
end Basic

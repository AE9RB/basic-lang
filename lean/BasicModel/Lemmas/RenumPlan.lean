import BasicModel.Model.Listing
/-
  The plan of RENUM (`Listing.renumPlan`, the loop `renumGo` of `Listing::renum`) in closed form.  A plan that
  succeeds IS `planFrom a c` of the lines numbered `≥ b`, and every new number fits (`renumPlan_ok`, `NumbersFit`) —
  for ANY key list, which is what the store invariants need.  For strictly ascending line numbers the outcome is one
  equation (`renumPlan_eq`: the empty plan, "Illegal function call" when a kept line is in the way, "Overflow" when a
  new number does not fit, else the plan); it needs the order, because `oldEnd` is then the largest kept line.
  `Listing.renum` is its plan, and the store rebuilt from the rewritten lines (`renum_eq`).
-/
namespace Basic
namespace Listing

/-- every new number fits: the `i`-th renumbered line gets `n + c * i`, which must be a line number,
    and the loop's `new_num += step` must not overflow `u16` -/
def NumbersFit (n c m : Nat) : Prop :=
  ∀ i, i < m → n + c * i ≤ maxLineNumber ∧ n + c * i + c ≤ 65535

instance (n c m : Nat) : Decidable (NumbersFit n c m) := by unfold NumbersFit; infer_instance

theorem numbersFit_succ (n c m : Nat) :
    NumbersFit n c (m + 1) ↔ (n ≤ maxLineNumber ∧ n + c ≤ 65535) ∧ NumbersFit (n + c) c m := by
  unfold NumbersFit
  constructor
  · intro h
    refine ⟨by simpa using h 0 (by omega), ?_⟩
    intro i hi
    have := h (i + 1) (by omega)
    rw [Nat.mul_succ] at this
    omega
  · intro ⟨h0, h⟩ i hi
    cases i with
    | zero => simpa using h0
    | succ j =>
      have := h j (by omega)
      rw [Nat.mul_succ]
      omega

/-- the plan for the lines that move: they get `n, n + c, …` in order -/
def planFrom (n c : Nat) : List Nat → List (Nat × Nat)
  | [] => []
  | k :: r => (k, n) :: planFrom (n + c) c r

theorem mem_planFrom (c : Nat) : ∀ (ks : List Nat) (n : Nat) (p : Nat × Nat), p ∈ planFrom n c ks →
    ∃ i, i < ks.length ∧ p.2 = n + c * i
  | k :: r, n, p, hp => by
    rcases List.mem_cons.1 hp with rfl | hp
    · exact ⟨0, Nat.zero_lt_succ _, rfl⟩
    · obtain ⟨i, hi, e⟩ := mem_planFrom c r (n + c) p hp
      exact ⟨i + 1, Nat.succ_lt_succ hi, by rw [e, Nat.mul_succ]; omega⟩

theorem renumGo_cons_ge {a b c ln : Nat} (r : List Nat) (oldEnd newNum : Nat) (hge : ln ≥ b) :
    renumGo a b c (ln :: r) oldEnd newNum =
      if oldEnd ≤ maxLineNumber ∧ oldEnd ≥ a then err Code.illegalFunctionCall
      else if newNum > maxLineNumber then err Code.overflow
      else if newNum + c > 65535 then err Code.overflow
      else (renumGo a b c r oldEnd (newNum + c)).map (fun rest => (ln, newNum) :: rest) := by
  rw [renumGo, if_pos hge]
  split
  · rfl
  · split
    · rfl
    · split
      · rfl
      · cases renumGo a b c r oldEnd (newNum + c) <;> rfl

theorem renumGo_cons_lt {a b c ln : Nat} (r : List Nat) (oldEnd newNum : Nat) (hlt : ¬ ln ≥ b) :
    renumGo a b c (ln :: r) oldEnd newNum = renumGo a b c r ln newNum := by
  rw [renumGo, if_neg hlt]

/-- a plan that succeeds, for any key list and loop state: the lines numbered `≥ b` get
    `n, n + c, …` in order, and all of these fit -/
theorem renumGo_ok (a b c : Nat) : ∀ (ks : List Nat) (oldEnd n : Nat) (ch : List (Nat × Nat)),
    renumGo a b c ks oldEnd n = .ok ch →
    ch = planFrom n c (ks.filter (fun k => decide (k ≥ b))) ∧
    NumbersFit n c (ks.filter (fun k => decide (k ≥ b))).length
  | [], _, _, ch, h => by
    rw [renumGo] at h
    cases h
    exact ⟨rfl, fun i hi => absurd hi (Nat.not_lt_zero i)⟩
  | ln :: r, oldEnd, n, ch, h => by
    by_cases hge : ln ≥ b
    · rw [renumGo_cons_ge r oldEnd n hge] at h
      rw [List.filter_cons_of_pos (by simpa using hge), List.length_cons, numbersFit_succ]
      split at h
      · cases h
      · split at h
        · cases h
        · split at h
          · cases h
          · cases hr : renumGo a b c r oldEnd (n + c) with
            | error e => rw [hr] at h; cases h
            | ok rest =>
              rw [hr] at h
              cases h
              obtain ⟨i1, i2⟩ := renumGo_ok a b c r oldEnd (n + c) rest hr
              exact ⟨by rw [planFrom, ← i1], by omega, i2⟩
    · rw [renumGo_cons_lt r oldEnd n hge] at h
      rw [List.filter_cons_of_neg (by simpa using hge)]
      exact renumGo_ok a b c r ln n ch h

theorem renumPlan_ok {ks : List Nat} {a b c : Nat} {ch : List (Nat × Nat)} (h : renumPlan ks a b c = .ok ch) :
    c ≠ 0 ∧ ch = planFrom a c (ks.filter (fun k => decide (k ≥ b))) ∧
    NumbersFit a c (ks.filter (fun k => decide (k ≥ b))).length := by
  unfold renumPlan at h
  split at h
  · cases h
  · exact ⟨‹_›, renumGo_ok a b c ks _ _ ch h⟩

/-- every new number of a plan is a line number -/
theorem renumPlan_le {ks : List Nat} {a b c : Nat} {ch : List (Nat × Nat)} (h : renumPlan ks a b c = .ok ch) :
    ∀ p ∈ ch, p.2 ≤ maxLineNumber := by
  obtain ⟨_, rfl, hfit⟩ := renumPlan_ok h
  intro p hp
  obtain ⟨i, hi, e⟩ := mem_planFrom c _ a p hp
  rw [e]
  exact (hfit i hi).1

/-- the number `renumNumberOnly` leaves on a line: the old one, or the new number of an entry of the plan -/
theorem renumNumberOnly_number (ch : List (Nat × Nat)) (line : Line) :
    (renumNumberOnly ch line).number = line.number ∨ ∃ p ∈ ch, (renumNumberOnly ch line).number = some p.2 := by
  unfold renumNumberOnly
  split
  · split
    · exact .inr ⟨_, List.mem_of_find?_eq_some ‹_›, rfl⟩
    · exact .inl rfl
  · exact .inl rfl

theorem filter_ge_of_lt_all {b ln : Nat} {r : List Nat} (hge : ln ≥ b) (hs : ∀ k ∈ r, ln < k) :
    r.filter (fun k => decide (k ≥ b)) = r :=
  List.filter_eq_self.2 fun k hk => by have := hs k hk; simpa using (by omega : b ≤ k)

/-- **the loop of `renum` in closed form** over ascending line numbers; `oldEnd` is the last kept line
    seen so far, if there has been one (`hinv`: the initial mark 65530 is no line number) -/
theorem renumGo_eq (a b c : Nat) : ∀ (ks : List Nat) (oldEnd n : Nat), ks.Pairwise (· < ·) →
    (∀ k ∈ ks, k ≤ maxLineNumber) → (oldEnd ≤ maxLineNumber → ∀ k ∈ ks, oldEnd < k) →
    renumGo a b c ks oldEnd n =
      if ks.filter (fun k => decide (k ≥ b)) = [] then .ok []
      else if (oldEnd ≤ maxLineNumber ∧ a ≤ oldEnd) ∨ ∃ k ∈ ks, k < b ∧ a ≤ k then err Code.illegalFunctionCall
      else if NumbersFit n c (ks.filter (fun k => decide (k ≥ b))).length then
        .ok (planFrom n c (ks.filter (fun k => decide (k ≥ b))))
      else err Code.overflow
  | [], _, _, _, _, _ => by rw [renumGo]; rfl
  | ln :: r, oldEnd, n, hs, hb, hinv => by
    obtain ⟨hs1, hs2⟩ := List.pairwise_cons.1 hs
    have hbr : ∀ k ∈ r, k ≤ maxLineNumber := fun k hk => hb k (List.mem_cons_of_mem _ hk)
    have hln : ln ≤ maxLineNumber := hb ln List.mem_cons_self
    by_cases hge : ln ≥ b
    · -- a line that moves: so do all after it, and `oldEnd` stays
      have hall : ∀ k ∈ r, ¬ k < b := fun k hk => by have := hs1 k hk; omega
      have hno : ¬ ∃ k ∈ ln :: r, k < b ∧ a ≤ k := by
        rintro ⟨k, hk, hkb, _⟩
        rcases List.mem_cons.1 hk with rfl | hk
        · omega
        · exact hall k hk hkb
      have hno' : ¬ ∃ k ∈ r, k < b ∧ a ≤ k := fun ⟨k, hk, hkb, _⟩ => hall k hk hkb
      rw [renumGo_cons_ge r oldEnd n hge, List.filter_cons_of_pos (by simpa using hge), filter_ge_of_lt_all hge hs1,
        renumGo_eq a b c r oldEnd (n + c) hs2 hbr (fun h k hk => hinv h k (List.mem_cons_of_mem _ hk)),
        filter_ge_of_lt_all hge hs1, if_neg (List.cons_ne_nil _ _), List.length_cons]
      by_cases hc : oldEnd ≤ maxLineNumber ∧ a ≤ oldEnd
      · rw [if_pos (by omega), if_pos (.inl hc)]
      · rw [if_neg (by omega), if_neg (not_or.2 ⟨hc, hno⟩)]
        by_cases h0 : n ≤ maxLineNumber ∧ n + c ≤ 65535
        · rw [if_neg (by omega), if_neg (by omega)]
          -- the right-hand side for `r` begins with "nothing left to move: `.ok []`", the base of `planFrom`
          cases r with
          | nil =>
            rw [if_pos rfl, if_pos ((numbersFit_succ n c ([] : List Nat).length).2
              ⟨h0, fun i hi => absurd hi (Nat.not_lt_zero i)⟩)]
            rfl
          | cons k r' =>
            rw [if_neg (List.cons_ne_nil _ _), if_neg (not_or.2 ⟨hc, hno'⟩)]
            by_cases hf : NumbersFit (n + c) c (k :: r').length
            · rw [if_pos hf, if_pos ((numbersFit_succ n c _).2 ⟨h0, hf⟩)]
              rfl
            · rw [if_neg hf, if_neg (fun h => hf ((numbersFit_succ n c _).1 h).2)]
              rfl
        · rw [if_neg (fun h => h0 ((numbersFit_succ n c _).1 h).1)]
          by_cases h1 : n > maxLineNumber
          · rw [if_pos h1]
          · rw [if_neg h1, if_pos (by omega)]
    · -- a line that is kept becomes `oldEnd`; it lies above the old one
      rw [renumGo_cons_lt r oldEnd n hge, List.filter_cons_of_neg (by simpa using hge),
        renumGo_eq a b c r ln n hs2 hbr (fun _ => hs1)]
      have hiff : ((ln ≤ maxLineNumber ∧ a ≤ ln) ∨ ∃ k ∈ r, k < b ∧ a ≤ k) ↔
          ((oldEnd ≤ maxLineNumber ∧ a ≤ oldEnd) ∨ ∃ k ∈ ln :: r, k < b ∧ a ≤ k) := by
        constructor
        · rintro (⟨_, h⟩ | ⟨k, hk, h⟩)
          · exact .inr ⟨ln, List.mem_cons_self, by omega, h⟩
          · exact .inr ⟨k, List.mem_cons_of_mem _ hk, h⟩
        · rintro (⟨h1, h2⟩ | ⟨k, hk, h⟩)
          · have := hinv h1 ln List.mem_cons_self
            exact .inl ⟨hln, by omega⟩
          · rcases List.mem_cons.1 hk with rfl | hk
            · exact .inl ⟨hln, h.2⟩
            · exact .inr ⟨k, hk, h⟩
      by_cases hf : r.filter (fun k => decide (k ≥ b)) = []
      · rw [if_pos hf, if_pos hf]
      · rw [if_neg hf, if_neg hf]
        by_cases hc : (ln ≤ maxLineNumber ∧ a ≤ ln) ∨ ∃ k ∈ r, k < b ∧ a ≤ k
        · rw [if_pos hc, if_pos (hiff.1 hc)]
        · rw [if_neg hc, if_neg (fun h => hc (hiff.2 h))]

/-- **RENUM's plan in closed form**, for strictly ascending line numbers: a step of 0 is refused; there
    may be nothing to renumber; a kept line (numbered below `b`) at or above the first new number `a` is
    in the way; a new number `a + c * i` may not fit; else the lines numbered `≥ b` get `a, a + c, …` -/
theorem renumPlan_eq {ks : List Nat} (hs : ks.Pairwise (· < ·)) (hb : ∀ k ∈ ks, k ≤ maxLineNumber) (a b c : Nat) :
    renumPlan ks a b c =
      if c = 0 then err Code.illegalFunctionCall
      else if ks.filter (fun k => decide (k ≥ b)) = [] then .ok []
      else if ∃ k ∈ ks, k < b ∧ a ≤ k then err Code.illegalFunctionCall
      else if NumbersFit a c (ks.filter (fun k => decide (k ≥ b))).length then
        .ok (planFrom a c (ks.filter (fun k => decide (k ≥ b))))
      else err Code.overflow := by
  unfold renumPlan
  rw [renumGo_eq a b c ks endMark a hs hb (fun h => absurd h (by decide))]
  have hiff : ((endMark ≤ maxLineNumber ∧ a ≤ endMark) ∨ ∃ k ∈ ks, k < b ∧ a ≤ k) ↔ ∃ k ∈ ks, k < b ∧ a ≤ k :=
    or_iff_right (fun h => absurd h.1 (by decide))
  by_cases hc : c = 0
  · rw [if_pos hc, if_pos hc]
  · rw [if_neg hc, if_neg hc]
    by_cases hf : ks.filter (fun k => decide (k ≥ b)) = []
    · rw [if_pos hf, if_pos hf]
    · rw [if_neg hf, if_neg hf]
      by_cases hk : ∃ k ∈ ks, k < b ∧ a ≤ k
      · rw [if_pos (hiff.2 hk), if_pos hk]
      · rw [if_neg (fun h => hk (hiff.1 h)), if_neg hk]

/-- when a plan that renumbers something succeeds, every kept line lies below all new numbers -/
theorem renumPlan_kept_below {ks : List Nat} {a b c : Nat} {ch : List (Nat × Nat)} (h : renumPlan ks a b c = .ok ch)
    (hne : ch ≠ []) (hs : ks.Pairwise (· < ·)) (hb : ∀ k ∈ ks, k ≤ maxLineNumber) :
    ∀ k ∈ ks, k < b → ∀ p ∈ ch, k < p.2 := by
  intro k hk hkb p hp
  obtain ⟨_, e, _⟩ := renumPlan_ok h
  obtain ⟨i, _, ei⟩ := mem_planFrom c _ a p (e ▸ hp)
  rw [renumPlan_eq hs hb] at h
  have hka : k < a := by
    apply Nat.lt_of_not_le
    intro hka
    split at h
    · cases h
    · split at h
      · cases h; exact hne rfl
      · rw [if_pos ⟨k, hk, hkb, hka⟩] at h
        cases h
  omega

/-- `renum` is its plan, and the store rebuilt from the rewritten lines when the plan succeeds -/
theorem renum_eq (f : List (Nat × Nat) → Line → Line) (l : Listing) (a b c : Nat) :
    l.renum f a b c = (renumPlan (l.source.map (·.1)) a b c).map fun ch =>
      { l with source := rebuild (l.lines.map (f ch)), rooted := !l.source.isEmpty } := by
  unfold Listing.renum
  cases renumPlan (l.source.map (·.1)) a b c <;> rfl

theorem renum_ok {f : List (Nat × Nat) → Line → Line} {l l' : Listing} {a b c : Nat} (h : l.renum f a b c = .ok l') :
    ∃ ch, renumPlan (l.source.map (·.1)) a b c = .ok ch ∧
      l' = { l with source := rebuild (l.lines.map (f ch)), rooted := !l.source.isEmpty } := by
  rw [renum_eq] at h
  cases hp : renumPlan (l.source.map (·.1)) a b c with
  | error e => rw [hp] at h; cases h
  | ok ch => rw [hp] at h; cases h; exact ⟨ch, rfl, rfl⟩

theorem renum_ok_iff (f : List (Nat × Nat) → Line → Line) (l : Listing) (a b c : Nat) :
    (∃ l', l.renum f a b c = .ok l') ↔ (∃ ch, renumPlan (l.source.map (·.1)) a b c = .ok ch) := by
  rw [renum_eq]
  cases renumPlan (l.source.map (·.1)) a b c with
  | error e => exact ⟨fun ⟨_, h⟩ => (nomatch h), fun ⟨_, h⟩ => (nomatch h)⟩
  | ok ch => exact ⟨fun _ => ⟨ch, rfl⟩, fun _ => ⟨_, rfl⟩⟩

end Listing
end Basic

import BasicModel.Lemmas.SpellingAlias
/-
  C16: respelled comparison operators (`=<`, `=>`, and every pair with one blank run in between)
  in arbitrary contexts whose neighbours are not themselves comparison characters.
-/
namespace Basic
namespace Lex

/-- the token list ends in a comparison character, or in one followed by a blank run -/
def cmpAtEnd (A : List Token) : Bool :=
  match A.reverse with
  | a :: rest => isRawCmp a || (isBlank a && (match rest with | b :: _ => isRawCmp b | [] => false))
  | [] => false

/-- the token list starts with a comparison character, or with a blank run followed by one -/
def cmpAtStart (V : List Token) : Bool :=
  match V with
  | b :: rest => isRawCmp b || (isBlank b && (match rest with | c :: _ => isRawCmp c | [] => false))
  | [] => false

theorem isRawCmp_cases (x : Token) (h : isRawCmp x = true) :
    x = .operator .less ∨ x = .operator .equal ∨ x = .operator .greater := by
  unfold isRawCmp at h
  split at h
  · exact .inl rfl
  · exact .inr (.inl rfl)
  · exact .inr (.inr rfl)
  · cases h

theorem rawCmp_facts (x : Token) (h : isRawCmp x = true) :
    isBlank x = false ∧ isGoHead x = false ∧ isGoTail x = false := by
  rcases isRawCmp_cases x h with rfl | rfl | rfl <;> decide

theorem cmpAtEnd_last (A : List Token) (h : cmpAtEnd A = false) (a : Token) (ha : A.getLast? = some a) :
    isRawCmp a = false := by
  obtain ⟨P, rfl⟩ := List.getLast?_eq_some_iff.1 ha
  simp only [cmpAtEnd, List.reverse_append, List.reverse_cons, List.reverse_nil, List.nil_append,
    List.cons_append, Bool.or_eq_false_iff] at h
  exact h.1

theorem cmpAtEnd_pair (A : List Token) (h : cmpAtEnd A = false) (P : List Token) (a b : Token)
    (e : A = P ++ [a, b]) (hb : isBlank b = true) : isRawCmp a = false := by
  subst e
  simp only [cmpAtEnd, List.reverse_append, List.reverse_cons, List.reverse_nil, List.nil_append,
    List.cons_append, Bool.or_eq_false_iff, hb, Bool.true_and] at h
  exact h.2

theorem Seam.cmp_right (A : List Token) (x : Token) (rest : List Token) (hx : isRawCmp x = true)
    (hA : cmpAtEnd A = false) : Seam A (x :: rest) := by
  obtain ⟨f1, f2, f3⟩ := rawCmp_facts x hx
  refine ⟨?_, ?_, ?_⟩
  · intro P a b z e hz
    simp at hz; subst hz
    cases hb : isBlank b with
    | false => exact tripleMatch_none_of_not_blank a b x hb
    | true =>
      have := cmpAtEnd_pair A hA P a b e hb
      exact tripleMatch_none_of_ends a b x (by simp [this]) (by simp [f3])
  · intro a y z B' _ e
    simp at e; obtain ⟨rfl, -⟩ := e
    exact tripleMatch_none_of_not_blank a x z f1
  · intro a b ha hb
    simp at hb; subst hb
    exact doubleMatch_none_left a x (cmpAtEnd_last A hA a ha)

theorem Seam.cmp_left (P : List Token) (y : Token) (V : List Token) (hy : isRawCmp y = true)
    (hV : cmpAtStart V = false) : Seam (P ++ [y]) V := by
  obtain ⟨f1, f2, -⟩ := rawCmp_facts y hy
  refine ⟨?_, ?_, ?_⟩
  · intro Q a b z e _
    have : b = y := by
      have := congrArg List.getLast? e
      simp at this; exact this.symm
    subst this
    exact tripleMatch_none_of_not_blank a b z f1
  · intro a v1 v2 V' e hB
    simp at e; subst e; subst hB
    cases hb : isBlank v1 with
    | false => exact tripleMatch_none_of_not_blank y v1 v2 hb
    | true =>
      simp only [cmpAtStart, hb, Bool.true_and, Bool.or_eq_false_iff] at hV
      exact tripleMatch_none_of_ends y v1 v2 (by simp [hV.2]) (by simp [f2])
  · intro a b _ hb
    cases V with
    | nil => simp at hb
    | cons v V' =>
      simp at hb; subst hb
      simp only [cmpAtStart, Bool.or_eq_false_iff] at hV
      exact doubleMatch_none_right a v hV.1

theorem G_pair (x y t : Token) (hd : doubleMatch x y = some t) : G [x, y] = [t] := by
  simp only [G, triRec, dblRec, hd]

theorem tripleMatch_ws (x y : Token) (hx : isRawCmp x = true) (hy : isRawCmp y = true) (n m : Nat) :
    tripleMatch x (.whitespace n) y = tripleMatch x (.whitespace m) y := by
  rcases isRawCmp_cases x hx with rfl | rfl | rfl <;> rcases isRawCmp_cases y hy with rfl | rfl | rfl <;> rfl

theorem trimEnd_single_head (b h : Token) (hh : (trimEnd [b]).head? = some h) (hr : isRawCmp h = true) :
    h = b := by
  cases b with
  | whitespace n => simp [trimEnd, trimEndRev] at hh
  | unknown s =>
    simp only [trimEnd, List.reverse_cons, List.reverse_nil, List.nil_append, trimEndRev] at hh
    split at hh
    · simp at hh
    · simp at hh; subst hh; simp [isRawCmp] at hr
  | _ => simpa [trimEnd, trimEndRev] using hh.symm

theorem trimEnd_single_le (b : Token) : (trimEnd [b]).length ≤ 1 := by
  cases b with
  | unknown s =>
    simp only [trimEnd, List.reverse_cons, List.reverse_nil, List.nil_append, trimEndRev]
    split <;> simp
  | _ => simp [trimEnd, trimEndRev]

theorem trimEnd_head_raw (X : List Token) (h : Token) (hh : (trimEnd X).head? = some h)
    (hr : isRawCmp h = true) : X.head? = some h := by
  cases X with
  | nil => simp [trimEnd, trimEndRev] at hh
  | cons c X' =>
    rw [trimEnd_cons] at hh
    split at hh
    · rw [trimEnd_single_head c h hh hr]; rfl
    · simpa using hh

/-- `trim_end` does not uncover a comparison character at the start: it works from the end, and what it drops or
    shortens is a blank run or remark text -/
theorem cmpAtStart_trimEnd (V : List Token) (h : cmpAtStart V = false) : cmpAtStart (trimEnd V) = false := by
  cases V with
  | nil => rfl
  | cons b X =>
    simp only [cmpAtStart, Bool.or_eq_false_iff] at h
    obtain ⟨hb, hx⟩ := h
    rw [trimEnd_cons]
    split
    · cases hs : trimEnd [b] with
      | nil => rfl
      | cons b' r =>
        have hr : r = [] := by
          have := trimEnd_single_le b
          rw [hs] at this
          simpa using this
        subst hr
        simp only [cmpAtStart, Bool.and_false, Bool.or_false]
        cases hq : isRawCmp b' with
        | false => rfl
        | true =>
          have := trimEnd_single_head b b' (by rw [hs]; rfl) hq
          subst this; rw [hb] at hq; cases hq
    · simp only [cmpAtStart, hb, Bool.false_or]
      cases hbl : isBlank b with
      | false => rfl
      | true =>
        simp only [Bool.true_and]
        cases ht : trimEnd X with
        | nil => rfl
        | cons c r =>
          simp only
          cases hq : isRawCmp c with
          | false => rfl
          | true =>
            have := trimEnd_head_raw X c (by rw [ht]; rfl) hq
            cases X with
            | nil => simp at this
            | cons c' X' =>
              simp at this; subst this
              simp only [hbl, Bool.true_and] at hx
              rw [hx] at hq; cases hq

/-- a comparison character is neither a digit nor a blank (so that `lex_cut` applies in front of it), nor `'` -/
theorem rawCmp_char (c : Char) (x : Token) (h : matchMinutia [c] = some x) (hx : isRawCmp x = true) :
    isDigit c = false ∧ isWs c = false ∧ (x == .word .rem2) = false := by
  obtain ⟨c', e, hm⟩ := matchMinutia_some _ _ h
  cases e
  exact (by decide : ∀ p ∈ minutiaTable, isRawCmp p.2 = true →
    isDigit p.1 = false ∧ isWs p.1 = false ∧ (p.2 == .word .rem2) = false) _ hm hx

/-- a spelling of a comparison operator: two comparison characters, adjacent or one blank run apart,
    which the collapse passes put together to `t` -/
structure CmpSpelling (t : Token) where
  c1 : Char
  c2 : Char
  blanks : Str
  x : Token
  y : Token
  h1 : matchMinutia [c1] = some x
  h2 : matchMinutia [c2] = some y
  hx : isRawCmp x = true
  hy : isRawCmp y = true
  hbl : ∀ c ∈ blanks, isWs c = true
  hm : (if blanks = [] then doubleMatch x y else tripleMatch x (.whitespace 1) y) = some t

def CmpSpelling.text {t : Token} (s : CmpSpelling t) : Str := s.c1 :: (s.blanks ++ [s.c2])

theorem cmp_alias {t : Token} (s : CmpSpelling t) (pre post : Str) (A : List Token)
    (hcut : Cut (lineBody pre) A s.c1) (hA : cmpAtEnd A = false)
    (hV : cmpAtStart (lexFrom post false) = false) :
    lex (pre ++ (s.text ++ post)) =
      (lineNo pre, sepRec (G A ++ t :: G (trimEnd (lexFrom post false)))) := by
  obtain ⟨d1, w1, r1⟩ := rawCmp_char s.c1 s.x s.h1 s.hx
  obtain ⟨-, w2, r2⟩ := rawCmp_char s.c2 s.y s.h2 s.hy
  have hys : isSolid s.y = true := by
    rcases isRawCmp_cases s.y s.hy with h | h | h <;> rw [h] <;> rfl
  have hV' := cmpAtStart_trimEnd _ hV
  have hm := s.hm
  simp only [CmpSpelling.text, List.cons_append, List.append_assoc, List.nil_append]
  rw [lex_cut hcut d1 w1, lexFrom_minutia_one s.c1 _ s.x s.h1, r1]
  by_cases hb : s.blanks = []
  · rw [if_pos hb] at hm
    rw [hb, List.nil_append, lexFrom_minutia_one s.c2 post s.y s.h2, r2]
    exact congrArg (Prod.mk _)
      (postPasses_collapse A [s.x] s.y t _ hys
        (G_between A [s.x, s.y] _ t (Seam.cmp_right A s.x _ s.hx hA) (Seam.cmp_left [s.x] s.y _ s.hy hV') (G_pair _ _ t hm)))
  · obtain ⟨k, hk⟩ := lexFrom_blanks_solid s.blanks s.hbl hb (s.c2 :: post) (fun c hc => by cases hc; exact w2)
    rw [if_neg hb, tripleMatch_ws s.x s.y s.hx s.hy 1 k] at hm
    rw [hk, lexFrom_minutia_one s.c2 post s.y s.h2, r2]
    exact congrArg (Prod.mk _)
      (postPasses_collapse A [s.x, .whitespace k] s.y t _ hys
        (G_between A [s.x, .whitespace k, s.y] _ t (Seam.cmp_right A s.x _ s.hx hA)
          (Seam.cmp_left [s.x, .whitespace k] s.y _ s.hy hV') (G_window s.x s.y t k hm)))

theorem cmp_alias_eq {t : Token} (s s' : CmpSpelling t) (pre post : Str) (A : List Token)
    (hcut : Cut (lineBody pre) A s.c1) (hcut' : Cut (lineBody pre) A s'.c1) (hA : cmpAtEnd A = false)
    (hV : cmpAtStart (lexFrom post false) = false) :
    lex (pre ++ (s.text ++ post)) = lex (pre ++ (s'.text ++ post)) := by
  rw [cmp_alias s pre post A hcut hA hV, cmp_alias s' pre post A hcut' hA hV]

theorem isWs_replicate (n : Nat) : ∀ c ∈ List.replicate n ' ', isWs c = true := by
  intro c hc; rw [List.eq_of_mem_replicate hc]; rfl

/-- the spellings the lexer accepts (`n` blanks in between; `><` only with a blank) -/
def leSpelling (rev : Bool) (n : Nat) : CmpSpelling (.operator .lessEqual) :=
  if rev then
    { c1 := '=', c2 := '<', blanks := List.replicate n ' ', x := .operator .equal, y := .operator .less,
      h1 := rfl, h2 := rfl, hx := rfl, hy := rfl,
      hbl := isWs_replicate n,
      hm := by split <;> rfl }
  else
    { c1 := '<', c2 := '=', blanks := List.replicate n ' ', x := .operator .less, y := .operator .equal,
      h1 := rfl, h2 := rfl, hx := rfl, hy := rfl,
      hbl := isWs_replicate n,
      hm := by split <;> rfl }

def geSpelling (rev : Bool) (n : Nat) : CmpSpelling (.operator .greaterEqual) :=
  if rev then
    { c1 := '=', c2 := '>', blanks := List.replicate n ' ', x := .operator .equal, y := .operator .greater,
      h1 := rfl, h2 := rfl, hx := rfl, hy := rfl,
      hbl := isWs_replicate n,
      hm := by split <;> rfl }
  else
    { c1 := '>', c2 := '=', blanks := List.replicate n ' ', x := .operator .greater, y := .operator .equal,
      h1 := rfl, h2 := rfl, hx := rfl, hy := rfl,
      hbl := isWs_replicate n,
      hm := by split <;> rfl }

def neSpelling (n : Nat) : CmpSpelling (.operator .notEqual) :=
  { c1 := '<', c2 := '>', blanks := List.replicate n ' ', x := .operator .less, y := .operator .greater,
    h1 := rfl, h2 := rfl, hx := rfl, hy := rfl,
    hbl := by intro c hc; rw [List.eq_of_mem_replicate hc]; rfl,
    hm := by split <;> rfl }

/-- `> <` (at least one blank: `><` is not collapsed) -/
def neSpellingRev (n : Nat) : CmpSpelling (.operator .notEqual) :=
  { c1 := '>', c2 := '<', blanks := List.replicate (n + 1) ' ', x := .operator .greater, y := .operator .less,
    h1 := rfl, h2 := rfl, hx := rfl, hy := rfl,
    hbl := by intro c hc; rw [List.eq_of_mem_replicate hc]; rfl,
    hm := by simp [List.replicate_succ, tripleMatch] }

end Lex
end Basic

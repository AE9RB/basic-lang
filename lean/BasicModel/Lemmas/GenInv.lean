import BasicModel.Lemmas.GenWalk
/-
  The Hoare calculus of `Lemmas/GenWalk.lean` for invariants that look at fragments only
  (`PH I m Q`, `I : Inv`): a variable item is as good as its fragment, labels and names need no care.
  Every rule and every generator function's triple is the one of `GenWalk` for `I.gen`, carried over
  by `PH.of_gen`, and each closure condition gives the one of `GenWalk` (`Ok.expr`, `Ok.label`, `MarkOk.gen`, `RefOk.gen`).
  `Walk I` is what the walk of the visitor needs of an `Inv`: it makes `I.gen` closed (`Walk.closed`, a statement's
  fragment being built under `I.C`), so by `acceptStmts_keeps` every statement fragment handed to `codegen` satisfies
  `I.S` (`fragments_inv`).
-/
namespace Basic
namespace DataOrder
open Link Codegen
variable {α β : Type}

theorem d_throw (e : Error) (g : GState) : (throw e : GM α).run.run g = (.error e, g) := rfl
theorem d_get (g : GState) : (get : GM GState).run.run g = (.ok g, g) := rfl
theorem d_set (t g : GState) : (set t : GM Unit).run.run g = (.ok (), t) := rfl

theorem d_bind_error {m : GM α} {f : α → GM β} {g g' : GState} {e : Error} (h : m.run.run g = (.error e, g')) :
    (m >>= f).run.run g = (.error e, g') := by rw [grun_bind, h]

/-- the invariants: `C` of the fragment under construction, `E` of the fragments on the variable
    and expression stacks, `S` of those on the statement stack, `K` of the statement stack as a whole -/
structure Inv where
  C : Link → Prop
  E : Link → Prop
  S : Link → Prop
  K : Array (Col × Link) → Prop

/-- while an expression or a variable is generated, the fragment under construction is a future
    stack entry -/
def Inv.ex (I : Inv) : Inv := { I with C := I.E }

structure PGood (I : Inv) (g : GState) : Prop where
  cur : I.C g.cur
  var : ∀ v ∈ g.var.toList, I.E v.link
  expr : ∀ x ∈ g.expr.toList, I.E x.2
  stmt : ∀ x ∈ g.stmt.toList, I.S x.2
  stk : I.K g.stmt

/-- what the primitives must keep -/
structure Ok (I : Inv) : Prop where
  push : ∀ l op, I.C l → I.C (l.push op).1
  nextSymbol : ∀ l, I.C l → I.C l.nextSymbol.1
  pushSymbol : ∀ l s, I.C l → I.C (l.pushSymbol s)
  append : ∀ a b, I.C a → I.E b → I.C (a.append b).1

/-- what the two WHILE/WEND marks (statements only) must keep -/
structure MarkOk (I : Inv) : Prop where
  markJump : ∀ (l : Link) k c s, I.C l →
    I.C (({ l with whiles := l.whiles ++ [(k, c, l.ops.size, s)] } : Link).push (.jump 0)).1
  markIfNot : ∀ (l : Link) k c s, I.C l →
    I.C (({ l with whiles := l.whiles ++ [(k, c, l.ops.size, s)] } : Link).push (.ifNot 0)).1

abbrev T {α : Type} : α → Prop := fun _ => True

/-- `PH I m Q`: `m` keeps the generator state good, and its successful results satisfy `Q` -/
structure PH (I : Inv) (m : GM α) (Q : α → Prop) : Prop where
  run : ∀ g, PGood I g → PGood I (m.run.run g).2 ∧ ∀ a, (m.run.run g).1 = .ok a → Q a

variable {I : Inv}

def Inv.gen (I : Inv) : GInv where
  C := I.C
  V := fun v => I.E v.link
  E := I.E
  S := I.S
  K := I.K
  Y := T
  N := T
  A := T
  R := T

theorem PGood.gen {g : GState} (h : PGood I g) : Good I.gen g := ⟨h.cur, h.var, h.expr, h.stmt, h.stk⟩

theorem PGood.of_gen {g : GState} (h : Good I.gen g) : PGood I g := ⟨h.cur, h.var, h.expr, h.stmt, h.stk⟩

theorem PH.of_gen {m : GM α} {Q : α → Prop} (h : H I.gen m Q) : PH I m Q :=
  ⟨fun g hg =>
    have r := h.run g hg.gen
    ⟨.of_gen r.1, r.2.1⟩⟩

theorem PH.gen {m : GM α} {Q : α → Prop} (h : PH I m Q) : H I.gen m Q :=
  ⟨fun g hg =>
    have r := h.run g (.of_gen hg)
    ⟨r.1.gen, r.2, fun _ _ => .inr trivial⟩⟩

theorem PH.any {Q : α → Prop} {m : GM α} (h : PH I m Q) : PH I m T :=
  ⟨fun g hg => ⟨(h.run g hg).1, fun _ _ => trivial⟩⟩


/-- appending a statement fragment (the branches of IF) -/
def AppS (I : Inv) : Prop := ∀ a b, I.C a → I.S b → I.C (a.append b).1

/-- DATA items keep the stack invariant (false for "carries no data": DATA is then treated apart) -/
def TdOk (I : Inv) : Prop := ∀ l c, I.E l → I.E (transformToData l c).1

/-- the eight generator functions that record a pending reference together with its instruction -/
structure RefOk (I : Inv) : Prop where
  pushJump : ∀ c sym, PH I (pushJump c sym) T
  pushIfnot : ∀ c sym, PH I (pushIfnot c sym) T
  pushReturnVal : ∀ c sym, PH I (pushReturnVal c sym) T
  pushGoto : ∀ c ln, PH I (pushGoto c ln) T
  pushGosub : ∀ c ln, PH I (pushGosub c ln) T
  pushFor : ∀ c, PH I (pushFor c) T
  pushRestore : ∀ c ln, PH I (pushRestore c ln) T
  pushRun : ∀ c ln, PH I (pushRun c ln) T

theorem Ok.expr (h : Ok I) : ExprCl I.gen :=
  ⟨.of_true fun _ => trivial, fun l op hl _ => h.push l op hl, h.append, fun _ hv => hv, fun _ _ => trivial,
   fun _ _ _ _ => trivial, trivial⟩

theorem Ok.label (h : Ok I) : LabelCl I.gen :=
  ⟨fun l hl => ⟨h.nextSymbol l hl, trivial⟩, fun l s hl _ => h.pushSymbol l s hl⟩

theorem MarkOk.gen (h : MarkOk I) : MarkCl I.gen := ⟨h.markJump, h.markIfNot⟩

theorem RefOk.gen (h : RefOk I) : RefCl I.gen :=
  ⟨fun c s => (h.pushJump c s).gen, fun c s => (h.pushIfnot c s).gen, fun c s => (h.pushReturnVal c s).gen,
   fun c ln => (h.pushGoto c ln).gen, fun c ln => (h.pushGosub c ln).gen, fun c => (h.pushFor c).gen,
   fun c ln => (h.pushRestore c ln).gen, fun c ln => (h.pushRun c ln).gen⟩

theorem RefOk.of_ref (hC : Ok I) (href : ∀ l c s op, I.C l → I.C ((l.addUnlinked c s).push op).1) :
    RefOk I :=
  have r := RefCl.of hC.expr hC.label fun l c s op hl _ => href l c s op hl
  ⟨fun c s => .of_gen (r.pushJump c s), fun c s => .of_gen (r.pushIfnot c s),
   fun c s => .of_gen (r.pushReturnVal c s), fun c ln => .of_gen (r.pushGoto c ln),
   fun c ln => .of_gen (r.pushGosub c ln), fun c => .of_gen (r.pushFor c),
   fun c ln => .of_gen (r.pushRestore c ln), fun c ln => .of_gen (r.pushRun c ln)⟩

/-- for an invariant that recording a pending reference keeps by itself (not so "reference addresses lie below
    the end of the code": the instruction the reference belongs to is pushed next) -/
theorem RefOk.of (hC : Ok I) (hA : ∀ l c s, I.C l → I.C (l.addUnlinked c s)) : RefOk I :=
  .of_ref hC fun l c s op hl => hC.push _ op (hA l c s hl)

theorem td_of_eq {l l' : Link} {c : Col} {r : Except Error Unit} (hT : TdOk I) (h : I.E l)
    (e : transformToData l c = (l', r)) : I.E l' := by
  have := hT l c h
  rw [e] at this
  exact this

def _root_.Basic.Stmt.plain : Stmt → Bool
  | .data _ _ => false
  | .«if» _ _ _ _ => false
  | _ => true

theorem ph_genStatement_plain (hC : Ok I) (hR : RefOk I) (hM : MarkOk I) (st : Stmt) (hp : Stmt.plain st = true) : PH I (genStatement st) T :=
  .of_gen (h_genStatement_of hC.expr hC.label hR.gen hM.gen st
    (fun _ _ e => by subst e; cases hp) (fun _ _ _ _ e => by subst e; cases hp))

structure VGoodI (I : Inv) (g : GState) : Prop where
  var : ∀ v ∈ g.var.toList, I.E v.link
  expr : ∀ x ∈ g.expr.toList, I.E x.2
  stmt : ∀ x ∈ g.stmt.toList, I.S x.2

/-- everything the walk needs of an invariant -/
structure Walk (I : Inv) : Prop where
  okC : Ok I
  okR : RefOk I
  okM : MarkOk I
  okE : Ok I.ex
  td : TdOk I
  appS : AppS I
  emptyC : I.C {}
  emptyE : I.E {}
  done : ∀ l, I.C l → I.S l
  k : ∀ st, I.K st

theorem VGoodI.empty : VGoodI I {} := ⟨fun _ h => (nomatch h), fun _ h => (nomatch h), fun _ h => (nomatch h)⟩

/-- a statement's fragment is built under `I.C` and stacked under `I.S` -/
theorem Walk.closed (hw : Walk I) : Closed I.gen I.C where
  expr := hw.okE.expr
  nilE := hw.emptyE
  var := fun _ _ _ _ hl _ _ => hl
  stmt := hw.okC.expr
  label := hw.okC.label
  ref := hw.okR.gen
  mark := hw.okM.gen
  td := fun a l c ha hl => hw.okC.append a _ ha (hw.td l c hl)
  pop := fun _ _ _ => hw.k _
  appS := hw.appS
  nilS := hw.emptyC
  done := hw.done
  stk := fun _ _ _ _ => hw.k _

theorem VGoodI.gen (hw : Walk I) {g : GState} (h : VGoodI I g) : Good (I.gen.withC T) g :=
  ⟨trivial, h.var, h.expr, h.stmt, hw.k _⟩

theorem acceptStmt_vgoodI (hw : Walk I) : ∀ (st : Stmt) (s : VState), VGoodI I s.g → VGoodI I (acceptStmt st s).g :=
  fun st s h =>
    have r := acceptStmt_keeps hw.closed (VarNames.of_true (fun _ => trivial) fun _ => trivial) st s (h.gen hw)
    ⟨r.var, r.expr, r.stmt⟩

theorem fragments_inv (hw : Walk I) (ast : List Stmt) : ∀ x ∈ (acceptStmts ast {}).g.stmt.toList, I.S x.2 :=
  (acceptStmts_keeps hw.closed (VarNames.of_true (fun _ => trivial) fun _ => trivial) ast {}
    (VGoodI.empty.gen hw)).stmt

end DataOrder
end Basic

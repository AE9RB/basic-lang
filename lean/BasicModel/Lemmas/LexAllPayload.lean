import BasicModel.Lemmas.LexAll
/-
  C05 for ALL strings: payloads.  Every string-literal token of a lexed line carries exactly
  the characters of a stretch of the source between two quotes (or a quote and the end of the line);
  the remark text after `'` is the rest of the source line, trailing white space aside.
-/
namespace Basic
namespace Lex

-- lemmas about `postPasses l` meet `(lex s).2` below: left open, the unifier walks into the four passes
seal postPasses

/-! What a scanner leaves is a suffix of its input, up to the case of one pushed-back letter. -/

def SrcRem (cs cs' : List Char) : Prop :=
  ∃ w, cs = w ++ cs' ∨ ∃ x r, isAlpha x = true ∧ cs' = upper x :: r ∧ cs = w ++ x :: r

theorem SrcRem.suffix {cs cs' : List Char} (w : List Char) (h : cs = w ++ cs') : SrcRem cs cs' := ⟨w, Or.inl h⟩

theorem srcRem_split (m : Char) (hm : isAlpha m = false) (cs cs' a' tl : List Char) (h : SrcRem cs cs')
    (e : cs' = a' ++ m :: tl) : ∃ a, cs = a ++ m :: tl := by
  obtain ⟨w, h | ⟨x, r, hx, h1, h2⟩⟩ := h
  · exact ⟨w ++ a', by rw [h, e]; simp⟩
  · cases a' with
    | nil =>
      rw [e] at h1
      simp only [List.nil_append, List.cons.injEq] at h1
      have : isAlpha m = true := by rw [h1.1, isAlpha_upper]; exact hx
      rw [hm] at this; cases this
    | cons y a'' =>
      rw [e] at h1
      simp only [List.cons_append, List.cons.injEq] at h1
      exact ⟨w ++ x :: a'', by rw [h2, ← h1.2]; simp⟩

theorem foldED_exp (e : Char) (h : foldED e = 'E' ∨ foldED e = 'D') : isAlpha e = true ∧ foldED e = upper e := by
  unfold foldED at h ⊢
  split
  · rename_i h1; subst h1; decide
  split
  · rename_i h2; subst h2; decide
  · rename_i h1 h2
    simp only [h1, h2, if_false] at h
    rcases h with h | h <;> subst h <;> decide

theorem srcRem_number (c : Char) (cs : List Char) (hc : (isDigit c || c = '.') = true) :
    SrcRem (c :: cs) (number (c :: cs)).2 := by
  obtain ⟨k, -, -, h2, -⟩ := numberLoop_consumed (c :: cs) [] 0 false false (by simp) (not_PB_of_numHead c cs hc)
  refine ⟨(c :: cs).take k, ?_⟩
  rcases h2 with h | ⟨e, r, h1, h2, h3⟩
  · left; show c :: cs = _ ++ (numberLoop (c :: cs) [] 0 false false).2
    rw [h, List.take_append_drop]
  · right
    obtain ⟨ha, hu⟩ := foldED_exp e h3
    refine ⟨e, r, ha, ?_, ?_⟩
    · show (numberLoop (c :: cs) [] 0 false false).2 = _
      rw [h2, hu]
    · rw [← h1, List.take_append_drop]

theorem stringBody_split (cs : List Char) :
    (cs = (stringBody cs).1 ∧ (stringBody cs).2 = []) ∨ cs = (stringBody cs).1 ++ '"' :: (stringBody cs).2 := by
  rw [stringBody_eq]
  have e := (List.takeWhile_append_dropWhile (p := notQuote) (l := cs)).symm
  cases hd : cs.dropWhile notQuote with
  | nil => left; rw [hd, List.append_nil] at e; exact ⟨e, rfl⟩
  | cons x r =>
    right
    have hx : x = '"' := by simpa [notQuote] using dropWhile_head_not notQuote cs x (by rw [hd]; rfl)
    rw [hd, hx] at e
    exact e

theorem srcRem_radixDigits (h : Bool) (cs : List Char) : SrcRem cs (radixDigits h cs).2 := by
  rw [radixDigits_eq]
  refine ⟨cs.takeWhile (radixOk h), ?_⟩
  have e := (List.takeWhile_append_dropWhile (p := radixOk h) (l := cs)).symm
  cases hd : cs.dropWhile (radixOk h) with
  | nil => left; rw [hd] at e; exact e
  | cons x r =>
    rw [hd] at e
    by_cases ha : isAlpha x = true
    · exact Or.inr ⟨x, r, ha, rfl, e⟩
    · left; simp only [upper_of_not_isAlpha x (by simpa using ha)]; exact e

theorem srcRem_cons (c : Char) (cs cs' : List Char) (h : SrcRem cs cs') : SrcRem (c :: cs) cs' := by
  obtain ⟨w, hw | ⟨x, r, hx, h1, h2⟩⟩ := h
  · exact ⟨c :: w, Or.inl (by simp only [List.cons_append]; rw [← hw])⟩
  · exact ⟨c :: w, Or.inr ⟨x, r, hx, h1, by simp only [List.cons_append]; rw [← h2]⟩⟩

theorem srcRem_radix (cs0 : List Char) : SrcRem ('&' :: cs0) (radix ('&' :: cs0)).2 := by
  cases cs0 with
  | nil => exact SrcRem.suffix ['&'] rfl
  | cons x r =>
    rw [radix_eq]
    split
    · exact srcRem_cons _ _ _ (srcRem_cons _ _ _ (srcRem_radixDigits true _))
    · exact srcRem_cons _ _ _ (srcRem_radixDigits false _)

/-- `p` is a quote-free stretch of `cs` that follows a quote and runs to the next quote or to the end -/
def StrAt (cs : List Char) (p : Str) : Prop :=
  ∃ a b, cs = a ++ '"' :: p ++ b ∧ '"' ∉ p ∧ (b = [] ∨ b.head? = some '"')

theorem strAt_here (cs0 : List Char) : StrAt ('"' :: cs0) (stringBody cs0).1 := by
  rw [stringBody_eq]
  refine ⟨[], cs0.dropWhile notQuote, by simp [List.takeWhile_append_dropWhile], ?_, ?_⟩
  · intro h; simpa [notQuote] using takeWhile_all notQuote cs0 _ h
  · cases hd : cs0.dropWhile notQuote with
    | nil => exact Or.inl rfl
    | cons x r =>
      right
      have : x = '"' := by simpa [notQuote] using dropWhile_head_not notQuote cs0 x (by rw [hd]; rfl)
      rw [this]; rfl

theorem numTok_not (t : Token) (u : Str) (h : numTok t u) : (∀ p, t ≠ .literal (.string p)) ∧ t ≠ .word .rem2 := by
  rcases h with h | h | h <;> subst h <;> exact ⟨by intro p; simp, by simp⟩

theorem alphaTok_not (t : Token) (h : AlphaTok t) : (∀ p, t ≠ .literal (.string p)) ∧ t ≠ .word .rem2 := by
  rcases h with h | ⟨i, rfl, -⟩
  · refine ⟨?_, (kwTok_facts t h).2.1⟩
    intro p e; subst e; simp [isKwTok] at h
  · exact ⟨by intro p; simp, by simp⟩

theorem Turn.src {cs cs' : List Char} {q : List Token} {rm : Bool} (h : Turn cs q cs' rm) : SrcRem cs cs' := by
  cases h with
  | ws pk cs h =>
    exact SrcRem.suffix (pk :: cs.takeWhile isWs) (by simp [whitespace, List.takeWhile_append_dropWhile])
  | num pk cs h => exact srcRem_number pk cs h
  | alpha pk cs t ts h e =>
    obtain ⟨-, w, -, hw⟩ := alphabetic_spec pk cs h
    exact SrcRem.suffix w hw
  | str cs =>
    rcases stringBody_split cs with ⟨-, h2⟩ | h
    · rw [h2]
      exact SrcRem.suffix ('"' :: cs) (by simp)
    · refine SrcRem.suffix ('"' :: (stringBody cs).1 ++ ['"']) ?_
      simp only [List.cons_append, List.append_assoc, List.nil_append]
      rw [← h]
  | radix cs => exact srcRem_radix cs
  | min pk cs h =>
    rcases minutia_spec pk cs h with ⟨t, -, hmin⟩ | ⟨-, u, cs', hmin, -, hcat, -⟩ <;> rw [hmin]
    · exact SrcRem.suffix [pk] rfl
    · exact SrcRem.suffix u hcat

/-- string literals come from `string()` only, and the apostrophe token from the apostrophe only, where it begins
    the remark -/
theorem Turn.payload {cs cs' : List Char} {q : List Token} {rm : Bool} (h : Turn cs q cs' rm) (t : Token)
    (ht : t ∈ q) : (∀ p, t = .literal (.string p) → StrAt cs p) ∧
      (t = .word .rem2 → cs = '\'' :: cs' ∧ q = [.word .rem2] ∧ rm = true) := by
  have quiet : ∀ {t : Token} {A : Str → Prop} {B : Prop}, (∀ p, t ≠ .literal (.string p)) ∧ t ≠ .word .rem2 →
      (∀ p, t = .literal (.string p) → A p) ∧ (t = .word .rem2 → B) :=
    fun h => ⟨fun p e => absurd e (h.1 p), fun e => absurd e h.2⟩
  cases h with
  | ws pk cs h =>
    cases List.mem_singleton.mp ht
    exact quiet ⟨by simp [whitespace], by simp [whitespace]⟩
  | num pk cs h =>
    obtain ⟨u, -, -, hu, -, -⟩ := number_rerun pk cs h _ _ rfl
    cases List.mem_singleton.mp ht
    exact quiet (numTok_not _ u hu)
  | alpha pk cs t' ts h e => exact quiet (alphaTok_not _ ((alphabetic_spec pk cs h).1.toks _ (e ▸ ht)))
  | str cs =>
    cases List.mem_singleton.mp ht
    exact ⟨fun p e => by cases e; exact strAt_here cs, nofun⟩
  | radix cs =>
    cases List.mem_singleton.mp ht
    refine quiet ?_
    unfold Lex.radix
    split <;> exact ⟨by simp, by simp⟩
  | min pk cs h =>
    cases List.mem_singleton.mp ht
    rcases minutia_spec pk cs h with ⟨t, hm, hmin⟩ | ⟨-, u, cs', hmin, -⟩ <;> rw [hmin]
    · obtain ⟨pk', epk, htab⟩ := matchMinutia_some _ _ hm
      cases epk
      refine ⟨fun p e => ?_, fun e => ?_⟩
      · subst e
        have := (by decide : ∀ q ∈ minutiaTable, q.2.isWord = true → q.2 = .word .print ∨ q.2 = .word .rem2) _ htab
        rcases this rfl with h | h <;> cases h
      · subst e
        have hpk : pk = '\'' := (by decide : ∀ q ∈ minutiaTable, q.2 = .word .rem2 → q.1 = '\'') _ htab rfl
        subst hpk
        exact ⟨rfl, rfl, rfl⟩
    · exact quiet ⟨by simp, by simp⟩

/-- a string literal among the tokens stands in the text: in front of the text a later turn was given stands what
    the earlier turns consumed (`Turn.src`), and a quote is no pushed-back letter -/
theorem lexed_strAt {cs : List Char} {ts : List Token} (h : Lexed cs ts) (p : Str) :
    .literal (.string p) ∈ ts → StrAt cs p := by
  induction h with
  | nil => intro hp; cases hp
  | code ht _ ih =>
    intro hp
    rcases List.mem_append.mp hp with hp | hp
    · exact (ht.payload _ hp).1 p rfl
    · obtain ⟨a', b, e, h1, h2⟩ := ih hp
      obtain ⟨a, ha⟩ := srcRem_split '"' (by decide) _ _ a' (p ++ b) ht.src (by rw [e]; simp)
      exact ⟨a, b, by rw [ha]; simp, h1, h2⟩
  | remark ht =>
    intro hp
    rcases List.mem_append.mp hp with hp | hp
    · exact (ht.payload _ hp).1 p rfl
    · cases mem_remText hp

/-- the token list ends with `'` and the rest of the text after the apostrophe -/
def RemAt (cs : List Char) (ts : List Token) : Prop :=
  ∃ pre a u0, cs = a ++ '\'' :: u0 ∧ ts = pre ++ .word .rem2 :: remText u0 ∧ .word .rem2 ∉ pre

theorem lexed_remAt {cs : List Char} {ts : List Token} (h : Lexed cs ts) : .word .rem2 ∈ ts → RemAt cs ts := by
  induction h with
  | nil => intro hp; cases hp
  | code ht _ ih =>
    intro hp
    have hq : Token.word .rem2 ∉ _ := fun hq => Bool.noConfusion ((ht.payload _ hq).2 rfl).2.2
    obtain ⟨pre, a', u0, e, h1, h2⟩ := ih ((List.mem_append.mp hp).resolve_left hq)
    obtain ⟨a, ha⟩ := srcRem_split '\'' (by decide) _ _ a' u0 ht.src e
    exact ⟨_ ++ pre, a, u0, ha, by rw [h1]; simp, fun hm => (List.mem_append.mp hm).elim hq h2⟩
  | remark ht =>
    intro hp
    rcases List.mem_append.mp hp with hp | hp
    · obtain ⟨rfl, rfl, -⟩ := (ht.payload _ hp).2 rfl
      exact ⟨[], [], _, rfl, rfl, by simp⟩
    · cases mem_remText hp

/-- payload preservation, string literals, for every source string and every context: the text of every
    string-literal token of the lexed line stands in the source (after the line number) between a quote
    and the next quote or the end of the line, character for character -/
theorem string_payload_all (s : Str) (p : Str) (h : .literal (.string p) ∈ (lex s).2) :
    StrAt (splitLineNumber s).2 p := by
  have hm : .literal (.string p) ∈ rawTokens (splitLineNumber s).2 :=
    mem_postPasses _ _ h (by rintro (h | h | h) <;> simp [isCmp] at h) (by simp) (by intro u; simp)
  exact lexed_strAt (lexed (splitLineNumber s).2) p hm

theorem chain_rem2_pos (l : List Token) (hc : Chain l) (hr : remClash l = false) (h : .word .rem2 ∈ l) :
    l.getLast? = some (.word .rem2) ∨ ∃ u, l.getLast? = some (.unknown u) := by
  induction l with
  | nil => simp at h
  | cons a tl ih =>
    cases tl with
    | nil => simp at h; subst h; exact Or.inl rfl
    | cons b rest =>
      rcases hc with ⟨-, hrest, u, hu, -⟩ | ⟨h1, -, -, h4⟩
      · subst hrest; subst hu; exact Or.inr ⟨u, rfl⟩
      · have hmem : .word .rem2 ∈ b :: rest := by
          rcases List.mem_cons.mp h with e | e
          · exact absurd e.symm h1
          · exact e
        have hrt : remClash (b :: rest) = false := by
          simp only [remClash, Bool.or_eq_false_iff] at hr
          simpa [remClash] using hr.2
        simp only [remClash, Bool.or_eq_false_iff, Bool.and_eq_false_iff] at hr
        rcases h4 with e | h4
        · -- after `REM`: only the remark text
          subst e
          have hok : remTailOk (b :: rest) = true := by
            rcases hr.1 with h' | h'
            · simp at h'
            · simpa using h'
          exfalso
          cases rest with
          | nil => cases b <;> simp [remTailOk] at hok <;> simp at hmem
          | cons c r => simp [remTailOk] at hok
        · rw [List.getLast?_cons_cons]
          exact ih h4 hrt hmem

/-- payload preservation, the remark after an apostrophe, for every source string: if the lexed line holds
    the token `'`, the source (after the line number) is `a ++ ' ++ u0`, and the line ends with the token
    `Unknown (u0 without trailing white space)` — or with `'` itself when nothing but white space follows.
    PARTIAL: stated for lines without `REM` clash (the `Chain` says nothing behind a clashing `REM`). -/
theorem remark_apostrophe_all_partial (s : Str) (h : .word .rem2 ∈ (lex s).2) (hr : remClash (lex s).2 = false) :
    ∃ a u0, (splitLineNumber s).2 = a ++ '\'' :: u0 ∧
      (lex s).2.getLast? = some (if (trimEndStr u0).isEmpty then .word .rem2 else .unknown (trimEndStr u0)) := by
  have hm : .word .rem2 ∈ rawTokens (splitLineNumber s).2 :=
    mem_postPasses _ _ h (by rintro (h | h | h) <;> simp [isCmp] at h) (by simp) (by intro u; simp)
  obtain ⟨pre, a, u0, e1, e2, -⟩ := lexed_remAt (lexed (splitLineNumber s).2) hm
  refine ⟨a, u0, e1, ?_⟩
  -- the last token after `trim_end`
  have htrim : (trimEnd (rawTokens (splitLineNumber s).2)).getLast? =
      some (if (trimEndStr u0).isEmpty then .word .rem2 else .unknown (trimEndStr u0)) := by
    rw [rawTokens_eq, e2]
    unfold remText
    by_cases hu : u0 = []
    · subst hu
      simp only [if_true]
      rw [trimEnd_snoc]
      simp [trimEndStr]
    · rw [if_neg hu, show pre ++ [Token.word Word.rem2, Token.unknown u0] =
        (pre ++ [Token.word Word.rem2]) ++ [Token.unknown u0] by simp, trimEnd_snoc]
      simp only
      split
      · rw [trimEnd_snoc]; simp
      · simp
  -- the last token of the line
  obtain ⟨t, ht⟩ : ∃ t, (lex s).2.getLast? = some t := by
    cases hl : (lex s).2 with
    | nil => rw [hl] at h; simp at h
    | cons x r => exact ⟨_, List.getLast?_eq_some_getLast (by simp)⟩
  rw [ht]
  have hpos := chain_rem2_pos _ (lex_chain s) hr h
  rcases postPasses_last _ t ht with hl | hmade
  · rw [← hl]; exact htrim
  · exfalso
    rw [ht] at hpos
    rcases hpos with e | ⟨u, e⟩
    · cases e; rcases hmade with h' | h' | h' <;> simp [isCmp] at h'
    · cases e; rcases hmade with h' | h' | h' <;> simp [isCmp] at h'

end Lex
end Basic

import BasicModel.Lemmas.Session
import BasicModel.Lemmas.NoFaultOps
/-
  The footprint of the machine, with its outcome.

  `Prim env k s t` lists the primitive updates the machine performs, each of a `Kind`; `Eff env K` is
  their closure, `OEff env K s o t` the same with the outcome `o` (went on, or threw an error that is
  no fault; only `push` lets the stack grow, and fails beyond the bound).  A relation on states then
  needs no walk of its own: it holds of an instruction, a step, a slice as soon as it holds of the
  updates of the kinds in the footprint (`Eff.to`, `OEff.to`).  The instructions are walked once,
  `execOp_oeff`, with the kinds `touches op`; the contract of a helper is an INSTANCE of `Acts`, which
  the one rule for a call finds by unification on the action.

  `Frame R m` is `Does R m` for a relation blind to the outcome.  `DoesAt R s₀ s m` is the form of the
  walk: it stands at `s` with `R s₀ none s`, and after a `get` the state read is the one it stands
  at, so that a later `set { s₀ with … }` is an update of `s₀`.

  Two footprints, because in `RM` a failure ends the run (`OEff.trans` asks that the first part went
  on), while the functions of the session (`execute`, `enter`, `interrupt`) RECORD a failure in
  `state` and carry on (`enter` at INKEY$ clears after a `push` that overflowed): theirs is `Eff`.
  `Eff` is not `∃ o, OEff`: `Prim.stack` may put any stack, `OPrim.pure` only one that is not longer than the one it found.
-/
namespace Basic
namespace Runtime
variable {α β : Type}
set_option linter.unusedSectionVars false

class FrameRel (R : Runtime → Runtime → Prop) : Prop where
  refl : ∀ s, R s s
  trans : ∀ {a b c}, R a b → R b c → R a c

structure Frame (R : Runtime → Runtime → Prop) (m : RM α) : Prop where
  run : ∀ s, R s (m.run.run s).2

structure FrameFrom (R : Runtime → Runtime → Prop) (s₀ : Runtime) (m : RM α) : Prop where
  run : ∀ s, R s₀ s → R s₀ (m.run.run s).2

/-- the frame relation of an invariant -/
def Stays (P : Runtime → Prop) (s t : Runtime) : Prop := P s → P t

instance (P : Runtime → Prop) : FrameRel (Stays P) := ⟨fun _ => id, fun h1 h2 h => h2 (h1 h)⟩

section
variable {R : Runtime → Runtime → Prop} [FrameRel R] {s₀ : Runtime}

theorem FrameFrom.rd : FrameFrom R s₀ (get : RM Runtime) := ⟨fun _ hs => hs⟩

theorem Frame.seq {m : RM α} {f : α → RM β} (hm : Frame R m) (hf : ∀ a, Frame R (f a)) :
    Frame R (m >>= f) := by
  constructor
  intro s
  have h1 := hm.run s
  rw [run_bind]
  rcases h : m.run.run s with ⟨r, s'⟩
  rw [h] at h1
  cases r with
  | ok a => exact FrameRel.trans h1 ((hf a).run s')
  | error e => exact h1

end

theorem Frame.snd_of_eq {R : Runtime → Runtime → Prop} {m : RM α} {s t : Runtime}
    {r : Except Error α} (hf : Frame R m) (h : m.run.run s = (r, t)) : R s t := by
  have := hf.run s; rw [h] at this; exact this

def fate : Except Error α → Option Error
  | .ok _ => none
  | .error e => some e

theorem fate_ite (c : Prop) [Decidable c] (e : Error) (a : α) :
    fate (if c then .error e else .ok a : Except Error α) = if c then some e else none := by
  split <;> rfl

class OutRel (R : Runtime → Option Error → Runtime → Prop) : Prop where
  refl : ∀ s, R s none s
  trans : ∀ {a b c o}, R a none b → R b o c → R a o c

structure Does (R : Runtime → Option Error → Runtime → Prop) (m : RM α) : Prop where
  run : ∀ s, R s (fate (m.run.run s).1) (m.run.run s).2

structure DoesAt (R : Runtime → Option Error → Runtime → Prop) (s₀ s : Runtime) (m : RM α) : Prop where
  run : R s₀ none s → R s₀ (fate (m.run.run s).1) (m.run.run s).2

theorem OutRel.of_frameRel (R : Runtime → Runtime → Prop) [FrameRel R] : OutRel (fun s _ t => R s t) :=
  ⟨FrameRel.refl, FrameRel.trans⟩

section
variable {R : Runtime → Option Error → Runtime → Prop} [OutRel R] {s₀ : Runtime}

theorem Does.of_at {m : RM α} (h : ∀ s, DoesAt R s s m) : Does R m :=
  ⟨fun s => (h s).run (OutRel.refl s)⟩

theorem DoesAt.of_does {s : Runtime} {m : RM α} (h : Does R m) : DoesAt R s₀ s m :=
  ⟨fun hs => OutRel.trans hs (h.run s)⟩

theorem DoesAt.ret {s : Runtime} (a : α) : DoesAt R s₀ s (pure a : RM α) := ⟨id⟩

theorem DoesAt.wr {s t : Runtime} (h : R s₀ none t) : DoesAt R s₀ s (set t : RM Unit) := ⟨fun _ => h⟩

theorem DoesAt.mod {s : Runtime} {f : Runtime → Runtime} (h : R s none (f s)) : DoesAt R s₀ s (modify f : RM Unit) :=
  ⟨fun hs => OutRel.trans hs h⟩

theorem DoesAt.seq {s : Runtime} {m : RM α} {f : α → RM β}
    (hm : DoesAt R s₀ s m) (hf : ∀ a s, DoesAt R s₀ s (f a)) : DoesAt R s₀ s (m >>= f) := by
  constructor
  intro hs
  have h1 := hm.run hs
  rw [run_bind]
  rcases h : m.run.run s with ⟨r, s'⟩
  rw [h] at h1
  cases r with
  | ok a => exact (hf a s').run h1
  | error e => exact h1

theorem DoesAt.rd_seq {s : Runtime} {f : Runtime → RM β} (hf : DoesAt R s s (f s)) : DoesAt R s₀ s (get >>= f) := by
  constructor
  intro hs
  rw [run_bind_ok (run_get s)]
  exact OutRel.trans hs (hf.run (OutRel.refl s))

theorem DoesAt.forLoop {s : Runtime} {γ : Type} (l : List γ) (init : β) (f : γ → β → RM (ForInStep β))
    (hf : ∀ a b s, DoesAt R s₀ s (f a b)) : DoesAt R s₀ s (forIn l init f) := by
  induction l generalizing init s with
  | nil => exact DoesAt.ret _
  | cons a as ih =>
    rw [List.forIn_cons]
    refine DoesAt.seq (hf a init s) ?_
    intro r s
    cases r with
    | done b => exact DoesAt.ret _
    | yield b => exact ih b

end

inductive VarOp : Var → Var → Prop
  | store {v v' : Var} {n : Str} {x : Val} : v.store n x = .ok v' → VarOp v v'
  | storeArray {v v' : Var} {n : Str} {arr : List Val} {x : Val} {r : Res Unit} :
      v.storeArray n arr x = (v', r) → VarOp v v'
  | fetchArray {v v' : Var} {n : Str} {arr : List Val} {r : Res Val} :
      v.fetchArray n arr = (v', r) → VarOp v v'
  | dimensionArray {v v' : Var} {n : Str} {arr : List Val} : v.dimensionArray n arr = .ok v' → VarOp v v'
  | eraseArray {v v' : Var} {n : Str} : v.eraseArray n = .ok v' → VarOp v v'
  | defTy {v v' : Var} {t : VarTy} {a b : Val} : v.defTy t a b = .ok v' → VarOp v v'

def RStateOk : RState → Prop
  | .runtimeError e => e.isFault = false
  | _ => True

def _root_.Basic.RState.Sound (a : RState) : Prop := a ≠ .intro ∧ RStateOk a

/-- the `state` or `cont` an update writes is one of the two it found (END and CONT swap them) or a
    sound one: what `NoIntro` and `NoFaultSt` need to survive the update -/
def Carried (s : Runtime) (a : RState) : Prop := a = s.state ∨ a = s.cont ∨ a.Sound

/-- kinds of update: the operand stack; the registers of a running program (`pc`, variables,
    DEF FN table, random seed, trace flags); the print column; the DATA cursor (and CLEAR); the
    protocol state of an instruction that ends a slice; the listing; the bookkeeping of the
    session protocol around a slice -/
inductive Kind where
  | stack | regs | col | data | state | listing | sched
deriving DecidableEq

/-- The order of the constructors matters: the walk (`does_upd`) closes `Prim env ?k s t` by `constructor`,
    which takes the FIRST constructor whose fields fit the update and does not come back when the kind
    then turns out not to be allowed; `sched` fits every update of the fields of `stack`, `col` and
    `resched`, so it stands last.  `resched` is what an instruction does to the protocol state (END,
    CONT, INPUT, LIST), `sched` what `execute`, `enter` and `interrupt` do around a slice.  `env` enters
    through CLEAR's entropy and RENUM's rewriter only. -/
inductive Prim (env : Env) : Kind → Runtime → Runtime → Prop
  | stack (s : Runtime) (st : Array Val) : Prim env .stack s { s with stack := st }
  | regs (s : Runtime) (pc : Nat) (fns : List (Str × (Nat × Nat))) (rand : Nat × Nat × Nat) (tron : Bool)
      (tr : Option Nat) :
      Prim env .regs s { s with pc := pc, functions := fns, rand := rand, tron := tron, tr := tr }
  | vars (s : Runtime) (v : Var) : VarOp s.vars v → Prim env .regs s { s with vars := v }
  | col (s : Runtime) (c : Nat) : Prim env .col s { s with printCol := c }
  | cursor (s : Runtime) (d : Nat) :
      Prim env .data s { s with program := { s.program with link := { s.program.link with dataPos := d } } }
  | clear (s : Runtime) : Prim env .data s (doClear env s)
  | resched (s : Runtime) (a b : RState) (c pc : Nat) : Carried s a → Carried s b →
      Prim env .state s { s with state := a, cont := b, contPc := c, pc := pc }
  | delete (s : Runtime) (lo hi : Option Nat) (l : Listing) (r : Bool) : s.listing.removeRange lo hi = (l, r) →
      Prim env .listing s { s with listing := l, dirty := true, state := .stopped, cont := .stopped,
                                   stack := #[], functions := [] }
  | renum (s : Runtime) (l : Listing) (a b c : Nat) : s.listing.renum env.lineRenum a b c = .ok l →
      Prim env .listing s { s with listing := l, dirty := true, cont := .stopped, stack := #[],
                                   functions := [], state := .stopped }
  | wipe (s : Runtime) :
      Prim env .listing s { s with listing := s.listing.clear, dirty := true, state := .stopped, tron := false }
  | sched (s : Runtime) (a b : RState) (c pc e col : Nat) (st : Array Val) (tr : Option Nat) :
      Carried s a → Carried s b →
      Prim env .sched s { s with state := a, cont := b, contPc := c, pc := pc, entryAddress := e,
                                 printCol := col, stack := st, tr := tr }

inductive Eff (env : Env) (K : Kind → Prop) : Runtime → Runtime → Prop
  | refl (s : Runtime) : Eff env K s s
  | prim {k : Kind} {s t : Runtime} : Prim env k s t → K k → Eff env K s t
  | trans {a b c : Runtime} : Eff env K a b → Eff env K b c → Eff env K a c

section
variable {env : Env} {K : Kind → Prop}

instance : FrameRel (Eff env K) := ⟨.refl, .trans⟩

theorem Eff.to {R : Runtime → Runtime → Prop} [FrameRel R]
    (h : ∀ {k s t}, Prim env k s t → K k → R s t) {s t : Runtime} (e : Eff env K s t) : R s t := by
  induction e with
  | refl s => exact FrameRel.refl s
  | prim p hk => exact h p hk
  | trans _ _ ih1 ih2 => exact FrameRel.trans ih1 ih2

theorem Eff.to_all {R : Runtime → Runtime → Prop} [FrameRel R]
    (h : ∀ {k s t}, Prim env k s t → R s t) {s t : Runtime} (e : Eff env K s t) : R s t :=
  e.to fun p _ => h p

theorem Frame.to {R : Runtime → Runtime → Prop} [FrameRel R] {m : RM α} (hm : Frame (Eff env K) m)
    (h : ∀ {k s t}, Prim env k s t → K k → R s t) : Frame R m :=
  ⟨fun s => (hm.run s).to h⟩

/-- an update of `Prim` that does not let the stack grow goes on; `push` adds one value and reports
    STACK OVERFLOW beyond the bound (a failed `push` leaves 65 536 values: the stack bound is kept by
    the runs that go on, not by all) -/
inductive OPrim (env : Env) : Kind → Runtime → Option Error → Runtime → Prop
  | pure {k : Kind} {s t : Runtime} : Prim env k s t → t.stack.size ≤ s.stack.size → OPrim env k s none t
  | push (s : Runtime) (v : Val) :
      OPrim env .stack s (if s.stack.size + 1 > Gen.stackMaxLen then some stackOverflow else none)
        { s with stack := s.stack.push v }

inductive OEff (env : Env) (K : Kind → Prop) : Runtime → Option Error → Runtime → Prop
  | refl (s : Runtime) : OEff env K s none s
  | fail (s : Runtime) (e : Error) : e.isFault = false → OEff env K s (some e) s
  | prim {k : Kind} {s t : Runtime} {o : Option Error} : OPrim env k s o t → K k → OEff env K s o t
  | trans {a b c : Runtime} {o : Option Error} : OEff env K a none b → OEff env K b o c → OEff env K a o c

instance : OutRel (OEff env K) := ⟨.refl, .trans⟩

theorem OEff.to {R : Runtime → Option Error → Runtime → Prop} [OutRel R]
    (hf : ∀ s e, e.isFault = false → R s (some e) s)
    (h : ∀ {k s o t}, OPrim env k s o t → K k → R s o t) {s t : Runtime} {o : Option Error}
    (e : OEff env K s o t) : R s o t := by
  induction e with
  | refl s => exact OutRel.refl s
  | fail s e he => exact hf s e he
  | prim p hk => exact h p hk
  | trans _ _ ih1 ih2 => exact OutRel.trans ih1 ih2

theorem OEff.mono {K' : Kind → Prop} (hK : ∀ k, K k → K' k) {s t : Runtime} {o : Option Error}
    (e : OEff env K s o t) : OEff env K' s o t :=
  e.to .fail fun p hk => .prim p (hK _ hk)

theorem OPrim.prim {k : Kind} {s t : Runtime} {o : Option Error} (p : OPrim env k s o t) : Prim env k s t := by
  cases p with
  | pure p _ => exact p
  | push s v => exact .stack s _

theorem OEff.eff {s t : Runtime} {o : Option Error} (e : OEff env K s o t) : Eff env K s t :=
  haveI := OutRel.of_frameRel (Eff env K)
  e.to (R := fun s _ t => Eff env K s t) (fun s _ _ => .refl s) fun p hk => .prim p.prim hk

theorem OEff.error_no_fault {s t : Runtime} {e : Error} (h : OEff env K s (some e) t) : e.isFault = false := by
  have : OutRel fun (_ : Runtime) o (_ : Runtime) => ∀ e, o = some e → e.isFault = false :=
    ⟨fun _ _ h => (nomatch h), fun _ h => h⟩
  refine h.to (R := fun _ o _ => ∀ e, o = some e → e.isFault = false) (fun _ _ h _ he => ?_) (fun p _ e he => ?_) e rfl
  · cases he; exact h
  · cases p with
    | pure => cases he
    | push =>
      split at he
      · cases he; rfl
      · cases he

theorem Does.eff {m : RM α} (h : Does (OEff env K) m) : Frame (Eff env K) m := ⟨fun s => (h.run s).eff⟩

theorem OEff.no_fault {s t : Runtime} {r : Except Error α} {e : Error} (h : OEff env K s (fate r) t)
    (he : r = .error e) : e.isFault = false := by
  subst he; exact h.error_no_fault

abbrev Among (ks : List Kind) : Kind → Prop := (· ∈ ks)

abbrev Kind.any : Kind → Prop := fun _ => True

/-- the contract of a helper of the machine: the kinds of update it performs, however it ends.
    Contracts are instances, so that the one rule for a call (`DoesAt.call`) finds the contract of
    the helper called by unification; `ks` is read off the instance. -/
class Acts (env : Env) (m : RM α) (ks : outParam (List Kind)) : Prop where
  does : Does (OEff env (Among ks)) m

theorem DoesAt.call {s₀ s : Runtime} {m : RM α} {ks : List Kind} [h : Acts env m ks] (hK : ∀ k ∈ ks, K k) :
    DoesAt (OEff env K) s₀ s m :=
  .of_does ⟨fun s => (h.does.run s).mono hK⟩

theorem DoesAt.thr {s₀ s : Runtime} {e : Error} (h : e.isFault = false) : DoesAt (OEff env K) s₀ s (throw e : RM α) :=
  ⟨fun hs => .trans hs (.fail s e h)⟩

theorem DoesAt.lift_seq {s₀ s : Runtime} {r : Except Error α} {f : α → RM β} [h : Safe r]
    (hf : ∀ a, r = .ok a → DoesAt (OEff env K) s₀ s (f a)) : DoesAt (OEff env K) s₀ s (liftE r >>= f) := by
  constructor
  intro hs
  rw [run_bind, run_liftE]
  cases r with
  | ok a => exact (hf a rfl).run hs
  | error e => exact .trans hs (.fail s e (h.nfe.out e rfl))

theorem Acts.frame {m : RM α} {ks : List Kind} [h : Acts env m ks] (hK : ∀ k ∈ ks, K k) : Frame (Eff env K) m :=
  ⟨fun s => ((h.does.run s).mono hK).eff⟩

theorem Acts.no_fault {m : RM α} {ks : List Kind} [h : Acts env m ks] {s : Runtime} {e : Error}
    (he : (m.run.run s).1 = .error e) : e.isFault = false :=
  (h.does.run s).no_fault he

/-- for a caller that knows `K` only through hypotheses -/
theorem Among.pair {a b : Kind} (ha : K a) (hb : K b) : ∀ k ∈ [a, b], K k := by
  intro k hk
  cases hk with
  | head => exact ha
  | tail _ hk => cases hk with
    | head => exact hb
    | tail _ hk => cases hk

/-- the side conditions of the constructors of `Prim`: an equation the walk has in its context
    (or one that holds by unfolding), `Carried` -/
macro "prim_side" : tactic =>
  `(tactic| first
    | assumption
    | rfl
    | exact VarOp.store (by assumption)
    | exact VarOp.storeArray (by first | assumption | rfl)
    | exact VarOp.fetchArray (by first | assumption | rfl)
    | exact VarOp.dimensionArray (by assumption)
    | exact VarOp.eraseArray (by assumption)
    | exact Or.inl rfl
    | exact Or.inr (Or.inl rfl)
    | exact Or.inr (Or.inr ⟨nofun, trivial⟩))

/-- `K k`, or `∀ k ∈ ks, K k`, by evaluation: `decide` itself refuses a goal with parameters (the name
    in `touches (.def name) .regs`); the instance reduces all the same -/
macro "kinds_ok" : tactic => `(tactic| exact of_decide_eq_true rfl)

/-- `OEff env K s none t` for a state `t` written down in the code: the update is the primitive
    that fits, it leaves the stack alone or empties it, and its kind is allowed -/
macro "does_upd" : tactic =>
  `(tactic| (apply OEff.prim
             apply OPrim.pure
             (constructor <;> prim_side)
             (first | exact Nat.le_refl _ | exact Nat.zero_le _)
             kinds_ok))

/-- one step of the walk through a `do` block: the rules for `>>=` first, so that a contract is
    only looked for on the actions between the binds -/
macro "does_step" : tactic =>
  `(tactic| first
    | intro _
    | with_reducible apply DoesAt.rd_seq
    | ((with_reducible apply DoesAt.lift_seq); intro _ _)
    | with_reducible apply DoesAt.seq
    | with_reducible apply DoesAt.ret
    | ((with_reducible apply DoesAt.thr); decide)
    | ((with_reducible apply DoesAt.call); kinds_ok)
    | ((with_reducible apply DoesAt.wr); does_upd)
    | ((with_reducible apply DoesAt.mod); does_upd)
    | ((with_reducible apply DoesAt.forLoop); intro _ _ _)
    | split)

/-- `unfold` the action first; `have`s of the do-notation are removed by `dsimp only`.  A goal
    `OEff env K s none { s with … }` left over says that no constructor of `Prim` has exactly these
    fields, or that the kind of the first that has is not allowed. -/
macro "does" : tactic =>
  `(tactic| (try dsimp only
             apply Does.of_at; intro _; repeat' does_step))

instance (v : Val) : Acts env (push v) [.stack] := by
  refine ⟨⟨fun s => ?_⟩⟩
  rw [run_push, fate_ite]
  exact .prim (.push s v) (by decide)

instance : Acts env pop [.stack] := by
  refine ⟨⟨fun s => ?_⟩⟩
  rw [run_pop]
  split
  · exact .prim (.pure (.stack s _) (by show s.stack.pop.size ≤ _; rw [Array.size_pop]; omega)) (by decide)
  · exact .fail s _ rfl

instance (n : Nat) : Acts env (popN n) [.stack] := by
  refine ⟨⟨fun s => ?_⟩⟩
  rw [run_popN]
  split
  · exact .fail s _ rfl
  · exact .prim (.pure (.stack s _) (by show (s.stack.extract 0 _).size ≤ _; rw [Array.size_extract]; omega)) (by decide)

instance : Acts env pop2 [.stack] := ⟨by unfold pop2; does⟩
instance : Acts env popVec [.stack] := ⟨by unfold popVec; does⟩

theorem acts_pop1Push (f : Val → Res Val) (hf : ∀ v, NFE (f v)) : Acts env (pop1Push f) [.stack] :=
  have (v : Val) : Safe (f v) := ⟨hf v⟩
  ⟨by unfold pop1Push; does⟩

theorem acts_pop2Push (f : Val → Val → Res Val) (hf : ∀ a b, NFE (f a b)) : Acts env (pop2Push f) [.stack] :=
  have (a b : Val) : Safe (f a b) := ⟨hf a b⟩
  ⟨by unfold pop2Push; does⟩

instance : Acts env (modify (doClear env)) [.data] :=
  ⟨⟨fun s => .prim (.pure (.clear s) (Nat.zero_le _)) (by decide)⟩⟩

instance : Acts env (modify (doNew env)) [.data, .listing] :=
  ⟨⟨fun s => .trans (.prim (.pure (.clear s) (Nat.zero_le _)) (by decide))
    (.prim (.pure (.wipe _) (Nat.le_refl _)) (by decide))⟩⟩

instance : Acts env (modify doEnd) [.state] := by
  refine ⟨⟨fun s => ?_⟩⟩
  show OEff env _ s none (doEnd s)
  rw [doEnd_eq]
  refine .prim (.pure (.resched s _ _ _ s.pc (.inr (.inr ⟨nofun, trivial⟩)) ?_) (Nat.le_refl _)) (by decide)
  split
  · exact .inl rfl
  · split
    · exact .inr (.inr ⟨nofun, trivial⟩)
    · exact .inr (.inl rfl)

instance (name : Str) : Acts env (doDef name) [.stack, .regs] := ⟨by unfold doDef; does⟩

/-- DEFINT / DEFSNG / DEFDBL / DEFSTR -/
theorem acts_doDefType (t : VarTy) : Acts env (doDefType (Var.defTy · t)) [.stack, .regs] := by
  refine ⟨?_⟩
  unfold doDefType
  refine Does.of_at fun _ => DoesAt.seq (.call (by decide)) ?_
  rintro ⟨a, b⟩ s
  exact .rd_seq (.lift_seq fun v hv => .mod (.prim (.pure (.vars s v (.defTy hv)) (Nat.le_refl _)) (by decide)))

instance : Acts env (doDefType Var.defint) [.stack, .regs] := acts_doDefType .integer
instance : Acts env (doDefType Var.defsng) [.stack, .regs] := acts_doDefType .single
instance : Acts env (doDefType Var.defdbl) [.stack, .regs] := acts_doDefType .double
instance : Acts env (doDefType Var.defstr) [.stack, .regs] := acts_doDefType .string

instance (name : Str) : Acts env (doFn name) [.stack, .regs] := ⟨by unfold doFn; does⟩
instance : Acts env doLetMid [.stack] := ⟨by unfold doLetMid; does⟩
instance : Acts env doOn [.stack, .regs] := ⟨by unfold doOn; does⟩
instance : Acts env doSwap [.stack] := ⟨by unfold doSwap; does⟩

instance : Acts env doRead [.stack, .data] := by
  refine ⟨?_⟩
  unfold doRead
  dsimp only
  refine Does.of_at fun s => .rd_seq (.seq (.wr ?_) ?_)
  · unfold Link.readData
    split
    · exact .prim (.pure (.cursor s _) (Nat.le_refl _)) (by decide)
    · exact .refl s
  · repeat' does_step

/-- NEXT stores the loop variable through `Var.store` -/
theorem does_doNext_loop (name : Str) : ∀ fuel, Does (OEff env (Among [.stack, .regs])) (doNext.loop name fuel) := by
  intro fuel
  induction fuel with
  | zero => unfold doNext.loop; does
  | succ k ih =>
    have : Acts env (doNext.loop name k) [.stack, .regs] := ⟨ih⟩
    unfold doNext.loop; does

instance (name : Str) : Acts env (doNext name) [.stack, .regs] := by
  have (fuel : Nat) : Acts env (doNext.loop name fuel) [.stack, .regs] := ⟨does_doNext_loop name fuel⟩
  exact ⟨by unfold doNext; does⟩

theorem does_doReturn_loop : ∀ fuel rv first, Does (OEff env (Among [.stack, .regs])) (doReturn.loop fuel rv first) := by
  intro fuel
  induction fuel with
  | zero => intro rv first; unfold doReturn.loop; does
  | succ k ih =>
    intro rv first
    have (rv : Option Val) (first : Bool) : Acts env (doReturn.loop k rv first) [.stack, .regs] := ⟨ih rv first⟩
    unfold doReturn.loop; does

instance : Acts env doReturn [.stack, .regs] := by
  have (fuel : Nat) (rv : Option Val) (first : Bool) : Acts env (doReturn.loop fuel rv first) [.stack, .regs] :=
    ⟨does_doReturn_loop fuel rv first⟩
  exact ⟨by unfold doReturn; does⟩

instance : Acts env doCont [.state] := ⟨by unfold doCont; does⟩
instance (n : Str) : Acts env (doInput n) [.stack, .state] := ⟨by unfold doInput; does⟩
instance : Acts env doList [.stack, .state] := ⟨by unfold doList; does⟩
instance : Acts env doPrint [.stack, .col] := ⟨by unfold doPrint; does⟩
instance (mk : Str → Event) (b : Bool) : Acts env (fileOp mk b) [.stack, .state] := ⟨by unfold fileOp; does⟩
instance : Acts env doDelete [.stack, .state, .listing] := ⟨by unfold doDelete; does⟩

instance : Acts env (doRenum env) [.stack, .state, .listing] := by
  refine ⟨?_⟩
  unfold doRenum; does
  all_goals exact .wr (.prim (.pure (.renum _ _ _ _ _ (by assumption)) (Nat.zero_le _)) (by decide))

/-- the instructions that edit the stored program -/
def editsListing : Opcode → Bool
  | .delete | .renum | .new => true
  | _ => false

/-- the instructions that move the DATA cursor (NEW through the CLEAR it performs) -/
def isCursorOp : Opcode → Bool
  | .read | .restore _ | .clear | .new => true
  | _ => false

/-- the instructions that can return an event (or, for `jump`/`cont`/`input`, change `state`) -/
def isEventOp : Opcode → Bool
  | .jump _ | .cls | .cont | .delete | .end | .input _ | .list | .load | .loadRun | .new
  | .print | .renum | .save | .inkey => true
  | _ => false

/-- the instructions of a PRINT of expressions over simple variables: literals, variable
    fetches, arithmetic / comparison / logic, the built-in functions without side effect, `Print` -/
def harmless : Opcode → Bool
  | .literal _ | .push _ | .print
  | .neg | .pow | .mul | .div | .divInt | .mod | .add | .sub | .eq | .notEq | .lt | .ltEq | .gt | .gtEq
  | .not | .and | .or | .xor | .imp | .eqv
  | .abs | .asc | .atn | .cdbl | .chr | .cint | .cos | .csng | .date | .exp | .fix | .hex | .instr | .int
  | .left | .len | .log | .mid | .oct | .pos | .right | .spc | .sgn | .sin | .sqr | .str | .string | .tab
  | .tan | .time | .val => true
  | _ => false

/-- the kinds of update an instruction can perform: a harmless one the stack (PRINT also the
    column); of the others only the cursor instructions the DATA cursor, only the instructions that
    end a slice the protocol state, only DELETE / RENUM / NEW the listing -/
def touches (op : Opcode) : Kind → Prop
  | .stack => True
  | .col => op = .print
  | .regs => harmless op = false
  | .data => harmless op = false ∧ isCursorOp op = true
  | .state => harmless op = false ∧ isEventOp op = true
  | .listing => harmless op = false ∧ isEventOp op = true ∧ editsListing op = true
  | .sched => False

theorem nfe_unFn {op : Opcode} {f : Val → Res Val} (hf : unFn op = some f) (v : Val) : NFE (f v) := by
  cases op <;> cases hf
  case neg => exact Ops.nfe_negate v
  case not => exact Ops.nfe_not v
  case abs => exact Func.nfe_abs v
  case asc => exact Func.nfe_asc v
  case atn => exact Func.nfe_atn v
  case cdbl => exact Func.nfe_cdbl v
  case chr => exact Func.nfe_chr v
  case cint => exact Func.nfe_cint v
  case cos => exact Func.nfe_cos v
  case csng => exact Func.nfe_csng v
  case exp => exact Func.nfe_exp v
  case fix => exact Func.nfe_fix v
  case hex => exact Func.nfe_hex v
  case int => exact Func.nfe_int v
  case len => exact Func.nfe_len v
  case log => exact Func.nfe_log v
  case oct => exact Func.nfe_oct v
  case spc => exact Func.nfe_spc v
  case sgn => exact Func.nfe_sgn v
  case sin => exact Func.nfe_sin v
  case sqr => exact Func.nfe_sqr v
  case str => exact Func.nfe_str v
  case tan => exact Func.nfe_tan v
  case val => exact Func.nfe_val v

theorem nfe_binFn {op : Opcode} {f : Val → Val → Res Val} (hf : binFn op = some f) (a b : Val) : NFE (f a b) := by
  cases op <;> cases hf
  case pow => exact Ops.nfe_power a b
  case mul => exact Ops.nfe_multiply a b
  case div => exact Ops.nfe_divide a b
  case divInt => exact Ops.nfe_divint a b
  case mod => exact Ops.nfe_remainder a b
  case add => exact Ops.nfe_sum a b
  case sub => exact Ops.nfe_subtract a b
  case eq => exact Ops.nfe_equal a b
  case notEq => exact Ops.nfe_notEqual a b
  case lt => exact Ops.nfe_less a b
  case ltEq => exact Ops.nfe_lessEqual a b
  case gt => exact Ops.nfe_greater a b
  case gtEq => exact Ops.nfe_greaterEqual a b
  case and => exact Ops.nfe_and a b
  case or => exact Ops.nfe_or a b
  case xor => exact Ops.nfe_xor a b
  case imp => exact Ops.nfe_imp a b
  case eqv => exact Ops.nfe_eqv a b
  case left => exact Func.nfe_left a b
  case right => exact Func.nfe_right a b
  case string => exact Func.nfe_string a b

instance (op : Opcode) : DecidablePred (touches op) := fun k => by
  cases k <;> (dsimp only [touches]; infer_instance)

/-- **what the instructions do**: the footprint, whether they succeed, throw or return an event, and how
    they can end.  The 45 operator instructions are two cases (`execOp_un`, `execOp_bin`). -/
theorem execOp_oeff (env : Env) (h : Bool) (op : Opcode) : Does (OEff env (touches op)) (execOp env h op) := by
  cases hu : unFn op with
  | some f =>
    have := acts_pop1Push (env := env) f (nfe_unFn hu)
    rw [execOp_un env h hu]
    exact .of_at fun _ => .seq (.call fun _ hk => by rw [List.mem_singleton.1 hk]; trivial) fun _ _ => .ret _
  | none =>
  cases hb : binFn op with
  | some f =>
    have := acts_pop2Push (env := env) f (nfe_binFn hb)
    rw [execOp_bin env h hb]
    exact .of_at fun _ => .seq (.call fun _ hk => by rw [List.mem_singleton.1 hk]; trivial) fun _ _ => .ret _
  | none => cases op <;> cases hu <;> cases hb <;> (simp only [execOp]; does)

theorem execOp_eff (env : Env) (h : Bool) (op : Opcode) : Frame (Eff env (touches op)) (execOp env h op) :=
  (execOp_oeff env h op).eff

/-- **no instruction ever faults**: from any state, with any operands, whatever is on the stack -/
theorem execOp_no_fault (env : Env) (h : Bool) (op : Opcode) (s : Runtime) (e : Error)
    (he : ((execOp env h op).run.run s).1 = .error e) : e.isFault = false :=
  ((execOp_oeff env h op).run s).no_fault he

end

/-- for what does not depend on the environment: any will do -/
instance : Inhabited Env := ⟨⟨fun _ => ⟨none, []⟩, fun _ l => l, (1, 1, 1)⟩⟩

end Runtime
end Basic

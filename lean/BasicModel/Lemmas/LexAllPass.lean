import BasicModel.Lemmas.LexAllRaw
/-
  C05 for ALL strings: the four post-passes keep the `Chain` invariant (`chain_postPasses`); after them
  no two word-like tokens are adjacent (`wordClash_postPasses`) and the line does not end in a blank run
  or in white space (`endOk_postPasses`), whatever the input; every token of the output is one of the input, a
  trimmed remark text, an inserted blank or a token the collapse passes build (`mem_postPasses`,
  `postPasses_last`).  The proofs go along `triRec`, `dblRec`, `sepRec` of Lemmas/LexStable.  `tplRec` is `collapse_triples`
  once more, in the form that looks at every window of the ORIGINAL list; it equals `triRec` (`tplRec_eq_triRec`); it and
  its equations are kept for their statements, nothing here uses them.
-/
namespace Basic
namespace Lex

theorem chain_tail (x : Token) (y : List Token) (h : Chain (x :: y)) (h1 : x ≠ .word .rem1)
    (h2 : x ≠ .word .rem2) : Chain y := by
  cases y with
  | nil => trivial
  | cons b rest =>
    rcases h with ⟨hr, -⟩ | ⟨-, -, -, h⟩
    · rcases hr with e | e
      · exact absurd e h1
      · exact absurd e h2
    · rcases h with e | h
      · exact absurd e h1
      · exact h

theorem chain_head_tok (x : Token) (y : List Token) (h : Chain (x :: y)) : Tok x := by
  cases y with
  | nil => exact h
  | cons b rest =>
    rcases h with ⟨hr, -⟩ | ⟨-, h, -, -⟩
    · rcases hr with e | e <;> (subst e; trivial)
    · exact h

/-- two neighbours of a `Chain` without word clash, before any `REM`: the left one is a scanner product and does not
    absorb the first printed character of the right one -/
theorem chain_neighbours (pre : List Token) (a b : Token) (rest : List Token)
    (hc : Chain (pre ++ a :: b :: rest)) (hw : wordClash (pre ++ a :: b :: rest) = false)
    (hpre : ∀ t ∈ pre, t ≠ .word .rem1) (ha : a ≠ .word .rem1) (ha2 : a ≠ .word .rem2) :
    Tok a ∧ Bnd a (fc b) := by
  induction pre with
  | nil =>
    rcases hc with ⟨hr, -⟩ | ⟨-, h2, h3, -⟩
    · rcases hr with e | e
      · exact absurd e ha
      · exact absurd e ha2
    · simp only [List.nil_append, wordClash, Bool.or_eq_false_iff] at hw
      unfold Adj at h3
      rw [if_neg (by simp [hw.1])] at h3
      exact ⟨h2, h3⟩
  | cons x pre ih =>
    have hx1 : x ≠ .word .rem1 := hpre x (by simp)
    have hx2 : x ≠ .word .rem2 := by
      intro e; subst e
      cases pre with
      | nil =>
        rcases hc with ⟨-, hr, -⟩ | ⟨h1, -⟩
        · exact absurd hr (by simp)
        · exact h1 rfl
      | cons y pre' =>
        rcases hc with ⟨-, hr, -⟩ | ⟨h1, -⟩
        · exact absurd hr (by simp)
        · exact h1 rfl
    refine ih (chain_tail x _ hc hx1 hx2) ?_ (fun t ht => hpre t (by simp [ht]))
    cases hl : pre ++ a :: b :: rest with
    | nil => rfl
    | cons y l =>
      rw [List.cons_append, hl] at hw
      simp only [wordClash, Bool.or_eq_false_iff] at hw
      exact hw.2

theorem chain_dropLast (l : List Token) (x : Token) (h : Chain (l ++ [x])) : Chain l := by
  induction l with
  | nil => trivial
  | cons a l ih =>
    cases l with
    | nil => exact chain_head_tok a [x] h
    | cons b l' =>
      rcases h with ⟨-, hr, -⟩ | ⟨h1, h2, h3, h4⟩
      · simp at hr
      · refine Or.inr ⟨h1, h2, h3, ?_⟩
        rcases h4 with e | h4
        · exact Or.inl e
        · exact Or.inr (ih h4)

theorem trimEndStr_prefix (s : Str) : ∃ w, s = trimEndStr s ++ w := by
  unfold trimEndStr
  refine ⟨(s.reverse.takeWhile isUniWhite).reverse, ?_⟩
  have := List.takeWhile_append_dropWhile (p := isUniWhite) (l := s.reverse)
  have h2 := congrArg List.reverse this
  rw [List.reverse_append, List.reverse_reverse] at h2
  exact h2.symm

theorem minU_prefix (u p w : Str) (h : MinU u) (e : u = p ++ w) (hp : p ≠ []) : MinU p := by
  obtain ⟨c, r, rfl, h1, h2, h3⟩ := h
  cases p with
  | nil => contradiction
  | cons c' p' =>
    simp only [List.cons_append, List.cons.injEq] at e
    obtain ⟨rfl, rfl⟩ := e
    exact ⟨c, p', rfl, h1, h2, fun x hx => h3 x (by simp [hx])⟩

theorem head_prefix (u p w : Str) (e : u = p ++ w) (hp : p ≠ []) : p.head? = u.head? := by
  cases p with
  | nil => contradiction
  | cons c p' => rw [e]; rfl

theorem chain_trim_last (l : List Token) (s : Str) (h : Chain (l ++ [.unknown s]))
    (hne : trimEndStr s ≠ []) : Chain (l ++ [.unknown (trimEndStr s)]) := by
  obtain ⟨w, hw⟩ := trimEndStr_prefix s
  have hhead := head_prefix s _ w hw hne
  have hfc : fc (.unknown (trimEndStr s)) = fc (.unknown s) := by simp [fc, Token.text, hhead]
  induction l with
  | nil => exact minU_prefix s _ w h hw hne
  | cons a l ih =>
    cases l with
    | nil =>
      rcases h with ⟨h1, h2, u, h3, h4, h5⟩ | ⟨h1, h2, h3, h4⟩
      · cases h3
        exact Or.inl ⟨h1, h2, _, rfl, hne, by rw [hhead]; exact h5⟩
      · refine Or.inr ⟨h1, h2, ?_, ?_⟩
        · unfold Adj at h3 ⊢
          rw [hfc]; exact h3
        · rcases h4 with e | h4
          · exact Or.inl e
          · exact Or.inr (minU_prefix s _ w h4 hw hne)
    | cons b l' =>
      rcases h with ⟨-, hr, -⟩ | ⟨h1, h2, h3, h4⟩
      · simp at hr
      · refine Or.inr ⟨h1, h2, h3, ?_⟩
        rcases h4 with e | h4
        · exact Or.inl e
        · exact Or.inr (ih h4)

theorem chain_trimEnd (l : List Token) (h : Chain l) : Chain (trimEnd l) := by
  revert h
  refine snoc_induction (P := fun l => Chain l → Chain (trimEnd l)) (fun h => h) ?_ l
  intro l x ih h
  · rw [trimEnd_snoc]
    have hl := chain_dropLast l x h
    cases x with
    | whitespace n => exact ih hl
    | unknown s =>
      simp only
      split
      · exact ih hl
      · rename_i hne
        exact chain_trim_last l s h (by simpa using hne)
    | _ => exact h

theorem endOk_of_lastOK (l : List Token) (h : ∀ t, l.getLast? = some t → LastOK t) : endOk l = true :=
  (endOk_iff l).2 h

/-- `collapse_triples` without locations: all windows are looked at on the ORIGINAL list, the
    replacements are made from the right (a replacement swallows two tokens of what is already built) -/
def tplRec : List Token → List Token
  | a :: b :: c :: rest =>
    match tripleMatch a b c with
    | some t => t :: (tplRec (b :: c :: rest)).drop 2
    | none => a :: tplRec (b :: c :: rest)
  | ts => ts

def cmpChar (c : Char) : Prop := c = '<' ∨ c = '=' ∨ c = '>'

/-- `BndC` looks at the character through the tests below only, and `<`, `=`, `>` pass them alike -/
theorem bndC_cmp (x : Token) (c c' : Char) (hc : cmpChar c) (hc' : cmpChar c') (h : BndC x c) : BndC x c' := by
  have key : ∀ d, cmpChar d → isADW d = false ∧ isWs d = false ∧ isAlpha d = false ∧ isDigit d = false ∧
      isSuffixChar d = false ∧ numCont false false d = false ∧ upper d = d ∧
      isRadixDigit true d = false ∧ isRadixDigit false d = false ∧ d ≠ 'H' ∧ d ≠ 'h' := by
    rintro d (rfl | rfl | rfl) <;> decide
  obtain ⟨a1, -⟩ := key c hc
  obtain ⟨-, b2, b3, b4, b5, b6, b7, b8, b9, b10, b11⟩ := key c' hc'
  have num : ∀ s, NumBnd s (some c) → NumBnd s (some c') := by
    rintro s (h | ⟨-, h⟩)
    · exact Or.inl h
    · exact Or.inr ⟨b6, h⟩
  cases x with
  | unknown u => rw [show BndC (.unknown u) c = (isADW c = true) from rfl, a1] at h; cases h
  | whitespace n => exact b2
  | literal l =>
    cases l with
    | string s => trivial
    | hex ds => exact ⟨by rw [b7]; exact b8, b7⟩
    | octal ds => exact ⟨by rw [b7]; exact b9, b7, fun _ => ⟨b10, b11⟩⟩
    | single s => exact num s h
    | double s => exact num s h
    | integer s => exact num s h
  | word w => cases w <;> first | exact b3 | exact True.intro
  | operator o => exact fun _ => b3
  | ident i =>
    cases i with
    | plain s => exact ⟨b3, b4, b5⟩
    | _ => trivial
  | _ => trivial

/-- `a'` looks to its left neighbour like `a`: same word-likeness, same first character up to the
    choice among `<`, `=`, `>` -/
def SameIn (a' a : Token) : Prop :=
  a'.isWord = a.isWord ∧
    (fc a' = fc a ∨ ((∃ c, fc a = some c ∧ cmpChar c) ∧ ∃ c', fc a' = some c' ∧ cmpChar c'))

theorem SameIn.refl (a : Token) : SameIn a a := ⟨rfl, Or.inl rfl⟩

theorem adj_sameIn (x a a' : Token) (h : Adj x a) (hs : SameIn a' a) : Adj x a' := by
  unfold Adj at h ⊢
  rw [hs.1]
  split
  · rename_i hw; rw [if_pos hw] at h; exact h
  · rename_i hw
    rw [if_neg hw] at h
    rcases hs.2 with e | ⟨⟨c, e1, h1⟩, c', e2, h2⟩
    · rw [e]; exact h
    · rw [e1] at h; rw [e2]; exact bndC_cmp x c c' h1 h2 h

/-- a pass does not change what the left neighbour of the list sees: the result is empty only if the list is, and its head
    looks like the head of the list -/
def HeadSame (l' l : List Token) : Prop :=
  (l = [] → l' = []) ∧ ∀ a, l.head? = some a → ∃ a', l'.head? = some a' ∧ SameIn a' a

theorem HeadSame.refl (l : List Token) : HeadSame l l :=
  ⟨id, fun a h => ⟨a, h, SameIn.refl a⟩⟩

theorem headSame_cons (a' a : Token) (l' l : List Token) (h : SameIn a' a) : HeadSame (a' :: l') (a :: l) :=
  ⟨(by intro e; cases e), (by intro x hx; simp at hx; subst hx; exact ⟨a', rfl, h⟩)⟩

theorem chain_link (a : Token) (l l' : List Token) (h1 : a ≠ .word .rem2) (h2 : Tok a)
    (h3 : ∀ b ∈ l.head?, Adj a b) (h4 : a = .word .rem1 ∨ Chain l') (hs : HeadSame l' l) : Chain (a :: l') := by
  refine chain_cons a l' h2 h1 ?_ h4
  intro b' hb'
  cases l with
  | nil => rw [hs.1 rfl] at hb'; simp at hb'
  | cons b rest =>
    obtain ⟨a'', e, hsame⟩ := hs.2 b rfl
    rw [e] at hb'; simp at hb'; subst hb'
    exact adj_sameIn a b a'' (h3 b (by simp)) hsame

/-- a comparison operator: not word-like, starts with `<`, `=` or `>`, no remark marker, a scanner product, and it stops at
    anything -/
theorem isCmp_facts (t : Token) (h : isCmp t = true) :
    t.isWord = false ∧ (∃ c, fc t = some c ∧ cmpChar c) ∧ t ≠ .word .rem1 ∧ t ≠ .word .rem2 ∧ Tok t ∧
      ∀ y, Adj t y := by
  cases t with
  | operator o =>
    have hw : o.isWord = false := by cases o <;> first | rfl | exact absurd h (by decide)
    refine ⟨hw, ?_, by simp, by simp, trivial, ?_⟩
    · cases o <;> first
        | exact absurd h (by decide)
        | exact ⟨'<', rfl, Or.inl rfl⟩
        | exact ⟨'=', rfl, Or.inr (Or.inl rfl)⟩
        | exact ⟨'>', rfl, Or.inr (Or.inr rfl)⟩
    · intro y
      unfold Adj
      simp only [Token.isWord, hw, Bool.false_and, Bool.false_eq_true, if_false]
      cases fc y with
      | none => trivial
      | some c => intro hh; rw [hw] at hh; cases hh
  | _ => exact absurd h (by simp [isCmp])

theorem sameIn_cmp (a' a : Token) (h' : isCmp a' = true) (h : isCmp a = true) : SameIn a' a := by
  obtain ⟨w1, f1, -⟩ := isCmp_facts a h
  obtain ⟨w2, f2, -⟩ := isCmp_facts a' h'
  exact ⟨by rw [w1, w2], Or.inr ⟨f1, f2⟩⟩

theorem tripleMatch_ws_la (n : Nat) (y z : Token) : tripleMatch (.whitespace n) y z = none :=
  tripleMatch_blank_first _ y z rfl

theorem tplRec_short1 (a : Token) : tplRec [a] = [a] := rfl
theorem tplRec_short2 (a b : Token) : tplRec [a, b] = [a, b] := rfl

theorem tplRec_cons3 (a b c : Token) (rest : List Token) :
    tplRec (a :: b :: c :: rest) =
      match tripleMatch a b c with
      | some t => t :: (tplRec (b :: c :: rest)).drop 2
      | none => a :: tplRec (b :: c :: rest) := rfl

theorem tplRec_nohit (c : Token) (r : List Token) (h : ∀ y z, tripleMatch c y z = none) :
    tplRec (c :: r) = c :: tplRec r := by
  cases r with
  | nil => rfl
  | cons y r' =>
    cases r' with
    | nil => rfl
    | cons z r'' => rw [tplRec_cons3, h y z]

/-- `tplRec` is `triRec` of Lemmas/LexStable: on a hit the middle token is a blank, which starts no window, so the
    two tokens dropped are that blank and the head of what `c :: rest` became -/
theorem tplRec_eq_triRec (ts : List Token) : tplRec ts = triRec ts := by
  induction ts using triRec.induct with
  | case1 a b c rest t hm ih =>
    obtain ⟨⟨n, rfl⟩, -⟩ := tripleMatch_some a _ c t hm
    rw [tplRec_cons3, hm, tplRec_nohit _ _ (tripleMatch_ws_la n), ih]
    simp only [triRec, hm, List.drop_succ_cons, List.drop_one]
  | case2 a b c rest hm ih =>
    rw [tplRec_cons3, hm, ih]
    simp only [triRec, hm]
  | case3 ts h =>
    match ts, h with
    | [], _ => rfl
    | [a], _ => rfl
    | [a, b], _ => rfl
    | a :: b :: c :: rest, h => exact absurd rfl (h a b c rest)

theorem collapseTriples_eq_la (ts : List Token) : collapseTriples ts = tplRec ts :=
  (collapseTriples_eq ts).trans (tplRec_eq_triRec ts).symm

theorem headSame_triRec (l : List Token) : HeadSame (triRec l) l := by
  match l with
  | a :: b :: c :: rest =>
    rw [triRec]
    cases hm : tripleMatch a b c with
    | none => exact headSame_cons a a _ _ (SameIn.refl a)
    | some T =>
      refine headSame_cons T a _ _ ?_
      obtain ⟨-, hcase⟩ := tripleMatch_some a b c T hm
      rcases hcase with ⟨h1, -, h3⟩ | ⟨e, (⟨-, e2⟩ | ⟨-, e2⟩)⟩
      · exact sameIn_cmp T a h3 (isCmp_of_isRawCmp a h1)
      · subst e; subst e2; exact ⟨rfl, Or.inl rfl⟩
      · subst e; subst e2; exact ⟨rfl, Or.inl rfl⟩
  | [] | [_] | [_, _] => exact HeadSame.refl _

theorem SameIn.not_rem {x c : Token} (h : SameIn x c) (hc : c.isWord = false) :
    x ≠ .word .rem1 ∧ x ≠ .word .rem2 := by
  constructor <;> (rintro rfl; exact absurd (h.1.trans hc) (by decide))

theorem chain_triRec (l : List Token) : Chain l → Chain (triRec l) := by
  induction l using triRec.induct with
  | case3 ts hts =>
    match ts, hts with
    | [], _ | [_], _ | [_, _], _ => exact id
    | a :: b :: c :: rest, h => exact absurd rfl (h a b c rest)
  | case2 a b c rest hm ih =>
    intro h
    rcases h with ⟨-, hr, -⟩ | ⟨h1, h2, h3, h4⟩
    · cases hr
    rw [triRec, hm]
    exact chain_link a (b :: c :: rest) _ h1 h2 (fun x hx => Option.some.inj hx ▸ h3) (h4.imp_right ih)
      (headSame_triRec _)
  | case1 a b c rest T hm ih =>
    intro h
    rcases h with ⟨-, hr, -⟩ | ⟨h1, h2, h3, h4⟩
    · cases hr
    obtain ⟨⟨k, hb⟩, hcase⟩ := tripleMatch_some a b c T hm
    subst hb
    have ha1 : a ≠ .word .rem1 := by
      rcases hcase with ⟨h, -, -⟩ | ⟨e, -⟩
      · exact (isCmp_facts a (isCmp_of_isRawCmp a h)).2.2.1
      · subst e; simp [goTok]
    have hc : Chain (c :: rest) := chain_tail _ _ (h4.resolve_left ha1) (by simp) (by simp)
    have hX : Chain (triRec (c :: rest)) := ih hc
    rw [triRec, hm]
    obtain ⟨x, D, hd⟩ := triRec_cons_ne c rest
    obtain ⟨x', hx', hsame⟩ := (headSame_triRec (c :: rest)).2 c rfl
    rw [hd] at hX hx' ⊢
    cases hx'
    simp only [List.tail_cons]
    rcases hcase with ⟨hac, hcc, hT⟩ | ⟨-, hgo⟩
    · -- a comparison: it stops anywhere, and what stands for `c` is no remark marker
      obtain ⟨-, -, t1, t2, t3, t4⟩ := isCmp_facts T hT
      obtain ⟨x1, x2⟩ := hsame.not_rem (isCmp_facts c (isCmp_of_isRawCmp c hcc)).1
      exact chain_cons T D t3 t2 (fun y _ => t4 y) (Or.inr (chain_tail x D hX x1 x2))
    · -- `GO <blank> TO|SUB`: `c` starts no window, so it stands as it is, and `T` stops wherever `c` stops
      have hcn : ∀ y z B', rest = y :: z :: B' → tripleMatch c y z = none := by
        rcases hgo with ⟨e, -⟩ | ⟨e, -⟩ <;> subst e <;>
          exact fun y z _ _ => tripleMatch_none_of_ends _ y z rfl rfl
      rw [triRec_cons_of_none c rest hcn] at hd
      cases hd
      have hTw : T = .word .goto ∨ T = .word .gosub := hgo.imp (·.2) (·.2)
      have hc1 : c ≠ .word .rem1 ∧ c ≠ .word .rem2 := by
        rcases hgo with ⟨e, -⟩ | ⟨e, -⟩ <;> subst e <;> simp [subTok]
      refine chain_cons T _ (by rcases hTw with e | e <;> subst e <;> trivial)
        (by rcases hTw with e | e <;> subst e <;> simp) ?_ (Or.inr (chain_tail c _ hX hc1.1 hc1.2))
      intro y hy
      cases hD : triRec rest with
      | nil => rw [hD] at hy; simp at hy
      | cons y' D' =>
        rw [hD] at hy hX; simp at hy; subst hy
        rcases hX with ⟨hr, -⟩ | ⟨-, -, hadj, -⟩
        · exact (hr.elim hc1.1 hc1.2).elim
        · have hw : T.isWord = true ∧ c.isWord = true := by
            rcases hTw with e | e <;> subst e <;> rcases hgo with ⟨e, -⟩ | ⟨e, -⟩ <;> subst e <;> exact ⟨rfl, rfl⟩
          unfold Adj at hadj ⊢
          rw [hw.1]; rw [hw.2] at hadj
          split
          · rcases hTw with e | e <;> subst e <;> (show isAlpha ' ' = false; decide)
          · rename_i hyw
            rw [if_neg hyw] at hadj
            cases hf : fc y' with
            | none => trivial
            | some ch =>
              rw [hf] at hadj
              have hna : isAlpha ch = false := by
                rcases hgo with ⟨e, -⟩ | ⟨e, -⟩ <;> subst e
                · exact hadj
                · exact hadj.1
              rcases hTw with e | e <;> subst e <;> exact hna

theorem chain_collapseTriples (l : List Token) (h : Chain l) : Chain (collapseTriples l) := by
  rw [collapseTriples_eq]
  exact chain_triRec l h

theorem headSame_dblRec (l : List Token) : HeadSame (dblRec l) l := by
  fun_cases dblRec l with
  | case1 a b rest T hm =>
    obtain ⟨h1, -, h3⟩ := doubleMatch_some a b T hm
    exact headSame_cons T a _ _ (sameIn_cmp T a h3 (isCmp_of_isRawCmp a h1))
  | case2 a b rest hm => exact headSame_cons a a _ _ (SameIn.refl a)
  | case3 ts _ => exact HeadSame.refl _

theorem chain_dblRec (l : List Token) : Chain l → Chain (dblRec l) := by
  fun_induction dblRec l with
  | case1 a b rest T hm ih =>
    intro h
    obtain ⟨ha, hb, hT⟩ := doubleMatch_some a b T hm
    obtain ⟨-, -, a1, a2, -, -⟩ := isCmp_facts a (isCmp_of_isRawCmp a ha)
    obtain ⟨-, -, b1, b2, -, -⟩ := isCmp_facts b (isCmp_of_isRawCmp b hb)
    obtain ⟨-, -, t1, t2, t3, t4⟩ := isCmp_facts T hT
    rcases h with ⟨hr, -⟩ | ⟨h1, h2, h3, h4⟩
    · rcases hr with e | e
      · exact absurd e a1
      · exact absurd e a2
    · have hbr : Chain (b :: rest) := h4.resolve_left a1
      exact chain_cons T _ t3 t2 (fun y _ => t4 y) (Or.inr (ih (chain_tail b rest hbr b1 b2)))
  | case2 a b rest hm ih =>
    intro h
    rcases h with ⟨hr, hrest, u, hu⟩ | ⟨h1, h2, h3, h4⟩
    · subst hrest
      exact Or.inl ⟨hr, rfl, u, hu⟩
    · exact chain_link a (b :: rest) _ h1 h2 (fun x hx => Option.some.inj hx ▸ h3) (h4.imp_right ih)
        (headSame_dblRec _)
  | case3 ts _ => exact id

theorem chain_collapseDoubles (l : List Token) (h : Chain l) : Chain (collapseDoubles l) := by
  rw [collapseDoubles_eq]; exact chain_dblRec l h

theorem headSame_sepRec (l : List Token) : HeadSame (sepRec l) l := by
  cases l with
  | nil => exact HeadSame.refl _
  | cons b rest =>
    obtain ⟨tl, e⟩ := sepRec_head b rest
    rw [e]; exact headSame_cons b b _ _ (SameIn.refl b)

/-- the text of a scanner product is not empty, and that of a word-like one does not start with a blank
    (reserved words consist of letters) -/
theorem tok_text_head (t : Token) (h : Tok t) :
    ∃ c r, t.text = c :: r ∧ (t.isWord = true → isWs c = false) := by
  have num : ∀ t s, NumRe t s → ∃ c r, s = c :: r ∧ isWs c = false := by
    rintro t s ⟨c, cs, rfl, hc, -⟩
    refine ⟨c, cs, rfl, ?_⟩
    simp only [Bool.or_eq_true, decide_eq_true_eq] at hc
    rcases hc with h | h
    · exact not_isWs_of_isDigit _ h
    · subst h; decide
  have kw : ∀ p ∈ keywords, ∃ c r, p.1 = c :: r ∧ isWs c = false := by
    intro p hp
    obtain ⟨-, h2, h3⟩ := keywords_alpha p hp
    obtain ⟨c, r, e⟩ := List.exists_cons_of_ne_nil h3
    exact ⟨c, r, e, not_isWs_of_isAlpha c (h2 c (e ▸ List.mem_cons_self))⟩
  cases t with
  | unknown u => obtain ⟨c, r, rfl, -⟩ := h; exact ⟨c, r, rfl, fun hw => Bool.noConfusion hw⟩
  | whitespace n =>
    obtain ⟨m, rfl⟩ : ∃ m, n = m + 1 := ⟨n - 1, by have : 0 < n := h; omega⟩
    exact ⟨' ', _, List.replicate_succ, fun hw => Bool.noConfusion hw⟩
  | literal l =>
    cases l with
    | string s => exact ⟨'"', _, rfl, fun _ => by decide⟩
    | hex ds => exact ⟨'&', _, rfl, fun _ => by decide⟩
    | octal ds => exact ⟨'&', _, rfl, fun _ => by decide⟩
    | single s => obtain ⟨c, r, e, hc⟩ := num _ s h; exact ⟨c, r, e, fun _ => hc⟩
    | double s => obtain ⟨c, r, e, hc⟩ := num _ s h; exact ⟨c, r, e, fun _ => hc⟩
    | integer s => obtain ⟨c, r, e, hc⟩ := num _ s h; exact ⟨c, r, e, fun _ => hc⟩
  | word w =>
    by_cases hw : w = .rem2
    · subst hw; exact ⟨'\'', [], rfl, fun _ => by decide⟩
    · obtain ⟨c, r, e, hc⟩ := kw _ (word_in_keywords w hw)
      exact ⟨c, r, e, fun _ => hc⟩
  | operator o =>
    by_cases ho : o.isWord = true
    · obtain ⟨c, r, e, hc⟩ := kw _ (operator_in_keywords o ho)
      exact ⟨c, r, e, fun _ => hc⟩
    · cases o <;> first | exact absurd rfl ho | exact ⟨_, _, rfl, fun hw => absurd hw ho⟩
  | ident i =>
    obtain ⟨c, r, e, ha, -⟩ := printable_ident_text i h
    exact ⟨c, r, e, fun _ => not_isWs_of_isAlpha c ha⟩
  | lparen => exact ⟨'(', [], rfl, fun hw => absurd hw (by decide)⟩
  | rparen => exact ⟨')', [], rfl, fun hw => absurd hw (by decide)⟩
  | comma => exact ⟨',', [], rfl, fun hw => absurd hw (by decide)⟩
  | colon => exact ⟨':', [], rfl, fun hw => absurd hw (by decide)⟩
  | semicolon => exact ⟨';', [], rfl, fun hw => absurd hw (by decide)⟩

theorem chain_sepRec (l : List Token) (h : Chain l) : Chain (sepRec l) := by
  induction l with
  | nil => trivial
  | cons a tl ih =>
    cases tl with
    | nil => exact h
    | cons b rest =>
      rw [sepRec_cons2]
      rcases h with ⟨hr, hrest, u, hu, hu2⟩ | ⟨h1, h2, h3, h4⟩
      · subst hrest; subst hu
        simp only [Token.isWord, Bool.and_false, Bool.false_eq_true, if_false]
        exact Or.inl ⟨hr, rfl, u, rfl, hu2⟩
      · split
        · rename_i hww
          have hww' : a.isWord = true ∧ b.isWord = true := by simpa using hww
          have hblank : Bnd a (some ' ') := by
            unfold Adj at h3; rw [if_pos hww] at h3; exact h3
          refine Or.inr ⟨h1, h2, ?_, ?_⟩
          · unfold Adj
            simp only [Token.isWord, Bool.and_false, Bool.false_eq_true, if_false]
            exact hblank
          · rcases h4 with e | h4
            · exact Or.inl e
            · right
              obtain ⟨tl', e⟩ := sepRec_head b rest
              have hih := ih h4
              refine chain_cons _ _ (by show 0 < 1; decide) (by simp) ?_ (Or.inr hih)
              intro y hy
              rw [e] at hy; simp at hy; subst hy
              unfold Adj
              simp only [Token.isWord, Bool.false_and, Bool.false_eq_true, if_false]
              cases hf : fc b with
              | none => trivial
              | some ch =>
                obtain ⟨c, r, e, hc⟩ := tok_text_head b (chain_head_tok b rest h4)
                rw [fc, e] at hf
                exact Option.some.inj hf ▸ hc hww'.2
        · refine chain_link a (b :: rest) _ h1 h2 (by intro x hx; simp at hx; subst hx; exact h3) ?_
            (headSame_sepRec _)
          rcases h4 with e | h4
          · exact Or.inl e
          · exact Or.inr (ih h4)

theorem chain_separateWords (l : List Token) (h : Chain l) : Chain (separateWords l) := by
  rw [separateWords_eq]; exact chain_sepRec l h

/-- the output invariant of the lexer: the token list of every line is a `Chain` -/
theorem chain_postPasses (l : List Token) (h : Chain l) : Chain (postPasses l) :=
  chain_separateWords _ (chain_collapseDoubles _ (chain_collapseTriples _ (chain_trimEnd _ h)))

theorem wordClash_sepRec (l : List Token) : wordClash (sepRec l) = false := by
  induction l with
  | nil => rfl
  | cons a tl ih =>
    cases tl with
    | nil => rfl
    | cons b rest =>
      rw [sepRec_cons2]
      obtain ⟨tl', e⟩ := sepRec_head b rest
      rw [e] at ih ⊢
      split
      · simp only [wordClash, Token.isWord, Bool.and_false, Bool.false_and, Bool.false_or]
        exact ih
      · rename_i h
        simp only [wordClash, Bool.or_eq_false_iff]
        exact ⟨by simpa using h, ih⟩

theorem wordClash_postPasses (l : List Token) : wordClash (postPasses l) = false := by
  unfold postPasses; rw [separateWords_eq]; exact wordClash_sepRec _

/-- tokens the collapsing passes build -/
def Made (t : Token) : Prop := isCmp t = true ∨ t = .word .goto ∨ t = .word .gosub

theorem Made.lastOK {t : Token} (h : Made t) : LastOK t := by
  rcases h with h | h | h
  · cases t <;> first | trivial | exact absurd h (by simp [isCmp])
  · subst h; trivial
  · subst h; trivial

theorem tripleMatch_made (a b c T : Token) (h : tripleMatch a b c = some T) : Made T := by
  obtain ⟨-, hcase⟩ := tripleMatch_some a b c T h
  rcases hcase with ⟨-, -, hT⟩ | ⟨-, (⟨-, e⟩ | ⟨-, e⟩)⟩
  · exact Or.inl hT
  · exact Or.inr (Or.inl e)
  · exact Or.inr (Or.inr e)

theorem triRec_last (l : List Token) : ∀ t, (triRec l).getLast? = some t → l.getLast? = some t ∨ Made t := by
  induction l using triRec.induct with
  | case1 a b c rest T hm ih =>
    intro t h
    obtain ⟨x, D, hd⟩ := triRec_cons_ne c rest
    rw [triRec, hm, hd, List.tail_cons] at h
    rw [hd] at ih
    cases D with
    | nil => cases h; exact Or.inr (tripleMatch_made a b c _ hm)
    | cons d D' =>
      rw [List.getLast?_cons_cons] at h ih
      rw [List.getLast?_cons_cons, List.getLast?_cons_cons]
      exact ih t h
  | case2 a b c rest hm ih =>
    intro t h
    rw [triRec, hm, getLast?_cons_of_ne_nil _ _ (triRec_ne_nil (b :: c :: rest) (by simp))] at h
    rw [List.getLast?_cons_cons]
    exact ih t h
  | case3 ts hts =>
    match ts, hts with
    | [], _ | [_], _ | [_, _], _ => exact fun t h => Or.inl h
    | a :: b :: c :: rest, h => exact absurd rfl (h a b c rest)

theorem dblRec_ne (l : List Token) (h : l ≠ []) : dblRec l ≠ [] := by
  cases l with
  | nil => contradiction
  | cons a tl =>
    cases tl with
    | nil => simp [dblRec]
    | cons b rest => rw [dblRec_cons2]; split <;> simp

theorem dblRec_last (l : List Token) : ∀ t, (dblRec l).getLast? = some t → l.getLast? = some t ∨ Made t := by
  fun_induction dblRec l with
  | case1 a b rest T hm ih =>
    intro t h
    cases rest with
    | nil =>
      cases h
      exact Or.inr (Or.inl (doubleMatch_some a b _ hm).2.2)
    | cons c rest' =>
      rw [getLast?_cons_of_ne_nil _ _ (dblRec_ne _ (by simp))] at h
      rw [List.getLast?_cons_cons, List.getLast?_cons_cons]
      exact ih t h
  | case2 a b rest hm ih =>
    intro t h
    rw [getLast?_cons_of_ne_nil _ _ (dblRec_ne _ (by simp))] at h
    rw [List.getLast?_cons_cons]
    exact ih t h
  | case3 ts _ => exact fun t h => Or.inl h

theorem sepRec_last (l : List Token) : (sepRec l).getLast? = l.getLast? := by
  induction l with
  | nil => rfl
  | cons a tl ih =>
    cases tl with
    | nil => rfl
    | cons b rest =>
      rw [sepRec_cons2]
      obtain ⟨tl', e⟩ := sepRec_head b rest
      rw [List.getLast?_cons_cons, ← ih, e]
      split
      · rw [List.getLast?_cons_cons, List.getLast?_cons_cons]
      · rw [List.getLast?_cons_cons]

theorem postPasses_last (l : List Token) (t : Token) (ht : (postPasses l).getLast? = some t) :
    (trimEnd l).getLast? = some t ∨ Made t := by
  unfold postPasses at ht
  rw [separateWords_eq, sepRec_last, collapseDoubles_eq] at ht
  rcases dblRec_last _ t ht with h | h
  · rw [collapseTriples_eq] at h
    exact triRec_last _ t h
  · exact Or.inr h

theorem endOk_postPasses (l : List Token) : endOk (postPasses l) = true := by
  apply endOk_of_lastOK
  intro t ht
  rcases postPasses_last l t ht with h | h
  · exact trimEnd_lastOK l t h
  · exact h.lastOK

theorem mem_triRec (l : List Token) : ∀ t, t ∈ triRec l → t ∈ l ∨ Made t := by
  induction l using triRec.induct with
  | case1 a b c rest T hm ih =>
    intro t h
    rw [triRec, hm] at h
    rcases List.mem_cons.mp h with h | h
    · exact Or.inr (h ▸ tripleMatch_made a b c T hm)
    · exact (ih t (List.mem_of_mem_tail h)).imp_left fun h => List.mem_cons_of_mem _ (List.mem_cons_of_mem _ h)
  | case2 a b c rest hm ih =>
    intro t h
    rw [triRec, hm] at h
    rcases List.mem_cons.mp h with h | h
    · exact Or.inl (h ▸ List.mem_cons_self)
    · exact (ih t h).imp_left (List.mem_cons_of_mem _)
  | case3 ts hts =>
    match ts, hts with
    | [], _ | [_], _ | [_, _], _ => exact fun t h => Or.inl h
    | a :: b :: c :: rest, h => exact absurd rfl (h a b c rest)

theorem mem_dblRec (l : List Token) : ∀ t, t ∈ dblRec l → t ∈ l ∨ Made t := by
  fun_induction dblRec l with
  | case1 a b rest T hm ih =>
    intro t h
    rcases List.mem_cons.mp h with h | h
    · exact Or.inr (h ▸ Or.inl (doubleMatch_some a b T hm).2.2)
    · exact (ih t h).imp_left fun h => List.mem_cons_of_mem _ (List.mem_cons_of_mem _ h)
  | case2 a b rest hm ih =>
    intro t h
    rcases List.mem_cons.mp h with h | h
    · exact Or.inl (h ▸ List.mem_cons_self)
    · exact (ih t h).imp_left (List.mem_cons_of_mem _)
  | case3 ts _ => exact fun t h => Or.inl h

theorem mem_sepRec (l : List Token) : ∀ t, t ∈ sepRec l → t ∈ l ∨ t = .whitespace 1 := by
  fun_induction sepRec l with
  | case1 a b rest hw ih =>
    intro t h
    rcases List.mem_cons.mp h with h | h
    · exact Or.inl (h ▸ List.mem_cons_self)
    · rcases List.mem_cons.mp h with h | h
      · exact Or.inr h
      · exact (ih t h).imp_left (List.mem_cons_of_mem _)
  | case2 a b rest hw ih =>
    intro t h
    rcases List.mem_cons.mp h with h | h
    · exact Or.inl (h ▸ List.mem_cons_self)
    · exact (ih t h).imp_left (List.mem_cons_of_mem _)
  | case3 ts _ => exact fun t h => Or.inl h

theorem mem_trimEnd (l : List Token) : ∀ t, t ∈ trimEnd l →
    t ∈ l ∨ ∃ u, t = .unknown (trimEndStr u) ∧ .unknown u ∈ l := by
  refine snoc_induction (P := fun l => ∀ t, t ∈ trimEnd l → t ∈ l ∨ ∃ u, t = .unknown (trimEndStr u) ∧ .unknown u ∈ l)
    (by intro t h; simp [trimEnd, trimEndRev] at h) ?_ l
  intro l x ih t h
  have lift : (t ∈ l ∨ ∃ u, t = .unknown (trimEndStr u) ∧ .unknown u ∈ l) →
      (t ∈ l ++ [x] ∨ ∃ u, t = .unknown (trimEndStr u) ∧ .unknown u ∈ l ++ [x]) := by
    rintro (h | ⟨u, h1, h2⟩)
    · exact Or.inl (by simp [h])
    · exact Or.inr ⟨u, h1, by simp [h2]⟩
  rw [trimEnd_snoc] at h
  cases x with
  | whitespace n => exact lift (ih t h)
  | unknown s =>
    simp only at h
    split at h
    · exact lift (ih t h)
    · rcases List.mem_append.mp h with h | h
      · exact Or.inl (by simp [h])
      · simp at h; exact Or.inr ⟨s, h, by simp⟩
  | _ => exact Or.inl h

theorem mem_postPasses (l : List Token) (t : Token) (h : t ∈ postPasses l) (h1 : ¬ Made t)
    (h2 : t ≠ .whitespace 1) (h3 : ∀ u, t ≠ .unknown u) : t ∈ l := by
  unfold postPasses at h
  rw [separateWords_eq] at h
  rcases mem_sepRec _ t h with h | h
  · rw [collapseDoubles_eq] at h
    rcases mem_dblRec _ t h with h | h
    · rw [collapseTriples_eq] at h
      rcases mem_triRec _ t h with h | h
      · rcases mem_trimEnd l t h with h | ⟨u, e, -⟩
        · exact h
        · exact absurd e (h3 _)
      · exact absurd h h1
    · exact absurd h h1
  · exact absurd h h2

end Lex
end Basic

import BasicModel.Model.Parse
import BasicModel.Model.Codegen
import BasicModel.Lemmas.ParseRun
import BasicModel.Lemmas.LexChar
/-
  Token texts and `Parse.nextLoop`: `AllWs` / `NoRem`, and what `nextLoop` does on blanks, behind a
  remark word, and on a remark-free list (`nextLoop_spec`: the first non-blank token with the column
  range `[offset, offset + width)`).
-/
namespace Basic
namespace Lemmas.C19

theorem slice_mid {α} (pre mid post : List α) (i w : Nat) (hi : i = pre.length) (hw : w = mid.length) :
    ((pre ++ mid ++ post).drop i).take w = mid := by
  subst hi; subst hw
  rw [List.append_assoc, List.drop_left' rfl, List.take_left' rfl]

theorem drop_prefix_add {α} (pre l : List α) (k : Nat) :
    (pre ++ l).drop (k + pre.length) = l.drop k := by
  rw [Nat.add_comm, ← List.drop_drop, List.drop_left' rfl]

theorem printTokens_nil : printTokens [] = [] := rfl

theorem printTokens_snoc (a : List Token) (t : Token) :
    printTokens (a ++ [t]) = printTokens a ++ t.text := by
  simp [printTokens]

theorem printTokens_length_cons (t : Token) (ts : List Token) :
    (printTokens (t :: ts)).length = t.text.length + (printTokens ts).length := by
  rw [printTokens_cons, List.length_append]

theorem printTokens_length_append (a b : List Token) :
    (printTokens (a ++ b)).length = (printTokens a).length + (printTokens b).length := by
  rw [printTokens_append, List.length_append]

def AllWs (ws : List Token) : Prop := ∀ t ∈ ws, ∃ n, t = Token.whitespace n

def NoRem (ts : List Token) : Prop := ∀ t ∈ ts, Parse.isRem t = false

theorem AllWs.nil : AllWs [] := by intro t h; cases h

theorem AllWs.cons {n : Nat} {ws : List Token} (h : AllWs ws) : AllWs (Token.whitespace n :: ws) := by
  intro t ht
  cases ht with
  | head => exact ⟨n, rfl⟩
  | tail _ h' => exact h t h'

theorem NoRem.tail {t : Token} {ts : List Token} (h : NoRem (t :: ts)) : NoRem ts :=
  fun x hx => h x (List.mem_cons_of_mem _ hx)

theorem NoRem.head {t : Token} {ts : List Token} (h : NoRem (t :: ts)) : Parse.isRem t = false :=
  h t List.mem_cons_self

theorem NoRem.of_append_right {a b : List Token} (h : NoRem (a ++ b)) : NoRem b :=
  fun x hx => h x (List.mem_append_right _ hx)

theorem isRem_whitespace (n : Nat) : Parse.isRem (.whitespace n) = false := rfl

theorem nextLoop_ws (n : Nat) (ts : List Token) (cs ce : Nat) :
    Parse.nextLoop (.whitespace n :: ts) false cs ce
      = Parse.nextLoop ts false ce (ce + (Token.whitespace n).text.length) := by
  simp [Parse.nextLoop, Parse.isRem]

theorem nextLoop_cs (ts : List Token) (r : Bool) (cs cs' ce : Nat) :
    Parse.nextLoop ts r cs ce = Parse.nextLoop ts r cs' ce := by
  cases ts with
  | nil => simp [Parse.nextLoop]
  | cons t ts => cases t <;> simp [Parse.nextLoop]

theorem nextLoop_ws_append (ws ts : List Token) (h : AllWs ws) (cs ce : Nat) :
    Parse.nextLoop (ws ++ ts) false cs ce
      = Parse.nextLoop ts false cs (ce + (printTokens ws).length) := by
  induction ws generalizing cs ce with
  | nil => simp [printTokens]
  | cons w ws ih =>
    obtain ⟨n, rfl⟩ := h _ List.mem_cons_self
    have h' : AllWs ws := fun t ht => h t (List.mem_cons_of_mem _ ht)
    rw [List.cons_append, nextLoop_ws, ih h', nextLoop_cs _ _ ce cs]
    simp only [printTokens_length_cons, Nat.add_assoc]

theorem nextLoop_rem (ts : List Token) (cs ce : Nat) :
    Parse.nextLoop ts true cs ce = (none, [], true, ce, ce) := by
  induction ts generalizing cs with
  | nil => simp [Parse.nextLoop]
  | cons t ts ih => simp [Parse.nextLoop, ih]

theorem nextLoop_rem_head (t : Token) (ts : List Token) (r : Bool) (cs ce : Nat)
    (h : Parse.isRem t = true) :
    Parse.nextLoop (t :: ts) r cs ce = (none, [], true, ce, ce) := by
  simp [Parse.nextLoop, h, nextLoop_rem]

/-- on a remark-free list `nextLoop` skips a run of whitespace and delivers the first
    other token with the column range `[offset, offset + width)`, or runs off the end -/
theorem nextLoop_spec (ts : List Token) (h : NoRem ts) (cs ce : Nat) :
    (∃ t ws rest, ts = ws ++ t :: rest ∧ AllWs ws ∧ (∀ n, t ≠ .whitespace n) ∧
        Parse.nextLoop ts false cs ce
          = (some t, rest, false, ce + (printTokens ws).length,
             ce + (printTokens ws).length + t.text.length)) ∨
    (AllWs ts ∧
        Parse.nextLoop ts false cs ce
          = (none, [], false, ce + (printTokens ts).length, ce + (printTokens ts).length)) := by
  induction ts generalizing cs ce with
  | nil =>
    right
    exact ⟨AllWs.nil, by simp [Parse.nextLoop, printTokens]⟩
  | cons t ts ih =>
    by_cases hw : ∃ n, t = .whitespace n
    · obtain ⟨n, rfl⟩ := hw
      rw [nextLoop_ws]
      rcases ih h.tail ce (ce + (Token.whitespace n).text.length) with
        ⟨t', ws, rest, hts, hws, hnw, heq⟩ | ⟨hws, heq⟩
      · left
        refine ⟨t', .whitespace n :: ws, rest, by rw [hts]; rfl, hws.cons, hnw, ?_⟩
        rw [heq, printTokens_length_cons]
        simp only [Nat.add_assoc]
      · right
        refine ⟨hws.cons, ?_⟩
        rw [heq, printTokens_length_cons]
        simp only [Nat.add_assoc]
    · left
      have hnw : ∀ n, t ≠ .whitespace n := fun n hn => hw ⟨n, hn⟩
      refine ⟨t, [], ts, rfl, AllWs.nil, hnw, ?_⟩
      rw [nextLoop_tok t ts cs ce h.head hnw]
      simp [printTokens]

theorem natDigits_length (n : Nat) : (RStd.natDigits n).length = (toString n).length := by
  unfold RStd.natDigits
  exact String.length_toList

theorem laddUnlinked_run (c : Col) (sym : Symbol) (g : Codegen.GState) :
    (Codegen.laddUnlinked c sym).run.run g = (.ok (), { g with cur := g.cur.addUnlinked c sym }) := rfl

theorem push_ops (l : Link) (op : Opcode) : (l.push op).1 = { l with ops := l.ops.push op } := rfl

end Lemmas.C19
end Basic

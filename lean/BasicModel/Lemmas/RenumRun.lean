import BasicModel.Thm.C15
import BasicModel.Lemmas.Program
/-
  RENUM at run time (`Runtime.doRenum`, the instruction `Opcode.renum`).  What `doRenum` takes off the operand
  stack is a function of the bare stack (`popU16`, `renumArgs`: `step` is on top, `oldStart` below it, `newStart`
  below that); `run_popU16_bind` is one operand popped and converted inside the monad.
-/
namespace Basic
namespace Runtime
variable {β : Type}

/-- one operand of RENUM, `u16::try_from(self.stack.pop()?)`, on the bare stack: the result and the
    stack left behind.  The value is popped *before* it is converted, so a value that is not a
    `u16` is gone when the conversion fails. -/
def popU16 (st : Array Val) : Except Error Nat × Array Val :=
  match st.back? with
  | none => (.error underflow, st)
  | some v => (v.toU16, st.pop)

theorem popU16_empty : popU16 #[] = (.error underflow, #[]) := rfl

theorem popU16_push (st : Array Val) (v : Val) : popU16 (st.push v) = (v.toU16, st) := by
  unfold popU16
  rw [Array.back?_push, Array.pop_push]

/-- popping an empty stack leaves it empty, so the stack left behind is always `st.pop` -/
theorem popU16_stack (st : Array Val) : (popU16 st).2 = st.pop := by
  unfold popU16
  cases hb : st.back? with
  | none => rw [Array.back?_eq_none_iff.1 hb]; rfl
  | some v => rfl

theorem popU16_ok {st st' : Array Val} {n : Nat} (h : popU16 st = (.ok n, st')) :
    ∃ v, st = st'.push v ∧ v.toU16 = .ok n := by
  unfold popU16 at h
  cases hb : st.back? with
  | none => rw [hb] at h; cases h
  | some v =>
    rw [hb] at h
    dsimp only at h
    have h1 : v.toU16 = .ok n := congrArg Prod.fst h
    have h2 : st.pop = st' := congrArg Prod.snd h
    obtain ⟨ys, rfl⟩ := Array.back?_eq_some_iff.1 hb
    rw [Array.pop_push] at h2
    exact ⟨v, by rw [h2], h1⟩

theorem run_popU16_bind (f : Nat → RM β) (s : Runtime) :
    (pop >>= fun v => liftE v.toU16 >>= f).run.run s =
      match popU16 s.stack with
      | (.error e, st) => (.error e, { s with stack := st })
      | (.ok n, st) => (f n).run.run { s with stack := st } := by
  rw [run_bind, run_pop]
  unfold popU16
  cases s.stack.back? with
  | none => rfl
  | some v =>
    dsimp only
    rw [run_bind, run_liftE]
    cases v.toU16 <;> rfl

/-- the three operands of RENUM taken off the stack, in the order of `doRenum`: `step` (the top),
    then `oldStart`, then `newStart`; the result is `(newStart, oldStart, step)`.  On a failure
    the second component is the stack with exactly the operands popped so far removed (the one
    that failed to convert included). -/
def renumArgs (st : Array Val) : Except Error (Nat × Nat × Nat) × Array Val :=
  match popU16 st with
  | (.error e, st1) => (.error e, st1)
  | (.ok step, st1) =>
    match popU16 st1 with
    | (.error e, st2) => (.error e, st2)
    | (.ok oldStart, st2) =>
      match popU16 st2 with
      | (.error e, st3) => (.error e, st3)
      | (.ok newStart, st3) => (.ok (newStart, oldStart, step), st3)

theorem renumArgs_stack (st : Array Val) :
    (renumArgs st).2 = st ∨ (renumArgs st).2 = st.pop ∨ (renumArgs st).2 = st.pop.pop ∨
    (renumArgs st).2 = st.pop.pop.pop := by
  unfold renumArgs
  rcases h1 : popU16 st with ⟨r1, st1⟩
  rcases h2 : popU16 st1 with ⟨r2, st2⟩
  rcases h3 : popU16 st2 with ⟨r3, st3⟩
  have e1 : st1 = st.pop := (congrArg Prod.snd h1).symm.trans (popU16_stack st)
  have e2 : st2 = st.pop.pop := (congrArg Prod.snd h2).symm.trans ((popU16_stack st1).trans (by rw [e1]))
  have e3 : st3 = st.pop.pop.pop := (congrArg Prod.snd h3).symm.trans ((popU16_stack st2).trans (by rw [e2]))
  cases r1 with
  | error e => exact .inr (.inl e1)
  | ok a =>
    dsimp only
    rw [h2]
    cases r2 with
    | error e => exact .inr (.inr (.inl e2))
    | ok b =>
      dsimp only
      rw [h3]
      cases r3 <;> exact .inr (.inr (.inr e3))

theorem renumArgs_ok {st st' : Array Val} {n o k : Nat} (h : renumArgs st = (.ok (n, o, k), st')) :
    ∃ vNew vOld vStep, st = ((st'.push vNew).push vOld).push vStep ∧
      vNew.toU16 = .ok n ∧ vOld.toU16 = .ok o ∧ vStep.toU16 = .ok k := by
  unfold renumArgs at h
  rcases h1 : popU16 st with ⟨r1, st1⟩
  rw [h1] at h
  cases r1 with
  | error e => cases h
  | ok a =>
    dsimp only at h
    rcases h2 : popU16 st1 with ⟨r2, st2⟩
    rw [h2] at h
    cases r2 with
    | error e => cases h
    | ok b =>
      dsimp only at h
      rcases h3 : popU16 st2 with ⟨r3, st3⟩
      rw [h3] at h
      cases r3 with
      | error e => cases h
      | ok c =>
        dsimp only at h
        cases h
        obtain ⟨v1, e1, c1⟩ := popU16_ok h1
        obtain ⟨v2, e2, c2⟩ := popU16_ok h2
        obtain ⟨v3, e3, c3⟩ := popU16_ok h3
        exact ⟨v3, v2, v1, by rw [e1, e2, e3], c3, c2, c1⟩

theorem renumArgs_too_few_0 : renumArgs #[] = (.error underflow, #[]) := rfl

/-- the state a successful RENUM ends in: the new listing, the compiled program marked stale,
    nothing left to resume, the program stopped.  Everything else — in particular the variables,
    the (now stale) compiled program, `pc`, `entryAddress`, `contPc`, TRON — is as before. -/
def renumed (s : Runtime) (l : Listing) : Runtime :=
  { s with listing := l, dirty := true, cont := .stopped, stack := #[], functions := [], state := .stopped }

theorem listing_renum_error {f : List (Nat × Nat) → Line → Line} {l : Listing} {n o k : Nat} {e : Error}
    (h : l.renum f n o k = .error e) : Listing.renumPlan (l.source.map (·.1)) n o k = .error e := by
  rw [Listing.renum_eq] at h
  cases hp : Listing.renumPlan (l.source.map (·.1)) n o k with
  | error e' => rw [hp] at h; cases h; rfl
  | ok ch => rw [hp] at h; cases h

/-- the state is the one `doRenum` leaves; its event ends the slice -/
theorem execOp_renum_run (env : Env) (h : Bool) (s : Runtime) :
    (execOp env h .renum).run.run s =
      (((doRenum env).run.run s).1.map Step.event, ((doRenum env).run.run s).2) := by
  simp only [execOp]
  rw [run_bind]
  rcases (doRenum env).run.run s with ⟨r, t⟩
  cases r <;> rfl

/-- with tracing off: `pc` is advanced, then `doRenum` runs -/
theorem step_renum_run (env : Env) (h : Bool) (s : Runtime) (ht : s.tron = false)
    (hop : s.program.link.ops[s.pc]? = some .renum) :
    (step env h).run.run s =
      (((doRenum env).run.run { s with pc := s.pc + 1 }).1.map Step.event,
       ((doRenum env).run.run { s with pc := s.pc + 1 }).2) := by
  rw [run_step env h s _ ht hop]
  exact execOp_renum_run env h _

/-- with tracing on: either this `step` only prints the trace marker `[n]` (and RENUM is still the
    next instruction), or it is the above with `tr` updated -/
theorem step_renum_cases (env : Env) (h : Bool) (s : Runtime)
    (hop : s.program.link.ops[s.pc]? = some .renum) :
    (∃ text tr col, (step env h).run.run s =
        (.ok (.event (.print text)), { s with tr := tr, printCol := col })) ∨
    (∃ tr, (step env h).run.run s =
      (((doRenum env).run.run { s with tr := tr, pc := s.pc + 1 }).1.map Step.event,
       ((doRenum env).run.run { s with tr := tr, pc := s.pc + 1 }).2)) := by
  rcases step_cases env h s with ⟨text, tr, col, he⟩ | ⟨tr, he⟩
  · exact .inl ⟨text, tr, col, he⟩
  · refine .inr ⟨tr, ?_⟩
    rw [he, run_fetchExec]
    show (match s.program.link.ops[s.pc]? with
      | none => _
      | some op => (execOp env h op).run.run { s with tr := tr, pc := s.pc + 1 }) = _
    rw [hop]
    exact execOp_renum_run env h _

/-- `execute` turns an error thrown by the slice into the state `runtimeError`; it touches neither
    the listing nor `dirty`, the compiled program, the variables or the DEF FN table -/
theorem finishLoop_error_fields (e : Error) (t : Runtime) :
    (finishLoop (.error e) t).1.listing = t.listing ∧ (finishLoop (.error e) t).1.dirty = t.dirty ∧
    (finishLoop (.error e) t).1.program = t.program ∧ (finishLoop (.error e) t).1.vars = t.vars ∧
    (finishLoop (.error e) t).1.functions = t.functions ∧
    (finishLoop (.error e) t).1.entryAddress = t.entryAddress := by
  rw [finishLoop_error]
  dsimp only
  split <;> exact ⟨rfl, rfl, rfl, rfl, rfl, rfl⟩

/-- … but an error in a direct line (`pc ≥ entryAddress`; RENUM is only ever executed there)
    empties the operand stack and cancels the CONT point, as for every other statement -/
theorem finishLoop_error_direct (e : Error) (t : Runtime) (hs : t.state ≠ .inputRunning)
    (hp : ¬ t.pc < t.entryAddress) :
    (finishLoop (.error e) t).1 =
      { t with cont := .stopped, state := .runtimeError (e.inLine (lineNumber t)), contPc := t.pc,
               stack := #[] } ∧
    (finishLoop (.error e) t).2 = .running := by
  have : (decide (t.pc ≥ t.entryAddress) || isFull t) = true := by
    rw [Bool.or_eq_true]; exact .inl (decide_eq_true (Nat.le_of_not_lt hp))
  rw [finishLoop_error, if_neg hs, if_pos this, if_pos this]
  exact ⟨rfl, rfl⟩

end Runtime

namespace Runtime

theorem numbered_of_wf {l : Listing} (hl : Thm.C15.WF l) : Program.Numbered l.lines := by
  intro x hx
  obtain ⟨p, hp, rfl⟩ := List.mem_map.1 hx
  exact ⟨p.1, hl.coherent p hp⟩

end Runtime
end Basic

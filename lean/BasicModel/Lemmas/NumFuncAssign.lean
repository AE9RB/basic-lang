import BasicModel.Lemmas.VarPool
import BasicModel.Thm.C08
import BasicModel.Lemmas.ExprCompile
/-
  Assignment conversion (C02): `LET v = e` converts the value of `e` to the type of `v` (namespace `Lemmas.Assign`).

  `Spec.assignConv` is the documented conversion, written by hand: Integer ← ⌊float⌋ or OVERFLOW, Single ← Double
  rounded (IEEE: a Double beyond the Single range becomes an infinity, no error), Double ← Single widened, string ←
  string of at most 255 characters, string ↔ number TYPE MISMATCH.  It is the conversion `Var.store` makes
  (`assignConv_eq_convTo`), so the compiled statement run on the VM (`let_assign_*`) leaves the variable reading as
  the converted value, of the TARGET's type, every other variable untouched, and on any error all variables unchanged.
-/
namespace Basic
namespace Spec
open F

/-- **the documented conversion on assignment**, by the type of the target -/
def assignConv : VarTy → Val → Res Val
  | .integer, .int n => .ok (.int n)
  | .integer, .sng b => match (Val.sng b).floorZ with
    | some z => if -32768 ≤ z ∧ z ≤ 32767 then .ok (.int (Int16.ofInt z)) else err Code.overflow
    | none => err Code.overflow
  | .integer, .dbl b => match (Val.dbl b).floorZ with
    | some z => if -32768 ≤ z ∧ z ≤ 32767 then .ok (.int (Int16.ofInt z)) else err Code.overflow
    | none => err Code.overflow
  | .single, .int n => .ok (.sng (b32 (i2s n)))
  | .single, .sng b => .ok (.sng b)
  | .single, .dbl b => .ok (.sng (b32 (d2s (f64 b))))
  | .double, .int n => .ok (.dbl (b64 (i2d n)))
  | .double, .sng b => .ok (.dbl (b64 (s2d (f32 b))))
  | .double, .dbl b => .ok (.dbl b)
  | .string, .str s =>
    if s.length > 255 then errMsg Code.stringTooLong "MAXIMUM STRING LENGTH IS 255" else .ok (.str s)
  | _, _ => err Code.typeMismatch

end Spec

namespace Lemmas.Assign
open Spec Var F Thm.C06 Thm.C08 Lemmas.VarPool

theorem assignConv_eq_convTo (t : VarTy) (x : Val) : assignConv t x = convTo t x := by
  cases t <;> cases x <;> first
    | rfl
    | exact (convTo_integer_float _ (.inl rfl)).symm
    | exact (convTo_integer_float _ (.inr rfl)).symm

theorem assignConv_ty {t : VarTy} {x y : Val} (h : assignConv t x = .ok y) : y.ty = t.toTy :=
  convTo_ty ((assignConv_eq_convTo t x).symm.trans h)

theorem assignConv_same {t : VarTy} {x : Val} (hx : x.ty = t.toTy)
    (hs : ∀ s, x = .str s → s.length ≤ 255) : assignConv t x = .ok x :=
  (assignConv_eq_convTo t x).trans (convTo_same hx hs)

theorem assignConv_integer_floor (x : Val) (hx : x.ty = .sng ∨ x.ty = .dbl) (y : Val)
    (h : assignConv .integer x = .ok y) : ∃ n, y = .int n ∧ x.floorZ = some n.toInt :=
  convTo_integer_exact hx ((assignConv_eq_convTo _ x).symm.trans h)

/-- OVERFLOW when ⌊x⌋ is outside −32768..32767, and when `x` is a NaN or an infinity (`floorZ` gives none) -/
theorem assignConv_integer_overflow (x : Val) (hx : x.ty = .sng ∨ x.ty = .dbl)
    (hz : ∀ z, x.floorZ = some z → ¬ InRange z) : assignConv .integer x = err Code.overflow := by
  rw [assignConv_eq_convTo, convTo_integer_float x hx]
  cases hf : x.floorZ with
  | none => rfl
  | some z => exact if_neg (hz z hf)

/-- Single target: an Integer is converted exactly (`i16 as f32`), a Double is ROUNDED to Single
    (`f64 as f32`: nearest, ties to even; beyond the Single range the result is an infinity — there is
    no OVERFLOW for floats), a Single is stored as it is -/
theorem assignConv_single (x : Val) (hx : x.isNumeric = true) :
    assignConv .single x = .ok (match x with
      | .int n => .sng (b32 (i2s n))
      | .dbl b => .sng (b32 (d2s (f64 b)))
      | v => v) := by
  cases x <;> simp [Val.isNumeric] at hx <;> rfl

/-- Double target: an Integer and a Single are WIDENED (`i16 as f64`, `f32 as f64`, exact), a Double
    is stored as it is -/
theorem assignConv_double (x : Val) (hx : x.isNumeric = true) :
    assignConv .double x = .ok (match x with
      | .int n => .dbl (b64 (i2d n))
      | .sng b => .dbl (b64 (s2d (f32 b)))
      | v => v) := by
  cases x <;> simp [Val.isNumeric] at hx <;> rfl

theorem assignConv_mismatch (t : VarTy) (x : Val) :
    (t = .string → x.isNumeric = true → assignConv t x = err Code.typeMismatch) ∧
    (t ≠ .string → ∀ s, x = .str s → assignConv t x = err Code.typeMismatch) := by
  constructor
  · rintro rfl hx; cases x <;> simp [Val.isNumeric] at hx <;> rfl
  · rintro ht s rfl; cases t <;> first | rfl | exact absurd rfl ht

theorem assignConv_string_too_long (s : Str) (h : 255 < s.length) :
    assignConv .string (.str s) = errMsg Code.stringTooLong "MAXIMUM STRING LENGTH IS 255" := by
  simp only [assignConv]; rw [if_pos h]

theorem assignConv_string_ok (s : Str) (h : s.length ≤ 255) : assignConv .string (.str s) = .ok (.str s) := by
  simp only [assignConv]; rw [if_neg (by omega)]

theorem assignConv_errors {t : VarTy} {x : Val} {e : Error} (h : assignConv t x = .error e) :
    e.code = Code.overflow ∨ e.code = Code.typeMismatch ∨ e.code = Code.stringTooLong :=
  convTo_error_code ((assignConv_eq_convTo t x).symm.trans h)

/-- **`Var.store`**: OUT OF MEMORY for a full pool and a name it does not hold yet (D23: a name the
    pool holds is never refused); otherwise the type `t` of the name decides the conversion, and the
    converted value is written by `updateVal` -/
theorem store_eq (v : Var) (n : Str) (x : Val) (t : VarTy) (ht : v.tyOf n = .ok (some t)) :
    v.store n x =
      if v.vars.length > 65535 ∧ AL.contains n v.vars = false then err Code.outOfMemory
      else match assignConv t x with
        | .ok y => .ok (v.updateVal n y)
        | .error e => .error e := by
  rw [store_def, ht, assignConv_eq_convTo]
  dsimp only
  cases convTo t x <;> rfl

theorem getLast?_concat' (b : Str) (c : Char) : (b ++ [c]).getLast? = some c := List.getLast?_concat

theorem tyOf_suffix (v : Var) (base : Str) :
    v.tyOf (base ++ ['%']) = .ok (some .integer) ∧ v.tyOf (base ++ ['!']) = .ok (some .single) ∧
    v.tyOf (base ++ ['#']) = .ok (some .double) ∧ v.tyOf (base ++ ['$']) = .ok (some .string) := by
  refine ⟨?_, ?_, ?_, ?_⟩ <;> simp [tyOf, suffixTy]

theorem tyOf_letter (v : Var) (c : Char) (cs : Str) (hc : 65 ≤ c.toNat ∧ c.toNat ≤ 90)
    (hs : suffixTy (c :: cs) = none) : v.tyOf (c :: cs) = .ok (some (v.types (c.toNat - 65))) := by
  have hl : letterIndex c = c.toNat - 65 := by simp [letterIndex, hc.1]
  have : letterIndex c < 26 := by rw [hl]; omega
  have h26 : c.toNat - 65 < 26 := by omega
  simp only [tyOf, hs, hl, h26, if_true]

theorem types_new (i : Nat) : Var.new.types i = .single := rfl

theorem default_ty (t : VarTy) : t.default.ty = t.toTy := by cases t <;> rfl

theorem fetch_updateVal_ty (v : Var) (n : Str) (t : VarTy) (y : Val) (ht : v.tyOf n = .ok (some t))
    (hy : y.ty = t.toTy) : ∃ z, (v.updateVal n y).fetch n = .ok z ∧ z.ty = t.toTy := by
  refine ⟨_, fetch_updateVal v n t y ht, ?_⟩
  split
  · exact default_ty t
  · exact hy

open Lemmas.ExprCompile

section vm
variable (env : Env) (hie : Bool)

/-- the code of `LET name = e` -/
abbrev letCode (e : Expr) (name : Str) : List Opcode := flat e ++ [Opcode.pop name]

/-- **`LET v = e`, the value converts**: the run ends with the converted value `y` written under `v` by `updateVal`,
    nothing else changed; `v` then reads as `y` (as its default when `y` is one), a value of the TARGET's type -/
theorem let_assign_ok {e : Expr} (hp : Pure e) (name : Str) (s : Runtime)
    (hcode : CodeAt s.program.link.ops s.pc (letCode e name)) (htr : s.tron = false)
    (hroom : s.stack.size + (flat e).length ≤ 65535)
    (t : VarTy) (ht : s.vars.tyOf name = .ok (some t)) (hpool : s.vars.vars.length ≤ 65535)
    (x y : Val) (hx : eval s.vars e = .ok x) (hy : assignConv t x = .ok y) :
    runOps env hie (letCode e name) s =
        (.ok .continue, { s with pc := s.pc + ((flat e).length + 1), vars := s.vars.updateVal name y }) ∧
      y.ty = t.toTy ∧
      (s.vars.updateVal name y).fetch name = .ok (if isDefault y then t.default else y) ∧
      (∃ z, (s.vars.updateVal name y).fetch name = .ok z ∧ z.ty = t.toTy) ∧
      (∀ k, k ≠ name → (s.vars.updateVal name y).fetch k = s.vars.fetch k) := by
  have hst : s.vars.store name x = .ok (s.vars.updateVal name y) := by
    rw [store_eq _ _ _ t ht, if_neg (fun h => by omega), hy]
  have hty := assignConv_ty hy
  refine ⟨?_, hty, fetch_updateVal _ _ t y ht, fetch_updateVal_ty _ _ t y ht hty,
    fun k hk => fetch_updateVal_ne _ hk y⟩
  rw [let_run env hie hp name s hcode htr hroom x hx, hst]

/-- **`LET v = e`, the value does not convert** (OVERFLOW, TYPE MISMATCH, STRING TOO LONG): the run
    stops in that error with the variables — and everything but `pc` — as they were -/
theorem let_assign_conv_error {e : Expr} (hp : Pure e) (name : Str) (s : Runtime)
    (hcode : CodeAt s.program.link.ops s.pc (letCode e name)) (htr : s.tron = false)
    (hroom : s.stack.size + (flat e).length ≤ 65535)
    (t : VarTy) (ht : s.vars.tyOf name = .ok (some t)) (hpool : s.vars.vars.length ≤ 65535)
    (x : Val) (err : Error) (hx : eval s.vars e = .ok x) (hy : assignConv t x = .error err) :
    runOps env hie (letCode e name) s = (.error err, { s with pc := s.pc + ((flat e).length + 1) }) := by
  have hst : s.vars.store name x = .error err := by
    rw [store_eq _ _ _ t ht, if_neg (fun h => by omega), hy]
  rw [let_run env hie hp name s hcode htr hroom x hx, hst]

/-- a full pool and a variable it does not hold yet: OUT OF MEMORY, nothing stored -/
theorem let_assign_full {e : Expr} (hp : Pure e) (name : Str) (s : Runtime)
    (hcode : CodeAt s.program.link.ops s.pc (letCode e name)) (htr : s.tron = false)
    (hroom : s.stack.size + (flat e).length ≤ 65535) (hpool : 65535 < s.vars.vars.length)
    (hnew : AL.contains name s.vars.vars = false)
    (x : Val) (hx : eval s.vars e = .ok x) :
    runOps env hie (letCode e name) s =
      (.error (Error.mk' Code.outOfMemory), { s with pc := s.pc + ((flat e).length + 1) }) := by
  rw [let_run env hie hp name s hcode htr hroom x hx, store_full _ _ _ hpool hnew]
  rfl

/-- **`LET v = e`, the expression fails**: the run stops in the expression's error before the store is
    reached; the variables are as they were -/
theorem let_assign_eval_error {e : Expr} (hp : Pure e) (name : Str) (s : Runtime)
    (hcode : CodeAt s.program.link.ops s.pc (letCode e name)) (htr : s.tron = false)
    (hroom : s.stack.size + (flat e).length ≤ 65535)
    (err : Error) (hx : eval s.vars e = .error err) :
    ∃ s', runOps env hie (letCode e name) s = (.error err, s') ∧ s'.vars = s.vars := by
  have h := (flat_correct env hie hp s hcode.left htr hroom).2 err hx
  obtain ⟨k, s1, s2, hk, h1, h2, hv, -, -⟩ := h
  refine ⟨s2, ?_, hv⟩
  exact runSteps_error_mono env hie k _ s s1 s2 err h1 h2 (by simp; omega)

end vm

end Lemmas.Assign
end Basic

import BasicModel.Lemmas.LexScan
/-
  Fuel sufficiency for the token iterator: every scanner returns a strictly shorter remainder, so
  `lexLoop` with any fuel above the remaining length computes the same list; `lexFrom` hides the
  fuel and `lexFrom_cons` is its one-step unfolding.
-/
namespace Basic
namespace Lex

theorem whitespace_shortens (c : Char) (cs : List Char) :
    (whitespace (c :: cs)).2.length < (c :: cs).length := by
  simp only [whitespace, List.length_cons]
  have := length_dropWhile_le isWs cs
  omega

/-- `number()` consumes at least its first character (`numberLoop_consumed`); it starts on a digit or a period, where
    nothing is un-read at once -/
theorem number_shortens (c : Char) (cs : List Char) (h : (isDigit c || c = '.') = true) :
    (number (c :: cs)).2.length < (c :: cs).length := by
  obtain ⟨k, hk, -, h2, -⟩ := numberLoop_consumed (c :: cs) [] 0 false false (by simp) (not_PB_of_numHead c cs h)
  have hl : ((c :: cs).drop k).length < (c :: cs).length := by
    simp only [List.length_drop, List.length_cons]
    omega
  rcases h2 with e | ⟨e, r, e1, e2, -⟩
  · exact e ▸ hl
  · rw [e1] at hl
    exact (congrArg List.length e2) ▸ hl

theorem string_shortens (c : Char) (cs : List Char) :
    (string (c :: cs)).2.length < (c :: cs).length := by
  have := length_dropWhile_le notQuote cs
  simp only [string, List.tail_cons, stringBody_eq, List.length_tail, List.length_cons]
  omega

theorem alphaTail_length (p : List Token) (s : Str) (r : List Char) : (alphaTail p s r).2.length ≤ r.length := by
  have := length_dropWhile_le isDigit r
  unfold alphaTail
  split
  · rename_i c r' e
    rw [e] at this
    split <;> simp only [List.length_cons] at this ⊢ <;> omega
  · exact Nat.zero_le _

theorem alphabetic_shortens (c : Char) (cs : List Char) (h : isAlpha c = true) :
    (alphabetic (c :: cs)).2.length < (c :: cs).length := by
  have hl := length_dropWhile_le isAlpha cs
  rw [alphabetic_eq c cs h, alphaSpan, List.dropWhile_cons, if_pos h]
  split
  · exact Nat.lt_succ_of_le hl
  · exact Nat.lt_succ_of_le (Nat.le_trans (alphaTail_length _ _ _) hl)

theorem radixDigits_length_le (h : Bool) (cs : List Char) :
    (radixDigits h cs).2.length ≤ cs.length := by
  rw [radixDigits_eq]
  have := length_dropWhile_le (radixOk h) cs
  split <;> simp_all

theorem radix_shortens (c : Char) (cs : List Char) :
    (radix (c :: cs)).2.length < (c :: cs).length := by
  cases cs with
  | nil => exact Nat.zero_lt_succ _
  | cons x r =>
    rw [radix_eq]
    split
    · have := radixDigits_length_le true r
      simp only [List.length_cons]
      omega
    · have := radixDigits_length_le false (x :: r)
      simp only [List.length_cons] at *
      omega

theorem minutia_shortens (c : Char) (cs : List Char) :
    (minutia (c :: cs)).2.length < (c :: cs).length := by
  rw [minutia_eq]
  have := length_dropWhile_le nADW cs
  split <;> simp only [List.length_cons] <;> omega

theorem lexLoop_nil (f : Nat) (r : Bool) : lexLoop f [] r = [] := by
  cases f <;> rfl

/-- the arms of `Iterator::next`; `k` is what is done with the rest of the text -/
def lexArms (k : List Char → Bool → List Token) (pk : Char) (cs : List Char) (remark : Bool) : List Token :=
  if remark then [.unknown (pk :: cs)]
  else if isWs pk then
    (whitespace (pk :: cs)).1 :: k (whitespace (pk :: cs)).2 false
  else if isDigit pk || pk = '.' then
    (number (pk :: cs)).1 :: k (number (pk :: cs)).2 false
  else if isAlpha pk then
    match (alphabetic (pk :: cs)).1 with
    | [] => []
    | t :: ts => t :: ts ++ k (alphabetic (pk :: cs)).2 (t == .word .rem1)
  else if pk = '"' then
    (string (pk :: cs)).1 :: k (string (pk :: cs)).2 false
  else if pk = '&' then
    (radix (pk :: cs)).1 :: k (radix (pk :: cs)).2 false
  else
    (minutia (pk :: cs)).1 :: k (minutia (pk :: cs)).2 ((minutia (pk :: cs)).1 == .word .rem2)

/-- every arm hands on a text shorter than the one it was given: two continuations that agree on
    those texts give the same tokens -/
theorem lexArms_congr (k k' : List Char → Bool → List Token) (pk : Char) (cs : List Char) (r : Bool)
    (h : ∀ cs' b, cs'.length ≤ cs.length → k cs' b = k' cs' b) :
    lexArms k pk cs r = lexArms k' pk cs r := by
  unfold lexArms
  refine ite_congr rfl (fun _ => rfl) fun _ => ?_
  refine ite_congr rfl (fun _ => ?_) fun _ => ?_
  · rw [h _ _ (Nat.le_of_lt_succ (whitespace_shortens pk cs))]
  refine ite_congr rfl (fun hd => ?_) fun _ => ?_
  · rw [h _ _ (Nat.le_of_lt_succ (number_shortens pk cs hd))]
  refine ite_congr rfl (fun ha => ?_) fun _ => ?_
  · cases (alphabetic (pk :: cs)).1 with
    | nil => rfl
    | cons t ts => simp only; rw [h _ _ (Nat.le_of_lt_succ (alphabetic_shortens pk cs ha))]
  refine ite_congr rfl (fun _ => ?_) fun _ => ?_
  · rw [h _ _ (Nat.le_of_lt_succ (string_shortens pk cs))]
  refine ite_congr rfl (fun _ => ?_) fun _ => ?_
  · rw [h _ _ (Nat.le_of_lt_succ (radix_shortens pk cs))]
  · rw [h _ _ (Nat.le_of_lt_succ (minutia_shortens pk cs))]

theorem lexLoop_fuel (f : Nat) : ∀ (g : Nat) (cs : List Char) (r : Bool),
    cs.length < f → cs.length < g → lexLoop f cs r = lexLoop g cs r := by
  induction f with
  | zero => intro g cs r h; exact absurd h (Nat.not_lt_zero _)
  | succ f ih =>
    intro g cs r hf hg
    cases g with
    | zero => exact absurd hg (Nat.not_lt_zero _)
    | succ g =>
      cases cs with
      | nil => rfl
      | cons pk cs =>
        simp only [List.length_cons] at hf hg
        exact lexArms_congr (lexLoop f) (lexLoop g) pk cs r fun cs' b h => ih g cs' b (by omega) (by omega)

/-- the token iterator from a lexer state (characters, remark flag), fuel hidden -/
def lexFrom (cs : List Char) (remark : Bool) : List Token := lexLoop (cs.length + 1) cs remark

theorem rawTokens_eq (cs : List Char) : rawTokens cs = lexFrom cs false := rfl

@[simp] theorem lexFrom_nil (r : Bool) : lexFrom [] r = [] := rfl

theorem lexLoop_eq_lexFrom (f : Nat) (cs : List Char) (r : Bool) (h : cs.length < f) :
    lexLoop f cs r = lexFrom cs r :=
  lexLoop_fuel f _ cs r h (by omega)

theorem lexFrom_cons (pk : Char) (cs : List Char) (remark : Bool) :
    lexFrom (pk :: cs) remark =
      if remark then [.unknown (pk :: cs)]
      else if isWs pk then
        (whitespace (pk :: cs)).1 :: lexFrom (whitespace (pk :: cs)).2 false
      else if isDigit pk || pk = '.' then
        (number (pk :: cs)).1 :: lexFrom (number (pk :: cs)).2 false
      else if isAlpha pk then
        match (alphabetic (pk :: cs)).1 with
        | [] => []
        | t :: ts => t :: ts ++ lexFrom (alphabetic (pk :: cs)).2 (t == .word .rem1)
      else if pk = '"' then
        (string (pk :: cs)).1 :: lexFrom (string (pk :: cs)).2 false
      else if pk = '&' then
        (radix (pk :: cs)).1 :: lexFrom (radix (pk :: cs)).2 false
      else
        (minutia (pk :: cs)).1 :: lexFrom (minutia (pk :: cs)).2 ((minutia (pk :: cs)).1 == .word .rem2) :=
  lexArms_congr (lexLoop (cs.length + 1)) lexFrom pk cs remark fun cs' b h =>
    lexLoop_eq_lexFrom _ cs' b (Nat.lt_succ_of_le h)

end Lex
end Basic

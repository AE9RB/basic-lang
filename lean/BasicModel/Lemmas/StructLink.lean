import BasicModel.Lemmas.StructCodegen
import BasicModel.Lemmas.Program
import BasicModel.Lemmas.LinkPass
import BasicModel.Lemmas.LinkMarks
import BasicModel.Lemmas.GenNeg
/-
  Linking the fragments of a structured statement: after `Link.link`, the code the generator emitted
  for a structured statement `p` at address `a` IS `compile p a` (`Lemmas/StructCompile.lean`), the
  absolute-address code the run theorems are about.

  Scope (stated in `struct_linked`): the statement's fragments are appended to a CLEAN link `l0` — no
  pending references, no WHILE marks, no local labels (an empty program with its line label, or a
  linked program: the situation of a one-line program and of a direct-mode line) — and only raw ops
  (the `end` of `linkProg` / of a direct line) follow.  This `Clean` is `Link.Linked` (Lemmas/LinkPass) with a sorted
  table, not `Link.Clean`, which asks for direct mode (and `Codegen.Clean` of `Lemmas/GenClean.lean`, the generator's clean
  path, which `Lemmas/StructCodegen.lean` is written with, is a third, unrelated notion).

  How the notions chain.  `Emitted f a p` says where in the unlinked `f` the pieces of `p` lie — `PlainAt` plain code, `RefAt`
  an op waiting for a local label, `LoopAt` a WHILE and a WEND mark — and `emitted_codeAt` is the linking step: from
  `Emitted f a p` to `CodeAt f.link.1.ops a (compile p a)`.  `Emitted` is built along `FragShape` by `emit_done`: a statement
  that is one fragment is a `Frag g p` (`Emitted g 0 p`; for IF `frag_ifThen`, `frag_ifThenElse`, with `Pending` for the test
  whose label is not defined yet), which `done_frag` appends to a `Good f`; `Done f f' p` — `f'` is `f` with the fragments of
  `p` appended, `Emitted f' f.ops.size p` — composes by `Done.seq`, `done_while`, `done_for`.  Three notions carry the recursion:
  `Ext f f'` (more code behind `f`: what is `PlainAt`, `RefAt`, `LoopAt`, `Emitted` in `f` is so in `f'`, the `.ext` lemmas),
  `Good` (a fact about a fragment `g` moves to `appended f g`, the `.right` lemmas) and `Grown` = `Good` ∧ `Ext` ∧ `Fresh`,
  which is transitive.  `struct_linked` is `Clean.good`, `emit_done`, `Emitted.ext` past the raw ops, `emitted_codeAt`.
-/
namespace Basic
namespace Lemmas.StructLink
open Basic.Spec Basic.Lemmas.ExprCompile Basic.Lemmas.StructCompile Basic.Lemmas.StructCodegen
open Basic.Link

theorem link_symbols_linkWhiles (f : Link) : f.linkWhiles.1.symbols = f.symbols := by
  rw [linkWhiles_matches]

/-- plain code at `a`: the ops are there, none has a pending reference, none is a WHILE / WEND mark -/
def PlainAt (f : Link) (a : Nat) (ops : List Opcode) : Prop :=
  ∀ k (h : k < ops.length), f.ops[a + k]? = some ops[k] ∧ f.unlinked.lookup (a + k) = none ∧ a + k ∉ markAddrs f

/-- the op at `x` has a pending reference to a local label that is defined at address `y` -/
def RefAt (f : Link) (x : Nat) (op : Opcode) (y : Nat) : Prop :=
  f.ops[x]? = some op ∧ x ∉ markAddrs f ∧
    ∃ c s d, s < 0 ∧ f.unlinked.lookup x = some (c, s) ∧ f.symbols.lookup s = some (y, d)

/-- a WHILE mark at `wa` (label defined at `a`) and a WEND mark at `ea` (label defined at `e`) around a
    balanced segment of marks -/
def LoopAt (f : Link) (wa ea a e : Nat) : Prop :=
  f.ops[wa]? = some (Opcode.ifNot 0) ∧ f.ops[ea]? = some (Opcode.jump 0) ∧
  ∃ (w m : Mark) (d1 d2 : Nat) (pre mid post : List (Bool × Mark)), w.2.1 = wa ∧ m.2.1 = ea ∧ w.2.2 < 0 ∧ m.2.2 < 0 ∧
    f.whiles = pre ++ (true, w) :: (mid ++ (false, m) :: post) ∧ Balanced mid ∧
    f.symbols.lookup w.2.2 = some (a, d1) ∧ f.symbols.lookup m.2.2 = some (e, d2)

/-- the statement `p` has been emitted at address `a` of the link `f` (before linking) -/
def Emitted (f : Link) : Nat → SStmt → Prop
  | a, .assign n e => PlainAt f a (flat e ++ [Opcode.pop n])
  | a, .seq p q => Emitted f a p ∧ Emitted f (a + size p) q
  | a, .ifThen c p =>
    PlainAt f a (flat c) ∧ RefAt f (a + (flat c).length) (Opcode.ifNot 0) (a + ((flat c).length + 1 + size p)) ∧
    Emitted f (a + ((flat c).length + 1)) p
  | a, .ifThenElse c p q =>
    PlainAt f a (flat c) ∧ RefAt f (a + (flat c).length) (Opcode.ifNot 0) (a + ((flat c).length + 1 + size p + 1)) ∧
    Emitted f (a + ((flat c).length + 1)) p ∧
    RefAt f (a + ((flat c).length + 1 + size p)) (Opcode.jump 0) (a + ((flat c).length + 1 + size p + 1 + size q)) ∧
    Emitted f (a + ((flat c).length + 1 + size p + 1)) q
  | a, .while c p =>
    PlainAt f a (flat c) ∧
    LoopAt f (a + (flat c).length) (a + ((flat c).length + 1 + size p)) a (a + ((flat c).length + 1 + size p + 1)) ∧
    Emitted f (a + ((flat c).length + 1)) p
  | a, .for n x y z p =>
    PlainAt f a (flat x ++ ([Opcode.pop n] ++ (flat y ++ (flat z ++ [Opcode.literal (.str n)])))) ∧
    RefAt f (a + ((flat x).length + 1 + (flat y).length + (flat z).length + 1)) (Opcode.literal (.nxt 0))
      (a + forInitLen x y z) ∧
    Emitted f (a + forInitLen x y z) p ∧ PlainAt f (a + (forInitLen x y z + size p)) [Opcode.next n]

theorem CodeAt.single {code : Array Opcode} {pc : Nat} {op : Opcode} (h : code[pc]? = some op) : CodeAt code pc [op] :=
  codeAt_singleton.2 h

theorem plain_codeAt {f : Link} {a : Nat} {ops : List Opcode} (h : PlainAt f a ops) : CodeAt f.link.1.ops a ops := by
  intro k hk
  obtain ⟨h1, h2, h3⟩ := h k hk
  rw [link_ops_none f _ (by rw [pend_lookup_other f _ h3]; exact h2)]
  exact h1

theorem ref_link {f : Link} (hkd : KeysDistinct f.unlinked) {x : Nat} {op op' : Opcode} {y : Nat} (h : RefAt f x op y)
    (hp : ∀ d, patched op y d = some op') : f.link.1.ops[x]? = some op' := by
  obtain ⟨h1, h2, c, s, d, _, h3, h4⟩ := h
  exact link_ops_some hkd (by rw [pend_lookup_other f _ h2]; exact h3) h4 h1 (hp d)

theorem loop_link {f : Link} (hkd : KeysDistinct f.unlinked) (hmd : (markAddrs f).Nodup) {wa ea a e : Nat}
    (h : LoopAt f wa ea a e) :
    f.link.1.ops[wa]? = some (Opcode.ifNot e) ∧ f.link.1.ops[ea]? = some (Opcode.jump a) := by
  obtain ⟨h1, h2, w, m, d1, d2, pre, mid, post, rfl, rfl, _, _, hw, hb, hs1, hs2⟩ := h
  obtain ⟨p1, p2⟩ := pend_lookup_pair f hmd w m pre mid post hw hb
  exact ⟨link_ops_some hkd p1 hs2 h1 rfl, link_ops_some hkd p2 hs1 h2 rfl⟩

/-- **linking**: the emitted form becomes the absolute-address code of `Lemmas/StructCompile.lean`; the
    addresses `Emitted` names are those at which the code of each construct holds its pieces -/
theorem emitted_codeAt (f : Link) (hkd : KeysDistinct f.unlinked) (hmd : (markAddrs f).Nodup) :
    ∀ (p : SStmt) (a : Nat), Emitted f a p → CodeAt f.link.1.ops a (compile p a)
  | .assign _ _, _, h => plain_codeAt h
  | .seq p q, a, h =>
    codeAt_append.2 ⟨emitted_codeAt f hkd hmd p a h.1, by rw [compile_length]; exact emitted_codeAt f hkd hmd q _ h.2⟩
  | .ifThen c p, a, ⟨h1, h2, h3⟩ =>
    (codeAt_ifThenCode c _ _ a).2 ⟨plain_codeAt h1, ref_link hkd h2 fun _ => rfl, emitted_codeAt f hkd hmd p _ h3⟩
  | .ifThenElse c p q, a, ⟨h1, h2, h3, h4, h5⟩ =>
    (codeAt_ifElseCode c _ _ _ _ (compile_length p) a).2 ⟨plain_codeAt h1, ref_link hkd h2 fun _ => rfl,
      emitted_codeAt f hkd hmd p _ h3, ref_link hkd h4 fun _ => rfl, emitted_codeAt f hkd hmd q _ h5⟩
  | .while c p, a, ⟨h1, h2, h3⟩ =>
    (codeAt_whileCode c _ _ (compile_length p) a).2 ⟨plain_codeAt h1, (loop_link hkd hmd h2).1,
      emitted_codeAt f hkd hmd p _ h3, (loop_link hkd hmd h2).2⟩
  | .for n x y z p, a, ⟨h1, h2, h3, h4⟩ =>
    (codeAt_forCode n x y z _ _ (compile_length p) a).2 ⟨plain_codeAt h1, ref_link hkd h2 fun _ => rfl,
      emitted_codeAt f hkd hmd p _ h3, plain_codeAt h4⟩

/-- the invariants of a link under construction that the transports need -/
structure Good (f : Link) : Prop where
  loc : LocalOk f
  sorted : SymSorted f.symbols
  keys : ∀ p ∈ f.unlinked, p.1 < f.ops.size
  marks : ∀ m ∈ f.whiles, m.2.2.1 < f.ops.size
  kd : KeysDistinct f.unlinked
  md : (markAddrs f).Nodup

theorem Good.not_mark {f : Link} (hf : Good f) {x : Nat} (hx : f.ops.size ≤ x) : x ∉ markAddrs f := by
  intro h
  obtain ⟨m, hm, e⟩ := List.mem_map.1 h
  have := hf.marks m hm
  omega

/-- `f'` is `f` with more code after it: what `f` says about its own addresses and labels stays true -/
structure Ext (f f' : Link) : Prop where
  ops : ∀ x, x < f.ops.size → f'.ops[x]? = f.ops[x]?
  size : f.ops.size ≤ f'.ops.size
  cs : f'.currentSymbol ≤ f.currentSymbol
  syms : ∀ s v, f.symbols.lookup s = some v → f'.symbols.lookup s = some v
  unl : ∀ x, x < f.ops.size → f'.unlinked.lookup x = f.unlinked.lookup x
  whiles : ∃ new, f'.whiles = f.whiles ++ new ∧ ∀ m ∈ new, f.ops.size ≤ m.2.2.1

/-- the labels `f'` defines beyond those of `f` lie below `f`'s label counter -/
def Fresh (f f' : Link) : Prop := ∀ q ∈ f'.symbols, q ∈ f.symbols ∨ q.1 < f.currentSymbol

theorem Ext.refl (f : Link) : Ext f f :=
  ⟨fun _ _ => rfl, Nat.le_refl _, Int.le_refl _, fun _ _ h => h, fun _ _ => rfl, ⟨[], (List.append_nil _).symm, nofun⟩⟩

theorem Ext.trans {f f' f'' : Link} (h1 : Ext f f') (h2 : Ext f' f'') : Ext f f'' := by
  refine ⟨?_, Nat.le_trans h1.size h2.size, Int.le_trans h2.cs h1.cs, fun s v h => h2.syms s v (h1.syms s v h), ?_, ?_⟩
  · intro x hx
    rw [h2.ops x (Nat.lt_of_lt_of_le hx h1.size), h1.ops x hx]
  · intro x hx
    rw [h2.unl x (Nat.lt_of_lt_of_le hx h1.size), h1.unl x hx]
  · obtain ⟨n1, e1, b1⟩ := h1.whiles
    obtain ⟨n2, e2, b2⟩ := h2.whiles
    refine ⟨n1 ++ n2, by rw [e2, e1, List.append_assoc], ?_⟩
    intro m hm
    rcases List.mem_append.1 hm with h | h
    · exact b1 m h
    · exact Nat.le_trans h1.size (b2 m h)

theorem Fresh.refl (f : Link) : Fresh f f := fun _ h => .inl h

/-- `f'` is `f` with fragments appended -/
structure Grown (f f' : Link) : Prop where
  good : Good f'
  ext : Ext f f'
  fresh : Fresh f f'

theorem Grown.trans {f f' f'' : Link} (h1 : Grown f f') (h2 : Grown f' f'') : Grown f f'' where
  good := h2.good
  ext := h1.ext.trans h2.ext
  fresh := fun q hq => (h2.fresh q hq).elim (h1.fresh q) fun h => .inr (Int.lt_of_lt_of_le h h1.ext.cs)

theorem lt_size_of_getElem? {f : Link} {x : Nat} {op : Opcode} (h : f.ops[x]? = some op) : x < f.ops.size :=
  (Array.getElem?_eq_some_iff.1 h).1

theorem Ext.not_mark {f f' : Link} (h : Ext f f') {x : Nat} (hx : x < f.ops.size) (hm : x ∉ markAddrs f) :
    x ∉ markAddrs f' := by
  obtain ⟨new, e, b⟩ := h.whiles
  unfold markAddrs at hm ⊢
  rw [e, List.map_append, List.mem_append]
  rintro (h1 | h1)
  · exact hm h1
  · obtain ⟨m, hm', rfl⟩ := List.mem_map.1 h1
    have := b m hm'
    omega

theorem PlainAt.ext {f f' : Link} (he : Ext f f') {a : Nat} {ops : List Opcode} (h : PlainAt f a ops) :
    PlainAt f' a ops := by
  intro k hk
  obtain ⟨h1, h2, h3⟩ := h k hk
  have hlt := lt_size_of_getElem? h1
  exact ⟨by rw [he.ops _ hlt]; exact h1, by rw [he.unl _ hlt]; exact h2, he.not_mark hlt h3⟩

/-- the op at `x` waits for the label `s`, which need not be defined yet -/
def Pending (f : Link) (x : Nat) (op : Opcode) (c : Col) (s : Symbol) : Prop :=
  f.ops[x]? = some op ∧ x ∉ markAddrs f ∧ f.unlinked.lookup x = some (c, s)

theorem Pending.ext {f f' : Link} (he : Ext f f') {x : Nat} {op : Opcode} {c : Col} {s : Symbol}
    (h : Pending f x op c s) : Pending f' x op c s := by
  obtain ⟨h1, h2, h3⟩ := h
  have hlt := lt_size_of_getElem? h1
  exact ⟨by rw [he.ops _ hlt]; exact h1, he.not_mark hlt h2, by rw [he.unl _ hlt]; exact h3⟩

theorem RefAt.ext {f f' : Link} (he : Ext f f') {x : Nat} {op : Opcode} {y : Nat} (h : RefAt f x op y) :
    RefAt f' x op y := by
  obtain ⟨h1, h2, c, s, d, hs, h3, h4⟩ := h
  obtain ⟨p1, p2, p3⟩ := Pending.ext he ⟨h1, h2, h3⟩
  exact ⟨p1, p2, c, s, d, hs, p3, he.syms _ _ h4⟩

theorem LoopAt.ext {f f' : Link} (he : Ext f f') {wa ea a e : Nat} (h : LoopAt f wa ea a e) : LoopAt f' wa ea a e := by
  obtain ⟨h1, h2, w, m, d1, d2, pre, mid, post, hw, hm, hws, hms, hwh, hb, hs1, hs2⟩ := h
  obtain ⟨new, en, _⟩ := he.whiles
  refine ⟨by rw [he.ops _ (lt_size_of_getElem? h1)]; exact h1, by rw [he.ops _ (lt_size_of_getElem? h2)]; exact h2,
    w, m, d1, d2, pre, mid, post ++ new, hw, hm, hws, hms, ?_, hb, he.syms _ _ hs1, he.syms _ _ hs2⟩
  rw [en, hwh]
  simp

/-- every address `Emitted` names is the statement's own address plus an offset: when a map `φ` of
    addresses respects offsets and plain code, references and loops can be carried along it, so can emitted
    statements -/
theorem Emitted.map {f f' : Link} {φ : Nat → Nat} (hφ : ∀ a k, φ (a + k) = φ a + k)
    (hP : ∀ {a ops}, PlainAt f a ops → PlainAt f' (φ a) ops)
    (hR : ∀ {x op y}, RefAt f x op y → RefAt f' (φ x) op (φ y))
    (hL : ∀ {wa ea a e}, LoopAt f wa ea a e → LoopAt f' (φ wa) (φ ea) (φ a) (φ e)) :
    ∀ (p : SStmt) (a : Nat), Emitted f a p → Emitted f' (φ a) p
  | .assign _ _, _, h => hP h
  | .seq p q, a, h => by
    simp only [Emitted, ← hφ]
    exact ⟨Emitted.map hφ hP hR hL p a h.1, Emitted.map hφ hP hR hL q _ h.2⟩
  | .ifThen _ p, a, h => by
    simp only [Emitted, ← hφ]
    exact ⟨hP h.1, hR h.2.1, Emitted.map hφ hP hR hL p _ h.2.2⟩
  | .ifThenElse _ p q, a, h => by
    simp only [Emitted, ← hφ]
    exact ⟨hP h.1, hR h.2.1, Emitted.map hφ hP hR hL p _ h.2.2.1, hR h.2.2.2.1, Emitted.map hφ hP hR hL q _ h.2.2.2.2⟩
  | .while _ p, a, h => by
    simp only [Emitted, ← hφ]
    exact ⟨hP h.1, hL h.2.1, Emitted.map hφ hP hR hL p _ h.2.2⟩
  | .for _ _ _ _ p, a, h => by
    simp only [Emitted, ← hφ]
    exact ⟨hP h.1, hR h.2.1, Emitted.map hφ hP hR hL p _ h.2.2.1, hP h.2.2.2⟩

theorem Emitted.ext {f f' : Link} (he : Ext f f') {p : SStmt} {a : Nat} (h : Emitted f a p) : Emitted f' a p :=
  Emitted.map (φ := id) (fun _ _ => rfl) (fun h => PlainAt.ext he h) (fun h => RefAt.ext he h)
    (fun h => LoopAt.ext he h) p a h

/-- how `append` moves a mark of the appended fragment -/
def shiftMark (f : Link) (m : Mark) : Mark := (m.1, m.2.1 + f.ops.size, m.2.2 + f.currentSymbol)

theorem appended_whiles (f g : Link) :
    (appended f g).whiles = f.whiles ++ g.whiles.map fun m => (m.1, shiftMark f m.2) := rfl

theorem appended_size (f g : Link) : (appended f g).ops.size = f.ops.size + g.ops.size := Array.size_append

theorem markAddrs_appended (f g : Link) :
    markAddrs (appended f g) = markAddrs f ++ (markAddrs g).map (· + f.ops.size) := by
  unfold markAddrs
  rw [appended_whiles, List.map_append, List.map_map, List.map_map]
  rfl

theorem good_appended {f g : Link} (hf : Good f) (hg : Good g) : Good (appended f g) := by
  refine ⟨LocalOk.appended hf.loc hg.loc, appendSymbols_sorted hf.sorted, DataOrder.RefBounded.appended hf.keys hg.keys, ?_,
    appendUnlinked_distinct hf.kd, ?_⟩
  · intro m hm
    rw [appended_size]
    rcases mem_appendWhiles hm with h | ⟨q, hq, rfl⟩
    · have := hf.marks m h; omega
    · have := hg.marks q hq; show q.2.2.1 + f.ops.size < _; omega
  · rw [markAddrs_appended, List.nodup_append]
    refine ⟨hf.md, ?_, ?_⟩
    · exact List.Pairwise.map _ (fun a b (h : a ≠ b) => by show a + f.ops.size ≠ b + f.ops.size; omega) hg.md
    · intro a ha b hb e
      obtain ⟨m, hm, rfl⟩ := List.mem_map.1 ha
      obtain ⟨c, _, rfl⟩ := List.mem_map.1 hb
      have := hf.marks m hm
      omega

theorem grown_appended {f g : Link} (hf : Good f) (hg : Good g) (hn : NegSyms g) : Grown f (appended f g) where
  good := good_appended hf hg
  fresh := by
    intro q hq
    rcases mem_appendSymbols hq with h | ⟨r, hr, rfl⟩
    · exact .inl h
    · right
      have := hn.2 r hr
      show rebase f.currentSymbol r.1 < f.currentSymbol
      rw [rebase_local _ _ this]
      simp only [Symbol] at *
      omega
  ext := by
    refine ⟨fun x hx => Array.getElem?_append_left hx, by rw [appended_size]; omega, ?_, ?_,
      appendUnlinked_lookup_left f g, ⟨_, appended_whiles f g, ?_⟩⟩
    · show f.currentSymbol + g.currentSymbol ≤ f.currentSymbol
      have := hg.loc.cur
      simp only [Symbol] at *
      omega
    · intro s v h
      show (appendSymbols f g).lookup s = some v
      rw [appendSymbols_lookup_left s, h]
      -- a label of `g`, re-based, lies below `f`'s counter; the labels of `f` do not
      intro q hq e
      have hq0 := hn.2 q hq
      rw [rebase_local _ _ hq0] at e
      by_cases hs : s < 0
      · have := hf.loc.symbols (s, v) (List.mem_of_lookup h) hs
        simp only [Symbol] at *
        omega
      · have := hf.loc.cur
        simp only [Symbol] at *
        omega
    · intro m hm
      obtain ⟨q, _, rfl⟩ := List.mem_map.1 hm
      show f.ops.size ≤ q.2.2.1 + f.ops.size
      omega

theorem Grown.negSyms {f f' : Link} (h : Grown f f') (hf : NegSyms f) : NegSyms f' :=
  ⟨Int.le_trans h.ext.cs hf.1, fun q hq => (h.fresh q hq).elim (hf.2 q) fun hlt => Int.lt_of_lt_of_le hlt hf.1⟩

theorem Fresh.lookup_none {f f' : Link} (h : Fresh f f') {s : Symbol} (hs : f.currentSymbol ≤ s)
    (hf : ∀ q ∈ f.symbols, q.1 ≠ s) : f'.symbols.lookup s = none := by
  rw [List.lookup_eq_none_iff]
  intro q hq
  have : q.1 ≠ s := by
    rcases h q hq with h | h
    · exact hf q h
    · exact fun e => Int.lt_irrefl _ (Int.lt_of_lt_of_le (e ▸ h) hs)
  simpa using fun e : s = q.1 => this e.symm

theorem appended_ops_right (f g : Link) (x : Nat) : (appended f g).ops[f.ops.size + x]? = g.ops[x]? := by
  show (f.ops ++ g.ops)[f.ops.size + x]? = _
  rw [Array.getElem?_append_right (by omega)]
  congr 1
  omega

theorem appended_unl_right {f : Link} (hf : Good f) (g : Link) (x : Nat) :
    (appended f g).unlinked.lookup (f.ops.size + x) =
      (g.unlinked.lookup x).map fun v => (v.1, rebase f.currentSymbol v.2) := by
  show (appendUnlinked f g).lookup (f.ops.size + x) = _
  rw [Nat.add_comm, appendUnlinked_lookup_right]
  cases g.unlinked.lookup x with
  | some v => rfl
  | none => exact DataOrder.RefBounded.lookup_ge hf.keys (by omega)

theorem appended_sym_right {f g : Link} (hf : Good f) (hg : Good g) {s : Symbol} {y d : Nat} (hs : s < 0)
    (h : g.symbols.lookup s = some (y, d)) :
    (appended f g).symbols.lookup (s + f.currentSymbol) = some (f.ops.size + y, d + f.data.size) := by
  show (appendSymbols f g).lookup (s + f.currentSymbol) = _
  rw [appendSymbols_lookup_local_right hg.sorted hf.loc.cur s hs (by rw [h]; rfl), h, Nat.add_comm]
  rfl

theorem not_mark_right {f : Link} (hf : Good f) {g : Link} {x : Nat} (h : x ∉ markAddrs g) :
    f.ops.size + x ∉ markAddrs (appended f g) := by
  rw [markAddrs_appended, List.mem_append]
  rintro (h1 | h1)
  · exact hf.not_mark (Nat.le_add_right ..) h1
  · obtain ⟨y, hy, e⟩ := List.mem_map.1 h1
    obtain rfl : y = x := by omega
    exact h hy

theorem PlainAt.right {f : Link} (hf : Good f) {g : Link} {k : Nat} {ops : List Opcode} (h : PlainAt g k ops) :
    PlainAt (appended f g) (f.ops.size + k) ops := by
  intro j hj
  obtain ⟨h1, h2, h3⟩ := h j hj
  rw [Nat.add_assoc]
  refine ⟨by rw [appended_ops_right]; exact h1, ?_, not_mark_right hf h3⟩
  rw [appended_unl_right hf, h2]
  rfl

theorem RefAt.right {f g : Link} (hf : Good f) (hg : Good g) {x : Nat} {op : Opcode} {y : Nat} (h : RefAt g x op y) :
    RefAt (appended f g) (f.ops.size + x) op (f.ops.size + y) := by
  obtain ⟨h1, h2, c, s, d, hs, h3, h4⟩ := h
  refine ⟨by rw [appended_ops_right]; exact h1, not_mark_right hf h2, c, s + f.currentSymbol, d + f.data.size, ?_, ?_,
    appended_sym_right hf hg hs h4⟩
  · have := hf.loc.cur
    simp only [Symbol] at *
    omega
  · rw [appended_unl_right hf, h3]
    show some (c, rebase f.currentSymbol s) = _
    rw [rebase_local _ _ hs]

theorem LoopAt.right {f g : Link} (hf : Good f) (hg : Good g) {wa ea a e : Nat} (h : LoopAt g wa ea a e) :
    LoopAt (appended f g) (f.ops.size + wa) (f.ops.size + ea) (f.ops.size + a) (f.ops.size + e) := by
  obtain ⟨h1, h2, w, m, d1, d2, pre, mid, post, hw, hm, hws, hms, hwh, hb, hs1, hs2⟩ := h
  have hc := hf.loc.cur
  refine ⟨by rw [appended_ops_right]; exact h1, by rw [appended_ops_right]; exact h2,
    shiftMark f w, shiftMark f m, d1 + f.data.size, d2 + f.data.size,
    f.whiles ++ pre.map (fun m => (m.1, shiftMark f m.2)), mid.map (fun m => (m.1, shiftMark f m.2)),
    post.map (fun m => (m.1, shiftMark f m.2)), ?_, ?_, ?_, ?_, ?_, balanced_map (shiftMark f) hb,
    appended_sym_right hf hg hws hs1, appended_sym_right hf hg hms hs2⟩
  · show w.2.1 + f.ops.size = _; omega
  · show m.2.1 + f.ops.size = _; omega
  · show w.2.2 + f.currentSymbol < 0; simp only [Symbol] at *; omega
  · show m.2.2 + f.currentSymbol < 0; simp only [Symbol] at *; omega
  · rw [appended_whiles, hwh]
    simp

theorem Emitted.right {f g : Link} (hf : Good f) (hg : Good g) {p : SStmt} {k : Nat} (h : Emitted g k p) :
    Emitted (appended f g) (f.ops.size + k) p :=
  Emitted.map (fun _ _ => (Nat.add_assoc ..).symm) (fun h => PlainAt.right hf h) (fun h => RefAt.right hf hg h)
    (fun h => LoopAt.right hf hg h) p k h

/-- a new label (`lnextSymbol`) and `op` waiting for it (`pushJump`, `pushIfnot`): the two steps with which the IF arm of
    the generator opens a branch -/
def withRef (f : Link) (c : Col) (op : Opcode) : Link := ((f.nextSymbol.1.addUnlinked c f.nextSymbol.2).push op).1

theorem withRef_size (f : Link) (c : Col) (op : Opcode) : (withRef f c op).ops.size = f.ops.size + 1 :=
  Array.size_push ..

theorem good_withRef {f : Link} (hf : Good f) (c : Col) (op : Opcode) : Good (withRef f c op) := by
  refine ⟨(hf.loc.nextSymbol.1.addUnlinked c _ (.inr (Int.le_refl _))).push op, hf.sorted,
    DataOrder.RefBounded.ref (l := f.nextSymbol.1) hf.keys c _ op, ?_, addUnlinked_distinct c _ hf.kd, hf.md⟩
  intro m hm
  rw [withRef_size]
  have := hf.marks m hm
  omega

theorem ext_withRef (f : Link) (c : Col) (op : Opcode) : Ext f (withRef f c op) := by
  refine ⟨?_, by rw [withRef_size]; omega, Int.sub_le_self _ (by decide), fun _ _ h => h, ?_,
    ⟨[], (List.append_nil _).symm, nofun⟩⟩
  · intro x hx
    show (f.ops.push op)[x]? = _
    rw [Array.getElem?_push_lt hx]
    simp [hx]
  · intro x hx
    show (unlInsert f.ops.size (c, f.nextSymbol.2) f.unlinked).lookup x = _
    rw [unlInsert_lookup, if_neg (by omega)]

theorem pending_withRef {f : Link} (hf : Good f) (c : Col) (op : Opcode) :
    Pending (withRef f c op) f.ops.size op c f.nextSymbol.2 := by
  refine ⟨?_, hf.not_mark (Nat.le_refl _), ?_⟩
  · show (f.ops.push op)[f.ops.size]? = _
    simp
  · show (unlInsert f.ops.size (c, f.nextSymbol.2) f.unlinked).lookup f.ops.size = _
    rw [unlInsert_lookup, if_pos rfl]

theorem good_pushSymbol {f : Link} (hf : Good f) (sym : Symbol) (hs : 0 ≤ sym ∨ f.currentSymbol ≤ sym) :
    Good (f.pushSymbol sym) :=
  ⟨hf.loc.pushSymbol sym hs, symInsert_sorted _ _ hf.sorted, hf.keys, hf.marks, hf.kd, hf.md⟩

theorem ext_pushSymbol {f : Link} (sym : Symbol) (hno : f.symbols.lookup sym = none) : Ext f (f.pushSymbol sym) := by
  refine ⟨fun _ _ => rfl, Nat.le_refl _, Int.le_refl _, ?_, fun _ _ => rfl, ⟨[], (List.append_nil _).symm, nofun⟩⟩
  intro s v h
  show (symInsert sym (f.ops.size, f.data.size) f.symbols).lookup s = some v
  rw [symInsert_lookup, if_neg, h]
  rintro rfl
  rw [hno] at h
  cases h

theorem Pending.pushSymbol {f : Link} {x : Nat} {op : Opcode} {c : Col} {s : Symbol} (h : Pending f x op c s)
    (hs : s < 0) (hno : f.symbols.lookup s = none) : RefAt (f.pushSymbol s) x op f.ops.size := by
  obtain ⟨h1, h2, h3⟩ := h.ext (ext_pushSymbol s hno)
  exact ⟨h1, h2, c, s, f.data.size, hs, h3, pushSymbol_lookup f s⟩

theorem good_plain (xs : Array Opcode) : Good (plain xs) :=
  ⟨⟨Int.le_refl 0, nofun, nofun, nofun⟩, List.Pairwise.nil, nofun, nofun, List.Pairwise.nil, List.Pairwise.nil⟩

theorem negSyms_plain (xs : Array Opcode) : NegSyms (plain xs) := ⟨Int.le_refl 0, nofun⟩

theorem plainAt_zero {g : Link} {xs rest : List Opcode} (hops : g.ops = (xs ++ rest).toArray)
    (hunl : ∀ p ∈ g.unlinked, xs.length ≤ p.1) (hm : ∀ m ∈ g.whiles, xs.length ≤ m.2.2.1) : PlainAt g 0 xs := by
  intro k hk
  rw [Nat.zero_add]
  refine ⟨?_, ?_, ?_⟩
  · rw [hops, List.getElem?_toArray, List.getElem?_append_left hk, List.getElem?_eq_getElem hk]
  · rw [List.lookup_eq_none_iff]
    intro p hp
    have := hunl p hp
    simp
    omega
  · intro h
    obtain ⟨m, hm', e⟩ := List.mem_map.1 h
    have := hm m hm'
    omega

theorem plainAt_plain (l : List Opcode) : PlainAt (plain l.toArray) 0 l :=
  plainAt_zero (rest := []) (by simp [plain]) nofun nofun

theorem good_whileFrag (c : Col) (xs : List Opcode) : Good (whileFrag c xs) where
  loc := ⟨(by decide : (-1 : Int) ≤ 0), by simp [whileFrag], nofun, by simp [whileFrag]⟩
  sorted := by simp [whileFrag, SymSorted]
  keys := nofun
  marks := by simp [whileFrag]
  kd := List.Pairwise.nil
  md := by simp [markAddrs, whileFrag]

theorem negSyms_whileFrag (c : Col) (xs : List Opcode) : NegSyms (whileFrag c xs) :=
  ⟨(good_whileFrag c xs).loc.cur, by simp [whileFrag]⟩

theorem good_wendFrag (c : Col) : Good (wendFrag c) where
  loc := ⟨(by decide : (-1 : Int) ≤ 0), by simp [wendFrag], nofun, by simp [wendFrag]⟩
  sorted := by simp [wendFrag, SymSorted]
  keys := nofun
  marks := by simp [wendFrag]
  kd := List.Pairwise.nil
  md := by simp [markAddrs, wendFrag]

theorem negSyms_wendFrag (c : Col) : NegSyms (wendFrag c) := ⟨(good_wendFrag c).loc.cur, by simp [wendFrag]⟩

theorem good_forFrag (col : Col) (name : Str) (xa xb xs : List Opcode) : Good (forFrag col name xa xb xs) where
  loc := ⟨(by decide : (-1 : Int) ≤ 0), by simp [forFrag], by simp [forFrag], nofun⟩
  sorted := by simp [forFrag, SymSorted]
  keys := by simp [forFrag]; omega
  marks := nofun
  kd := by simp [forFrag, KeysDistinct]
  md := List.Pairwise.nil

theorem negSyms_forFrag (col : Col) (name : Str) (xa xb xs : List Opcode) : NegSyms (forFrag col name xa xb xs) :=
  ⟨(good_forFrag col name xa xb xs).loc.cur, by simp [forFrag]⟩

theorem good_ifHead (c : Col) (xs : List Opcode) : Good (ifHead c xs) where
  loc := ⟨(by decide : (-1 : Int) ≤ 0), nofun, by simp [ifHead], nofun⟩
  sorted := List.Pairwise.nil
  keys := by simp [ifHead]
  marks := nofun
  kd := by simp [ifHead, KeysDistinct]
  md := List.Pairwise.nil

/-- appending the fragments of `p` to `f` gave `f'`: everything the transports and `link` need -/
structure Done (f f' : Link) (p : SStmt) : Prop where
  good : Good f'
  ext : Ext f f'
  fresh : Fresh f f'
  marks : ∃ new, f'.whiles = f.whiles ++ new ∧ Balanced new
  size : f'.ops.size = f.ops.size + size p
  emitted : Emitted f' f.ops.size p

theorem Done.grown {f f' : Link} {p : SStmt} (h : Done f f' p) : Grown f f' := ⟨h.good, h.ext, h.fresh⟩

theorem Grown.done {f f' : Link} {p : SStmt} (h : Grown f f') (marks : ∃ new, f'.whiles = f.whiles ++ new ∧ Balanced new)
    (size : f'.ops.size = f.ops.size + size p) (emitted : Emitted f' f.ops.size p) : Done f f' p :=
  ⟨h.good, h.ext, h.fresh, marks, size, emitted⟩

/-- `g` is a fragment that holds the statement `p` and nothing else -/
structure Frag (g : Link) (p : SStmt) : Prop where
  good : Good g
  neg : NegSyms g
  bal : Balanced g.whiles
  emitted : Emitted g 0 p
  size : g.ops.size = size p

/-- a statement that is ONE fragment (LET, IF) -/
theorem done_frag {f g : Link} {p : SStmt} (hf : Good f) (hg : Frag g p) : Done f (appended f g) p :=
  (grown_appended hf hg.good hg.neg).done ⟨_, appended_whiles f g, balanced_map (shiftMark f) hg.bal⟩
    (by rw [appended_size, hg.size]) (hg.emitted.right hf hg.good)

theorem Done.seq {f f' f'' : Link} {p q : SStmt} (h1 : Done f f' p) (h2 : Done f' f'' q) : Done f f'' (.seq p q) := by
  obtain ⟨n1, e1, b1⟩ := h1.marks
  obtain ⟨n2, e2, b2⟩ := h2.marks
  refine (h1.grown.trans h2.grown).done ⟨n1 ++ n2, by rw [e2, e1, List.append_assoc], balanced_append b1 b2⟩ ?_
    ⟨h1.emitted.ext h2.ext, h1.size ▸ h2.emitted⟩
  rw [h2.size, h1.size, Nat.add_assoc]
  rfl

theorem plainAt_whileFrag (c : Col) (xs : List Opcode) : PlainAt (whileFrag c xs) 0 xs :=
  plainAt_zero (rest := [Opcode.ifNot 0]) rfl nofun (by simp [whileFrag])

theorem whileFrag_size (c : Col) (xs : List Opcode) : (whileFrag c xs).ops.size = xs.length + 1 := by
  simp [whileFrag]

/-- **WHILE … WEND**: the WHILE fragment, the body's fragments, the WEND fragment -/
theorem done_while {f : Link} (hf : Good f) (c cw : Col) (cnd : Expr) (pe : SStmt) (A2 : Link)
    (hD : Done (appended f (whileFrag c (flat cnd))) A2 pe) :
    Done f (appended A2 (wendFrag cw)) (.while cnd pe) := by
  have hW := good_whileFrag c (flat cnd)
  have hE := good_wendFrag cw
  have g1 := grown_appended hf hW (negSyms_whileFrag c (flat cnd))
  have g3 := grown_appended hD.good hE (negSyms_wendFrag cw)
  have g13 := hD.grown.trans g3
  have hsz1 : (appended f (whileFrag c (flat cnd))).ops.size = f.ops.size + ((flat cnd).length + 1) := by
    rw [appended_size, whileFrag_size]
  have hsz2 : A2.ops.size = f.ops.size + ((flat cnd).length + 1 + size pe) := by rw [hD.size, hsz1]; omega
  obtain ⟨mid, emid, bmid⟩ := hD.marks
  have hwh : (appended A2 (wendFrag cw)).whiles =
      f.whiles ++ (true, shiftMark f (c, (flat cnd).length, -1)) :: (mid ++ [(false, shiftMark A2 (cw, 0, -1))]) := by
    rw [appended_whiles, emid, appended_whiles]
    simp [whileFrag, wendFrag]
  have hcf := hf.loc.cur
  have hc2 := hD.good.loc.cur
  refine (g1.trans g13).done ⟨_, hwh, balanced_wrap _ _ bmid⟩ ?_ ⟨?_, ?_, ?_⟩
  · rw [appended_size, hsz2]
    show _ + 1 = _ + ((flat cnd).length + 1 + size pe + 1)
    omega
  · exact ((plainAt_whileFrag c (flat cnd)).right hf).ext g13.ext
  · -- the two marks, in `f`'s numbering and in `A2`'s; their labels are defined at the start of the
    -- condition and after the WEND's jump
    have hop1 : (appended f (whileFrag c (flat cnd))).ops[f.ops.size + (flat cnd).length]? = some (Opcode.ifNot 0) := by
      rw [appended_ops_right]
      show (flat cnd ++ [Opcode.ifNot 0]).toArray[(flat cnd).length]? = _
      simp
    have hop2 : (appended A2 (wendFrag cw)).ops[A2.ops.size + 0]? = some (Opcode.jump 0) := appended_ops_right ..
    have hs1 := appended_sym_right hf hW (s := -1) (y := 0) (d := 0) (by decide) rfl
    have hs2 := appended_sym_right hD.good hE (s := -1) (y := 1) (d := 0) (by decide) rfl
    rw [hsz2] at hop2 hs2
    refine ⟨?_, hop2, shiftMark f (c, (flat cnd).length, -1), shiftMark A2 (cw, 0, -1), _, _, f.whiles, mid, [],
      Nat.add_comm .., ?_, ?_, ?_, hwh, bmid, g13.ext.syms _ _ hs1, hs2⟩
    · rw [g13.ext.ops _ (lt_size_of_getElem? hop1)]
      exact hop1
    · show 0 + A2.ops.size = _; rw [hsz2]; omega
    · show (-1 : Int) + f.currentSymbol < 0; simp only [Symbol] at *; omega
    · show (-1 : Int) + A2.currentSymbol < 0; simp only [Symbol] at *; omega
  · exact hsz1 ▸ hD.emitted.ext g3.ext

theorem forFrag_ops (col : Col) (name : Str) (xa xb xs : List Opcode) :
    (forFrag col name xa xb xs).ops =
      ((xa ++ ([Opcode.pop name] ++ (xb ++ (xs ++ [Opcode.literal (.str name)])))) ++ [Opcode.literal (.nxt 0)]).toArray := by
  simp [forFrag, List.append_assoc]

theorem forFrag_size (col : Col) (name : Str) (xa xb xs : List Opcode) :
    (forFrag col name xa xb xs).ops.size = xa.length + 1 + xb.length + xs.length + 2 := by
  simp [forFrag]
  omega

theorem plainAt_forFrag (col : Col) (name : Str) (xa xb xs : List Opcode) :
    PlainAt (forFrag col name xa xb xs) 0 (xa ++ ([Opcode.pop name] ++ (xb ++ (xs ++ [Opcode.literal (.str name)])))) :=
  plainAt_zero (forFrag_ops col name xa xb xs) (by simp [forFrag]; omega) nofun

theorem refAt_forFrag (col : Col) (name : Str) (xa xb xs : List Opcode) :
    RefAt (forFrag col name xa xb xs) (xa.length + 1 + xb.length + xs.length + 1) (Opcode.literal (.nxt 0))
      (xa.length + 1 + xb.length + xs.length + 2) := by
  refine ⟨?_, nofun, col, -1, 0, by decide, by simp [forFrag], rfl⟩
  have e : xa.length + 1 + xb.length + xs.length + 1 =
      (xa ++ ([Opcode.pop name] ++ (xb ++ (xs ++ [Opcode.literal (.str name)])))).length := by
    simp only [List.length_append, List.length_singleton]
    omega
  rw [forFrag_ops, e]
  simp

/-- **FOR … NEXT**: the FOR fragment, the body's fragments, the NEXT fragment -/
theorem done_for {f : Link} (hf : Good f) (col : Col) (name : Str) (x y z : Expr) (pe : SStmt) (A2 : Link)
    (hD : Done (appended f (forFrag col name (flat x) (flat y) (flat z))) A2 pe) :
    Done f (appended A2 (plain #[Opcode.next name])) (.for name x y z pe) := by
  have hF := good_forFrag col name (flat x) (flat y) (flat z)
  have g1 := grown_appended hf hF (negSyms_forFrag col name (flat x) (flat y) (flat z))
  have g3 := grown_appended hD.good (good_plain #[Opcode.next name]) (negSyms_plain _)
  have g13 := hD.grown.trans g3
  have hsz1 : (appended f (forFrag col name (flat x) (flat y) (flat z))).ops.size = f.ops.size + forInitLen x y z := by
    rw [appended_size, forFrag_size]
    rfl
  have hsz2 : A2.ops.size = f.ops.size + (forInitLen x y z + size pe) := by rw [hD.size, hsz1]; omega
  obtain ⟨mid, emid, bmid⟩ := hD.marks
  refine (g1.trans g13).done ⟨mid, ?_, bmid⟩ ?_ ⟨?_, ?_, ?_, ?_⟩
  · rw [appended_whiles, emid, appended_whiles]
    simp [forFrag, plain]
  · rw [appended_size, hsz2]
    show _ + 1 = _ + (forInitLen x y z + size pe + 1)
    omega
  · exact ((plainAt_forFrag col name (flat x) (flat y) (flat z)).right hf).ext g13.ext
  · exact ((refAt_forFrag col name (flat x) (flat y) (flat z)).right hf hF).ext g13.ext
  · exact hsz1 ▸ hD.emitted.ext g3.ext
  · exact hsz2 ▸ (plainAt_plain [Opcode.next name]).right hD.good

theorem plainAt_ifHead (c : Col) (xs : List Opcode) : PlainAt (ifHead c xs) 0 xs :=
  plainAt_zero (rest := [Opcode.ifNot 0]) rfl (by simp [ifHead]) nofun

theorem pending_ifHead (c : Col) (xs : List Opcode) : Pending (ifHead c xs) xs.length (Opcode.ifNot 0) c (-1) := by
  refine ⟨?_, nofun, ?_⟩
  · show (xs ++ [Opcode.ifNot 0]).toArray[xs.length]? = _
    simp
  · show List.lookup xs.length [(xs.length, (c, (-1 : Int)))] = _
    rw [List.lookup_cons_eq, if_pos rfl]

theorem ifHead_size (c : Col) (xs : List Opcode) : (ifHead c xs).ops.size = xs.length + 1 := by
  simp [ifHead]

/-- what is known of the THEN part once its fragments have been appended to the head: the test still waits
    for its label −1 -/
theorem ifHead_done {c : Col} {xs : List Opcode} {pe : SStmt} {G1 : Link} (hD : Done (ifHead c xs) G1 pe) :
    NegSyms G1 ∧ G1.symbols.lookup (-1) = none ∧ G1.currentSymbol ≤ -1 ∧ G1.ops.size = xs.length + 1 + size pe ∧
    Balanced G1.whiles ∧ PlainAt G1 0 xs ∧ Pending G1 xs.length (Opcode.ifNot 0) c (-1) ∧
    Emitted G1 (xs.length + 1) pe := by
  refine ⟨hD.grown.negSyms ⟨(by decide : (-1 : Int) ≤ 0), nofun⟩, hD.fresh.lookup_none (Int.le_refl _) nofun, hD.ext.cs,
    by rw [hD.size, ifHead_size], ?_, (plainAt_ifHead c xs).ext hD.ext, (pending_ifHead c xs).ext hD.ext,
    ifHead_size c xs ▸ hD.emitted⟩
  obtain ⟨new, e, b⟩ := hD.marks
  rw [e]
  exact b

/-- **IF … THEN** as a fragment: the label −1 is defined after the THEN part -/
theorem frag_ifThen (c : Col) (cnd : Expr) (pe : SStmt) (G1 : Link) (hD : Done (ifHead c (flat cnd)) G1 pe) :
    Frag (G1.pushSymbol (-1)) (.ifThen cnd pe) := by
  obtain ⟨hneg, hno, hcs, hsz, hbal, hpl, hpend, hem⟩ := ifHead_done hD
  have e2 := ext_pushSymbol (f := G1) (-1) hno
  refine ⟨good_pushSymbol hD.good (-1) (.inr hcs), hneg.pushSymbol (by decide), hbal, ?_, hsz⟩
  simp only [Emitted, Nat.zero_add]
  exact ⟨hpl.ext e2, hsz ▸ hpend.pushSymbol (by decide) hno, hem.ext e2⟩

/-- the link when the ELSE part begins: a new label for the end of the IF, the jump to it that ends the THEN
    part, and the label −1 — where the test goes when the condition is false — defined after the jump -/
def elseHead (c : Col) (G : Link) : Link :=
  (withRef G c (Opcode.jump 0)).pushSymbol (-1)

theorem elseHead_facts {c : Col} {G : Link} (hG : Good G) (hn : NegSyms G) (hno : G.symbols.lookup (-1) = none)
    (hcs : G.currentSymbol ≤ -1) :
    Good (elseHead c G) ∧ Ext G (elseHead c G) ∧ NegSyms (elseHead c G) ∧
    (elseHead c G).symbols.lookup (-1) = some (G.ops.size + 1, G.data.size) ∧
    Pending (elseHead c G) G.ops.size (Opcode.jump 0) c (G.currentSymbol - 1) ∧
    ∀ q ∈ (elseHead c G).symbols, q.1 = -1 ∨ q ∈ G.symbols := by
  have e2 := ext_pushSymbol (f := withRef G c (Opcode.jump 0)) (-1) hno
  refine ⟨good_pushSymbol (good_withRef hG c _) (-1) (.inr ?_), (ext_withRef G c _).trans e2,
    ((hn.nextSymbol.1.addUnlinked c _).push _).pushSymbol (by decide), ?_,
    (pending_withRef hG c _).ext e2, fun q hq => (mem_symInsert hq).imp (congrArg Prod.fst) id⟩
  · show G.currentSymbol - 1 ≤ -1
    simp only [Symbol] at *
    omega
  · rw [elseHead, pushSymbol_lookup, withRef_size]
    rfl

theorem frag_ifThenElse (c : Col) (cnd : Expr) (pe qe : SStmt) (G1 G3 : Link) (hD1 : Done (ifHead c (flat cnd)) G1 pe)
    (hD2 : Done (elseHead c G1) G3 qe) : Frag (G3.pushSymbol G1.nextSymbol.2) (.ifThenElse cnd pe qe) := by
  obtain ⟨hneg1, hno1, hcs1, hsz1, hbal1, hpl, hpend, hem⟩ := ifHead_done hD1
  obtain ⟨_, e1, hneg2, hl2, hjump, hsyms⟩ := elseHead_facts (c := c) hD1.good hneg1 hno1 hcs1
  -- the label of the end: below −1, not yet defined when the ELSE part is complete
  have hfin : G1.nextSymbol.2 ≤ -2 := by show G1.currentSymbol - 1 ≤ -2; simp only [Symbol] at *; omega
  have hfin0 : G1.nextSymbol.2 < 0 := Int.lt_of_le_of_lt hfin (by decide)
  have hno3 : G3.symbols.lookup G1.nextSymbol.2 = none := by
    refine hD2.fresh.lookup_none (Int.le_refl _) fun q hq e => ?_
    rcases hsyms q hq with h | h
    · rw [e] at h
      rw [h] at hfin
      exact absurd hfin (by decide)
    · have := hD1.good.loc.symbols q h (hneg1.2 q h)
      rw [e] at this
      have : G1.currentSymbol ≤ G1.currentSymbol - 1 := this
      simp only [Symbol] at *
      omega
  have e4 := ext_pushSymbol (f := G3) G1.nextSymbol.2 hno3
  have e2F := hD2.ext.trans e4
  have e1F := e1.trans e2F
  have hszE : (elseHead c G1).ops.size = G1.ops.size + 1 := withRef_size ..
  have hsz3 : G3.ops.size = G1.ops.size + 1 + size qe := by rw [hD2.size, hszE]
  refine ⟨good_pushSymbol hD2.good _ (.inr hD2.ext.cs), (hD2.grown.negSyms hneg2).pushSymbol hfin0,
    ?_, ?_, ?_⟩
  · obtain ⟨new, en, bn⟩ := hD2.marks
    show Balanced G3.whiles
    rw [en]
    exact balanced_append hbal1 bn
  · simp only [Emitted, Nat.zero_add]
    refine ⟨hpl.ext e1F, ?_, hem.ext e1F, ?_, ?_⟩
    · obtain ⟨p1, p2, p3⟩ := hpend.ext e1
      exact hsz1 ▸ RefAt.ext e2F ⟨p1, p2, c, -1, _, by decide, p3, hl2⟩
    · have := (hjump.ext hD2.ext).pushSymbol hfin0 hno3
      rw [hsz3, hsz1] at this
      exact this
    · have := hD2.emitted.ext e4
      rw [hszE, hsz1] at this
      exact this
  · show G3.ops.size = _
    rw [hsz3, hsz1]
    rfl

theorem emit_done : ∀ (p : AStmt) (fs : List Link), FragShape p fs → ∀ (f : Link), Good f →
    Done f (appendAllL f fs) p.erase
  | .assign c cv i e, fs, h, f, hf => by
    simp only [FragShape] at h
    subst h
    rw [appendAllL_cons, appendAllL_nil]
    exact done_frag hf ⟨good_plain _, negSyms_plain _, balanced_nil, plainAt_plain _, by simp [plain, size, AStmt.erase]⟩
  | .seq p q, fs, h, f, hf => by
    obtain ⟨f1, f2, rfl, h1, h2⟩ := h
    rw [appendAllL_append]
    have d1 := emit_done p f1 h1 f hf
    exact d1.seq (emit_done q f2 h2 _ d1.good)
  | .ifThen c cnd p, fs, h, f, hf => by
    obtain ⟨ft, rfl, h1⟩ := h
    rw [appendAllL_cons, appendAllL_nil]
    exact done_frag hf (frag_ifThen c cnd p.erase _ (emit_done p ft h1 _ (good_ifHead _ _)))
  | .ifThenElse c cnd p q, fs, h, f, hf => by
    obtain ⟨ft, fe, rfl, h1, h2⟩ := h
    rw [appendAllL_cons, appendAllL_nil]
    have d1 := emit_done p ft h1 (ifHead c (flat cnd)) (good_ifHead _ _)
    obtain ⟨hneg, hno, hcs, -⟩ := ifHead_done d1
    have d2 := emit_done q fe h2 _ (elseHead_facts (c := c) d1.good hneg hno hcs).1
    have e : ifFrag c (flat cnd) ft fe =
        (appendAllL (elseHead c (appendAllL (ifHead c (flat cnd)) ft)) fe).pushSymbol
          (appendAllL (ifHead c (flat cnd)) ft).nextSymbol.2 := by
      simp only [ifFrag, FragShape.ne_nil h2, if_false]
      rfl
    rw [e]
    exact done_frag hf (frag_ifThenElse c cnd p.erase q.erase _ _ d1 d2)
  | .while c cw cnd p, fs, h, f, hf => by
    obtain ⟨fb, rfl, h1⟩ := h
    rw [appendAllL_cons, appendAllL_append, appendAllL_cons, appendAllL_nil]
    exact done_while hf c cw cnd _ _ (emit_done p fb h1 _ (good_appended hf (good_whileFrag c (flat cnd))))
  | .for _ _ _ _ i a b s p, fs, h, f, hf => by
    obtain ⟨col, fb, rfl, h1⟩ := h
    rw [appendAllL_cons, appendAllL_append, appendAllL_cons, appendAllL_nil]
    exact done_for hf col i.name a b s _ _ (emit_done p fb h1 _ (good_appended hf (good_forFrag col i.name _ _ _)))

/-- a link without pending references, WHILE marks or local labels: the empty program with the label
    of its first line, or any linked program -/
structure Clean (l : Link) : Prop where
  cs : l.currentSymbol = 0
  syms : ∀ q ∈ l.symbols, 0 ≤ q.1
  sorted : SymSorted l.symbols
  unl : l.unlinked = []
  whiles : l.whiles = []

theorem Clean.good {l : Link} (h : Clean l) : Good l where
  loc := ⟨Int.le_of_eq h.cs, fun p hp hn => absurd hn (Int.not_lt.2 (h.syms p hp)), by simp [h.unl], by simp [h.whiles]⟩
  sorted := h.sorted
  keys := by simp [h.unl]
  marks := by simp [h.whiles]
  kd := by simp [h.unl, KeysDistinct]
  md := by simp [markAddrs, h.whiles]

/-- **Linked code of a structured statement.**  Let the fragments of `p` (`FragShape`) be appended to a
    clean link `l0`, and any raw ops `post` after them.  After `link`, the code at `l0.ops.size` is
    `compile p a` — the absolute-address code the run theorems are about —, and `post` follows it
    unchanged. -/
theorem struct_linked (p : AStmt) (fs : List Link) (h : FragShape p fs) (l0 : Link) (hc : Clean l0) (post : Array Opcode) :
    CodeAt ((appendAllL l0 fs).pushOps post).link.1.ops l0.ops.size (compile p.erase l0.ops.size) ∧
    ∀ k, ((appendAllL l0 fs).pushOps post).link.1.ops[l0.ops.size + size p.erase + k]? = post[k]? := by
  have d := emit_done p fs h l0 hc.good
  have hext : Ext (appendAllL l0 fs) ((appendAllL l0 fs).pushOps post) :=
    ⟨fun x hx => Array.getElem?_append_left hx, Array.size_append ▸ Nat.le_add_right .., Int.le_refl _, fun _ _ h => h,
      fun _ _ => rfl, ⟨[], (List.append_nil _).symm, nofun⟩⟩
  constructor
  · exact emitted_codeAt ((appendAllL l0 fs).pushOps post) d.good.kd d.good.md p.erase _ (d.emitted.ext hext)
  · intro k
    rw [← d.size, link_ops_none]
    · exact appended_ops_right _ (plain post) k
    · rw [pend_lookup_other]
      · exact DataOrder.RefBounded.lookup_ge d.good.keys (Nat.le_add_right ..)
      · exact d.good.not_mark (Nat.le_add_right ..)

/-- **`Codegen.codegen` on a structured statement**: its fragments are appended to the program's link;
    nothing is reported -/
theorem codegen_struct (p : AStmt) (hp : p.erase.Pure) (hn : p.Named) (l0 : Link)
    (hsz : l0.ops.size + size p.erase ≤ Gen.stackMaxLen) (hdd : l0.data.size ≤ Gen.stackMaxLen) :
    ∃ fs, FragShape p fs ∧ Codegen.codegen l0 p.stmts = (appendAllL l0 fs, []) := by
  obtain ⟨frs, hf, he⟩ := acceptStmts_shape p hp hn (by omega) #[] #[] #[] {} []
  refine ⟨frs.map (·.2), hf, ?_⟩
  have e0 : ({} : Codegen.VState) = ⟨⟨#[], #[], #[], {}⟩, []⟩ := rfl
  rw [Codegen.codegen_eq, e0, he]
  dsimp only
  have e1 : (#[] ++ frs.toArray : Array (Col × Link)).toList = frs := by simp
  have hs : l0.ops.size + opsTotal (frs.map (·.2)) ≤ Gen.stackMaxLen := by
    rw [FragShape.opsTotal hf]
    exact hsz
  rw [e1, appendMany_ok _ l0 (FragShape.data hf) hs hdd]
  rfl

/-- whatever `linkProg` does besides linking, the code is the linked code of the link with some ops `post` behind it -/
theorem linkProg_ops (p : Program) :
    ∃ post : Array Opcode, p.linkProg.link.ops = ((p.link.pushOps post).link).1.ops := by
  rw [Program.linkProg_ops_eq]
  rcases Program.ensureEnd_link p with e | e
  · refine ⟨#[], ?_⟩
    rw [e]
    show _ = ({ p.link with ops := p.link.ops ++ #[] } : Link).link.1.ops
    rw [Array.append_empty]
  · refine ⟨#[Opcode.end], ?_⟩
    rw [e]
    rfl

theorem clean_line_label (n : Nat) : Clean (({} : Link).pushSymbol (n : Int)) where
  cs := rfl
  syms := fun _ hq => (mem_symInsert hq).elim (fun e => e ▸ Int.natCast_nonneg n) nofun
  sorted := symInsert_sorted _ _ List.Pairwise.nil
  unl := rfl
  whiles := rfl

/-- **A program of one line.**  If the line `n <tokens>` parses to the statement list of a structured
    statement `p` (pure expressions, names that are no zero-argument built-ins, code that fits), the
    compiled and linked program has `compile p 0` — the code of the run theorems — at address 0. -/
theorem compile_one_line (n : Nat) (toks : List Token) (p : AStmt) (hparse : Parse.parse (some n) toks = .ok p.stmts)
    (hp : p.erase.Pure) (hn : p.Named) (hsz : size p.erase ≤ Gen.stackMaxLen) :
    CodeAt (Program.compile [⟨some n, toks⟩]).link.ops 0 (compile p.erase 0) := by
  obtain ⟨fs, hf, hcg⟩ := codegen_struct p hp hn (({} : Link).pushSymbol (n : Int)) (by simpa using hsz) (by show (0 : Nat) ≤ Gen.stackMaxLen; decide)
  have hline : (({} : Program).codegenLines [⟨some n, toks⟩]).link = appendAllL (({} : Link).pushSymbol (n : Int)) fs := by
    show (({} : Program).codegenLine ⟨some n, toks⟩).link = _
    rw [Program.codegenLine_numbered _ _ n rfl, Program.genNumbered_ok hparse]
    exact congrArg Prod.fst hcg
  obtain ⟨post, hpost⟩ := linkProg_ops (({} : Program).codegenLines [⟨some n, toks⟩])
  unfold Program.compile
  rw [hpost, hline]
  exact (struct_linked p fs hf _ (clean_line_label n) post).1

end Lemmas.StructLink

end Basic

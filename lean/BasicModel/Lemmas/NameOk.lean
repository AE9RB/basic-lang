import BasicModel.Model.Ast
import BasicModel.Model.Opcode
/-
  C03, "the modelled panic sites are unreachable": the vocabulary.

  `Letter1 s`  — `s` starts with an upper-case ASCII letter (what `types[c - 'A']` of var.rs needs);
  `NameOk s`   — `s` is empty or `Letter1` (the empty name is the dummy of a bare `NEXT` and of a
                 variable whose code generation failed; `tyOf []` is `ok none`, not a fault);
  `VarOk / ExprOk / StmtOk` — every identifier in an AST node is `NameOk`, every *array* name `Letter1`
                 (an array element is stored under the key `name,i,…,name`; with an empty name the
                 key would start with a comma);
  `OpOk`       — the same for the name operands of an opcode.
-/
namespace Basic

def Letter1 (s : Str) : Prop := ∃ c r, s = c :: r ∧ 65 ≤ c.toNat ∧ c.toNat ≤ 90

def NameOk (s : Str) : Prop := s = [] ∨ Letter1 s

theorem Letter1.nameOk {s : Str} (h : Letter1 s) : NameOk s := .inr h
theorem NameOk.nil : NameOk [] := .inl rfl

theorem Letter1.append {s : Str} (h : Letter1 s) (t : Str) : Letter1 (s ++ t) := by
  obtain ⟨c, r, rfl, h1, h2⟩ := h
  exact ⟨c, r ++ t, rfl, h1, h2⟩

theorem Letter1.ne_nil {s : Str} (h : Letter1 s) : s ≠ [] := by
  obtain ⟨c, r, rfl, _⟩ := h; exact List.cons_ne_nil _ _

theorem NameOk.letter1 {s : Str} (h : NameOk s) (hne : s ≠ []) : Letter1 s := by
  rcases h with h | h
  · exact absurd h hne
  · exact h

instance (s : Str) : Decidable (Letter1 s) :=
  match s with
  | [] => isFalse (fun ⟨_, _, h, _⟩ => by cases h)
  | c :: r =>
    if h : 65 ≤ c.toNat ∧ c.toNat ≤ 90 then isTrue ⟨c, r, rfl, h.1, h.2⟩
    else isFalse (fun ⟨c', r', he, h1, h2⟩ => by cases he; exact h ⟨h1, h2⟩)

instance (s : Str) : Decidable (NameOk s) := by unfold NameOk; exact inferInstance

mutual
def VarOk : Variable → Prop
  | .unary _ i => NameOk i.name
  | .array _ i es => Letter1 i.name ∧ ExprsOk es
def ExprOk : Expr → Prop
  | .var v => VarOk v
  | .neg _ e => ExprOk e
  | .not _ e => ExprOk e
  | .bin _ _ l r => ExprOk l ∧ ExprOk r
  | .single _ _ => True
  | .double _ _ => True
  | .integer _ _ => True
  | .string _ _ => True
def ExprsOk : List Expr → Prop
  | [] => True
  | e :: es => ExprOk e ∧ ExprsOk es
end

theorem exprsOk_iff (es : List Expr) : ExprsOk es ↔ ∀ e ∈ es, ExprOk e := by
  induction es with
  | nil => simp [ExprsOk]
  | cons e es ih => simp [ExprsOk, ih]

def VarsOk (vs : List Variable) : Prop := ∀ v ∈ vs, VarOk v

mutual
def StmtOk : Stmt → Prop
  | .data _ es => ExprsOk es
  | .print _ es => ExprsOk es
  | .def _ v ps e => VarOk v ∧ VarsOk ps ∧ ExprOk e
  | .defdbl _ a b => VarOk a ∧ VarOk b
  | .defint _ a b => VarOk a ∧ VarOk b
  | .defsng _ a b => VarOk a ∧ VarOk b
  | .defstr _ a b => VarOk a ∧ VarOk b
  | .swap _ a b => VarOk a ∧ VarOk b
  | .mid _ v e1 e2 e3 => VarOk v ∧ ExprOk e1 ∧ ExprOk e2 ∧ ExprOk e3
  | .for _ v e1 e2 e3 => VarOk v ∧ ExprOk e1 ∧ ExprOk e2 ∧ ExprOk e3
  | .gosub _ e => ExprOk e
  | .goto _ e => ExprOk e
  | .load _ e => ExprOk e
  | .restore _ e => ExprOk e
  | .run _ e => ExprOk e
  | .save _ e => ExprOk e
  | .while _ e => ExprOk e
  | .if _ p th el => ExprOk p ∧ StmtsOk th ∧ StmtsOk el
  | .let _ v e => VarOk v ∧ ExprOk e
  | .delete _ a b => ExprOk a ∧ ExprOk b
  | .list _ a b => ExprOk a ∧ ExprOk b
  | .input _ e1 e2 vs => ExprOk e1 ∧ ExprOk e2 ∧ VarsOk vs
  | .onGoto _ e ls => ExprOk e ∧ ExprsOk ls
  | .onGosub _ e ls => ExprOk e ∧ ExprsOk ls
  | .renum _ a b st => ExprOk a ∧ ExprOk b ∧ ExprOk st
  | .dim _ vs => VarsOk vs
  | .erase _ vs => VarsOk vs
  | .next _ vs => VarsOk vs
  | .read _ vs => VarsOk vs
  | .clear _ => True
  | .cls _ => True
  | .cont _ => True
  | .end _ => True
  | .new _ => True
  | .return _ => True
  | .stop _ => True
  | .troff _ => True
  | .tron _ => True
  | .wend _ => True
def StmtsOk : List Stmt → Prop
  | [] => True
  | s :: ss => StmtOk s ∧ StmtsOk ss
end

theorem stmtsOk_iff (ss : List Stmt) : StmtsOk ss ↔ ∀ s ∈ ss, StmtOk s := by
  induction ss with
  | nil => simp [StmtsOk]
  | cons s ss ih => simp [StmtsOk, ih]

def OpOk : Opcode → Prop
  | .push n | .pop n | .eraseArr n | .next n | .def n | .fn n | .input n => NameOk n
  | .pushArr n | .popArr n | .dimArr n => Letter1 n
  | _ => True

def OpsOk (ops : Array Opcode) : Prop := ∀ op ∈ ops.toList, OpOk op

end Basic

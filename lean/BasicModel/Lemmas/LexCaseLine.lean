import BasicModel.Lemmas.LexCase
import BasicModel.Lemmas.LexStable
/-
  Case folding for whole lines: the post-passes and the line-number prefix (through `splitLineNumber_eq`) commute with
  upper-casing, hence `lex (s.map upper)` and `lex s` agree up to the case of the payloads.
-/
namespace Basic
namespace Lex

/-- the tokens whose text the lexer copies verbatim, which is what `foldTok` changes: remark text and string literals -/
def isPayload : Token → Bool
  | .unknown _ | .literal (.string _) => true
  | _ => false

theorem foldTok_of_not_payload (t : Token) (h : isPayload t = false) : foldTok t = t := by
  unfold foldTok; split <;> simp_all [isPayload]

theorem isPayload_foldTok (t : Token) : isPayload (foldTok t) = isPayload t := by
  unfold foldTok; split <;> simp_all [isPayload]

theorem isWord_foldTok (t : Token) : (foldTok t).isWord = t.isWord := by
  unfold foldTok; split <;> rfl

theorem not_payload_of_isCmp (t : Token) (h : isCmp t = true) : isPayload t = false := by
  unfold isCmp at h; split at h
  all_goals first | rfl | cases h

/-- `collapse_triples` looks at no remark text and no string literal, and builds none -/
theorem tripleMatch_not_payload (a b c T : Token) (h : tripleMatch a b c = some T) :
    isPayload a = false ∧ isPayload b = false ∧ isPayload c = false ∧ isPayload T = false := by
  obtain ⟨⟨n, eb⟩, h'⟩ := tripleMatch_some a b c T h
  subst eb
  rcases h' with ⟨ha, hc, hT⟩ | ⟨ea, ⟨ec, eT⟩ | ⟨ec, eT⟩⟩
  · exact ⟨not_payload_of_isCmp a (isCmp_of_isRawCmp a ha), rfl, not_payload_of_isCmp c (isCmp_of_isRawCmp c hc),
      not_payload_of_isCmp T hT⟩
  · subst ea; subst ec; subst eT; exact ⟨rfl, rfl, rfl, rfl⟩
  · subst ea; subst ec; subst eT; exact ⟨rfl, rfl, rfl, rfl⟩

theorem doubleMatch_not_payload (a b T : Token) (h : doubleMatch a b = some T) :
    isPayload a = false ∧ isPayload b = false ∧ isPayload T = false := by
  obtain ⟨ha, hb, hT⟩ := doubleMatch_some a b T h
  exact ⟨not_payload_of_isCmp a (isCmp_of_isRawCmp a ha), not_payload_of_isCmp b (isCmp_of_isRawCmp b hb),
    not_payload_of_isCmp T hT⟩

/-- `foldTok` changes payloads only, and a window that holds one matches nothing before or after -/
theorem tripleMatch_foldTok (a b c : Token) :
    tripleMatch (foldTok a) (foldTok b) (foldTok c) = tripleMatch a b c := by
  cases hm : tripleMatch a b c with
  | some T =>
    obtain ⟨ha, hb, hc, -⟩ := tripleMatch_not_payload a b c T hm
    rw [foldTok_of_not_payload a ha, foldTok_of_not_payload b hb, foldTok_of_not_payload c hc, hm]
  | none =>
    cases hm' : tripleMatch (foldTok a) (foldTok b) (foldTok c) with
    | none => rfl
    | some T =>
      obtain ⟨ha, hb, hc, -⟩ := tripleMatch_not_payload _ _ _ T hm'
      rw [isPayload_foldTok] at ha hb hc
      rw [foldTok_of_not_payload a ha, foldTok_of_not_payload b hb, foldTok_of_not_payload c hc, hm] at hm'
      cases hm'

theorem doubleMatch_foldTok (a b : Token) : doubleMatch (foldTok a) (foldTok b) = doubleMatch a b := by
  cases hm : doubleMatch a b with
  | some T =>
    obtain ⟨ha, hb, -⟩ := doubleMatch_not_payload a b T hm
    rw [foldTok_of_not_payload a ha, foldTok_of_not_payload b hb, hm]
  | none =>
    cases hm' : doubleMatch (foldTok a) (foldTok b) with
    | none => rfl
    | some T =>
      obtain ⟨ha, hb, -⟩ := doubleMatch_not_payload _ _ T hm'
      rw [isPayload_foldTok] at ha hb
      rw [foldTok_of_not_payload a ha, foldTok_of_not_payload b hb, hm] at hm'
      cases hm'

theorem triRec_foldTok (ts : List Token) : triRec (ts.map foldTok) = (triRec ts).map foldTok := by
  induction ts using triRec.induct with
  | case1 a b c rest t hm ih =>
    simp only [List.map_cons] at ih ⊢
    simp only [triRec, tripleMatch_foldTok, hm, ih, foldTok_of_not_payload t (tripleMatch_not_payload a b c t hm).2.2.2, List.map_tail, List.map_cons]
  | case2 a b c rest hm ih =>
    simp only [List.map_cons] at ih ⊢
    simp only [triRec, tripleMatch_foldTok, hm, ih, List.map_cons]
  | case3 ts h =>
    match ts, h with
    | [], _ => rfl
    | [a], _ => rfl
    | [a, b], _ => rfl
    | a :: b :: c :: rest, h => exact absurd rfl (h a b c rest)

theorem dblRec_foldTok (ts : List Token) : dblRec (ts.map foldTok) = (dblRec ts).map foldTok := by
  fun_induction dblRec ts with
  | case1 a b rest t hm ih => simp [dblRec, doubleMatch_foldTok, hm, ih, foldTok_of_not_payload t (doubleMatch_not_payload a b t hm).2.2]
  | case2 a b rest hm ih =>
    simp only [List.map_cons] at ih
    simp [dblRec, doubleMatch_foldTok, hm, ih]
  | case3 ts h =>
    cases ts with
    | nil => rfl
    | cons a ts =>
      cases ts with
      | nil => rfl
      | cons b rest => exact absurd rfl (h a b rest)

theorem sepRec_foldTok (ts : List Token) : sepRec (ts.map foldTok) = (sepRec ts).map foldTok := by
  induction ts with
  | nil => rfl
  | cons a ts ih =>
    cases ts with
    | nil => rfl
    | cons b rest =>
      simp only [List.map_cons] at ih ⊢
      simp only [sepRec, isWord_foldTok]
      split
      · rw [ih]; rfl
      · rw [ih]; rfl

theorem isUniWhite_upper (c : Char) : isUniWhite (upper c) = isUniWhite c := by
  by_cases h : 97 ≤ c.toNat ∧ c.toNat ≤ 122
  · have hu : (upper c).toNat = c.toNat - 32 := by rw [upper_toNat, if_pos h]
    have h1 : isUniWhite (upper c) = false := by
      simp only [isUniWhite, hu]; simp; omega
    have h2 : isUniWhite c = false := by
      simp only [isUniWhite]; simp; omega
    rw [h1, h2]
  · rw [upper_of_not_lower c h]

theorem trimEndStr_upper (s : Str) : trimEndStr (s.map upper) = (trimEndStr s).map upper := by
  have : (isUniWhite ∘ upper) = isUniWhite := by funext c; exact isUniWhite_upper c
  simp [trimEndStr, ← List.map_reverse, List.dropWhile_map, this]

theorem getLast?_map_foldTok (ts : List Token) : (ts.map foldTok).getLast? = ts.getLast?.map foldTok := by
  simp [List.getLast?_map]

theorem trimEndRev_foldTok (l : List Token) : trimEndRev (l.map foldTok) = (trimEndRev l).map foldTok := by
  induction l with
  | nil => rfl
  | cons t r ih =>
    cases t with
    | whitespace n => simpa [trimEndRev, foldTok] using ih
    | unknown s =>
      simp only [List.map_cons, foldTok, trimEndRev, trimEndStr_upper, List.isEmpty_map]
      split
      · exact ih
      · simp [foldTok]
    | literal x => cases x <;> simp [foldTok, trimEndRev]
    | _ => simp [foldTok, trimEndRev]

theorem trimEnd_foldTok (ts : List Token) : trimEnd (ts.map foldTok) = (trimEnd ts).map foldTok := by
  simp only [trimEnd, ← List.map_reverse, trimEndRev_foldTok]

theorem postPasses_foldTok (ts : List Token) : postPasses (ts.map foldTok) = (postPasses ts).map foldTok := by
  simp only [postPasses, collapseTriples_eq, collapseDoubles_eq, separateWords_eq, trimEnd_foldTok, triRec_foldTok,
    dblRec_foldTok, sepRec_foldTok]

theorem skipBlank_upper (l : Str) : skipBlank (l.map upper) = (skipBlank l).map upper := by
  cases l with
  | nil => rfl
  | cons x r =>
    by_cases hx : x = ' '
    · subst hx; rfl
    · rw [List.map_cons, skipBlank_cons _ _ hx,
        skipBlank_cons _ _ fun hh => hx ((upper_eq_nonletter x ' ' (by decide) (by decide)).mp hh), List.map_cons]

theorem splitLineNumber_upper (cs : List Char) :
    splitLineNumber (cs.map upper) = ((splitLineNumber cs).1, (splitLineNumber cs).2.map upper) := by
  have hd : (isDigit ∘ upper) = isDigit := by funext c; exact isDigit_upper c
  -- the digits of the line number are their own upper case
  have hds : ((cs.dropWhile isWs).takeWhile isDigit).map upper = (cs.dropWhile isWs).takeWhile isDigit :=
    (List.map_congr_left fun c hc => upper_of_isDigit c (takeWhile_all isDigit _ c hc)).trans (List.map_id _)
  rw [splitLineNumber_eq, splitLineNumber_eq, List.dropWhile_map, isWs_comp_upper, List.takeWhile_map, hd,
    List.dropWhile_map, hd, hds, skipBlank_upper]
  split
  · split <;> rfl
  · rfl

/-- C16 for whole lines: the case of ASCII letters matters only inside remark text and string
    literals -/
theorem lex_upper (s : Str) :
    (lex (s.map upper)).1 = (lex s).1 ∧
    (lex (s.map upper)).2.map foldTok = (lex s).2.map foldTok := by
  simp only [lex, splitLineNumber_upper, rawTokens_eq, true_and]
  rw [← postPasses_foldTok, ← postPasses_foldTok, lexFrom_upper]

theorem eq_of_foldTok_payload (l1 l2 : List Token) (h : l1.map foldTok = l2.map foldTok)
    (hp : l1.filter isPayload = l2.filter isPayload) : l1 = l2 := by
  induction l1 generalizing l2 with
  | nil => cases l2 <;> simp_all
  | cons a l1 ih =>
    cases l2 with
    | nil => simp at h
    | cons b l2 =>
      simp only [List.map_cons, List.cons.injEq] at h
      obtain ⟨hab, ht⟩ := h
      have hpab : isPayload a = isPayload b := by
        rw [← isPayload_foldTok a, ← isPayload_foldTok b, hab]
      cases ha : isPayload a with
      | true =>
        have hb : isPayload b = true := by rw [← hpab]; exact ha
        simp only [List.filter_cons, ha, hb, if_true, List.cons.injEq] at hp
        rw [hp.1, ih l2 ht hp.2]
      | false =>
        have hb : isPayload b = false := by rw [← hpab]; exact ha
        simp only [List.filter_cons, ha, hb, Bool.false_eq_true, if_false] at hp
        rw [foldTok_of_not_payload a ha, foldTok_of_not_payload b hb] at hab
        rw [hab, ih l2 ht hp]

/-- `lex_upper` as `Step.case` (Lemmas/SpellingSteps) uses it -/
theorem lex_case (s s' : Str) (h : s.map upper = s'.map upper)
    (hp : (lex s).2.filter isPayload = (lex s').2.filter isPayload) : lex s = lex s' := by
  obtain ⟨a1, a2⟩ := lex_upper s
  obtain ⟨b1, b2⟩ := lex_upper s'
  rw [h] at a1 a2
  exact Prod.ext (a1.symm.trans b1) (eq_of_foldTok_payload _ _ (a2.symm.trans b2) hp)

end Lex
end Basic

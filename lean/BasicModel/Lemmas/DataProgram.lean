import BasicModel.Lemmas.DataCursor
import BasicModel.Lemmas.Layout
import BasicModel.Lemmas.DataOrder
import BasicModel.Lemmas.WhileMarks
import BasicModel.Lemmas.DataLits
import BasicModel.Lemmas.RunClear
/-
  READ / DATA / RESTORE at the level of whole programs (C09): the compile state of
  `Lemmas/Layout.lean` meets the data sequence of `Lemmas/DataOrder.lean`.  A line that begins with
  `RESTORE [n]` has its `restore 0` at the end of the code before it, waiting for the symbol of line `n`
  or for nothing (`restore_head_pending`).
-/
namespace Basic
namespace Program
open Link DataOrder

/-- `Program.Numbered` and `DataOrder.Numbered` are the same predicate -/
theorem numbered_iff (ls : List Line) : Numbered ls ↔ DataOrder.Numbered ls := Iff.rfl

theorem endOf_data (pre : List Line) (hnum : Numbered pre) (hok : ListingClean {} pre) :
    (endOf pre).2 = (dataOf pre).length := by
  have h := congrArg List.length (codegenLines_data pre {} hnum hok)
  rw [Array.length_toList] at h
  exact h.trans (by simp)

theorem ensureEnd_ops_get {p : Program} {a : Nat} {op : Opcode} (h : p.link.ops[a]? = some op) :
    (ensureEnd p).link.ops[a]? = some op := by
  rcases ensureEnd_link p with e | e <;> rw [e]
  · exact h
  · exact push_keeps h Opcode.end

theorem whilesOps_ensureEnd {p : Program} (h : WhilesOps p.link) : WhilesOps (ensureEnd p).link := by
  intro w hw
  rw [(ensureEnd_symbols p).2.2.1] at hw
  obtain ⟨op, h1, h2⟩ := h w hw
  exact ⟨op, ensureEnd_ops_get h1, h2⟩

theorem pendingAt_ensureEnd {p : Program} {a : Nat} {op : Opcode} {x : Option (Col × Symbol)}
    (h : PendingAt p.link a op x) : PendingAt (ensureEnd p).link a op x :=
  ⟨ensureEnd_ops_get h.1, by rw [(ensureEnd_symbols p).2.1]; exact h.2⟩

theorem unreferenced_linked (ls : List Line) (hnum : Numbered ls) (a : Nat) (op : Opcode) (hm : ¬ MarkOp op)
    (hp : PendingAt (({} : Program).codegenLines ls).link a op none) :
    (compile ls).link.ops[a]? = some op := by
  have hw := codegenLines_whilesOps ls {} hnum WhilesOps.empty
  unfold compile
  rw [linkProg_ops_eq]
  exact link_keeps_unreferenced _ (whilesOps_ensureEnd hw) a op (pendingAt_ensureEnd hp).1 hm (pendingAt_ensureEnd hp).2

/-- **a line that begins with `RESTORE [n]`**, in a listing that compiles without a report: in the
    compile state of the whole listing its `restore 0` is the first instruction after the code of the
    lines before; with an operand it waits for the symbol of line `n`, without one nothing is pending
    on it (no stale reference can sit at its address: `codegenLines_refBounded`) -/
theorem restore_head_pending (pre tl : List Line) (hd : Line) (m : Nat) (hl : Listed (pre ++ hd :: tl))
    (hm : hd.number = some m) (hok : ListingClean {} (pre ++ hd :: tl))
    (c c2 : Col) (bits : UInt32) (rest : List Stmt)
    (hparse : Parse.parse hd.number hd.tokens = .ok (.restore c (.single c2 bits) :: rest)) :
    PendingAt (({} : Program).codegenLines (pre ++ hd :: tl)).link (endOf pre).1 (.restore 0)
      ((restoreTarget bits).map fun n => (c2, (n : Int))) := by
  obtain ⟨hpre, hpost, -⟩ := hl.split hm
  have hclean := listingClean_at pre tl hd {} hok m _ hm hparse
  have h1 := codegen_restore_first ((({} : Program).codegenLines pre).link.pushSymbol m) c c2 bits rest
    (fun _ => (codegenLines_refBounded pre {} hpre RefBounded.empty).lookup_end) hclean
  rw [codegenLines_append, codegenLines_cons]
  refine PendingAt.codegenLines tl _ hpost ?_
  rw [codegenLine_numbered _ hd m hm, genNumbered_ok (hm ▸ hparse)]
  exact h1

theorem runProg_data (ls : List Line) (d : Line) (hd : d.number = none) :
    (runProg ls d).link.data = (compile ls).link.data :=
  ((progSim_base_compile ls).trans (progSim_runProg ls d hd)).data

end Program
end Basic

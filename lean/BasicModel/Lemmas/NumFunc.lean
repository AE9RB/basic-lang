import BasicModel.Thm.C06
import BasicModel.Spec.Eval
import BasicModel.Lemmas.OpsTypes
/-
  The one-argument built-in functions (C02): result TYPE per argument type, the value where it can
  be stated exactly (Integers; floats are opaque bit patterns, their values stay "the model's float
  operation applied to the argument"), and TYPE MISMATCH for an argument of the wrong kind.

  `Spec.funcTy` and `Spec.takesString` are the documented table, written by hand from chapter 3 of
  the manual; `builtin1_ty` (of which `builtin1_result_type` is the documented half, and "a value in,
  a value out" a corollary) and `builtin1_type_mismatch` go over the whole table `Spec.builtin1Table`
  (the functions `Spec.eval` calls, proved to be what the VM executes in
  `Lemmas/ExprCompile.builtin1_spec`).
-/
namespace Basic
namespace Spec

def stringArgFunctions : List String := ["ASC", "LEN", "VAL"]

def takesString (name : String) : Bool := stringArgFunctions.contains name

/-- type of a transcendental function's result: computed in Single unless the argument is a Double -/
def floatTy : Ty → Ty
  | .dbl => .dbl
  | _ => .sng

/-- **the documented result type** by function name and argument type; `none` where the type
    depends on the value (ASC: Integer up to 32767, Single above; VAL: Integer for `&H…`/`&…` text,
    Double otherwise) -/
def funcTy (name : String) (arg : Ty) : Option Ty :=
  if name ∈ ["ABS", "INT", "FIX"] then some arg
  else if name ∈ ["SGN", "CINT", "LEN"] then some .int
  else if name = "CSNG" then some .sng
  else if name = "CDBL" then some .dbl
  else if name ∈ ["ATN", "COS", "EXP", "LOG", "SIN", "SQR", "TAN"] then some (floatTy arg)
  else if name ∈ ["CHR$", "HEX$", "OCT$", "SPC", "STR$"] then some .str
  else none

end Spec

namespace Lemmas.NumFunc
open Spec RStd F Thm.C08 Lemmas.VarPool

theorem abs_ty {v r : Val} (h : Func.abs v = .ok r) : r.ty = v.ty := by
  cases v <;> simp only [Func.abs, err, Except.ok.injEq, reduceCtorEq] at h
  · subst h; rfl
  · subst h; rfl
  · rename_i n
    cases hc : checkedAbs n <;> simp [hc] at h
    subst h; rfl

theorem abs_sng (b : UInt32) : Func.abs (.sng b) = .ok (.sng (b32 (f32 b).abs)) := rfl
theorem abs_dbl (b : UInt64) : Func.abs (.dbl b) = .ok (.dbl (b64 (f64 b).abs)) := rfl

theorem abs_int (n : Int16) :
    (n.toInt ≠ -32768 → ∃ r, Func.abs (.int n) = .ok (.int r) ∧ r.toInt = n.toInt.natAbs) ∧
    (n.toInt = -32768 → Func.abs (.int n) = err Code.overflow) := by
  have hr := toInt_range n
  constructor
  · intro h
    exact (abs_checked n).1 (by simp only [InRange] at hr ⊢; omega)
  · intro h
    exact (abs_checked n).2 (by simp only [InRange]; omega)

theorem sgn_int (n : Int16) :
    Func.sgn (.int n) = .ok (.int (if n = 0 then 0 else if n.toInt < 0 then -1 else 1)) := rfl

theorem sgn_values {v r : Val} (h : Func.sgn v = .ok r) : r = .int (-1) ∨ r = .int 0 ∨ r = .int 1 := by
  have key : ∀ (p q : Prop) [Decidable p] [Decidable q],
      let n : Int16 := if p then 0 else if q then -1 else 1
      Val.int n = .int (-1) ∨ Val.int n = .int 0 ∨ Val.int n = .int 1 := by
    intro p q _ _
    by_cases hp : p
    · rw [if_pos hp]; exact .inr (.inl rfl)
    · by_cases hq : q
      · rw [if_neg hp, if_pos hq]; exact .inl rfl
      · rw [if_neg hp, if_neg hq]; exact .inr (.inr rfl)
  cases v <;> simp only [Func.sgn, err, Except.ok.injEq, reduceCtorEq] at h <;> subst h <;> exact key _ _

theorem sgn_ty {v r : Val} (h : Func.sgn v = .ok r) : r.ty = .int := by
  rcases sgn_values h with rfl | rfl | rfl <;> rfl

theorem sgn_int_sign (n : Int16) : ∃ r, Func.sgn (.int n) = .ok (.int r) ∧ r.toInt = n.toInt.sign := by
  refine ⟨_, sgn_int n, ?_⟩
  by_cases h0 : n = 0
  · subst h0; rfl
  · have hne : n.toInt ≠ 0 := fun h => h0 (Int16.toInt_inj.1 (h.trans Int16.toInt_zero.symm))
    rw [if_neg h0]
    by_cases hneg : n.toInt < 0
    · rw [if_pos hneg, Int.sign_eq_neg_one_of_neg hneg]; rfl
    · rw [if_neg hneg, Int.sign_eq_one_of_pos (by omega)]; rfl

theorem int_ty {v r : Val} (h : Func.int v = .ok r) : r.ty = v.ty := by
  cases v <;> simp only [Func.int, err, Except.ok.injEq, reduceCtorEq] at h <;> subst h <;> rfl

theorem fix_ty {v r : Val} (h : Func.fix v = .ok r) : r.ty = v.ty := by
  cases v <;> simp only [Func.fix, err, Except.ok.injEq, reduceCtorEq] at h <;> subst h <;> rfl

theorem int_int (n : Int16) : Func.int (.int n) = .ok (.int n) := rfl
theorem fix_int (n : Int16) : Func.fix (.int n) = .ok (.int n) := rfl

theorem int_sng (b : UInt32) : Func.int (.sng b) = .ok (.sng (b32 (f32 b).floor)) := rfl
theorem int_dbl (b : UInt64) : Func.int (.dbl b) = .ok (.dbl (b64 (f64 b).floor)) := rfl

/-- FIX truncates towards zero: the ceiling of a negative number, the floor otherwise -/
theorem fix_sng (b : UInt32) :
    Func.fix (.sng b) = .ok (.sng (b32 (if f32 b < 0 then (f32 b).ceil else (f32 b).floor))) := rfl
theorem fix_dbl (b : UInt64) :
    Func.fix (.dbl b) = .ok (.dbl (b64 (if f64 b < 0 then (f64 b).ceil else (f64 b).floor))) := rfl

/-- CINT, CSNG, CDBL are the conversions `Var.store` makes for an Integer, Single, Double variable -/
theorem cint_eq_convTo (v : Val) : Func.cint v = convTo .integer v := by cases v <;> rfl
theorem csng_eq_convTo (v : Val) : Func.csng v = convTo .single v := by cases v <;> rfl
theorem cdbl_eq_convTo (v : Val) : Func.cdbl v = convTo .double v := by cases v <;> rfl

theorem cint_ty {v r : Val} (h : Func.cint v = .ok r) : r.ty = .int := convTo_ty (cint_eq_convTo v ▸ h)

theorem cint_int (n : Int16) : Func.cint (.int n) = .ok (.int n) := rfl

/-- CINT of a float is its FLOOR (not the nearest Integer) when that lies in −32768..32767, and
    OVERFLOW otherwise — NaN and the infinities included (`Thm.C08.float_to_int`) -/
theorem cint_float (v : Val) (hv : v.ty = .sng ∨ v.ty = .dbl) :
    Func.cint v = match v.floorZ with
      | some z => if InRange z then .ok (.int (Int16.ofInt z)) else err Code.overflow
      | none => err Code.overflow :=
  (cint_eq_convTo v).trans (convTo_integer_float v hv)

theorem cint_float_exact (v : Val) (hv : v.ty = .sng ∨ v.ty = .dbl) (n : Int16)
    (h : Func.cint v = .ok (.int n)) : v.floorZ = some n.toInt := by
  obtain ⟨m, hm, hf⟩ := convTo_integer_exact hv ((cint_eq_convTo v).symm.trans h)
  cases hm; exact hf

theorem csng_ty {v r : Val} (h : Func.csng v = .ok r) : r.ty = .sng := convTo_ty (csng_eq_convTo v ▸ h)

theorem cdbl_ty {v r : Val} (h : Func.cdbl v = .ok r) : r.ty = .dbl := convTo_ty (cdbl_eq_convTo v ▸ h)

theorem csng_sng (b : UInt32) : Func.csng (.sng b) = .ok (.sng b) := rfl
theorem cdbl_dbl (b : UInt64) : Func.cdbl (.dbl b) = .ok (.dbl b) := rfl

/-- the conversions proper: `i16 as f32`, `f64 as f32` (IEEE rounding to nearest; a Double beyond the
    Single range becomes an infinity, there is no OVERFLOW), `i16 as f64`, `f32 as f64` (exact) -/
theorem csng_int (n : Int16) : Func.csng (.int n) = .ok (.sng (b32 (i2s n))) := rfl
theorem csng_dbl (b : UInt64) : Func.csng (.dbl b) = .ok (.sng (b32 (d2s (f64 b)))) := rfl
theorem cdbl_int (n : Int16) : Func.cdbl (.int n) = .ok (.dbl (b64 (i2d n))) := rfl
theorem cdbl_sng (b : UInt32) : Func.cdbl (.sng b) = .ok (.dbl (b64 (s2d (f32 b)))) := rfl

theorem csng_total (v : Val) (hv : v.isNumeric = true) : ∃ b, Func.csng v = .ok (.sng b) := by
  cases v <;> simp [Val.isNumeric] at hv <;> exact ⟨_, rfl⟩
theorem cdbl_total (v : Val) (hv : v.isNumeric = true) : ∃ b, Func.cdbl v = .ok (.dbl b) := by
  cases v <;> simp [Val.isNumeric] at hv <;> exact ⟨_, rfl⟩

theorem num1_ty {fs : Float32 → Float32} {fd : Float → Float} {v r : Val}
    (h : Func.num1 fs fd v = .ok r) : r.ty = floatTy v.ty := by
  cases v <;> simp only [Func.num1, err, Except.ok.injEq, reduceCtorEq] at h <;> subst h <;> rfl

theorem num1_total (fs : Float32 → Float32) (fd : Float → Float) (v : Val) (hv : v.isNumeric = true) :
    ∃ r, Func.num1 fs fd v = .ok r := by
  cases v <;> simp [Val.isNumeric] at hv <;> exact ⟨_, rfl⟩

theorem sqr_ty {v r : Val} (h : Func.sqr v = .ok r) : r.ty = floatTy v.ty := num1_ty h

/-- SQR is the IEEE square root: a NEGATIVE argument is not an error (the result is a NaN) -/
theorem sqr_no_error (v : Val) (hv : v.isNumeric = true) : ∃ r, Func.sqr v = .ok r :=
  num1_total _ _ v hv

theorem sqr_int (n : Int16) : Func.sqr (.int n) = .ok (.sng (b32 (i2s n).sqrt)) := rfl
theorem sqr_sng (b : UInt32) : Func.sqr (.sng b) = .ok (.sng (b32 (f32 b).sqrt)) := rfl
theorem sqr_dbl (b : UInt64) : Func.sqr (.dbl b) = .ok (.dbl (b64 (f64 b).sqrt)) := rfl

theorem len_str (s : Str) :
    Func.len (.str s) = if s.length ≤ 32767 then .ok (.int (Int16.ofNat s.length)) else err Code.overflow := rfl

theorem len_ty {v r : Val} (h : Func.len v = .ok r) : r.ty = .int := by
  cases v <;> simp only [Func.len, Val.toStr, err, bind, Except.bind, reduceCtorEq] at h
  simp only [Val.ofUsize] at h
  split at h
  · cases h; rfl
  · cases h

theorem char_code_lt (c : Char) : c.toNat < 1114112 := by
  have := c.valid
  simp only [UInt32.isValidChar, Nat.isValidChar] at this
  show c.val.toNat < 1114112
  omega

/-- ASC is the code of the first character: an Integer up to 32767, a Single above (every Unicode
    code is below 2^24, so the Double branch of the code is dead); ILLEGAL FUNCTION CALL for "" -/
theorem asc_str (c : Char) (s : Str) :
    Func.asc (.str (c :: s)) =
      if c.toNat ≤ 32767 then .ok (.int (Int16.ofNat c.toNat)) else .ok (.sng (b32 (Float32.ofNat c.toNat))) := by
  have := char_code_lt c
  simp only [Func.asc, Val.toStr, bind, Except.bind]
  split
  · rfl
  · rw [if_pos (by omega)]

theorem asc_empty : Func.asc (.str []) = err Code.illegalFunctionCall := rfl

theorem asc_ty {v r : Val} (h : Func.asc v = .ok r) : r.ty = .int ∨ r.ty = .sng := by
  cases v <;> try (simp [Func.asc, Val.toStr, bind, Except.bind, err] at h; done)
  rename_i s
  cases s with
  | nil => simp [asc_empty, err] at h
  | cons c s =>
    rw [asc_str] at h
    split at h <;> cases h
    · exact .inl rfl
    · exact .inr rfl

theorem val_go_ty (fuel : Nat) (s : Str) : (Func.val.go fuel s).ty = .int ∨ (Func.val.go fuel s).ty = .dbl := by
  induction fuel generalizing s with
  | zero => exact .inl rfl
  | succ n ih =>
    unfold Func.val.go
    split
    · exact .inl rfl
    · have hof : ∀ w, Val.ofStr s = w → w.ty = .str ∨ w.ty = .int ∨ w.ty = .dbl := by
        intro w hw
        subst hw
        unfold Val.ofStr
        simp only []
        split
        · rename_i v hv
          -- the radix reading is an Integer
          split at hv <;> try (cases hv; done)
          rename_i rest
          split at hv
          · split at hv
            · obtain ⟨n, _, rfl⟩ := Option.map_eq_some_iff.1 hv; exact .inr (.inl rfl)
            · obtain ⟨n, _, rfl⟩ := Option.map_eq_some_iff.1 hv; exact .inr (.inl rfl)
          · cases hv
        · split
          · exact .inr (.inr rfl)
          · exact .inl rfl
      split
      · exact ih _
      · rename_i w hw hns
        rcases hof _ rfl with h | h | h
        · exfalso
          cases hv : Val.ofStr s <;> simp [hv, Val.ty] at h
          exact hns _ hv
        · exact .inl h
        · exact .inr h

/-- VAL returns a number: an Integer when the text is a radix constant, otherwise a Double (`VAL("12")`
    is a Double, not an Integer) -/
theorem val_ty {v r : Val} (h : Func.val v = .ok r) : r.ty = .int ∨ r.ty = .dbl := by
  cases v <;> simp only [Func.val, err, Except.ok.injEq, reduceCtorEq] at h
  subst h
  exact val_go_ty _ _

theorem chr_ty {v r : Val} (h : Func.chr v = .ok r) : r.ty = .str := by
  obtain ⟨n, _, h2⟩ := Thm.C06.bind_ok h
  split at h2 <;> cases h2; rfl

theorem hex_ty {v r : Val} (h : Func.hex v = .ok r) : r.ty = .str := by
  obtain ⟨n, _, h2⟩ := Thm.C06.bind_ok h
  cases h2; rfl

theorem oct_ty {v r : Val} (h : Func.oct v = .ok r) : r.ty = .str := by
  obtain ⟨n, _, h2⟩ := Thm.C06.bind_ok h
  cases h2; rfl

theorem spc_ty {v r : Val} (h : Func.spc v = .ok r) : r.ty = .str := by
  obtain ⟨n, _, h2⟩ := Thm.C06.bind_ok h
  split at h2 <;> cases h2; rfl

theorem str_ty {v r : Val} (h : Func.str v = .ok r) : r.ty = .str := by
  unfold Func.str at h
  split at h <;> cases h; rfl

theorem mem_builtin1Table {name : String} {f : Val → Res Val} (h : (name, f) ∈ builtin1Table) :
    (name = "ABS" ∧ f = Func.abs) ∨ (name = "ASC" ∧ f = Func.asc) ∨ (name = "ATN" ∧ f = Func.atn) ∨
    (name = "CDBL" ∧ f = Func.cdbl) ∨ (name = "CHR$" ∧ f = Func.chr) ∨ (name = "CINT" ∧ f = Func.cint) ∨
    (name = "COS" ∧ f = Func.cos) ∨ (name = "CSNG" ∧ f = Func.csng) ∨ (name = "EXP" ∧ f = Func.exp) ∨
    (name = "FIX" ∧ f = Func.fix) ∨ (name = "HEX$" ∧ f = Func.hex) ∨ (name = "INT" ∧ f = Func.int) ∨
    (name = "LEN" ∧ f = Func.len) ∨ (name = "LOG" ∧ f = Func.log) ∨ (name = "OCT$" ∧ f = Func.oct) ∨
    (name = "SGN" ∧ f = Func.sgn) ∨ (name = "SIN" ∧ f = Func.sin) ∨ (name = "SPC" ∧ f = Func.spc) ∨
    (name = "SQR" ∧ f = Func.sqr) ∨ (name = "STR$" ∧ f = Func.str) ∨ (name = "TAN" ∧ f = Func.tan) ∨
    (name = "VAL" ∧ f = Func.val) := by
  simpa [builtin1Table] using h

/-- the type of a successful result, row by row: the documented one, or — ASC and VAL, for which
    `Spec.funcTy` gives none — a numeric type -/
theorem builtin1_ty {name : String} {f : Val → Res Val} (hm : (name, f) ∈ builtin1Table)
    {v r : Val} (h : f v = .ok r) :
    (∀ t, funcTy name v.ty = some t → r.ty = t) ∧
    (funcTy name v.ty = none → r.ty = .int ∨ r.ty = .sng ∨ r.ty = .dbl) := by
  -- a row where `funcTy` says `some ∘ g`, a row where it says nothing; then the rows in table order
  have ty : ∀ {f : Val → Res Val} (g : Ty → Ty), (∀ {v r}, f v = .ok r → r.ty = g v.ty) →
      ∀ v r, f v = .ok r → (∀ t, some (g v.ty) = some t → r.ty = t) ∧
        (some (g v.ty) = none → r.ty = .int ∨ r.ty = .sng ∨ r.ty = .dbl) :=
    fun g hf v r h => ⟨fun t ht => by cases ht; exact hf h, nofun⟩
  have no : ∀ {f : Val → Res Val}, (∀ {v r}, f v = .ok r → r.ty = .int ∨ r.ty = .sng ∨ r.ty = .dbl) →
      ∀ v r, f v = .ok r → (∀ t, (none : Option Ty) = some t → r.ty = t) ∧
        ((none : Option Ty) = none → r.ty = .int ∨ r.ty = .sng ∨ r.ty = .dbl) :=
    fun hf v r h => ⟨nofun, fun _ => hf h⟩
  have table : ∀ p ∈ builtin1Table, ∀ v r, p.2 v = .ok r → (∀ t, funcTy p.1 v.ty = some t → r.ty = t) ∧
      (funcTy p.1 v.ty = none → r.ty = .int ∨ r.ty = .sng ∨ r.ty = .dbl) := by
    simp only [builtin1Table, List.forall_mem_cons, List.not_mem_nil, false_imp_iff, implies_true, and_true]
    exact ⟨ty id abs_ty, no fun h => (asc_ty h).imp_right .inl, ty floatTy num1_ty, ty (fun _ => .dbl) cdbl_ty,
      ty (fun _ => .str) chr_ty, ty (fun _ => .int) cint_ty, ty floatTy num1_ty, ty (fun _ => .sng) csng_ty,
      ty floatTy num1_ty, ty id fix_ty, ty (fun _ => .str) hex_ty, ty id int_ty, ty (fun _ => .int) len_ty,
      ty floatTy num1_ty, ty (fun _ => .str) oct_ty, ty (fun _ => .int) sgn_ty, ty floatTy num1_ty,
      ty (fun _ => .str) spc_ty, ty floatTy num1_ty, ty (fun _ => .str) str_ty, ty floatTy num1_ty,
      no fun h => (val_ty h).imp_right .inr⟩
  exact table _ hm v r h

theorem builtin1_result_type {name : String} {f : Val → Res Val} (hm : (name, f) ∈ builtin1Table)
    {v r : Val} {t : Ty} (h : f v = .ok r) (ht : funcTy name v.ty = some t) : r.ty = t :=
  (builtin1_ty hm h).1 t ht

theorem funcTy_isValue {name : String} {a t : Ty} (h : funcTy name a = some t) (ha : a.isValue = true) :
    t.isValue = true := by
  unfold funcTy at h
  split at h
  · cases h; exact ha
  split at h
  · cases h; rfl
  split at h
  · cases h; rfl
  split at h
  · cases h; rfl
  split at h
  · cases h; cases a <;> rfl
  split at h
  · cases h; rfl
  · cases h

theorem builtin1_ty_isValue {name : String} {f : Val → Res Val} (hm : (name, f) ∈ builtin1Table)
    {v r : Val} (hv : v.ty.isValue = true) (h : f v = .ok r) : r.ty.isValue = true := by
  cases ht : funcTy name v.ty with
  | some t => rw [(builtin1_ty hm h).1 t ht]; exact funcTy_isValue ht hv
  | none => rcases (builtin1_ty hm h).2 ht with e | e | e <;> rw [e] <;> rfl

theorem builtin1_type_mismatch {name : String} {f : Val → Res Val} (hm : (name, f) ∈ builtin1Table) :
    (takesString name = false → ∀ s : Str, f (.str s) = err Code.typeMismatch) ∧
    (takesString name = true → ∀ v : Val, v.isNumeric = true → f v = err Code.typeMismatch) := by
  have table : ∀ p ∈ builtin1Table,
      (takesString p.1 = false ∧ ∀ s : Str, p.2 (.str s) = err Code.typeMismatch) ∨
      (takesString p.1 = true ∧ ∀ v : Val, v.isNumeric = true → p.2 v = err Code.typeMismatch) := by
    have num : ∀ {f : Val → Res Val}, (∀ a, f (.int a) = err Code.typeMismatch) →
        (∀ a, f (.sng a) = err Code.typeMismatch) → (∀ a, f (.dbl a) = err Code.typeMismatch) →
        ∀ v : Val, v.isNumeric = true → f v = err Code.typeMismatch := by
      intro f h1 h2 h3 v hv
      cases v <;> first | exact h1 _ | exact h2 _ | exact h3 _ | cases hv
    simp only [builtin1Table, List.forall_mem_cons, List.not_mem_nil, false_imp_iff, implies_true, and_true]
    exact ⟨.inl ⟨rfl, fun _ => rfl⟩, .inr ⟨rfl, num (fun _ => rfl) (fun _ => rfl) fun _ => rfl⟩,
      .inl ⟨rfl, fun _ => rfl⟩, .inl ⟨rfl, fun _ => rfl⟩, .inl ⟨rfl, fun _ => rfl⟩,
      .inl ⟨rfl, fun _ => rfl⟩, .inl ⟨rfl, fun _ => rfl⟩, .inl ⟨rfl, fun _ => rfl⟩,
      .inl ⟨rfl, fun _ => rfl⟩, .inl ⟨rfl, fun _ => rfl⟩, .inl ⟨rfl, fun _ => rfl⟩,
      .inl ⟨rfl, fun _ => rfl⟩, .inr ⟨rfl, num (fun _ => rfl) (fun _ => rfl) fun _ => rfl⟩,
      .inl ⟨rfl, fun _ => rfl⟩, .inl ⟨rfl, fun _ => rfl⟩, .inl ⟨rfl, fun _ => rfl⟩,
      .inl ⟨rfl, fun _ => rfl⟩, .inl ⟨rfl, fun _ => rfl⟩, .inl ⟨rfl, fun _ => rfl⟩,
      .inl ⟨rfl, fun _ => rfl⟩, .inl ⟨rfl, fun _ => rfl⟩,
      .inr ⟨rfl, num (fun _ => rfl) (fun _ => rfl) fun _ => rfl⟩⟩
  rcases table _ hm with ⟨hn, hf⟩ | ⟨hn, hf⟩
  · exact ⟨fun _ => hf, fun h => absurd (hn.symm.trans h) Bool.false_ne_true⟩
  · exact ⟨fun h => absurd (hn.symm.trans h) (Bool.false_ne_true ∘ Eq.symm), fun _ => hf⟩

end Lemmas.NumFunc
end Basic

import BasicModel.Lemmas.Enter
import BasicModel.Lemmas.VarPool
/-
  The invariant of the variable store (`Thm.C06.WF`: every entry typed and NOT A DEFAULT VALUE, keys
  distinct, at most 65 536 entries) is an invariant of the virtual machine and of the session
  protocol (C18).

  Every primitive update keeps the store well-formed (`StoreWF.of_prim`), hence every instruction (`execOp_varsWF`),
  `step`, a slice, whether they succeed, fail or return an event; and every call of the session
  protocol keeps the store well-formed (`wf_session`).
-/
namespace Basic
namespace Runtime
open Thm.C06

abbrev StoreWF (s : Runtime) : Prop := WF s.vars

theorem wf_of_storeArray_eq {v vars : Var} {n : Str} {arr : List Val} {x : Val} {r : Res Unit}
    (heq : v.storeArray n arr x = (vars, r)) (h : WF v) : WF vars := by
  have := wf_storeArray h n arr x
  rw [heq] at this
  exact this

theorem wf_of_fetchArray_eq {v vars : Var} {n : Str} {arr : List Val} {r : Res Val}
    (heq : v.fetchArray n arr = (vars, r)) (h : WF v) : WF vars := by
  have := (wf_fetchArray h n arr).1
  rw [heq] at this
  exact this

theorem VarOp.wf {v v' : Var} (o : VarOp v v') (h : WF v) : WF v' := by
  cases o with
  | store e => exact wf_store h e
  | storeArray e => exact wf_of_storeArray_eq e h
  | fetchArray e => exact wf_of_fetchArray_eq e h
  | dimensionArray e => exact wf_dimensionArray h e
  | eraseArray e => exact wf_eraseArray h e
  | defTy e => exact wf_defTy h e

/-- the store changes through `VarOp`, or is emptied (CLEAR, and NEW through it) -/
theorem StoreWF.of_prim {env : Env} {k : Kind} {s t : Runtime} (p : Prim env k s t) : Stays StoreWF s t := by
  cases p with
  | vars _ _ o => exact o.wf
  | clear => exact fun _ => wf_new
  | _ => exact id

theorem execOp_varsWF (env : Env) (h : Bool) (op : Opcode) : Frame (Stays StoreWF) (execOp env h op) :=
  (execOp_eff env h op).to fun p _ => StoreWF.of_prim p

theorem step_varsWF (env : Env) (h : Bool) (s : Runtime) : Stays StoreWF s ((step env h).run.run s).2 :=
  (step_eff_any env h s).to_all StoreWF.of_prim

theorem executeLoop_varsWF (env : Env) (n : Nat) (s : Runtime) :
    Stays StoreWF s ((executeLoop env n).run.run s).2 :=
  executeLoop_frame (step_varsWF env) n s

theorem wf_session (env : Env) : SessionInv env (fun _ => True) (fun s => WF s.vars) where
  prim p := StoreWF.of_prim p
  direct s _ _ h := by rw [enterDirect_eq]; exact h
  indirect s _ h := by rw [enterIndirect_eq]; exact h
  load _ _ _ _ h := h

end Runtime
end Basic

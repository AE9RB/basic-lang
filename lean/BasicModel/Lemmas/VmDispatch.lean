import BasicModel.Lemmas.Control
/-
  The operator part of the VM's dispatch (`Runtime.step`): which `Ops.*` function each operator opcode
  applies (`vmBinary`, `vmUnary`: the operators' part of the tables `Runtime.binFn`, `Runtime.unFn` of
  `Lemmas/RtSplit.lean`); the result of `step` on an instruction of those tables, on an explicit stack
  with room (`step_binary_stack`, `step_unary_stack`).
-/
namespace Basic
namespace Lemmas.VmDispatch
open Basic.Runtime

theorem rr_get (s : Runtime) : (get : RM Runtime).run.run s = (.ok s, s) := rfl
theorem rr_set (s s' : Runtime) : (set s' : RM PUnit).run.run s = (.ok ⟨⟩, s') := rfl
theorem rr_pure {α} (a : α) (s : Runtime) : (pure a : RM α).run.run s = (.ok a, s) := rfl

/-- the binary operator opcodes and the function `Runtime.step` applies for each -/
def vmBinary : Opcode → Option (Val → Val → Res Val)
  | .pow => some Ops.power | .mul => some Ops.multiply | .div => some Ops.divide
  | .divInt => some Ops.divint | .mod => some Ops.remainder | .add => some Ops.sum
  | .sub => some Ops.subtract | .eq => some Ops.equal | .notEq => some Ops.notEqual
  | .lt => some Ops.less | .ltEq => some Ops.lessEqual | .gt => some Ops.greater
  | .gtEq => some Ops.greaterEqual | .and => some Ops.and | .or => some Ops.or
  | .xor => some Ops.xor | .imp => some Ops.imp | .eqv => some Ops.eqv
  | _ => none

/-- the unary operator opcodes -/
def vmUnary : Opcode → Option (Val → Res Val)
  | .neg => some Ops.negate
  | .not => some Ops.not
  | _ => none

theorem binFn_of_vmBinary {oc : Opcode} {f : Val → Val → Res Val} (hf : vmBinary oc = some f) : binFn oc = some f := by
  cases oc <;> cases hf <;> rfl


theorem rr_liftE_ok {α} (a : α) (s : Runtime) : (liftE (.ok a) : RM α).run.run s = (.ok a, s) := rfl
theorem rr_liftE_error {α} (e : Error) (s : Runtime) :
    (liftE (.error e) : RM α).run.run s = (.error e, s) := rfl

theorem pop1Push_stack (f : Val → Res Val) (s : Runtime) (st : Array Val) (a : Val)
    (hst : s.stack = st.push a) (hroom : st.size + 1 ≤ Gen.stackMaxLen) :
    (do pop1Push f; pure Step.continue : RM Step).run.run s =
      match f a with
      | .ok v => (.ok .continue, { s with stack := st.push v })
      | .error e => (.error e, { s with stack := st }) := by
  simp only [pop1Push, run_bind, run_pop_push a st s hst, run_pure]
  cases f a with
  | ok v =>
    simp only [run_liftE]
    rw [run_push_room v _ hroom]
  | error e => simp only [run_liftE]

theorem pop2Push_stack (f : Val → Val → Res Val) (s : Runtime) (st : Array Val) (a b : Val)
    (hst : s.stack = (st.push a).push b) (hroom : st.size + 1 ≤ Gen.stackMaxLen) :
    (do pop2Push f; pure Step.continue : RM Step).run.run s =
      match f a b with
      | .ok v => (.ok .continue, { s with stack := st.push v })
      | .error e => (.error e, { s with stack := st }) := by
  simp only [pop2Push, pop2, run_bind, run_pop_push b (st.push a) s hst,
    run_pop_push a st { s with stack := st.push a } rfl, run_pure]
  cases f a b with
  | ok v =>
    simp only [run_liftE]
    rw [run_push_room v _ hroom]
  | error e => simp only [run_liftE]

/-- on the stack: with `a` below `b` on top, an instruction of `binFn` replaces both by `f a b`
    (left operand = the deeper value), or raises `f`'s error with both operands popped -/
theorem step_binary_stack (env : Env) (hie : Bool) (s : Runtime) (oc : Opcode)
    (f : Val → Val → Res Val) (st : Array Val) (a b : Val)
    (htr : s.tron = false) (hop : s.program.link.ops[s.pc]? = some oc) (hf : binFn oc = some f)
    (hst : s.stack = (st.push a).push b) (hroom : st.size + 1 ≤ Gen.stackMaxLen) :
    (step env hie).run.run s =
      match f a b with
      | .ok v => (.ok .continue, { s with pc := s.pc + 1, stack := st.push v })
      | .error e => (.error e, { s with pc := s.pc + 1, stack := st }) := by
  rw [run_step env hie s oc htr hop, execOp_bin env hie hf]
  exact pop2Push_stack f _ st a b hst hroom

theorem step_unary_stack (env : Env) (hie : Bool) (s : Runtime) (oc : Opcode)
    (f : Val → Res Val) (st : Array Val) (a : Val)
    (htr : s.tron = false) (hop : s.program.link.ops[s.pc]? = some oc) (hf : unFn oc = some f)
    (hst : s.stack = st.push a) (hroom : st.size + 1 ≤ Gen.stackMaxLen) :
    (step env hie).run.run s =
      match f a with
      | .ok v => (.ok .continue, { s with pc := s.pc + 1, stack := st.push v })
      | .error e => (.error e, { s with pc := s.pc + 1, stack := st }) := by
  rw [run_step env hie s oc htr hop, execOp_un env hie hf]
  exact pop1Push_stack f _ st a hst hroom

end Lemmas.VmDispatch
end Basic

import BasicModel.Model.Lex
/-
  Character classes of the lexer: every fact is reduced to arithmetic on `Char.toNat` and closed by `omega`.
-/
namespace Basic
namespace Lex

theorem char_eq_iff (c d : Char) : c = d ↔ c.toNat = d.toNat := by
  constructor
  · intro h; rw [h]
  · intro h; exact Char.ext (UInt32.toNat_inj.mp h)

theorem upper_toNat (c : Char) : (upper c).toNat =
    if 97 ≤ c.toNat ∧ c.toNat ≤ 122 then c.toNat - 32 else c.toNat := by
  unfold upper Char.toUpper
  split
  · rename_i h
    have h1 : 97 ≤ c.toNat := by simpa [UInt32.le_iff_toNat_le] using h.1
    have h2 : c.toNat ≤ 122 := by simpa [UInt32.le_iff_toNat_le] using h.2
    simp only [h1, h2, and_self, if_true]
    simp [UInt32.toNat_add]
    omega
  · rename_i h
    have : ¬ (97 ≤ c.toNat ∧ c.toNat ≤ 122) := by
      simpa [UInt32.le_iff_toNat_le] using h
    simp only [this, if_false]

theorem isDigit_iff (c : Char) : isDigit c = true ↔ 48 ≤ c.toNat ∧ c.toNat ≤ 57 := by
  simp [isDigit, Char.isDigit, UInt32.le_iff_toNat_le]

theorem isAlpha_iff (c : Char) :
    isAlpha c = true ↔ (65 ≤ c.toNat ∧ c.toNat ≤ 90) ∨ (97 ≤ c.toNat ∧ c.toNat ≤ 122) := by
  simp [isAlpha, Char.isAlpha, Char.isUpper, Char.isLower, UInt32.le_iff_toNat_le]

theorem isWs_iff (c : Char) : isWs c = true ↔ c.toNat = 32 ∨ c.toNat = 9 := by
  simp [isWs, char_eq_iff]

/-- upper-case ASCII letter -/
def isUpperAlpha (c : Char) : Bool := 'A' ≤ c && c ≤ 'Z'

theorem isUpperAlpha_iff (c : Char) : isUpperAlpha c = true ↔ 65 ≤ c.toNat ∧ c.toNat ≤ 90 := by
  simp [isUpperAlpha, Char.le_def, UInt32.le_iff_toNat_le]

theorem isDigit_upper (c : Char) : isDigit (upper c) = isDigit c := by
  rw [Bool.eq_iff_iff, isDigit_iff, isDigit_iff, upper_toNat]; split <;> omega

theorem isAlpha_upper (c : Char) : isAlpha (upper c) = isAlpha c := by
  rw [Bool.eq_iff_iff, isAlpha_iff, isAlpha_iff, upper_toNat]; split <;> omega

theorem isWs_upper (c : Char) : isWs (upper c) = isWs c := by
  rw [Bool.eq_iff_iff, isWs_iff, isWs_iff, upper_toNat]; split <;> omega

theorem upper_upper (c : Char) : upper (upper c) = upper c := by
  rw [char_eq_iff, upper_toNat (upper c), upper_toNat]
  split
  · split <;> omega
  · rfl

theorem upper_of_not_lower (c : Char) (h : ¬ (97 ≤ c.toNat ∧ c.toNat ≤ 122)) : upper c = c := by
  rw [char_eq_iff, upper_toNat, if_neg h]

theorem upper_of_isUpperAlpha (c : Char) (h : isUpperAlpha c = true) : upper c = c := by
  rw [isUpperAlpha_iff] at h; exact upper_of_not_lower c (by omega)

theorem upper_of_isDigit (c : Char) (h : isDigit c = true) : upper c = c := by
  rw [isDigit_iff] at h; exact upper_of_not_lower c (by omega)

theorem upper_eq_nonletter (c k : Char) (hk : ¬ (65 ≤ k.toNat ∧ k.toNat ≤ 90))
    (hk' : ¬ (97 ≤ k.toNat ∧ k.toNat ≤ 122)) : upper c = k ↔ c = k := by
  rw [char_eq_iff, char_eq_iff, upper_toNat]; split <;> omega

theorem upper_eq_H (c : Char) : upper c = 'H' ↔ c = 'H' ∨ c = 'h' := by
  rw [char_eq_iff, char_eq_iff, char_eq_iff, upper_toNat]
  have : 'H'.toNat = 72 := rfl
  have : 'h'.toNat = 104 := rfl
  split <;> omega

theorem upper_ne_h (c : Char) : upper c ≠ 'h' := by
  rw [Ne, char_eq_iff, upper_toNat]
  have : 'h'.toNat = 104 := rfl
  split <;> omega

theorem isAlpha_of_isUpperAlpha (c : Char) (h : isUpperAlpha c = true) : isAlpha c = true := by
  rw [isUpperAlpha_iff] at h; rw [isAlpha_iff]; omega

theorem not_isDigit_of_isAlpha (c : Char) (h : isAlpha c = true) : isDigit c = false := by
  rw [isAlpha_iff] at h; rw [Bool.eq_false_iff, Ne, isDigit_iff]; omega

theorem not_isWs_of_isAlpha (c : Char) (h : isAlpha c = true) : isWs c = false := by
  rw [isAlpha_iff] at h; rw [Bool.eq_false_iff, Ne, isWs_iff]; omega

theorem not_isWs_of_isDigit (c : Char) (h : isDigit c = true) : isWs c = false := by
  rw [isDigit_iff] at h; rw [Bool.eq_false_iff, Ne, isWs_iff]; omega

theorem not_isAlpha_of_isDigit (c : Char) (h : isDigit c = true) : isAlpha c = false := by
  rw [isDigit_iff] at h; rw [Bool.eq_false_iff, Ne, isAlpha_iff]; omega

theorem ne_of_isDigit (c k : Char) (h : isDigit c = true) (hk : ¬ (48 ≤ k.toNat ∧ k.toNat ≤ 57)) :
    c ≠ k := by
  rw [isDigit_iff] at h; rw [Ne, char_eq_iff]; omega

theorem ne_of_isAlpha (c k : Char) (h : isAlpha c = true)
    (hk : ¬ ((65 ≤ k.toNat ∧ k.toNat ≤ 90) ∨ (97 ≤ k.toNat ∧ k.toNat ≤ 122))) : c ≠ k := by
  rw [isAlpha_iff] at h; rw [Ne, char_eq_iff]; omega

theorem isUpperAlpha_upper_of_isAlpha (c : Char) (h : isAlpha c = true) :
    isUpperAlpha (upper c) = true := by
  rw [isAlpha_iff] at h
  rw [isUpperAlpha_iff, upper_toNat]
  split <;> omega

theorem not_isUpperAlpha_of_isDigit (c : Char) (h : isDigit c = true) : isUpperAlpha c = false := by
  rw [isDigit_iff] at h
  rw [Bool.eq_false_iff, Ne, isUpperAlpha_iff]; omega

end Lex

theorem printTokens_cons (t : Token) (ts : List Token) :
    printTokens (t :: ts) = t.text ++ printTokens ts := by
  simp [printTokens]

theorem printTokens_append (a b : List Token) :
    printTokens (a ++ b) = printTokens a ++ printTokens b := by
  simp [printTokens]

end Basic

import BasicModel.Lemmas.LexCaseLine
import BasicModel.Lemmas.SpellingParse
import BasicModel.Lemmas.SpellingGlue
/-
  C16, combination: the respellings as the steps of a rewriting relation on source lines; every
  step, hence every finite chain of steps in either direction, preserves the `meaning` of the line:
  its line number and its significant tokens, with `'` read as `REM` (the remark text is kept).
-/
namespace Basic
namespace Lex

/-- the remark marker that was typed is kept in the listing; the parser does not tell them apart -/
def normTok : Token → Token
  | .word .rem2 => .word .rem1
  | t => t

theorem normTok_of_not_rem (t : Token) (h : Parse.isRem t = false) : normTok t = t := by
  cases t with
  | word w => cases w <;> first | rfl | (simp [Parse.isRem] at h)
  | _ => rfl

theorem isRem_normTok (t : Token) : Parse.isRem (normTok t) = Parse.isRem t := by
  cases t with
  | word w => cases w <;> rfl
  | _ => rfl

theorem nextLoop_normTok (ts : List Token) : ∀ (rem : Bool) (cs ce : Nat),
    Parse.nextLoop (ts.map normTok) rem cs ce =
      ((Parse.nextLoop ts rem cs ce).1, (Parse.nextLoop ts rem cs ce).2.1.map normTok,
        (Parse.nextLoop ts rem cs ce).2.2) := by
  induction ts with
  | nil => intro rem cs ce; simp [Parse.nextLoop]
  | cons t ts ih =>
    intro rem cs ce
    cases hr : (rem || Parse.isRem t) with
    | true =>
      have hr' : (rem || Parse.isRem (normTok t)) = true := by rw [isRem_normTok]; exact hr
      simp only [List.map_cons, Parse.nextLoop, hr, hr', if_true, Lemmas.C19.nextLoop_rem]
      simp
    | false =>
      have ht : Parse.isRem t = false := by
        cases rem <;> simp at hr; exact hr
      have hn := normTok_of_not_rem t ht
      simp only [List.map_cons, hn, Parse.nextLoop, hr, Bool.false_eq_true, if_false]
      cases t with
      | whitespace n => simpa [hr] using ih (rem || Parse.isRem (.whitespace n)) ce (ce + (Token.whitespace n).text.length)
      | _ => rfl

/-- what the parser gets to see of a source line: the line number and the significant tokens, the
    remark marker normalised -/
def meaning (l : Str) : Option Nat × List Token := ((lex l).1, (sig (lex l).2).map normTok)

theorem blanks_optional_numbered (n : Nat) (hn : n ≤ 65529) (L L' : List Token) (hP : AllPrintable L)
    (hP' : AllPrintable L') (hk : packLegal L = true) (hk' : packLegal L' = true) (hs : sig L = sig L') :
    meaning (printLine (some n) L) = meaning (printLine (some n) L') := by
  simp only [meaning, lex_packed_numbered n hn L hP hk, lex_packed_numbered n hn L' hP' hk', sig_sepRec, hs]

theorem blanks_optional_direct (L L' : List Token) (hP : AllPrintable L) (hP' : AllPrintable L')
    (hk : packLegal L = true) (hk' : packLegal L' = true) (hs : sig L = sig L')
    (h0 : StartsPlain (printTokens L)) (h0' : StartsPlain (printTokens L')) :
    meaning (printLine none L) = meaning (printLine none L') := by
  simp only [meaning, lex_packed_direct L hP hk h0, lex_packed_direct L' hP' hk' h0', sig_sepRec, hs]

/-- one respelling of a source line -/
inductive Step : Str → Str → Prop
  /-- `?` for `PRINT` -/
  | print (pre post sep : Str) (A : List Token) (hq : Cut (lineBody pre) A '?')
      (hp : Cut (lineBody pre) A 'P') (hs : PrintSep sep post) :
      Step (pre ++ '?' :: post) (pre ++ ("PRINT".toList ++ (sep ++ post)))
  /-- `?` for `PRINT` glued to a letter -/
  | printGlued (pre : Str) (k : Char) (tl : List Char) (A : List Token) (hq : Cut (lineBody pre) A '?')
      (hp : Cut (lineBody pre) A 'P') (hk : isAlpha k = true)
      (hfirst : ∃ t ts, (alphabetic (k :: tl)).1 = t :: ts ∧ t ≠ .word .rem1) :
      Step (pre ++ '?' :: k :: tl) (pre ++ ("PRINT".toList ++ k :: tl))
  /-- `'` for `REM` -/
  | rem (pre post : Str) (A : List Token) (hq : Cut (lineBody pre) A '\'')
      (hr : Cut (lineBody pre) A 'R') (hb : ∀ c ∈ post.head?, isAlpha c = false) :
      Step (pre ++ '\'' :: post) (pre ++ ("REM".toList ++ post))
  /-- `GO TO` for `GOTO` -/
  | goto (pre post blanks : Str) (A : List Token) (hg : Cut (lineBody pre) A 'G')
      (hbl : ∀ c ∈ blanks, isWs c = true) (hne : blanks ≠ [])
      (hpost : ∀ c ∈ post.head?, isAlpha c = false) :
      Step (pre ++ ("GO".toList ++ (blanks ++ ("TO".toList ++ post)))) (pre ++ ("GOTO".toList ++ post))
  /-- `GO SUB` for `GOSUB` -/
  | gosub (pre post blanks : Str) (A : List Token) (hg : Cut (lineBody pre) A 'G')
      (hbl : ∀ c ∈ blanks, isWs c = true) (hne : blanks ≠ []) (hpost : AlphaBoundary post) :
      Step (pre ++ ("GO".toList ++ (blanks ++ ("SUB".toList ++ post)))) (pre ++ ("GOSUB".toList ++ post))
  /-- one spelling of a comparison operator for another -/
  | cmp {t : Token} (s s' : CmpSpelling t) (pre post : Str) (A : List Token)
      (hcut : Cut (lineBody pre) A s.c1) (hcut' : Cut (lineBody pre) A s'.c1) (hA : cmpAtEnd A = false)
      (hV : cmpAtStart (lexFrom post false) = false) :
      Step (pre ++ (s.text ++ post)) (pre ++ (s'.text ++ post))
  /-- upper/lower case outside string literals and remarks -/
  | case (s s' : Str) (h : s.map upper = s'.map upper)
      (hp : (lex s).2.filter isPayload = (lex s').2.filter isPayload) : Step s s'
  /-- another legal placement of blanks (program lines) -/
  | blanksNumbered (n : Nat) (hn : n ≤ 65529) (L L' : List Token) (hP : AllPrintable L)
      (hP' : AllPrintable L') (hk : packLegal L = true) (hk' : packLegal L' = true) (hs : sig L = sig L') :
      Step (printLine (some n) L) (printLine (some n) L')
  /-- another legal placement of blanks (direct lines) -/
  | blanksDirect (L L' : List Token) (hP : AllPrintable L) (hP' : AllPrintable L')
      (hk : packLegal L = true) (hk' : packLegal L' = true) (hs : sig L = sig L')
      (h0 : StartsPlain (printTokens L)) (h0' : StartsPlain (printTokens L')) :
      Step (printLine none L) (printLine none L')

theorem map_normTok_append_rem (X U : List Token) (w w' : Word) (hw : w = .rem1 ∨ w = .rem2)
    (hw' : w' = .rem1 ∨ w' = .rem2) :
    (sig (X ++ .word w :: U)).map normTok = (sig (X ++ .word w' :: U)).map normTok := by
  rw [sig_append, sig_append, sig_cons_solid _ _ rfl, sig_cons_solid _ _ rfl]
  simp only [List.map_append, List.map_cons]
  rcases hw with rfl | rfl <;> rcases hw' with rfl | rfl <;> rfl

theorem Step.meaning_eq {a b : Str} (h : Step a b) : meaning a = meaning b := by
  cases h with
  | print pre post sep A hq hp hs =>
    obtain ⟨h1, h2⟩ := print_alias pre post sep A hq hp hs
    simp only [meaning, h1, h2]
  | printGlued pre k tl A hq hp hk hfirst => simp only [meaning, print_alias_glued pre k tl A hq hp hk hfirst]
  | rem pre post A hq hr hb =>
    obtain ⟨h1, X, e1, e2⟩ := rem_alias pre post A hq hr hb
    simp only [meaning, h1, e1, e2]
    rw [map_normTok_append_rem X _ .rem2 .rem1 (Or.inr rfl) (Or.inl rfl)]
  | goto pre post blanks A hg hbl hne hpost => simp only [meaning, goto_alias pre post blanks A hg hbl hne hpost]
  | gosub pre post blanks A hg hbl hne hpost =>
    simp only [meaning, gosub_alias pre post blanks A hg hbl hne hpost]
  | cmp s s' pre post A hcut hcut' hA hV => simp only [meaning, cmp_alias_eq s s' pre post A hcut hcut' hA hV]
  | case _ _ h hp => simp only [meaning, lex_case a b h hp]
  | blanksNumbered n hn L L' hP hP' hk hk' hs => exact blanks_optional_numbered n hn L L' hP hP' hk hk' hs
  | blanksDirect L L' hP hP' hk hk' hs h0 h0' => exact blanks_optional_direct L L' hP hP' hk hk' hs h0 h0'

/-- finitely many respellings, each applied in either direction -/
inductive Respelled : Str → Str → Prop
  | refl (a : Str) : Respelled a a
  | fwd {a b c : Str} (h : Step a b) (r : Respelled b c) : Respelled a c
  | bwd {a b c : Str} (h : Step b a) (r : Respelled b c) : Respelled a c

theorem Respelled.meaning_eq {a b : Str} (h : Respelled a b) : meaning a = meaning b := by
  induction h with
  | refl a => rfl
  | fwd h _ ih => exact h.meaning_eq.trans ih
  | bwd h _ ih => exact h.meaning_eq.symm.trans ih

theorem Respelled.parse_eq {a b : Str} (h : Respelled a b) :
    Parse.parse (meaning a).1 (meaning a).2 = Parse.parse (meaning b).1 (meaning b).2 := by
  rw [h.meaning_eq]

end Lex
end Basic

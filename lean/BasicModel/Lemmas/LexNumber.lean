import BasicModel.Lemmas.LexForms
import BasicModel.Lemmas.KeyText
import BasicModel.Lemmas.HexVal
/-
  The decimal readers `str::parse::<u16>` / `<i16>` on a digit string, exactly (the value when it fits, nothing
  otherwise), and the line-number prefix of a
  listed line: `<digits of n><blank>` is split off again (`Display for u16` / `parse::<u16>` round
  trip from core's `Nat.toDigits` lemmas).
-/
namespace Basic
namespace Lex

/-- the model has `is_ascii_digit` twice, once per call site in the Rust source (`Fmt`, `Lex`) -/
theorem fmt_isDigit_eq (c : Char) : Fmt.isDigit c = isDigit c := by
  rw [Bool.eq_iff_iff, isDigit_iff]
  simp [Fmt.isDigit, Char.le_def, UInt32.le_iff_toNat_le]

theorem digitsToNat_eq (l : List Char) : Fmt.digitsToNat l = Nat.ofDigitChars 10 l 0 := by
  unfold Fmt.digitsToNat Nat.ofDigitChars
  congr 1
  funext acc c
  simp [Fmt.digitVal, Nat.mul_comm]

theorem ofDigitChars_dropZeros (l : List Char) :
    Nat.ofDigitChars 10 (l.dropWhile (· = '0')) 0 = Nat.ofDigitChars 10 l 0 := by
  induction l with
  | nil => rfl
  | cons c l ih =>
    by_cases h : c = '0'
    · subst h; simp [Nat.ofDigitChars_cons, ih]
    · simp [h]

theorem ofDigitChars_ge (l : Str) (acc : Nat) : acc * 10 ^ l.length ≤ Nat.ofDigitChars 10 l acc := by
  induction l generalizing acc with
  | nil => simp [Nat.ofDigitChars]
  | cons c cs ih =>
    rw [Nat.ofDigitChars_cons, List.length_cons, Nat.pow_succ]
    have := ih (10 * acc + (c.toNat - '0'.toNat))
    have h2 : acc * (10 ^ cs.length * 10) ≤ (10 * acc + (c.toNat - '0'.toNat)) * 10 ^ cs.length := by
      rw [Nat.add_mul]
      have : acc * (10 ^ cs.length * 10) = 10 * acc * 10 ^ cs.length := by
        rw [Nat.mul_comm (10 ^ cs.length) 10, ← Nat.mul_assoc, Nat.mul_comm acc 10]
      omega
    omega

theorem ofDigitChars_big (l : Str) (hd : AllDigits l) (h0 : ∀ c ∈ l.head?, c ≠ '0') (hlen : 6 < l.length) :
    1000000 ≤ Nat.ofDigitChars 10 l 0 := by
  cases l with
  | nil => simp at hlen
  | cons c cs =>
    have hc := (isDigit_iff c).1 (hd c (by simp))
    have hc0 : c ≠ '0' := h0 c (by simp)
    have hpos : 1 ≤ c.toNat - '0'.toNat := by
      have : c.toNat ≠ 48 := fun e => hc0 ((char_eq_iff _ _).2 e)
      have : ('0' : Char).toNat = 48 := rfl
      omega
    rw [Nat.ofDigitChars_cons]
    have h1 := ofDigitChars_ge cs (10 * 0 + (c.toNat - '0'.toNat))
    have h2 : 10 ^ 6 ≤ 10 ^ cs.length := Nat.pow_le_pow_right (by decide) (by simp at hlen; omega)
    have h3 : 1 * 10 ^ cs.length ≤ (10 * 0 + (c.toNat - '0'.toNat)) * 10 ^ cs.length :=
      Nat.mul_le_mul_right _ (by omega)
    omega

theorem dropWhile_zero_head (l : Str) : ∀ c ∈ (l.dropWhile (· = '0')).head?, c ≠ '0' := by
  induction l with
  | nil => simp
  | cons a l ih =>
    by_cases h : a = '0'
    · simpa [List.dropWhile_cons, h] using ih
    · intro c hc
      simp [h] at hc
      subst hc; exact h

/-- the cut-off of the decimal readers (more than 6 digits after the leading zeros: no number) lies
    inside their range tests: such a text denotes at least 10⁶ -/
theorem ofDigitChars_long (l : Str) (hd : AllDigits l) (h6 : 6 < (l.dropWhile (· = '0')).length) :
    1000000 ≤ Nat.ofDigitChars 10 l 0 := by
  rw [← ofDigitChars_dropZeros]
  exact ofDigitChars_big _ (fun x hx => hd x ((List.dropWhile_sublist _).subset hx)) (dropWhile_zero_head l) h6

theorem all_fmt_isDigit {l : Str} (hd : AllDigits l) : l.all Fmt.isDigit = true := by
  rw [List.all_eq_true]
  intro x hx
  rw [fmt_isDigit_eq]
  exact hd x hx

/-- **`str::parse::<u16>` on a digit string**: its value when that is at most 65535, nothing otherwise -/
theorem parseU16_digits (l : Str) (hne : l ≠ []) (hd : AllDigits l) :
    Fmt.parseU16 l =
      if Nat.ofDigitChars 10 l 0 ≤ 65535 then some (Nat.ofDigitChars 10 l 0) else none := by
  cases l with
  | nil => contradiction
  | cons c cs =>
    have hplus : c ≠ '+' := ne_of_isDigit c _ (hd c (by simp)) (by decide)
    unfold Fmt.parseU16
    split
    · rename_i r heq; exact absurd (List.cons.inj heq).1 hplus
    · simp only [all_fmt_isDigit hd, digitsToNat_eq, ofDigitChars_dropZeros]
      by_cases h6 : ((c :: cs).dropWhile (· = '0')).length > 6
      · have := ofDigitChars_long _ hd h6
        rw [if_neg (by omega : ¬ Nat.ofDigitChars 10 (c :: cs) 0 ≤ 65535)]
        simp [h6]
      · simp [h6]

theorem parseI16_unsigned {c : Char} {cs : Str} (hm : c ≠ '-') (hp : c ≠ '+') :
    Fmt.parseI16 (c :: cs) =
      if !(c :: cs).all Fmt.isDigit then none
      else if ((c :: cs).dropWhile (· = '0')).length > 6 then none
      else if RStd.inI16 (Fmt.digitsToNat ((c :: cs).dropWhile (· = '0')) : Int)
        then some (Int16.ofInt (Fmt.digitsToNat ((c :: cs).dropWhile (· = '0')))) else none := by
  unfold Fmt.parseI16
  split
  rename_i neg r heq
  obtain ⟨rfl, rfl⟩ := Fmt.signSplit_unsigned hm hp heq
  rfl

theorem parseI16_not_digits {c : Char} {cs : Str} (hm : c ≠ '-') (hp : c ≠ '+') {k : Char}
    (hk : k ∈ c :: cs) (hkd : Fmt.isDigit k = false) : Fmt.parseI16 (c :: cs) = none := by
  rw [parseI16_unsigned hm hp, List.all_eq_false.2 ⟨k, hk, by rw [hkd]; exact Bool.false_ne_true⟩]
  rfl

/-- **`str::parse::<i16>` on a digit string**: its value when that is at most 32767, nothing otherwise -/
theorem parseI16_allDigits (l : Str) (hne : l ≠ []) (hd : AllDigits l) :
    Fmt.parseI16 l =
      if Nat.ofDigitChars 10 l 0 ≤ 32767 then some (Int16.ofNat (Nat.ofDigitChars 10 l 0)) else none := by
  cases l with
  | nil => contradiction
  | cons c cs =>
    rw [parseI16_unsigned (ne_of_isDigit c _ (hd c (by simp)) (by decide))
      (ne_of_isDigit c _ (hd c (by simp)) (by decide))]
    simp only [all_fmt_isDigit hd, digitsToNat_eq, ofDigitChars_dropZeros]
    by_cases h6 : ((c :: cs).dropWhile (· = '0')).length > 6
    · have := ofDigitChars_long _ hd h6
      rw [if_neg (by omega : ¬ Nat.ofDigitChars 10 (c :: cs) 0 ≤ 32767)]
      simp [h6]
    · simp only [h6, if_false, Fmt.inI16_natCast, decide_eq_true_eq, Bool.not_true, Bool.false_eq_true]
      split <;> rfl

theorem parseU16_natDigits (n : Nat) (h : n ≤ 65535) : Fmt.parseU16 (RStd.natDigits n) = some n := by
  rw [parseU16_digits _ (KeyText.natDigits_ne_nil n) (fun _ => KeyText.isDigit_of_mem_natDigits), KeyText.natDigits_value, if_pos h]

theorem parseU16_natDigits_big (a : Nat) (h : 65535 < a) : Fmt.parseU16 (RStd.natDigits a) = none := by
  rw [parseU16_digits _ (KeyText.natDigits_ne_nil a) (fun _ => KeyText.isDigit_of_mem_natDigits), KeyText.natDigits_value,
    if_neg (by omega)]

theorem parseI16_natDigits_isSome (a : Nat) :
    (Fmt.parseI16 (RStd.natDigits a)).isSome = decide (a ≤ 32767) := by
  rw [parseI16_allDigits _ (KeyText.natDigits_ne_nil a) (fun _ => KeyText.isDigit_of_mem_natDigits), KeyText.natDigits_value]
  by_cases h : a ≤ 32767 <;> simp [h]

theorem splitLineNumber_listed (n : Nat) (h : n ≤ 65529) (rest : List Char) :
    splitLineNumber (RStd.natDigits n ++ ' ' :: rest) = (some n, rest) := by
  have hd : AllDigits (RStd.natDigits n) := fun _ => KeyText.isDigit_of_mem_natDigits
  obtain ⟨c, cs, e⟩ := List.exists_cons_of_ne_nil (KeyText.natDigits_ne_nil n)
  -- no blank in front, then the digits up to the blank
  have hw : (RStd.natDigits n ++ ' ' :: rest).dropWhile isWs = RStd.natDigits n ++ ' ' :: rest := by
    rw [e]; simp [not_isWs_of_isDigit c (hd c (e ▸ List.mem_cons_self))]
  have hs := span_append isDigit (RStd.natDigits n) (' ' :: rest) hd (by intro x hx; simp at hx; subst hx; decide)
  rw [splitLineNumber_eq, hw, hs.1, hs.2, parseU16_natDigits n (by omega)]
  simp only [maxLineNumber, h, if_true]
  rfl

end Lex
end Basic

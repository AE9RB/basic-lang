import BasicModel.Spec.PrecSpec
/-
  The type of what a successful `Ops.*` returns: one class of `Spec.classOf` at a time (the promoted type of two
  numbers, an Integer, 0 or −1), then for all operands at once, `meaningOf_ty`: the documented `Spec.resultTy`, or a
  string for `+` on two strings — in any case a value, never a return address or a loop frame (`meaningOf_isValue`).
-/
namespace Basic
namespace Lemmas.OpsTypes
open Spec

theorem toInt_ofNat_len {n : Nat} (h : n ≤ 32767) : (Int16.ofNat n).toInt = n :=
  Int16.toInt_ofNat_of_lt (by show n < 32768; omega)

theorem arith_ty {fi fs fd} {a b v : Val}
    (hfi : ∀ l r w, fi l r = .ok w → w.ty = .int)
    (h : Ops.arith fi fs fd a b = .ok v) : a.isNumeric = true ∧ b.isNumeric = true ∧ v.ty = promote a.ty b.ty := by
  cases a <;> cases b <;> simp only [Ops.arith, err, Except.ok.injEq, reduceCtorEq] at h <;> first
    | (subst h; exact ⟨rfl, rfl, rfl⟩)
    | exact ⟨rfl, rfl, hfi _ _ _ h⟩

theorem ofChecked_ty {o : Option Int16} {w : Val} (h : Ops.ofChecked o = .ok w) : w.ty = .int := by
  cases o <;> simp [Ops.ofChecked, err] at h
  subst h; rfl

theorem logic2_int {f a b v} (h : Ops.logic2 f a b = .ok v) : ∃ n, v = .int n := by
  unfold Ops.logic2 at h
  cases ha : a.toI16 <;> cases hb : b.toI16 <;> simp [ha, hb, bind, Except.bind, pure, Except.pure] at h
  exact ⟨_, h.symm⟩

theorem rel_cases {x : Res Bool} {g : Bool → Bool} {v : Val}
    (h : (do return Ops.truth (g (← x)) : Res Val) = .ok v) : v = .int 0 ∨ v = .int (-1) := by
  cases x <;> simp [bind, Except.bind, pure, Except.pure] at h
  subst h; rename_i b; cases g b <;> simp [Ops.truth]

theorem divint_int {a b v} (h : Ops.divint a b = .ok v) : ∃ n, v = .int n := by
  unfold Ops.divint at h
  cases ha : a.toI16 <;> cases hb : b.toI16 <;> simp [ha, hb, bind, Except.bind, err] at h
  rename_i l r
  by_cases hr : r = 0
  · simp [hr] at h
  · simp only [hr, if_false] at h
    cases hc : RStd.checkedDiv l r <;> simp [hc] at h
    exact ⟨_, h.symm⟩

theorem remainder_int {a b v} (h : Ops.remainder a b = .ok v) : ∃ n, v = .int n := by
  unfold Ops.remainder at h
  cases ha : a.toI16 <;> cases hb : b.toI16 <;> simp [ha, hb, bind, Except.bind, err] at h
  rename_i l r
  by_cases hr : r = 0
  · simp [hr] at h
  · simp only [hr, if_false] at h
    cases hc : RStd.checkedRem l r <;> simp [hc] at h <;> exact ⟨_, h.symm⟩

theorem not_int {a v} (h : Ops.not a = .ok v) : ∃ n, v = .int n := by
  unfold Ops.not at h
  cases ha : a.toI16 <;> simp [ha, bind, Except.bind, pure, Except.pure] at h
  exact ⟨_, h.symm⟩

theorem integer_class_int (op : BinOp) (hop : classOf op = .integer) {a b v : Val}
    (h : meaningOf op a b = .ok v) : ∃ n, v = .int n := by
  cases op <;> simp [classOf] at hop
  · exact divint_int h
  · exact remainder_int h
  all_goals exact logic2_int h

theorem relational_class_cases (op : BinOp) (hop : classOf op = .relational) {a b v : Val}
    (h : meaningOf op a b = .ok v) : v = .int 0 ∨ v = .int (-1) := by
  cases op <;> simp [classOf] at hop
  · exact rel_cases (g := id) h
  · exact rel_cases (g := (!·)) h
  all_goals exact rel_cases (g := id) h

/-- is the exponent a non-negative Integer (or not an Integer at all)? -/
def expNonneg : Val → Bool
  | .int r => decide (0 ≤ r.toInt)
  | _ => true

/-- a type of values: neither a return address nor a loop frame -/
def _root_.Basic.Ty.isValue : Ty → Bool
  | .ret | .nxt => false
  | _ => true

/-- **the type of every successful result**, for all operands: the documented `Spec.resultTy` of the operand
    types — the operands of `+ - * / ^` then being numbers — or, for `+` on two strings, a string -/
theorem meaningOf_ty (op : BinOp) {a b v : Val} (h : meaningOf op a b = .ok v) :
    (v.ty = resultTy op a.ty b.ty (expNonneg b) ∧
      (classOf op = .integer ∨ classOf op = .relational ∨ a.isNumeric = true ∧ b.isNumeric = true)) ∨
    (op = .add ∧ a.ty = .str ∧ b.ty = .str ∧ v.ty = .str) := by
  cases hc : classOf op with
  | relational =>
    refine .inl ⟨?_, .inr (.inl rfl)⟩
    rcases relational_class_cases op hc h with rfl | rfl <;> simp [resultTy, hc, Val.ty]
  | integer =>
    obtain ⟨n, rfl⟩ := integer_class_int op hc h
    exact .inl ⟨by simp [resultTy, hc, Val.ty], .inl rfl⟩
  | arith =>
    simp only [resultTy, hc]
    cases op <;> simp [classOf] at hc
    · obtain ⟨ha, hb, ht⟩ := arith_ty (fun _ _ _ => ofChecked_ty) h
      exact .inl ⟨ht, .inr (.inr ⟨ha, hb⟩)⟩
    · -- `+` is concatenation on two strings, `arith` on anything else
      change Ops.sum a b = .ok v at h
      cases a with
      | str s =>
        cases b <;> simp only [Ops.sum, err, Except.ok.injEq, reduceCtorEq] at h
        subst h; exact .inr ⟨rfl, rfl, rfl, rfl⟩
      | ret _ => cases h
      | nxt _ => cases h
      | _ =>
        obtain ⟨ha, hb, ht⟩ := arith_ty (fi := fun l r => Ops.ofChecked (RStd.checkedAdd l r)) (fs := (· + ·))
          (fd := (· + ·)) (fun _ _ _ => ofChecked_ty) h
        exact .inl ⟨ht, .inr (.inr ⟨ha, hb⟩)⟩
    · obtain ⟨ha, hb, ht⟩ := arith_ty (fun _ _ _ => ofChecked_ty) h
      exact .inl ⟨ht, .inr (.inr ⟨ha, hb⟩)⟩
  | divide =>
    simp only [resultTy, hc]
    cases op <;> simp [classOf] at hc
    cases a <;> cases b <;> simp only [meaningOf, Ops.divide, Ops.arith, err, Except.ok.injEq, reduceCtorEq] at h <;>
      subst h <;> exact .inl ⟨rfl, .inr (.inr ⟨rfl, rfl⟩)⟩
  | power =>
    simp only [resultTy, hc]
    cases op <;> simp [classOf] at hc
    cases a <;> cases b <;> simp only [meaningOf, Ops.power, err, Except.ok.injEq, reduceCtorEq] at h
    case int.int l r =>
      refine .inl ⟨?_, .inr (.inr ⟨rfl, rfl⟩)⟩
      by_cases hr : 0 ≤ r.toInt
      · simp only [ge_iff_le, hr, if_true] at h
        generalize RStd.checkedPow l r.toInt.toNat = o at h
        cases o <;> simp at h
        subst h; simp [expNonneg, hr, Val.ty]
      · simp only [ge_iff_le, hr, if_false, Except.ok.injEq] at h
        subst h; simp [expNonneg, hr, Val.ty]
    all_goals (subst h; exact .inl ⟨rfl, .inr (.inr ⟨rfl, rfl⟩)⟩)

theorem resultTy_isValue (op : BinOp) (ta tb : Ty) (e : Bool) : (resultTy op ta tb e).isValue = true := by
  unfold resultTy
  cases classOf op <;> simp only [] <;> repeat' split
  all_goals first | rfl | (cases ta <;> cases tb <;> rfl)

theorem meaningOf_isValue (op : BinOp) {a b v : Val} (h : meaningOf op a b = .ok v) : v.ty.isValue = true := by
  rcases meaningOf_ty op h with ⟨ht, -⟩ | ⟨-, -, -, ht⟩ <;> rw [ht]
  · exact resultTy_isValue _ _ _ _
  · rfl

end Lemmas.OpsTypes
end Basic

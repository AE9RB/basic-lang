import BasicModel.Lemmas.Resume
/-
  Inspecting variables in direct mode between a break and CONT.

  A direct line whose code is made of `harmless` instructions (literals, fetches of simple
  variables, arithmetic, comparisons, side-effect-free built-ins, `Print`) followed by `End`
  keeps `cont`, `contPc`, the variables, the function table, the program with its DATA cursor and
  the listing (`Kept`) — while it runs (`InDirect`) and at the prompt afterwards (`AtPrompt`) —
  unless it fails with a runtime error: the report of an error in direct mode clears the
  continuation (`finishLoop`).  The final `End` of a direct line executes with
  `pc > entryAddress`, so `doEnd` leaves `cont` alone (it is the `End` that closes the *program*,
  `pc = entryAddress`, that resets it).

  One climb (`LineStep` → `line_execList`) leads from an instruction of the line to a list of calls of
  `execute`, for any predicate the line keeps while it runs and any it has established at its `End`.
  The stack: `Balanced code` — the operand depth (`depthAfter`) ends at 0 without going below 0 —, so a
  balanced line leaves the stack as it found it.  `inspect_keeps_brokenLike`: such a line entered at any
  state that holds the continuation of a running state `s` (`BrokenLike`) leaves, once the prompt is back,
  a state that holds it again.
-/
namespace Basic
namespace Runtime

/-- what an expression evaluated and printed in direct mode leaves alone: everything except the
    stack, the print column (and `tr`) -/
structure Keeps (s t : Runtime) : Prop where
  cont : t.cont = s.cont
  contPc : t.contPc = s.contPc
  vars : t.vars = s.vars
  functions : t.functions = s.functions
  program : t.program = s.program
  entry : t.entryAddress = s.entryAddress
  listing : t.listing = s.listing
  dirty : t.dirty = s.dirty
  tron : t.tron = s.tron
  prompt : t.prompt = s.prompt
  rand : t.rand = s.rand
  state : t.state = s.state
  pc : t.pc = s.pc

instance : FrameRel Keeps where
  refl _ := ⟨rfl, rfl, rfl, rfl, rfl, rfl, rfl, rfl, rfl, rfl, rfl, rfl, rfl⟩
  trans h1 h2 :=
    ⟨h2.cont.trans h1.cont, h2.contPc.trans h1.contPc, h2.vars.trans h1.vars,
     h2.functions.trans h1.functions, h2.program.trans h1.program, h2.entry.trans h1.entry,
     h2.listing.trans h1.listing, h2.dirty.trans h1.dirty, h2.tron.trans h1.tron,
     h2.prompt.trans h1.prompt, h2.rand.trans h1.rand, h2.state.trans h1.state, h2.pc.trans h1.pc⟩

theorem Keeps.of_prim {env : Env} {k : Kind} {s t : Runtime} (p : Prim env k s t) (hk : k = .stack ∨ k = .col) :
    Keeps s t := by
  cases p <;> first | exact ⟨rfl, rfl, rfl, rfl, rfl, rfl, rfl, rfl, rfl, rfl, rfl, rfl, rfl⟩ | (rcases hk with h | h <;> cases h)

theorem execOp_keeps (env : Env) (h : Bool) (op : Opcode) (hop : harmless op = true) :
    Frame Keeps (execOp env h op) :=
  (execOp_eff env h op).to fun {k} _ _ p hk => Keeps.of_prim p (by
    cases k with
    | stack => exact .inl rfl
    | col => exact .inr rfl
    | regs => exact absurd (hop.symm.trans hk) nofun
    | data | state | listing => exact absurd (hop.symm.trans hk.1) nofun
    | sched => exact False.elim hk)

/-- the fields a direct-mode inspection must not disturb (`u`: the state when it starts): `Keeps`
    without `pc`, `state` and `entryAddress`, which the end of the line and READY move -/
structure Kept (u w : Runtime) : Prop where
  cont : w.cont = u.cont
  contPc : w.contPc = u.contPc
  vars : w.vars = u.vars
  functions : w.functions = u.functions
  program : w.program = u.program
  listing : w.listing = u.listing
  dirty : w.dirty = u.dirty
  tron : w.tron = u.tron
  prompt : w.prompt = u.prompt
  rand : w.rand = u.rand

theorem Kept.refl (u : Runtime) : Kept u u := ⟨rfl, rfl, rfl, rfl, rfl, rfl, rfl, rfl, rfl, rfl⟩

theorem Kept.of_keeps {u w w' : Runtime} (h : Kept u w) (k : Keeps w w') : Kept u w' :=
  ⟨k.cont.trans h.cont, k.contPc.trans h.contPc, k.vars.trans h.vars, k.functions.trans h.functions,
   k.program.trans h.program, k.listing.trans h.listing, k.dirty.trans h.dirty, k.tron.trans h.tron,
   k.prompt.trans h.prompt, k.rand.trans h.rand⟩

theorem Kept.moved {u w : Runtime} (h : Kept u w) (pc e col : Nat) (a : RState) :
    Kept u { w with pc := pc, state := a, entryAddress := e, printCol := col } :=
  { h with }

/-- the direct code consists of harmless instructions and `End` -/
def DirectHarmless (u : Runtime) : Prop :=
  ∀ i op, u.entryAddress ≤ i → u.program.link.ops[i]? = some op → harmless op = true ∨ op = .end

/-- while the inspection line runs: still in direct code, `running` -/
structure InDirect (u w : Runtime) : Prop where
  kept : Kept u w
  entry : w.entryAddress = u.entryAddress
  pc : u.entryAddress ≤ w.pc
  state : w.state = .running

theorem inspect_step (env : Env) (h : Bool) (u w : Runtime) (hu : DirectHarmless u) (htr : u.tron = false)
    (hw : InDirect u w) :
    (InDirect u ((step env h).run.run w).2 ∧ ((step env h).run.run w).1 ≠ .ok (.event .stopped)) ∨
    (Kept u ((step env h).run.run w).2 ∧ ((step env h).run.run w).2.state = .stopped ∧
      ((step env h).run.run w).1 = .ok (.event .stopped) ∧
      ((step env h).run.run w).2.entryAddress = u.entryAddress) := by
  rw [step_troff env h w (by rw [hw.kept.tron]; exact htr), run_fetchExec]
  cases hq : w.program.link.ops[w.pc]? with
  | none =>
    left
    exact ⟨hw, nofun⟩
  | some op =>
    dsimp only
    rcases hu w.pc op hw.pc (by rw [← hw.kept.program]; exact hq) with hop | hop
    · left
      have hk := (execOp_keeps env h op hop).run { w with pc := w.pc + 1 }
      rcases hx : (execOp env h op).run.run { w with pc := w.pc + 1 } with ⟨r, w'⟩
      rw [hx] at hk
      have hk1 : Kept u { w with pc := w.pc + 1 } := hw.kept.moved _ _ _ _
      refine ⟨⟨hk1.of_keeps hk, hk.entry.trans hw.entry, ?_, hk.state.trans hw.state⟩, ?_⟩
      · rw [hk.pc]; exact Nat.le_succ_of_le hw.pc
      · intro hr
        cases hr
        exact absurd (returns_stopped ((execOp_returns env h op).run _ _ _ hx)) (by rw [hop]; nofun)
    · right
      subst hop
      have hgt : ({ w with pc := w.pc + 1 } : Runtime).pc > ({ w with pc := w.pc + 1 } : Runtime).entryAddress := by
        show w.pc + 1 > w.entryAddress
        rw [hw.entry]; exact Nat.lt_succ_of_le hw.pc
      have hend : (execOp env h .end).run.run { w with pc := w.pc + 1 } =
          (.ok (.event .stopped), doEnd { w with pc := w.pc + 1 }) := rfl
      rw [hend]
      have hde : doEnd { w with pc := w.pc + 1 } = { w with pc := w.pc + 1, state := .stopped } := by
        simp only [doEnd_eq, Nat.not_lt_of_gt hgt, Nat.ne_of_gt hgt, if_false]
      rw [hde]
      exact ⟨hw.kept.moved _ _ _ _, rfl, rfl, hw.entry⟩

/-- at the prompt after the inspection line ended -/
structure AtPrompt (u w : Runtime) : Prop where
  kept : Kept u w
  state : w.state = .stopped
  printCol : w.printCol = 0

theorem kept_readyPrompt {u w : Runtime} (h : Kept u w) : Kept u (readyPrompt w).1 := by
  by_cases he : w.entryAddress = 0
  · rw [readyPrompt_zero w he]; exact h
  · rw [readyPrompt_pos w he]; exact h.moved _ _ _ _

theorem readyPrompt_state (w : Runtime) : (readyPrompt w).1.state = w.state := by
  by_cases he : w.entryAddress = 0
  · rw [readyPrompt_zero w he]
  · rw [readyPrompt_pos w he]

theorem finishLoop_error_failed (e : Error) (s : Runtime) (h : s.state ≠ .inputRunning) :
    Failed (finishLoop (.error e) s).1 := by
  rw [finishLoop_error, if_neg h]
  exact ⟨_, rfl⟩

theorem finishLoop_running (o : Option Event) (s : Runtime) (h : s.state = .running) :
    (finishLoop (toEvent (.ok o)) s).1 = s := by
  cases o <;> exact congrArg Prod.fst (finishLoop_ok _ s fun hh => by rw [h] at hh; cases hh.1)

theorem finishLoop_prompt (s : Runtime) (h : s.state = .stopped) (he : s.entryAddress ≠ 0) :
    (finishLoop (toEvent (.ok (some .stopped))) s).1 = { s with entryAddress := 0, printCol := 0 } := by
  show (finishLoop (.ok .stopped) s).1 = _
  rw [finishLoop_stopped_prompt s h he]

/-- one instruction of the line: an error, or `P` again, or the final `End` with `Q` -/
def LineStep (env : Env) (u : Runtime) (P Q : Runtime → Prop) : Prop :=
  ∀ h w, InDirect u w → P w →
    (∃ e, ((step env h).run.run w).1 = .error e) ∨
    (((step env h).run.run w).1 ≠ .ok (.event .stopped) ∧ P ((step env h).run.run w).2) ∨
    (((step env h).run.run w).1 = .ok (.event .stopped) ∧ Q ((step env h).run.run w).2)

section
variable {env : Env} {u : Runtime} {P Q : Runtime → Prop}

theorem line_slice (hL : LineStep env u P Q) (hu : DirectHarmless u) (htr : u.tron = false) (h : Bool) (n : Nat)
    (w : Runtime) (hw : InDirect u w) (hs : P w) :
    (∃ e, (sliceRun env h n w).1 = .error e ∧ InDirect u (sliceRun env h n w).2.1) ∨
    (∃ o, (sliceRun env h n w).1 = .ok o ∧ o ≠ some .stopped ∧
      InDirect u (sliceRun env h n w).2.1 ∧ P (sliceRun env h n w).2.1) ∨
    ((sliceRun env h n w).1 = .ok (some .stopped) ∧ Kept u (sliceRun env h n w).2.1 ∧
      (sliceRun env h n w).2.1.state = .stopped ∧ (sliceRun env h n w).2.1.entryAddress = u.entryAddress ∧
      Q (sliceRun env h n w).2.1) := by
  induction n generalizing w with
  | zero => exact .inr (.inl ⟨none, rfl, nofun, hw, hs⟩)
  | succ k ih =>
    rw [sliceRun_succ]
    have hA := inspect_step env h u w hu htr hw
    have hB := hL h w hw hs
    rcases hx : (step env h).run.run w with ⟨r, w'⟩
    rw [hx] at hA hB
    dsimp only at hA hB
    rcases r with e | st
    · exact .inl ⟨e, rfl, hA.elim (·.1) fun h => nomatch h.2.2.1⟩
    · cases st with
      | «continue» =>
        exact ih w' (hA.elim (·.1) fun h => nomatch h.2.2.1)
          (hB.elim (fun ⟨_, h⟩ => nomatch h) fun h => h.elim (·.2) fun h => nomatch h.1)
      | event ev =>
        rcases hA with ⟨h1, h2⟩ | ⟨h1, h2, h3, h4⟩
        · refine .inr (.inl ⟨some ev, rfl, fun he => h2 (by cases he; rfl), h1, ?_⟩)
          exact hB.elim (fun ⟨_, h⟩ => nomatch h) fun h => h.elim (·.2) fun h => absurd h.1 h2
        · cases h3
          exact .inr (.inr ⟨rfl, h1, h2, h4,
            hB.elim (fun ⟨_, h⟩ => nomatch h) fun h => h.elim (fun h => absurd rfl h.1) (·.2)⟩)

theorem line_execute (hL : LineStep env u P Q)
    (hQ : ∀ w e c, Q w → Q { w with entryAddress := e, printCol := c })
    (hu : DirectHarmless u) (htr : u.tron = false)
    (hde : u.listing.directErrors = []) (hu0 : u.entryAddress ≠ 0) (n : Nat) (w : Runtime)
    (hw : (InDirect u w ∧ P w) ∨ (AtPrompt u w ∧ Q w)) :
    ((InDirect u (execute env w n).1 ∧ P (execute env w n).1) ∨
      (AtPrompt u (execute env w n).1 ∧ Q (execute env w n).1)) ∨ Failed (execute env w n).1 := by
  rcases hw with ⟨hw, hs⟩ | ⟨hw, hs⟩
  · have hB := line_slice hL hu htr (hasIndirectErrors w) n w hw hs
    rw [execute_running env w n hw.state (by rw [hw.kept.listing]; exact hde), executeLoop_run]
    unfold slice
    generalize sliceRun env (hasIndirectErrors w) n w = x at hB ⊢
    rcases x with ⟨r, w', c⟩
    dsimp only at hB ⊢
    rcases hB with ⟨e, rfl, h1⟩ | ⟨o, rfl, -, h1, h2⟩ | ⟨rfl, h1, h2, h4, h5⟩
    · exact .inr (finishLoop_error_failed e w' (by rw [h1.state]; nofun))
    · rw [finishLoop_running o w' h1.state]
      exact .inl (.inl ⟨h1, h2⟩)
    · rw [finishLoop_prompt w' h2 (by rw [h4]; exact hu0)]
      exact .inl (.inr ⟨⟨h1.moved _ _ _ _, h2, rfl⟩, hQ _ _ _ h5⟩)
  · left; right
    by_cases he : w.entryAddress = 0
    · rw [execute_stopped env w n hw.state he]; exact ⟨hw, hs⟩
    · rw [execute_stopped_prompt env w n hw.state he]
      exact ⟨⟨hw.kept.moved _ _ _ _, hw.state, rfl⟩, hQ _ _ _ hs⟩

theorem line_execList (hL : LineStep env u P Q)
    (hQ : ∀ w e c, Q w → Q { w with entryAddress := e, printCol := c })
    (hu : DirectHarmless u) (htr : u.tron = false)
    (hde : u.listing.directErrors = []) (hu0 : u.entryAddress ≠ 0) (qs : List Nat) (w : Runtime)
    (hw : (InDirect u w ∧ P w) ∨ (AtPrompt u w ∧ Q w)) :
    ((InDirect u (execList env qs w).1 ∧ P (execList env qs w).1) ∨
      (AtPrompt u (execList env qs w).1 ∧ Q (execList env qs w).1)) ∨
    ∃ k, k ≤ qs.length ∧ Failed (execList env (qs.take k) w).1 :=
  execList_keeps (P := fun w => (InDirect u w ∧ P w) ∨ (AtPrompt u w ∧ Q w)) env
    (fun w q hw => line_execute hL hQ hu htr hde hu0 q w hw) qs w hw

end

/-- any number of calls of `execute` after the inspection line was entered: unless some call
    ended in a runtime error, the line is still running or the prompt is back, and in both cases
    `cont`, `contPc`, the variables, the function table, the program (with its DATA cursor), the
    listing are what they were -/
theorem inspect_execList (env : Env) (qs : List Nat) (u w : Runtime) (hu : DirectHarmless u)
    (htr : u.tron = false) (hde : u.listing.directErrors = []) (hu0 : u.entryAddress ≠ 0)
    (hw : InDirect u w ∨ AtPrompt u w) :
    (InDirect u (execList env qs w).1 ∨ AtPrompt u (execList env qs w).1) ∨
    ∃ k, k ≤ qs.length ∧ Failed (execList env (qs.take k) w).1 := by
  have hL : LineStep env u (fun _ => True) (fun _ => True) := fun h w hw _ =>
    (inspect_step env h u w hu htr hw).elim (fun h => .inr (.inl ⟨h.2, trivial⟩))
      fun h => .inr (.inr ⟨h.2.2.1, trivial⟩)
  exact (line_execList hL (fun _ _ _ _ => trivial) hu htr hde hu0 qs w
    (hw.imp (⟨·, trivial⟩) (⟨·, trivial⟩))).imp_left (Or.imp (·.1) (·.1))

/-- `w'` is `w` with the top `k` values of the stack replaced by `j` values -/
structure StackEff (k j : Nat) (w w' : Runtime) : Prop where
  enough : k ≤ w.stack.size
  size : w'.stack.size + k = w.stack.size + j
  below : ∀ i, i + k < w.stack.size → w'.stack[i]? = w.stack[i]?

theorem StackEff.refl (w : Runtime) : StackEff 0 0 w w := ⟨Nat.zero_le _, rfl, fun _ _ => rfl⟩

theorem StackEff.of_stack_eq {w w' : Runtime} (h : w'.stack = w.stack) : StackEff 0 0 w w' :=
  ⟨Nat.zero_le _, by rw [h], fun _ _ => by rw [h]⟩

/-- pops first, pushes afterwards -/
theorem StackEff.pop_then {k : Nat} {a b c : Runtime} (h1 : StackEff k 0 a b) (h2 : StackEff 1 0 b c) :
    StackEff (k + 1) 0 a c := by
  have := h1.size; have := h2.size; have := h2.enough
  exact ⟨by omega, by omega, fun i hi => (h2.below i (by omega)).trans (h1.below i (by omega))⟩

theorem StackEff.then_push {k : Nat} {a b c : Runtime} (h1 : StackEff k 0 a b) (h2 : StackEff 0 1 b c) :
    StackEff k 1 a c := by
  have := h1.size; have := h2.size
  exact ⟨h1.enough, by omega, fun i hi => (h2.below i (by omega)).trans (h1.below i hi)⟩

theorem pop_stackEff {w w' : Runtime} {v : Val} (h : pop.run.run w = (.ok v, w')) : StackEff 1 0 w w' := by
  have e := run_pop_inv h
  refine ⟨by rw [e, Array.size_push]; omega, by rw [e, Array.size_push], fun i hi => ?_⟩
  rw [e, Array.size_push] at hi
  rw [e, Array.getElem?_push, if_neg (by omega)]

theorem push_stackEff {w w' : Runtime} {v : Val} {r : Except Error Unit} (h : (push v).run.run w = (r, w')) :
    StackEff 0 1 w w' := by
  rw [run_push] at h
  cases h
  refine ⟨Nat.zero_le _, by show (w.stack.push v).size + 0 = _; rw [Array.size_push], ?_⟩
  intro i hi
  show (w.stack.push v)[i]? = _
  rw [Array.getElem?_push, if_neg (by omega)]

theorem pop2_stackEff {w w' : Runtime} {v : Val × Val} (h : pop2.run.run w = (.ok v, w')) :
    StackEff 2 0 w w' := by
  unfold pop2 at h
  obtain ⟨a, w1, h1, h⟩ := run_bind_inv h
  obtain ⟨b, w2, h2, h⟩ := run_bind_inv h
  cases h
  exact ((StackEff.refl w).pop_then (pop_stackEff h1)).pop_then (pop_stackEff h2)

theorem pop1Push_stackEff (f : Val → Res Val) {w w' : Runtime} {u : Unit}
    (h : (pop1Push f).run.run w = (.ok u, w')) : StackEff 1 1 w w' := by
  unfold pop1Push at h
  obtain ⟨v, w1, h1, hA⟩ := run_bind_inv h
  obtain ⟨x, w2, h2, hB⟩ := run_bind_inv hA
  obtain ⟨-, hw⟩ := run_liftE_inv h2
  subst hw
  exact ((StackEff.refl w).pop_then (pop_stackEff h1)).then_push (push_stackEff hB)

theorem pop2Push_stackEff (f : Val → Val → Res Val) {w w' : Runtime} {u : Unit}
    (h : (pop2Push f).run.run w = (.ok u, w')) : StackEff 2 1 w w' := by
  unfold pop2Push at h
  obtain ⟨v, w1, h1, hA⟩ := run_bind_inv h
  rcases v with ⟨a, b⟩
  obtain ⟨x, w2, h2, hB⟩ := run_bind_inv hA
  obtain ⟨-, hw⟩ := run_liftE_inv h2
  subst hw
  exact (pop2_stackEff h1).then_push (push_stackEff hB)

theorem doPrint_stackEff {w w' : Runtime} {e : Event} (h : doPrint.run.run w = (.ok e, w')) :
    StackEff 1 0 w w' := by
  unfold doPrint at h
  obtain ⟨v, w1, h1, h⟩ := run_bind_inv h
  obtain ⟨x, w2, h2, h⟩ := run_bind_inv h
  cases h
  rw [run_modify] at h2
  cases h2
  have := pop_stackEff h1
  exact ⟨this.enough, this.size, this.below⟩

/-- the stack effect of the instructions with a fixed one: (operands, results) -/
def arity : Opcode → Option (Nat × Nat)
  | .literal _ | .push _ | .date | .time => some (0, 1)
  | .neg | .not | .abs | .asc | .atn | .cdbl | .chr | .cint | .cos | .csng | .exp | .fix | .hex | .int
  | .len | .log | .oct | .spc | .sgn | .sin | .sqr | .str | .tan | .val | .tab => some (1, 1)
  | .pow | .mul | .div | .divInt | .mod | .add | .sub | .eq | .notEq | .lt | .ltEq | .gt | .gtEq
  | .and | .or | .xor | .imp | .eqv | .left | .right | .string => some (2, 1)
  | .print => some (1, 0)
  | _ => none

theorem arity_cases {op : Opcode} {k j : Nat} (ha : arity op = some (k, j)) :
    (∃ f, unFn op = some f ∧ k = 1 ∧ j = 1) ∨ (∃ f, binFn op = some f ∧ k = 2 ∧ j = 1) ∨
    ((op = .date ∨ op = .time ∨ (∃ v, op = .literal v) ∨ ∃ n, op = .push n) ∧ k = 0 ∧ j = 1) ∨
    (op = .tab ∧ k = 1 ∧ j = 1) ∨ (op = .print ∧ k = 1 ∧ j = 0) := by
  cases op <;> cases ha <;> first
    | exact .inl ⟨_, rfl, rfl, rfl⟩
    | exact .inr (.inl ⟨_, rfl, rfl, rfl⟩)
    | exact .inr (.inr (.inl ⟨.inl rfl, rfl, rfl⟩))
    | exact .inr (.inr (.inl ⟨.inr (.inl rfl), rfl, rfl⟩))
    | exact .inr (.inr (.inl ⟨.inr (.inr (.inl ⟨_, rfl⟩)), rfl, rfl⟩))
    | exact .inr (.inr (.inl ⟨.inr (.inr (.inr ⟨_, rfl⟩)), rfl, rfl⟩))
    | exact .inr (.inr (.inr (.inl ⟨rfl, rfl, rfl⟩)))
    | exact .inr (.inr (.inr (.inr ⟨rfl, rfl, rfl⟩)))

/-- an instruction with a fixed stack effect, when it succeeds, has that effect.  (The case analysis
    is on `arity_cases`, not on `op` with `h` in the context: that would copy `execOp` 91 times.) -/
theorem execOp_stackEff (env : Env) (hh : Bool) (op : Opcode) (k j : Nat) (ha : arity op = some (k, j))
    {w w' : Runtime} {r : Step} (h : (execOp env hh op).run.run w = (.ok r, w')) : StackEff k j w w' := by
  rcases arity_cases ha with ⟨f, hu, rfl, rfl⟩ | ⟨f, hb, rfl, rfl⟩ | ⟨hop, rfl, rfl⟩ | ⟨rfl, rfl, rfl⟩ | ⟨rfl, rfl, rfl⟩
  · rw [execOp_un env hh hu] at h
    obtain ⟨a, h1⟩ := run_bind_pure_inv h
    exact pop1Push_stackEff _ h1
  · rw [execOp_bin env hh hb] at h
    obtain ⟨a, h1⟩ := run_bind_pure_inv h
    exact pop2Push_stackEff _ h1
  · rcases hop with rfl | rfl | ⟨v, rfl⟩ | ⟨n, rfl⟩
    · obtain ⟨a, h1⟩ := run_bind_pure_inv h
      exact push_stackEff h1
    · obtain ⟨a, h1⟩ := run_bind_pure_inv h
      exact push_stackEff h1
    · obtain ⟨a, h1⟩ := run_bind_pure_inv h
      exact push_stackEff h1
    · obtain ⟨s, w1, h1, hA⟩ := run_bind_inv h
      rw [run_get] at h1
      cases h1
      obtain ⟨x, w2, h2, hB⟩ := run_bind_inv hA
      obtain ⟨-, hw⟩ := run_liftE_inv h2
      subst hw
      obtain ⟨a, h3⟩ := run_bind_pure_inv hB
      exact push_stackEff h3
  · obtain ⟨v, w1, h1, hA⟩ := run_bind_inv h
    obtain ⟨s, w2, h2, hB⟩ := run_bind_inv hA
    rw [run_get] at h2
    cases h2
    obtain ⟨x, w3, h3, hC⟩ := run_bind_inv hB
    obtain ⟨-, hw⟩ := run_liftE_inv h3
    subst hw
    obtain ⟨a, h4⟩ := run_bind_pure_inv hC
    exact ((StackEff.refl w).pop_then (pop_stackEff h1)).then_push (push_stackEff h4)
  · obtain ⟨a, h1⟩ := run_bind_pure_inv h
    exact doPrint_stackEff h1

theorem arity_harmless (op : Opcode) (k j : Nat) (ha : arity op = some (k, j)) : harmless op = true := by
  cases op <;> first | rfl | cases ha

/-- the operand depth after running straight-line code from depth `d`; `none` if an instruction
    would reach below the operands of the line (or has no fixed effect) -/
def depthAfter : List Opcode → Nat → Option Nat
  | [], d => some d
  | op :: rest, d =>
    match arity op with
    | some (k, j) => if k ≤ d then depthAfter rest (d - k + j) else none
    | none => none

/-- the code of a direct line never reaches below its own operands and leaves none behind -/
def Balanced (code : Array Opcode) : Prop := depthAfter code.toList 0 = some 0

instance (code : Array Opcode) : Decidable (Balanced code) := by unfold Balanced; infer_instance

/-- the direct code of `u` is `code; End` -/
structure HasDirect (code : Array Opcode) (u : Runtime) : Prop where
  direct : ∀ i, i < code.size → u.program.link.ops[u.entryAddress + i]? = code[i]?
  «end» : u.program.link.ops[u.entryAddress + code.size]? = some .end

/-- while the line runs: the stack is the one it found plus its own operands -/
structure StackInv (code : Array Opcode) (u w : Runtime) : Prop where
  ex : ∃ i d, w.pc = u.entryAddress + i ∧ i ≤ code.size ∧ depthAfter (code.toList.drop i) d = some 0 ∧
    w.stack.size = u.stack.size + d ∧ ∀ x, x < u.stack.size → w.stack[x]? = u.stack[x]?

theorem stackInv_start (code : Array Opcode) (u : Runtime) (hb : Balanced code) (hpc : u.pc = u.entryAddress) :
    StackInv code u u :=
  ⟨0, 0, hpc, Nat.zero_le _, hb, rfl, fun _ _ => rfl⟩

/-- one instruction of a balanced line: an error, or the invariant again, or the final `End`
    with the stack as the line found it -/
theorem inspect_step_stack (env : Env) (h : Bool) (code : Array Opcode) (u w : Runtime)
    (hd : HasDirect code u) (htr : u.tron = false) (hw : InDirect u w) (hs : StackInv code u w) :
    (∃ e, ((step env h).run.run w).1 = .error e) ∨
    (((step env h).run.run w).1 ≠ .ok (.event .stopped) ∧ StackInv code u ((step env h).run.run w).2) ∨
    (((step env h).run.run w).1 = .ok (.event .stopped) ∧ ((step env h).run.run w).2.stack = u.stack) := by
  obtain ⟨i, d, hpc, hle, hdep, hsz, hbelow⟩ := hs.ex
  rw [step_troff env h w (by rw [hw.kept.tron]; exact htr), run_fetchExec]
  by_cases hi : i < code.size
  · have hget : code[i]? = some code[i] := Array.getElem?_eq_getElem hi
    have hop : w.program.link.ops[w.pc]? = some code[i] := by
      rw [hw.kept.program, hpc, hd.direct i hi, hget]
    rw [hop]
    dsimp only
    have hdrop : code.toList.drop i = code[i] :: code.toList.drop (i + 1) := by
      rw [List.drop_eq_getElem_cons (by rw [Array.length_toList]; exact hi)]
      rfl
    rw [hdrop] at hdep
    unfold depthAfter at hdep
    cases ha : arity code[i] with
    | none => rw [ha] at hdep; cases hdep
    | some kj =>
      rcases kj with ⟨k, j⟩
      rw [ha] at hdep
      dsimp only at hdep
      by_cases hk : k ≤ d
      · rw [if_pos hk] at hdep
        have hkeep := (execOp_keeps env h code[i] (arity_harmless _ k j ha)).run { w with pc := w.pc + 1 }
        rcases hx : (execOp env h code[i]).run.run { w with pc := w.pc + 1 } with ⟨r, w'⟩
        rw [hx] at hkeep
        cases r with
        | error e => exact .inl ⟨e, rfl⟩
        | ok r =>
          right; left
          have heff := execOp_stackEff env h code[i] k j ha hx
          refine ⟨fun hr => by
              cases hr
              exact absurd (returns_stopped ((execOp_returns env h _).run _ _ _ hx))
                (by rw [arity_harmless _ k j ha]; nofun), ⟨i + 1, d - k + j, ?_, hi, hdep, ?_, ?_⟩⟩
          · show w'.pc = _
            rw [hkeep.pc]
            show w.pc + 1 = _
            rw [hpc]; exact (Nat.add_assoc _ _ _)
          · have := heff.size
            have e1 : ({ w with pc := w.pc + 1 } : Runtime).stack.size = w.stack.size := rfl
            show w'.stack.size = _
            omega
          · intro x hx'
            have := heff.below x (by
              show x + k < w.stack.size
              omega)
            exact this.trans (hbelow x hx')
      · rw [if_neg hk] at hdep; cases hdep
  · have hi' : i = code.size := by omega
    subst hi'
    have hop : w.program.link.ops[w.pc]? = some .end := by
      rw [hw.kept.program, hpc, hd.end]
    rw [hop]
    dsimp only
    right; right
    have hdrop : code.toList.drop code.size = [] := by
      rw [List.drop_eq_nil_iff, Array.length_toList]; exact Nat.le_refl _
    rw [hdrop] at hdep
    unfold depthAfter at hdep
    injection hdep with hd0
    subst hd0
    have hend : (execOp env h .end).run.run { w with pc := w.pc + 1 } =
        (.ok (.event .stopped), doEnd { w with pc := w.pc + 1 }) := rfl
    rw [hend]
    refine ⟨rfl, ?_⟩
    rw [doEnd_eq]
    show w.stack = u.stack
    apply Array.ext_getElem?
    intro x
    by_cases hx : x < u.stack.size
    · exact hbelow x hx
    · rw [Array.getElem?_eq_none (by omega), Array.getElem?_eq_none (by omega)]

/-- `inspect_execList` for a balanced line: while it runs the stack is the one it found plus its
    own operands, and at the prompt afterwards the one it found -/
theorem inspect_execList_stack (env : Env) (qs : List Nat) (code : Array Opcode) (u w : Runtime)
    (hu : DirectHarmless u) (hd : HasDirect code u)
    (htr : u.tron = false) (hde : u.listing.directErrors = []) (hu0 : u.entryAddress ≠ 0)
    (hw : (InDirect u w ∧ StackInv code u w) ∨ (AtPrompt u w ∧ w.stack = u.stack)) :
    ((InDirect u (execList env qs w).1 ∧ StackInv code u (execList env qs w).1) ∨
      (AtPrompt u (execList env qs w).1 ∧ (execList env qs w).1.stack = u.stack)) ∨
    ∃ k, k ≤ qs.length ∧ Failed (execList env (qs.take k) w).1 :=
  line_execList (P := StackInv code u) (Q := fun w => w.stack = u.stack)
    (fun h w hw hs => inspect_step_stack env h code u w hd htr hw hs) (fun _ _ _ h => h) hu htr hde hu0 qs w hw

/-- the direct code `code; End` of a plain line whose instructions are harmless -/
theorem directHarmless_of_directOf {u : Runtime} {p P : Program} {code : Array Opcode}
    (hP : Program.DirectOf p code P)
    (hharm : ∀ (i : Nat) (op : Opcode), code[i]? = some op → harmless op = true)
    (hprog : u.program = P) (hentry : u.entryAddress = p.directAddress) :
    DirectHarmless u ∧ HasDirect code u := by
  refine ⟨fun i op hi hop => ?_, ⟨by rw [hprog, hentry]; exact hP.direct, by rw [hprog, hentry]; exact hP.end⟩⟩
  rw [hprog] at hop
  rw [hentry] at hi
  by_cases h1 : i < p.directAddress + code.size
  · left
    have := hP.direct (i - p.directAddress) (by omega)
    rw [show p.directAddress + (i - p.directAddress) = i by omega, hop] at this
    exact hharm _ op this.symm
  · right
    by_cases h2 : i = p.directAddress + code.size
    · subst h2
      rw [hP.end] at hop
      injection hop with h3
      exact h3.symm
    · exact hP.beyond i op (by omega) hop

/-- a line that started in a state `u` holding the continuation of `s` (said of `u` put back at
    the prompt) and kept what it must, back at the prompt with the stack it found -/
theorem BrokenLike.of_kept {s u w : Runtime} (hu : BrokenLike s { u with state := .stopped, printCol := 0 })
    (hk : Kept u w) (hst : w.state = .stopped) (hcol : w.printCol = 0) (hstack : w.stack = u.stack) :
    BrokenLike s w :=
  ⟨hst, hk.cont.trans hu.cont, hk.contPc.trans hu.contPc, hstack.trans hu.stack, hk.vars.trans hu.vars,
   hk.functions.trans hu.functions, hk.rand.trans hu.rand, hk.prompt.trans hu.prompt, hk.dirty.trans hu.dirty,
   hk.tron.trans hu.tron, hk.listing.trans hu.listing, hcol, hk.program ▸ hu.program, hk.program ▸ hu.linked⟩

/-- A harmless balanced direct line entered at ANY state `w₀` at the prompt that holds the
    continuation of `s`, then any number of calls of `execute`, none of which ended in a runtime
    error: everything the line must not disturb is kept, and once the prompt is back the state
    holds the continuation of `s` again — so such lines can follow one another before CONT. -/
theorem inspect_keeps_brokenLike (env : Env) (s w₀ : Runtime) (str : Str) (line : Line) (code : Array Opcode)
    (qs : List Nat)
    (hr : Thm.C13.Resumable s) (hw₀ : BrokenLike s w₀)
    (hlen : RStd.utf8Len str ≤ Gen.maxLineLen) (hline : env.lex str = line)
    (hne : line.tokens.isEmpty = false) (hp : Program.PlainLine line code)
    (hharm : ∀ (i : Nat) (op : Opcode), code[i]? = some op → harmless op = true)
    (hbal : Balanced code)
    (hsize : s.program.directAddress + code.size + 2 ≤ Gen.stackMaxLen)
    (hnf : ∀ k, k ≤ qs.length → ¬ Failed (execList env (qs.take k) (enter env w₀ str)).1) :
    Kept (enterDirect w₀ line) (execList env qs (enter env w₀ str)).1 ∧
    ((execList env qs (enter env w₀ str)).1.state = .running ∨
      BrokenLike s (execList env qs (enter env w₀ str)).1) := by
  subst hline
  have hsz : w₀.program.directAddress + code.size + 2 ≤ Gen.stackMaxLen := by
    rw [hw₀.program.directAddress]; exact hsize
  have hdt : w₀.program.link.data.size ≤ Gen.stackMaxLen := by rw [hw₀.program.data]; exact hr.dataRoom
  have hP := Program.directOf_codegenLine w₀.program hw₀.linked _ code hp hsz hdt
  have hu := enterDirect_plain w₀ _ code hp hw₀.dirty hw₀.linked hsz hdt
  -- the compiled program is a variable from here on: a projection of the record must not meet the compile
  generalize (w₀.program.codegenLine (env.lex str)).linkProg = P at hP hu
  rw [enter_direct env w₀ str (by rw [hw₀.state]; nofun) (by rw [hw₀.state]; nofun) (by omega) hp.number hne]
    at hnf ⊢
  generalize enterDirect w₀ (env.lex str) = u at hu hnf ⊢
  have hub : BrokenLike s { u with state := .stopped, printCol := 0 } := by
    rw [hu]
    refine { hw₀ with state := rfl, listing := ?_, printCol := rfl,
                      program := hw₀.program.trans (SameBelow.of_directOf hP), linked := hP.linked }
    show ({ w₀.listing with indirectErrors := _, directErrors := [] } : Listing) = _
    rw [hw₀.listing, hw₀.program.indirectErrors, ← hr.indirectErrors, ← hr.noDirectErrors]
  obtain ⟨hD, hH⟩ := directHarmless_of_directOf (u := u) hP hharm (by rw [hu]) (by rw [hu])
  rcases inspect_execList_stack env qs code u u hD hH hub.tron (by rw [hu])
      (by rw [hu]; exact hw₀.linked.direct)
      (.inl ⟨⟨Kept.refl _, rfl, by rw [hu]; exact Nat.le_refl _, by rw [hu]⟩,
        stackInv_start code _ hbal (by rw [hu])⟩) with (h | h) | ⟨k, hk, hf⟩
  · exact ⟨h.1.kept, .inl h.1.state⟩
  · exact ⟨h.1.kept, .inr (hub.of_kept h.1.kept h.1.state h.1.printCol h.2)⟩
  · exact absurd hf (hnf k hk)

end Runtime
end Basic

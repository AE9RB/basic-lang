import BasicModel.Spec.InputStmt
import BasicModel.Lemmas.FnCall
import BasicModel.Lemmas.PrintRun
import BasicModel.Thm.C17
import BasicModel.Lemmas.GenClean
/-
  The INPUT statement end to end (C17): the code the generator emits for `INPUT [,]["prompt";] v₁,…,vₖ` (`inputCode`,
  `input_codegen_shape`) and what the machine does with it, against `Spec/InputStmt.lean`.  The statement runs in three
  parts: up to the first `input` opcode, where it suspends with `pc` back ON that opcode (`input_suspends`); `enter`
  stages the reply — `ret pc`, then the fields, first on top — or refuses it; then the targets run left to right against
  `Spec.assignAll` (`targets_run`): each `input name` converts the field on top (`Spec.fieldValue`), the store code
  assigns it.  A refused field fails with nothing but numbers and strings above the staged `ret`, so the unwinding of
  `execute` finds that `ret` (`execute_field_refused`) — and the earlier targets stay assigned.
-/
namespace Basic
namespace Lemmas.InputRun
open Basic.Spec Basic.Lemmas.ExprCompile Basic.Lemmas.FnCall
open Basic.Lemmas.OpsTypes (toInt_ofNat_len)

/-- the target a variable of the statement's list stands for -/
def targetOf : Variable → InTarget
  | .unary _ i => .scalar i.name
  | .array _ i es => .elem i.name es

/-- the targets covered: a scalar whose name is not a zero-argument built-in (DATE$, TIME$, INKEY$),
    or an element `A(e₁,…,eₙ)`, n ≥ 1, of an array whose name is not a built-in function, with
    subscripts in the fragment `Spec.Pure` -/
def TargetOk : Variable → Prop
  | .unary _ i => isZeroArg i.name = false
  | .array _ i es => Gen.opcodeAndArity i.name = none ∧ es ≠ [] ∧ (∀ e ∈ es, Pure e) ∧ es.length ≤ 32767

/-- the code that assigns the value on top of the stack to a target -/
def storeCode : InTarget → List Opcode
  | .scalar n => [.pop n]
  | .elem n subs => subs.flatMap flat ++ [.literal (.int (Int16.ofNat subs.length)), .popArr n]

/-- one target: convert the field (`input name`), then assign -/
def targetCode (t : InTarget) : List Opcode := .input t.name :: storeCode t

/-- the code of the statement: prompt, caps value, number of targets, the targets, the closing
    `input` with the empty name -/
def inputCode (capsN : Int16) (prompt : Str) (ts : List InTarget) : List Opcode :=
  [.literal (.str prompt), .literal (.int capsN), .literal (.int (Int16.ofNat ts.length))] ++
    ts.flatMap targetCode ++ [.input []]

theorem storeCode_length_pos (t : InTarget) : 0 < (storeCode t).length := by
  cases t <;> simp [storeCode]

theorem inputCode_length (capsN : Int16) (prompt : Str) (ts : List InTarget) :
    (inputCode capsN prompt ts).length = 3 + (ts.flatMap targetCode).length + 1 := by
  simp [inputCode]; omega

section codegen
open Basic.Codegen Basic.Link

/-- the generator's item for a variable of the list -/
def itemOf : Variable → VarItem
  | .unary c i => ⟨c, i.name, {}, none⟩
  | .array c i es => ⟨c, i.name, plain (es.flatMap flat).toArray, some es.length⟩

theorem itemOf_name (x : Variable) : (itemOf x).name = (targetOf x).name := by
  cases x <;> rfl

theorem acceptVar_target (x : Variable) (hx : TargetOk x) (v : Array VarItem) (ex st : Array (Col × Link))
    (cur : Link) (errs : List Error) (hlen : (storeCode (targetOf x)).length ≤ Gen.stackMaxLen) :
    acceptVar x ⟨⟨v, ex, st, cur⟩, errs⟩ = ⟨⟨v.push (itemOf x), ex, st, cur⟩, errs⟩ := by
  cases x with
  | unary c i => exact acceptVar_unary c i v ex st cur errs
  | array c i es =>
    obtain ⟨_, _, hp, _⟩ := hx
    simp only [targetOf, storeCode, List.length_append, List.length_cons, List.length_nil] at hlen
    obtain ⟨frs, hfr, h1⟩ := acceptExprs_flat es hp v ex st cur errs (by omega)
    simp only [acceptVar]
    rw [h1, visitVariable_clean (genVariable_args_clean c i es frs hfr v ex st)
      (fits_plain (by simp only [List.size_toArray]; omega))]
    rfl

theorem acceptVars_targets : ∀ (vs : List Variable), (∀ x ∈ vs, TargetOk x) →
    ∀ (v : Array VarItem) (ex st : Array (Col × Link)) (cur : Link) (errs : List Error),
      ((vs.map targetOf).flatMap targetCode).length ≤ Gen.stackMaxLen →
      acceptVars vs ⟨⟨v, ex, st, cur⟩, errs⟩ = ⟨⟨v ++ (vs.map itemOf).toArray, ex, st, cur⟩, errs⟩
  | [], _, v, ex, st, cur, errs, _ => by simp [acceptVars]
  | x :: vs, hok, v, ex, st, cur, errs, hlen => by
    simp only [List.map_cons, List.flatMap_cons, List.length_append, targetCode, List.length_cons] at hlen
    have ih := acceptVars_targets vs (fun y hy => hok y (List.mem_cons_of_mem _ hy)) (v.push (itemOf x)) ex st
      cur errs (by omega)
    unfold acceptVars at ih ⊢
    rw [List.foldl_cons, acceptVar_target x (hok x List.mem_cons_self) v ex st cur errs (by omega), ih]
    congr 2
    apply Array.ext'; simp

theorem testForBuiltIn_array (c : Col) (name : Str) (l : Link) (k : Nat)
    (ho : Gen.opcodeAndArity name = none) : testForBuiltIn ⟨c, name, l, some k⟩ false = .ok () := by
  unfold testForBuiltIn
  simp only [ho]

theorem pushAsPop_target_clean (x : Variable) (hx : TargetOk x) (pv : Array VarItem) (ex st : Array (Col × Link))
    (cur : Link) :
    Clean (pushAsPop (itemOf x)) ⟨pv, ex, st, cur⟩ (itemOf x).col
      ⟨pv, ex, st, cur.pushOps (storeCode (targetOf x)).toArray⟩ := by
  cases x with
  | unary c i =>
    refine Clean.congr (.bind (.liftE (testForBuiltIn_scalar c i.name {} hx) _) (.bind (.lpush ..) (.pure ..))) ?_
    simp [targetOf, storeCode, itemOf, Link.push, pushOps]
  | array c i es =>
    obtain ⟨ho, hne, _, hk⟩ := hx
    have hpos : es.length > 0 := by cases es with
      | nil => exact absurd rfl hne
      | cons a t => simp
    show Clean (pushAsPop ⟨c, i.name, plain (es.flatMap flat).toArray, some es.length⟩) _ _ _
    unfold pushAsPop
    dsimp only
    rw [if_pos hpos]
    refine Clean.congr (.bind (.liftE (testForBuiltIn_array c i.name _ _ ho) _) <| .bind (.lappend ..) <|
      .bind (.lenVal hk _) <| .bind (.lpush ..) <| .bind (.lpush ..) (.pure ..)) ?_
    simp [targetOf, storeCode, appended_plain, Link.push, pushOps]

theorem input_codegen_shape (c cc pc : Col) (capsN : Int16) (prompt : Str) (vs : List Variable)
    (hok : ∀ x ∈ vs, TargetOk x) (s : VState) (hk : vs.length ≤ 32767)
    (hlen : (inputCode capsN prompt (vs.map targetOf)).length ≤ Gen.stackMaxLen) :
    acceptStmt (.input c (.integer cc capsN) (.string pc prompt) vs) s =
      { s with g := { s.g with
          stmt := s.g.stmt.push (c, plain (inputCode capsN prompt (vs.map targetOf)).toArray) } } := by
  obtain ⟨⟨v, ex, st, cur⟩, errs⟩ := s
  simp only [acceptStmt]
  obtain ⟨c1, h1⟩ := compiles_flat (.integer cc capsN) v ex st cur errs (by simp [flat, Gen.stackMaxLen])
  rw [h1]
  obtain ⟨c2, h2⟩ := compiles_flat (.string pc prompt) v (ex.push (c1, plain (flat (.integer cc capsN)).toArray))
    st cur errs (by simp [flat, Gen.stackMaxLen])
  rw [h2, acceptVars_targets vs hok _ _ _ _ _ (by rw [inputCode_length] at hlen; omega)]
  have hloop : ∀ cur, Clean (forIn (vs.map itemOf) PUnit.unit fun var (_ : PUnit) =>
        (do lpush (Opcode.input var.name); let _ ← pushAsPop var; pure (ForInStep.yield PUnit.unit) : GM (ForInStep PUnit)))
      ⟨v, ex, st, cur⟩ ⟨⟩ ⟨v, ex, st, cur.pushOps (vs.flatMap fun x => targetCode (targetOf x)).toArray⟩ := by
    intro cur
    rw [List.forIn_map]
    exact .forIn_emit (fun x => targetCode (targetOf x)) _ v ex st vs (fun x hx cur => by
      refine Clean.congr (.bind (.lpush ..) <| .bind (pushAsPop_target_clean x (hok x hx) ..) (.pure ..)) ?_
      simp [targetCode, itemOf_name, Link.push, pushOps]) _
  have hg : Clean (genStatement (.input c (.integer cc capsN) (.string pc prompt) vs))
      ⟨v ++ (vs.map itemOf).toArray,
        (ex.push (c1, plain (flat (.integer cc capsN)).toArray)).push (c2, plain (flat (.string pc prompt)).toArray),
        st, {}⟩ c ⟨v, ex, st, plain (inputCode capsN prompt (vs.map targetOf)).toArray⟩ := by
    simp only [genStatement, show vs.length = (vs.map itemOf).length by simp]
    refine Clean.congr (.bind (.popExpr ..) <| .bind (.popExpr ..) <| .bind (.lappend ..) <| .bind (.lappend ..) <|
      .bind (.lenVal (by simpa using hk) _) <| .bind (.lpush ..) <| .bind (.popNVar ..) <| .bind (hloop _) <|
      .bind (.lpush ..) (.pure ..)) ?_
    dsimp only
    rw [appended_plain, appended_plain]
    simp [inputCode, flat, plain, Link.push, pushOps, List.flatMap_map]
  exact visitStatement_clean hg ⟨by simpa [plain] using hlen, Nat.zero_le _, rfl⟩ cur errs

end codegen

section vm
open Basic.Runtime
open Basic.Thm.C17 (doInput_running doInput_end doInput_field)

theorem evalSubs_eq_evalArgs (vars : Var) : ∀ (es : List Expr), evalSubs vars es = evalArgs vars es
  | [] => rfl
  | e :: es => by simp only [evalSubs, evalArgs, evalSubs_eq_evalArgs vars es]

/-- what running a target needs: a name, and for an element subscripts of the fragment -/
def TargetRunOk : InTarget → Prop
  | .scalar n => n ≠ []
  | .elem n subs => n ≠ [] ∧ (∀ e ∈ subs, Pure e) ∧ subs.length ≤ 32767

theorem TargetRunOk.name_ne {t : InTarget} (h : TargetRunOk t) : t.name ≠ [] := by
  cases t with
  | scalar n => exact h
  | elem n subs => exact h.1

theorem targetRunOk_of_targetOk {x : Variable} (hx : TargetOk x) (hn : (targetOf x).name ≠ []) :
    TargetRunOk (targetOf x) := by
  cases x with
  | unary c i => exact hn
  | array c i es => exact ⟨hn, hx.2.2.1, hx.2.2.2⟩

/-- an `input` opcode that names a target converts the field on top -/
theorem target_convert (env : Env) (hie : Bool) (t : InTarget) (s : Runtime) (σ : Array Val) (field : Str)
    (hok : TargetRunOk t) (hstate : s.state = .inputRunning) (htr : s.tron = false)
    (hop : s.program.link.ops[s.pc]? = some (.input t.name))
    (hst : s.stack = σ.push (.str field)) (hroom : σ.size + 1 ≤ Gen.stackMaxLen) :
    ((step env hie).run).run s =
      (.ok .continue, { s with pc := s.pc + 1, stack := σ.push (fieldValue t.name field) }) := by
  rw [run_step_input env hie s t.name htr hop,
    doInput_field t.name { s with pc := s.pc + 1 } σ field hstate hok.name_ne hst hroom]

/-- an `input` opcode met in state `running` suspends the machine, `pc` still on it -/
theorem input_step_running (env : Env) (hie : Bool) (s : Runtime) (name : Str) (htr : s.tron = false)
    (hop : s.program.link.ops[s.pc]? = some (.input name)) (hstate : s.state = .running) :
    ((step env hie).run).run s = (.ok (.event .running), { s with state := .input }) := by
  rw [run_step_input env hie s name htr hop, doInput_running name { s with pc := s.pc + 1 } hstate]
  rfl

/-- the closing `input` (empty name) drops the four values that statement and reply have left under the fields -/
theorem input_step_end (env : Env) (hie : Bool) (s : Runtime) (st : Array Val) (a b c d : Val) (htr : s.tron = false)
    (hop : s.program.link.ops[s.pc]? = some (.input [])) (hstate : s.state = .inputRunning)
    (hs : s.stack = (((st.push a).push b).push c).push d) :
    ((step env hie).run).run s = (.ok .continue, { s with pc := s.pc + 1, state := .running, stack := st }) := by
  rw [run_step_input env hie s [] htr hop, doInput_end { s with pc := s.pc + 1 } st a b c d hstate hs]

theorem fieldValue_isValue (name field : Str) : isValue (fieldValue name field) = true := by
  unfold fieldValue
  simp only
  split
  · rfl
  · split
    · rfl
    · exact ofStr_isValue _

/-- refused: the store does not take the value, or a subscript cannot be evaluated; what then lies above `σ` are
    numbers and strings, no return address — the unwinding of `execute` relies on that -/
theorem target_run (env : Env) (hie : Bool) (t : InTarget) (s : Runtime) (σ : Array Val) (field : Str)
    (hok : TargetRunOk t) (hstate : s.state = .inputRunning) (htr : s.tron = false)
    (hcode : CodeAt s.program.link.ops s.pc (targetCode t))
    (hst : s.stack = σ.push (.str field))
    (hroom : σ.size + (targetCode t).length ≤ Gen.stackMaxLen) :
    match assignTarget s.vars t (fieldValue t.name field) with
    | (v', .ok ()) => runSteps env hie (targetCode t).length s =
        (.ok .continue, { s with pc := s.pc + (targetCode t).length, stack := σ, vars := v' })
    | (v', .error e) => ValueStore s.vars →
      ∃ (pc' : Nat) (junk : List Val), (∀ v ∈ junk, isValue v = true) ∧
        runSteps env hie (targetCode t).length s =
          (.error e, { s with pc := pc', stack := σ ++ junk.toArray, vars := v' }) := by
  have h1 : runSteps env hie 1 s =
      (.ok .continue, { s with pc := s.pc + 1, stack := σ.push (fieldValue t.name field) }) :=
    (runSteps_one env hie s).trans (target_convert env hie t s σ field hok hstate htr hcode.head hst
      (by simp only [targetCode, List.length_cons] at hroom; omega))
  have hrest : CodeAt s.program.link.ops (s.pc + 1) (storeCode t) := CodeAt.right (a := [Opcode.input t.name]) hcode
  cases t with
  | scalar n =>
    have hpop := run_step_pop env hie { s with pc := s.pc + 1, stack := σ.push (fieldValue n field) } n σ
      (fieldValue n field) htr hrest.head rfl
    simp only [assignTarget, InTarget.name] at hpop ⊢
    cases hs : s.vars.store n (fieldValue n field) with
    | ok v =>
      rw [hs] at hpop
      exact (runSteps_ok_add h1 1).trans ((runSteps_one env hie _).trans hpop)
    | error e =>
      rw [hs] at hpop
      exact fun _ => ⟨s.pc + 1 + 1, [], nofun,
        (runSteps_ok_add h1 1).trans ((runSteps_one env hie _).trans (hpop.trans (by simp [outcome])))⟩
  | elem n subs =>
    obtain ⟨_, hp, hk⟩ := hok
    have hl : (targetCode (.elem n subs)).length = 1 + ((subs.flatMap flat).length + 1) + 1 := by
      simp only [targetCode, storeCode, List.length_cons, List.length_append, List.length_nil]; omega
    rw [hl] at hroom ⊢
    simp only [InTarget.name] at h1
    simp only [storeCode] at hrest
    have hA := args_computesOn (fun v => ValueStore s.vars → isValue v = true) env hie subs hp
      { s with pc := s.pc + 1, stack := σ.push (fieldValue n field) } σ [fieldValue n field]
      ⟨by apply Array.ext'; simp, fun v hv _ => by rw [List.mem_singleton.1 hv]; exact fieldValue_isValue n field⟩
      (fun hp' _ he hv => eval_isValue hp' hv he) hrest.left htr (by rw [Array.size_push]; omega)
    simp only [assignTarget, InTarget.name]
    rw [show ({ s with pc := s.pc + 1, stack := σ.push (fieldValue n field) } : Runtime).vars = s.vars from rfl,
      ← evalSubs_eq_evalArgs] at hA
    cases hs : evalSubs s.vars subs with
    | error e' =>
      rw [hs] at hA
      obtain ⟨junk, hj, hstop⟩ := hA
      obtain ⟨pc', hrun⟩ := hstop.run
      refine fun hv => ⟨pc', junk, fun v h => hj v h hv, ?_⟩
      rw [Nat.add_assoc 1]
      exact (runSteps_ok_add h1 _).trans (hrun _ (by omega))
    | ok idx =>
      -- the subscripts, their number, then `popArr` stores
      rw [hs] at hA
      have hlen := evalArgs_length (evalSubs_eq_evalArgs s.vars subs ▸ hs)
      have h2 : runSteps env hie (1 + ((subs.flatMap flat).length + 1)) s =
          (.ok .continue,
           { s with pc := s.pc + 1 + (subs.flatMap flat).length + 1,
                    stack := (σ.push (fieldValue n field) ++ idx.toArray).push (.int (Int16.ofNat subs.length)) }) :=
        ((runSteps_ok_add h1 _).trans (runSteps_ok_add (Lands.run hA) 1)).trans
          (literal_at env hie s _ _ s.vars _ hrest.right.head htr
            (by simp only [Array.size_append, Array.size_push, List.size_toArray]
                have := args_length_le subs hp; omega))
      have hpop := run_step_popArr env hie
        { s with pc := s.pc + 1 + (subs.flatMap flat).length + 1,
                 stack := (σ.push (fieldValue n field) ++ idx.toArray).push (.int (Int16.ofNat subs.length)) }
        n σ (fieldValue n field) idx (Int16.ofNat subs.length) htr
        (by have := hrest.right 1 (by simp); rw [Nat.add_assoc] at this ⊢; simpa using this) rfl
        (by rw [toInt_ofNat_len hk, hlen])
      dsimp only at hpop ⊢
      generalize s.vars.storeArray n idx (fieldValue n field) = res at hpop ⊢
      rcases res with ⟨v', r⟩
      cases r with
      | ok u =>
        rw [runSteps_ok_add h2, runSteps_one, hpop]
        simp only [Nat.add_assoc]
      | error e =>
        exact fun _ => ⟨s.pc + 1 + (subs.flatMap flat).length + 1 + 1, [], nofun,
          (runSteps_ok_add h2 1).trans ((runSteps_one env hie _).trans (hpop.trans (by simp)))⟩

theorem isValue_ne_ret {v : Val} (h : isValue v = true) (b : Nat) : v ≠ .ret b := by
  intro hv; subst hv; cases h

theorem assignTarget_valueStore {vars v : Var} {t : InTarget} {x : Val} (hv : ValueStore vars)
    (h : assignTarget vars t x = (v, .ok ())) : ValueStore v := by
  cases t with
  | scalar n =>
    simp only [assignTarget] at h
    cases hs : vars.store n x with
    | error e => rw [hs] at h; cases h
    | ok v1 =>
      rw [hs] at h
      cases h
      exact store_valueStore hv hs
  | elem n subs =>
    simp only [assignTarget] at h
    cases hs : evalSubs vars subs with
    | error e => rw [hs] at h; cases h
    | ok idx =>
      rw [hs] at h
      have hk : ValueStore (vars.buildArrayKey n idx).1 := fun p hp =>
        hv p (VarPool.buildArrayKey_vars vars n idx ▸ hp)
      have hfst := Thm.C06.storeArray_fst vars n idx x
      rw [show vars.storeArray n idx x = (v, .ok ()) from h] at hfst
      rcases hfst with e | ⟨key, hst⟩
      · exact (show v = _ from e) ▸ hk
      · exact store_valueStore hk hst

theorem stack_fields_cons (base : Array Val) (f : Str) (fs : List Str) :
    base ++ (((f :: fs).map Val.str).reverse).toArray = (base ++ ((fs.map Val.str).reverse).toArray).push (.str f) := by
  apply Array.ext'; simp

/-- when a field is refused the variables are the working copy `assignAll` had reached — the earlier targets HAVE
    been assigned — and above `base` lie the fields not yet consumed and operands, no return address -/
theorem targets_run (env : Env) (hie : Bool) : ∀ (ts : List InTarget) (fs : List Str) (s : Runtime)
    (base : Array Val) (v' : Var) (b : Bool),
    (∀ t ∈ ts, TargetRunOk t) → s.state = .inputRunning → s.tron = false →
    CodeAt s.program.link.ops s.pc (ts.flatMap targetCode) →
    s.stack = base ++ ((fs.map Val.str).reverse).toArray →
    base.size + fs.length + (ts.flatMap targetCode).length ≤ Gen.stackMaxLen →
    ts.length = fs.length →
    assignAll s.vars ts fs = (v', b) →
    match b with
    | true => runSteps env hie (ts.flatMap targetCode).length s =
        (.ok .continue, { s with pc := s.pc + (ts.flatMap targetCode).length, stack := base, vars := v' })
    | false => ValueStore s.vars →
      ∃ (e : Error) (pc' : Nat) (junk : List Val), (∀ v ∈ junk, ∀ b, v ≠ .ret b) ∧
        runSteps env hie (ts.flatMap targetCode).length s =
          (.error e, { s with pc := pc', stack := base ++ junk.toArray, vars := v' })
  | [], fs, s, base, v', b, _, _, _, _, hst, _, hlen, ha => by
    obtain rfl : fs = [] := List.length_eq_zero_iff.1 hlen.symm
    simp only [assignAll, Prod.mk.injEq] at ha
    obtain ⟨rfl, rfl⟩ := ha
    have hst' : s.stack = base := by simpa using hst
    subst hst'
    rfl
  | t :: ts, [], s, base, v', b, _, _, _, _, _, _, hlen, _ => by simp at hlen
  | t :: ts, f :: fs, s, base, v', b, hok, hstate, htr, hcode, hst, hroom, hlen, ha => by
    rw [List.flatMap_cons] at hcode hroom ⊢
    rw [List.length_append] at hroom ⊢
    rw [stack_fields_cons] at hst
    simp only [List.length_cons] at hroom hlen
    have hpos : 0 < (targetCode t).length := by simp [targetCode]
    have h1 := target_run env hie t s _ f (hok t List.mem_cons_self) hstate htr hcode.left hst
      (by simp only [Array.size_append, List.size_toArray, List.length_reverse, List.length_map]; omega)
    simp only [assignAll] at ha
    cases hat : assignTarget s.vars t (fieldValue t.name f) with
    | mk v r =>
      rw [hat] at ha h1
      cases r with
      | error e =>
        simp only [Prod.mk.injEq] at ha
        obtain ⟨rfl, rfl⟩ := ha
        intro hvs
        obtain ⟨pc', junk, hj, hrun⟩ := h1 hvs
        refine ⟨e, pc', (fs.map Val.str).reverse ++ junk, ?_, ?_⟩
        · intro x hx b
          rcases List.mem_append.1 hx with h | h
          · simp only [List.mem_reverse, List.mem_map] at h
            obtain ⟨g, _, rfl⟩ := h
            exact nofun
          · exact isValue_ne_ret (hj x h) b
        · rw [runSteps_error_le hrun (Nat.le_add_right _ _)]
          have e1 : base ++ ((fs.map Val.str).reverse).toArray ++ junk.toArray =
              base ++ ((fs.map Val.str).reverse ++ junk).toArray := by apply Array.ext'; simp
          rw [e1]
      | ok u =>
        have h1 : runSteps env hie (targetCode t).length s = _ := h1
        have ih := targets_run env hie ts fs
          { s with pc := s.pc + (targetCode t).length, stack := base ++ ((fs.map Val.str).reverse).toArray, vars := v }
          base v' b (fun x hx => hok x (List.mem_cons_of_mem _ hx)) hstate htr hcode.right rfl (by omega) (by omega) ha
        cases b with
        | true =>
          rw [runSteps_ok_add h1, ih]
          simp only [Nat.add_assoc]
        | false =>
          intro hvs
          obtain ⟨e, pc', junk, hj, hrun⟩ := ih (assignTarget_valueStore hvs hat)
          exact ⟨e, pc', junk, hj, (runSteps_ok_add h1 _).trans hrun⟩

/-- `pc` ends ON the first `input` opcode: it is executed again after the reply -/
theorem input_suspends (env : Env) (hie : Bool) (capsN : Int16) (prompt : Str) (ts : List InTarget) (s : Runtime)
    (hstate : s.state = .running) (htr : s.tron = false)
    (hcode : CodeAt s.program.link.ops s.pc (inputCode capsN prompt ts))
    (hroom : s.stack.size + 3 ≤ Gen.stackMaxLen) :
    runSteps env hie 4 s =
      (.ok (.event .running),
        { s with pc := s.pc + 3,
                 stack := ((s.stack.push (.str prompt)).push (.int capsN)).push (.int (Int16.ofNat ts.length)),
                 state := .input }) := by
  have hlit : CodeAt s.program.link.ops s.pc
      [.literal (.str prompt), .literal (.int capsN), .literal (.int (Int16.ofNat ts.length))] := hcode.left.left
  -- whatever the targets, the opcode after the three literals is an `input`
  obtain ⟨name, h3⟩ : ∃ name, s.program.link.ops[s.pc + 3]? = some (.input name) := by
    cases ts with
    | nil => exact ⟨[], hcode.right.head⟩
    | cons t ts => exact ⟨t.name, hcode.left.right.head⟩
  refine (runSteps_ok_add (literal_at env hie s s.pc s.stack s.vars _ hlit.head htr (by omega)) 3).trans ?_
  refine (runSteps_ok_add (literal_at env hie s (s.pc + 1) _ _ _ (CodeAt.right (a := [_]) hlit).head htr
    (by simp only [Array.size_push]; omega)) 2).trans ?_
  refine (runSteps_ok_add (literal_at env hie s (s.pc + 1 + 1) _ _ _ (CodeAt.right (a := [_, _]) hlit).head htr
    (by simp only [Array.size_push]; omega)) 1).trans ?_
  exact (runSteps_one ..).trans (input_step_running env hie _ name htr h3 hstate)

/-- the stack: the statement's base, prompt, caps value, count, the `ret` pushed by the reply, the fields (first on
    top); the closing `input` drops the four values above the base -/
theorem input_accept_run (env : Env) (hie : Bool) (ts : List InTarget) (fs : List Str) (s : Runtime)
    (base : Array Val) (a b c : Val) (p : Nat) (v' : Var)
    (hok : ∀ t ∈ ts, TargetRunOk t) (hstate : s.state = .inputRunning) (htr : s.tron = false)
    (hcode : CodeAt s.program.link.ops s.pc (ts.flatMap targetCode ++ [.input []]))
    (hst : s.stack = ((((base.push a).push b).push c).push (.ret p)) ++ ((fs.map Val.str).reverse).toArray)
    (hroom : base.size + 4 + fs.length + (ts.flatMap targetCode).length ≤ Gen.stackMaxLen)
    (hlen : ts.length = fs.length)
    (ha : assignAll s.vars ts fs = (v', true)) :
    runSteps env hie ((ts.flatMap targetCode).length + 1) s =
      (.ok .continue, { s with pc := s.pc + ((ts.flatMap targetCode).length + 1), stack := base, vars := v',
                               state := .running }) := by
  have h1 : runSteps env hie (ts.flatMap targetCode).length s = _ :=
    targets_run env hie ts fs s _ v' true hok hstate htr hcode.left hst (by simp only [Array.size_push]; omega) hlen ha
  exact (runSteps_ok_add h1 1).trans ((runSteps_one ..).trans
    (input_step_end env hie _ base a b c (.ret p) htr hcode.right.head hstate rfl))

open Basic.Thm.C17 (fields split_spec single_var_whole_reply field_count_match_accept field_count_mismatch_redo
  redo_restores_stack execute_input_prompt)

theorem replyFields_eq_fields (k : Nat) (reply : Str) (hk : ¬ k ≤ 1) : replyFields k reply = fields reply := by
  rw [replyFields, if_neg hk, split_spec]

theorem enter_accept (env : Env) (w : Runtime) (reply : Str) (k : Nat) (hk1 : 1 ≤ k) (hk : k ≤ 32767)
    (hstate : w.state = .input) (htop : w.stack.back? = some (.int (Int16.ofNat k)))
    (hlen : RStd.utf8Len reply ≤ Gen.maxLineLen) (hcount : (replyFields k reply).length = k)
    (hroom : w.stack.size + 1 + k ≤ Gen.stackMaxLen) :
    enter env w reply =
      { w with stack := w.stack ++ (Val.ret w.pc :: (replyFields k reply).reverse.map Val.str).toArray,
               state := .inputRunning, printCol := 0 } := by
  have hto : (Int16.ofNat k).toInt = k := toInt_ofNat_len hk
  by_cases h1 : k ≤ 1
  · have hr : replyFields k reply = [reply] := by rw [replyFields, if_pos h1]
    rw [enter_input_reply env w _ reply hstate hlen
      (single_var_whole_reply w reply (Int16.ofNat k) htop (by omega) (by omega) (by omega)), hr]
    congr 1
  · rw [replyFields_eq_fields k reply h1] at hcount ⊢
    rw [enter_input_reply env w _ reply hstate hlen
      (field_count_match_accept w reply (Int16.ofNat k) htop (by omega) (by rw [hto, hcount]) (by omega))]

theorem enter_refuse_count (env : Env) (w : Runtime) (reply : Str) (k : Nat) (hk1 : 1 ≤ k) (hk : k ≤ 32767)
    (hstate : w.state = .input) (htop : w.stack.back? = some (.int (Int16.ofNat k)))
    (hlen : RStd.utf8Len reply ≤ Gen.maxLineLen) (hcount : (replyFields k reply).length ≠ k) :
    enter env w reply = { w with state := .inputRedo, printCol := 0 } := by
  have hto : (Int16.ofNat k).toInt = k := toInt_ofNat_len hk
  have h1 : ¬ k ≤ 1 := by
    intro h1
    rw [replyFields, if_pos h1] at hcount
    exact hcount (by simp only [List.length_singleton]; omega)
  rw [replyFields_eq_fields k reply h1] at hcount
  exact enter_input_reply env w _ reply hstate hlen
    (field_count_mismatch_redo w reply (Int16.ofNat k) htop (by omega) (by rw [hto]; omega))

/-- `execute` cuts the stack back to the three values of the `input` state and puts `pc` back on the first `input`
    opcode; the variables are the working copy `Spec.assignAll` had reached: NOT restored.  `ValueStore` (numbers and
    strings, as in every reachable state) makes sure that no operand of a failing subscript is mistaken for the return
    address. -/
theorem execute_field_refused (env : Env) (ts : List InTarget) (fs : List Str) (sC : Runtime) (base : Array Val)
    (a b c : Val) (p : Nat) (v1 : Var) (q : Nat)
    (hok : ∀ t ∈ ts, TargetRunOk t) (hstate : sC.state = .inputRunning) (htr : sC.tron = false)
    (hde : sC.listing.directErrors.isEmpty = true)
    (hcode : CodeAt sC.program.link.ops sC.pc (ts.flatMap targetCode))
    (hst : sC.stack = ((((base.push a).push b).push c).push (.ret p)) ++ ((fs.map Val.str).reverse).toArray)
    (hroom : base.size + 4 + fs.length + (ts.flatMap targetCode).length ≤ Gen.stackMaxLen)
    (hlen : ts.length = fs.length) (hvs : ValueStore sC.vars)
    (ha : assignAll sC.vars ts fs = (v1, false)) (hq : (ts.flatMap targetCode).length ≤ q) :
    execute env sC q =
      ({ sC with pc := p, stack := ((base.push a).push b).push c, vars := v1, state := .inputRedo }, .running) := by
  obtain ⟨e, pc', junk, hj, hrun⟩ := targets_run env (!sC.listing.indirectErrors.isEmpty) ts fs sC
    ((((base.push a).push b).push c).push (.ret p)) v1 false hok hstate htr hcode hst
    (by simp only [Array.size_push]; omega) hlen ha hvs
  have herr := runSteps_error_le hrun hq
  have hloop : ((executeLoop env q).run).run sC =
      (.error e, { sC with pc := pc',
                           stack := (((base.push a).push b).push c).push (.ret p) ++ junk.toArray,
                           vars := v1 }) := by
    rw [ExecSteps.executeLoop_run, herr]; rfl
  rw [redo_restores_stack env sC _ q e (((base.push a).push b).push c) p junk hstate hde hloop hstate rfl hj]

end vm

end Lemmas.InputRun
end Basic

import BasicModel.Lemmas.SpellingPack
import BasicModel.Lemmas.RangeForms
import BasicModel.Lemmas.ParseFuel
/-
  C16, parser part: what the parser does not see.  `BasicParser::next` (`nextLoop`), the only reader of the token list,
  hands out the same token and leaves the same significant tokens and the same remark flag whether or not the blank runs
  are there (only the recorded columns differ); a line whose first significant token is `REM` or `'` parses to no
  statement at all, whichever marker it is and whatever follows; and `LET v = e` is `v = e` up to the recorded column of
  the statement itself (the column of `LET` resp. of the variable): both run the same tail `letTail` of `letStmt`.
-/
namespace Basic
namespace Lemmas.Spelling
open Parse Lex Lemmas.C19 Lemmas.RangeForms Lemmas.ParseRun

theorem nextLoop_sig (ts : List Token) : ∀ (rem : Bool) (cs ce cs' ce' : Nat),
    (nextLoop ts rem cs ce).1 = (nextLoop (sig ts) rem cs' ce').1 ∧
    sig (nextLoop ts rem cs ce).2.1 = (nextLoop (sig ts) rem cs' ce').2.1 ∧
    (nextLoop ts rem cs ce).2.2.1 = (nextLoop (sig ts) rem cs' ce').2.2.1 := by
  induction ts with
  | nil => intro rem cs ce cs' ce'; simp [nextLoop, sig]
  | cons t ts ih =>
    intro rem cs ce cs' ce'
    cases hb : isBlank t with
    | true =>
      obtain ⟨n, rfl⟩ : ∃ n, t = .whitespace n := by
        cases t <;> simp [isBlank] at hb; exact ⟨_, rfl⟩
      rw [sig_cons_blank]
      cases rem with
      | true => simpa [nextLoop, isRem] using ih true ce ce cs' ce'
      | false => simpa [nextLoop, isRem] using ih false ce _ cs' ce'
    | false =>
      rw [sig_cons_solid t ts hb]
      cases hr : (rem || isRem t) with
      | true =>
        have := ih true ce ce ce' ce'
        simpa [nextLoop, hr] using this
      | false =>
        cases t with
        | whitespace n => simp [isBlank] at hb
        | _ => simp [nextLoop, hr]

theorem parse_remark_line (ln : Option Nat) (W : List Token) (r : Token) (Y : List Token) (hW : AllWs W)
    (hr : isRem r = true) : parse ln (W ++ r :: Y) = .ok [] := by
  unfold parse
  rw [parseTokens_blank (by simp [tok, nextLoop_ws_append W _ hW, nextLoop_rem_head r Y false _ _ hr])]

/-- replace the recorded column of an assignment statement -/
def reCol (c : Col) : Stmt → Stmt
  | .let _ v e => .let c v e
  | .mid _ v p l e => .mid c v p l e
  | s => s

/-- `Statement::r#let` after `let c ← col; let t ← peek`: the body of `letStmt` (`Model/Parse.lean`) behind its first two
    binds, word for word, so that `letStmt_eq` is by `rfl` -/
def letTail (fuel : Nat) (isShortcut : Bool) (c : Col) (t : Option Token) : PM Stmt := do
  let isMid : Bool := match t with
    | some (.ident (.string s)) => s == "MID$".toList
    | _ => false
  if isMid then
    let _ ← next
    expect .lparen
    let v ← expectVar fuel
    expect .comma
    let pos ← expression fuel
    let len ← (do
      if ← maybe .comma then expression fuel
      else let c2 ← col; pure (Expr.integer (c2.1, c2.1) 32767))
    expect .rparen
    expect (.operator .equal)
    let e ← expression fuel
    pure (.mid c v pos len e)
  else
    let v ← expectVar fuel
    match ← next with
    | some (.operator .equal) => do
      let e ← expression fuel
      pure (.let c v e)
    | _ =>
      if isShortcut then fail Code.syntaxError c "UNKNOWN STATEMENT"
      else failHere Code.syntaxError "EXPECTED EQUALS SIGN"

theorem letStmt_eq (fuel : Nat) (b : Bool) :
    letStmt fuel b = (do let c ← col; let t ← peek; letTail fuel b c t) := by
  rw [letStmt]; rfl

/-- every successful run of `x` is a successful run of `y` with the same result up to the column
    of the statement -/
def Rc (c' : Col) (x y : PM Stmt) : Prop := ParseFuel.Sim (reCol c') x y

theorem Rc.bind {α} {c' : Col} (x : PM α) {k k' : α → PM Stmt} (h : ∀ a, Rc c' (k a) (k' a)) :
    Rc c' (x >>= k) (x >>= k') :=
  ParseFuel.Sim.bind (g := id) (ParseFuel.Le.refl x) h

theorem Rc.of_error {c' : Col} (x y : PM Stmt) (hx : ∀ st, ∃ e, x.run st = .error e) : Rc c' x y := by
  intro st r hr
  obtain ⟨e, he⟩ := hx st
  rw [he] at hr; cases hr

theorem Rc.ite {c' : Col} {b : Bool} {x x' y y' : PM Stmt} (hx : Rc c' x x') (hy : Rc c' y y') :
    Rc c' (if b = true then x else y) (if b = true then x' else y') := by
  cases b
  · exact hy
  · exact hx

theorem letTail_rc (fuel : Nat) (b b' : Bool) (c c' : Col) (t : Option Token) :
    Rc c' (letTail fuel b c t) (letTail fuel b' c' t) := by
  unfold letTail
  simp only
  refine Rc.ite ?_ ?_
  · refine Rc.bind _ (fun _ => Rc.bind _ (fun _ => Rc.bind _ (fun v => Rc.bind _ (fun _ =>
      Rc.bind _ (fun pos => Rc.bind _ (fun len => Rc.bind _ (fun _ => Rc.bind _ (fun _ =>
      Rc.bind _ (fun e => ?_)))))))))
    intro st r hr
    cases hr; rfl
  · refine Rc.bind _ (fun v => Rc.bind _ (fun t' => ?_))
    split
    · refine Rc.bind _ (fun e => ?_)
      intro st r hr
      cases hr; rfl
    · apply Rc.of_error
      intro st
      cases b
      · exact ⟨_, failHere_run _ _ st⟩
      · exact ⟨_, fail_run _ _ _ st⟩

theorem statement_let_run (fuel : Nat) (st : PState) (h : tok st = some (.word .let)) :
    (statement (fuel + 1)).run st = (letStmt fuel false).run (adv st) := by
  -- only the outermost bind of the big `statement` is opened
  rw [statement, StateT.run_bind, peek_run, h, ok_bind]
  show (next >>= fun _ => letStmt fuel false).run _ = _
  rw [StateT.run_bind, next_run, adv_pk]
  rfl

theorem let_optional (fuel : Nat) (ts : List Token) (cs ce x : Nat) (i : TIdent) (st1 : PState)
    (hp : peek.run (st0 ts x (ce + 3)) = .ok (some (.ident i), st1))
    (r : Stmt) (st' : PState) (hbare : (statement (fuel + 1)).run (st0 ts x (ce + 3)) = .ok (r, st')) :
    (statement (fuel + 1)).run (st0 (.word .let :: ts) cs ce) = .ok (reCol (ce, ce + 3) r, st') := by
  obtain ⟨ht, hs⟩ := of_peek_run hp
  -- the state behind LET differs from the bare one in its start column only, which `peek` does not read
  have hcs : tok (st0 ts ce (ce + 3)) = some (.ident i) ∧ pk (st0 ts ce (ce + 3)) = st1 := by
    rw [← ht, ← hs]
    simp only [tok, pk, adv, st0, nextLoop_cs ts false ce x, and_self]
  rw [statement_ident_run fuel _ i ht, hs, letStmt_eq] at hbare
  simp only [StateT.run_bind, col_run, ok_bind, peek_run, ← hs, tok_pk, pk_pk] at hbare
  have hl := statement_let_run fuel (st0 (.word .let :: ts) cs ce) rfl
  rw [hl, letStmt_eq]
  simp only [StateT.run_bind, col_run, ok_bind, peek_run]
  rw [show adv (st0 (.word .let :: ts) cs ce) = st0 ts ce (ce + 3) from rfl, hcs.1, hcs.2]
  rw [hs, ht] at hbare
  exact letTail_rc fuel true false _ (ce, ce + 3) _ st1 (r, st') hbare

end Lemmas.Spelling
end Basic

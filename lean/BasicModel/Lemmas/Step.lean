import BasicModel.Lemmas.Frame
/-
  What one `step` can do beyond its footprint.  The value returned: `returns op` tabulates what each
  instruction can return (`execOp_returns`, a walk that looks at the tail positions only).  What is
  left alone: `Quiet` by an instruction that cannot return an event (off the footprint), `Calm` by a
  step that returns `continue` (`Quiet`, but `state` may move from `inputRunning` to `running`); a step
  that returns the event `running` has left the state `running`.  `step_oeff` is the footprint of a
  whole step, trace part and fetch included.
-/
namespace Basic
namespace Runtime
variable {α β : Type}

structure Rets (m : RM α) (P : α → Prop) : Prop where
  run : ∀ s a s', m.run.run s = (.ok a, s') → P a

theorem Rets.ret {P : α → Prop} {a : α} (h : P a) : Rets (pure a : RM α) P :=
  ⟨fun s b s' hr => by rw [run_pure] at hr; cases hr; exact h⟩

theorem Rets.thr {P : α → Prop} (e : Error) : Rets (throw e : RM α) P :=
  ⟨fun s b s' hr => by rw [run_throw] at hr; cases hr⟩

theorem Rets.seq {P : β → Prop} {m : RM α} {f : α → RM β} (hf : ∀ a, Rets (f a) P) :
    Rets (m >>= f) P := by
  constructor
  intro s b s' hr
  rw [run_bind] at hr
  rcases h : m.run.run s with ⟨r, t⟩
  rw [h] at hr
  cases r with
  | ok a => exact (hf a).run t b s' hr
  | error e => cases hr

macro "rets_step" : tactic =>
  `(tactic| first
    | intro _
    | with_reducible apply Rets.seq
    | with_reducible apply Rets.thr
    | ((with_reducible apply Rets.ret); first
        | exact rfl | exact Or.inl rfl | exact Or.inr rfl | exact ⟨_, rfl⟩ | exact Or.inr ⟨_, rfl⟩
        | (intro h; cases h))
    | assumption
    | split)

macro "rets" : tactic => `(tactic| (try dsimp only
                                    repeat' rets_step))

theorem Rets.event {P : Step → Prop} {Q : Event → Prop} {m : RM Event} (hm : Rets m Q)
    (h : ∀ e, Q e → P (.event e)) : Rets (do pure (Step.event (← m))) P := by
  constructor
  intro s b s' hr
  rw [run_bind] at hr
  rcases hh : m.run.run s with ⟨r, t⟩
  rw [hh] at hr
  cases r with
  | ok a =>
    have hr' : (Except.ok (Step.event a), t) = (Except.ok b, s') := hr
    cases hr'; exact h a (hm.run s a _ hh)
  | error e => cases hr

theorem rets_doDelete : Rets doDelete (· = .stopped) := by unfold doDelete; rets
theorem rets_doRenum (env : Env) : Rets (doRenum env) (fun e => e = .stopped ∨ ∃ es, e = .errors es) := by
  unfold doRenum; rets
theorem rets_doPrint : Rets doPrint (fun e => ∃ t, e = .print t) := by unfold doPrint; rets
theorem rets_fileOp (mk : Str → Event) (b : Bool) : Rets (fileOp mk b) (fun e => ∃ s, e = mk s) := by
  unfold fileOp; rets

/-- what each instruction can return when it does not throw -/
def returns : Opcode → Step → Prop
  | .jump _, r => r = .continue ∨ ∃ es, r = .event (.errors es)
  | .cls, r => r = .event .cls
  | .cont, r | .input _, r => r = .continue ∨ r = .event .running
  | .delete, r | .end, r | .new, r => r = .event .stopped
  | .list, r => r = .event .running
  | .load, r => ∃ s, r = .event (.load s)
  | .loadRun, r => ∃ s, r = .event (.run s)
  | .save, r => ∃ s, r = .event (.save s)
  | .print, r => ∃ t, r = .event (.print t)
  | .renum, r => r = .event .stopped ∨ ∃ es, r = .event (.errors es)
  | .inkey, r => r = .event .inkey
  | _, r => r = .continue

theorem execOp_returns (env : Env) (h : Bool) (op : Opcode) : Rets (execOp env h op) (returns op) := by
  cases op <;> first
    | (simp only [execOp]; rets; done)
    | (simp only [execOp]; exact Rets.event rets_doDelete fun _ he => congrArg Step.event he)
    | (simp only [execOp]; exact Rets.event (rets_doRenum env) fun _ he =>
        he.imp (congrArg Step.event) fun ⟨es, h⟩ => ⟨es, congrArg Step.event h⟩)
    | (simp only [execOp]; exact Rets.event rets_doPrint fun _ ⟨t, he⟩ => ⟨t, congrArg Step.event he⟩)
    | (simp only [execOp]; exact Rets.event (rets_fileOp _ _) fun _ ⟨t, he⟩ => ⟨t, congrArg Step.event he⟩)

/-- instructions that always end the slice: they return an event or throw -/
def alwaysEvent : Opcode → Bool
  | .cls | .delete | .end | .list | .load | .loadRun | .new | .print | .renum | .save | .inkey => true
  | _ => false

def mayReturnRunning : Opcode → Bool
  | .cont | .input _ | .list => true
  | _ => false

/-- only a branch into a program with compile errors and RENUM report an `errors` event -/
def errEventOp : Opcode → Bool
  | .jump _ | .renum => true
  | _ => false

theorem returns_continue {op : Opcode} (hr : returns op .continue) : alwaysEvent op = false := by
  cases op <;> first | rfl | exact nomatch hr

theorem returns_running {op : Opcode} (hr : returns op (.event .running)) : mayReturnRunning op = true := by
  cases op <;> first | rfl | exact nomatch hr

theorem returns_errors {op : Opcode} {es : List Error} (hr : returns op (.event (.errors es))) :
    errEventOp op = true := by
  cases op <;> first | rfl | exact nomatch hr

theorem returns_stopped {op : Opcode} (hr : returns op (.event .stopped)) : harmless op = false := by
  cases op <;> first | rfl | exact nomatch hr

/-- closes `Quiet s t` or `Calm s t` when `t` is `s` with some of the fields they do not mention replaced
    (or `cont` reset, `state` set to `running`): every field by `rfl`, the two disjunctions by the side that holds -/
macro "fields_kept" : tactic =>
  `(tactic| (constructor <;> first | rfl | exact Or.inl rfl | exact Or.inr rfl))

/-- what an ordinary instruction leaves alone: the listing, the state of the protocol, the
    compiled code, the entry address; `cont` is kept or reset to `stopped` (CLEAR) -/
structure Quiet (s t : Runtime) : Prop where
  listing : t.listing = s.listing
  state : t.state = s.state
  cont : t.cont = s.cont ∨ t.cont = .stopped
  contPc : t.contPc = s.contPc
  entry : t.entryAddress = s.entryAddress
  dirty : t.dirty = s.dirty
  prompt : t.prompt = s.prompt
  ops : t.program.link.ops = s.program.link.ops
  data : t.program.link.data = s.program.link.data
  symbols : t.program.link.symbols = s.program.link.symbols
  errors : t.program.errors = s.program.errors
  indirectErrors : t.program.indirectErrors = s.program.indirectErrors
  directAddress : t.program.directAddress = s.program.directAddress

instance : FrameRel Quiet where
  refl _ := ⟨rfl, rfl, .inl rfl, rfl, rfl, rfl, rfl, rfl, rfl, rfl, rfl, rfl, rfl⟩
  trans h1 h2 :=
    ⟨h2.listing.trans h1.listing, h2.state.trans h1.state,
     h2.cont.elim (fun h => h1.cont.elim (fun h' => .inl (h.trans h')) (fun h' => .inr (h.trans h'))) .inr,
     h2.contPc.trans h1.contPc, h2.entry.trans h1.entry, h2.dirty.trans h1.dirty,
     h2.prompt.trans h1.prompt, h2.ops.trans h1.ops, h2.data.trans h1.data,
     h2.symbols.trans h1.symbols, h2.errors.trans h1.errors,
     h2.indirectErrors.trans h1.indirectErrors, h2.directAddress.trans h1.directAddress⟩

def Kind.quiet : Kind → Prop
  | .state | .listing | .sched => False
  | _ => True

instance : DecidablePred Kind.quiet := fun k => by
  cases k <;> (dsimp only [Kind.quiet]; infer_instance)

theorem Quiet.of_prim {env : Env} {k : Kind} {s t : Runtime} (p : Prim env k s t) (hk : k.quiet) : Quiet s t := by
  cases p <;> first | fields_kept | exact False.elim hk

theorem touches_quiet {op : Opcode} (hop : isEventOp op = false) {k : Kind} (hk : touches op k) : k.quiet := by
  cases k <;> first
    | trivial
    | exact absurd hk.2 (by rw [hop]; nofun)
    | exact absurd hk.2.1 (by rw [hop]; nofun)
    | exact hk

theorem execOp_quiet (env : Env) (h : Bool) (op : Opcode) (hop : isEventOp op = false) :
    Frame Quiet (execOp env h op) :=
  (execOp_eff env h op).to fun p hk => Quiet.of_prim p (touches_quiet hop hk)

theorem Frame.quiet_of_eff {m : RM α} (h : ∀ env, Frame (Eff env Kind.quiet) m) : Frame Quiet m :=
  (h default).to Quiet.of_prim

structure Calm (s t : Runtime) : Prop where
  listing : t.listing = s.listing
  state : t.state = s.state ∨ t.state = .running
  cont : t.cont = s.cont ∨ t.cont = .stopped
  contPc : t.contPc = s.contPc
  entry : t.entryAddress = s.entryAddress
  dirty : t.dirty = s.dirty
  prompt : t.prompt = s.prompt
  ops : t.program.link.ops = s.program.link.ops
  data : t.program.link.data = s.program.link.data
  symbols : t.program.link.symbols = s.program.link.symbols
  errors : t.program.errors = s.program.errors
  indirectErrors : t.program.indirectErrors = s.program.indirectErrors
  directAddress : t.program.directAddress = s.program.directAddress

instance : FrameRel Calm where
  refl _ := ⟨rfl, .inl rfl, .inl rfl, rfl, rfl, rfl, rfl, rfl, rfl, rfl, rfl, rfl, rfl⟩
  trans h1 h2 :=
    ⟨h2.listing.trans h1.listing,
     h2.state.elim (fun h => h1.state.elim (fun h' => .inl (h.trans h')) (fun h' => .inr (h.trans h'))) .inr,
     h2.cont.elim (fun h => h1.cont.elim (fun h' => .inl (h.trans h')) (fun h' => .inr (h.trans h'))) .inr,
     h2.contPc.trans h1.contPc, h2.entry.trans h1.entry, h2.dirty.trans h1.dirty,
     h2.prompt.trans h1.prompt, h2.ops.trans h1.ops, h2.data.trans h1.data,
     h2.symbols.trans h1.symbols, h2.errors.trans h1.errors,
     h2.indirectErrors.trans h1.indirectErrors, h2.directAddress.trans h1.directAddress⟩

theorem Calm.of_quiet {s t : Runtime} (h : Quiet s t) : Calm s t :=
  { h with state := .inl h.state }

/-- the part of INPUT that runs while `state = inputRunning` is calm -/
theorem doInput_spec (name : Str) (s : Runtime) :
    (∀ t, (doInput name).run.run s = (.ok true, t) → t.state = .input) ∧
    (∀ t, (doInput name).run.run s = (.ok false, t) → Calm s t) := by
  unfold doInput
  rw [run_bind_ok (run_get s)]
  by_cases h1 : s.state = .running
  · rw [if_pos h1]
    constructor
    · intro t ht; cases ht; rfl
    · intro t ht; cases ht
  · rw [if_neg h1]
    constructor
    · intro t ht
      exfalso
      revert ht
      split
      · split
        · intro ht; exact Bool.noConfusion ((show Rets _ (· = false) by rets).run _ _ _ ht)
        · intro ht; exact Bool.noConfusion ((show Rets _ (· = false) by rets).run _ _ _ ht)
      · intro ht; cases ht
    · -- `state` becomes `running`, then only the stack is touched
      intro t ht
      have hq : ∀ {α : Type} {m : RM α}, (∀ env, Frame (Eff env Kind.quiet) m) → Frame Calm m :=
        fun h => ⟨fun s => Calm.of_quiet ((Frame.quiet_of_eff h).run s)⟩
      refine Frame.snd_of_eq ?_ ht
      split
      · split
        · exact Frame.seq ⟨fun s => by fields_kept⟩ fun _ => hq fun _ => Does.eff (by does)
        · exact hq fun _ => Does.eff (by does)
      · exact hq fun _ => Does.eff (by does)

theorem execOp_continue_calm {env : Env} {h : Bool} {op : Opcode} {s t : Runtime}
    (hr : (execOp env h op).run.run s = (.ok .continue, t)) : Calm s t := by
  by_cases hev : isEventOp op = false
  · exact Calm.of_quiet (Frame.snd_of_eq (execOp_quiet env h op hev) hr)
  · by_cases hal : alwaysEvent op = true
    · exact absurd (returns_continue ((execOp_returns env h op).run _ _ _ hr)) (by rw [hal]; nofun)
    · cases op <;> first
        | exact absurd rfl hev
        | exact absurd rfl hal
        | skip
      case jump a =>
        rw [execOp_jump_run] at hr
        split at hr
        · cases hr
        · cases hr; fields_kept
      case cont =>
        rw [execOp_cont_run] at hr
        split at hr
        · cases hr
        · split at hr
          · rename_i h1 h2
            by_cases h3 : s.cont = .running
            · rw [if_pos h3] at hr; cases hr
              constructor <;> first | rfl | exact Or.inl rfl | exact Or.inr rfl | exact Or.inr h3
            · rw [if_neg h3] at hr; cases hr
          · cases hr
      case input name =>
        rw [execOp_input_run] at hr
        split at hr
        · cases hr
        · rename_i t' heq
          cases hr
          exact (doInput_spec name s).2 _ heq
        · cases hr

theorem doList_state {s t : Runtime} {u : Unit} (hr : doList.run.run s = (.ok u, t)) :
    ∃ lo hi, t.state = .listing lo hi := by
  simp only [doList, run_bind, run_modify, run_liftE] at hr
  repeat' split at hr
  all_goals first
    | (cases hr; done)
    | (cases hr; exact ⟨_, _, rfl⟩)

theorem execOp_running_state {env : Env} {h : Bool} {op : Opcode} {s t : Runtime}
    (hr : (execOp env h op).run.run s = (.ok (.event .running), t)) : t.state ≠ .running := by
  by_cases hm : mayReturnRunning op = false
  · exact absurd (returns_running ((execOp_returns env h op).run _ _ _ hr)) (by rw [hm]; nofun)
  · cases op <;> first
      | exact absurd rfl hm
      | skip
    case cont =>
      rw [execOp_cont_run] at hr
      split at hr
      · cases hr
      · split at hr
        · by_cases h3 : s.cont = .running
          · rw [if_pos h3] at hr; cases hr
          · rw [if_neg h3] at hr; cases hr; exact h3
        · cases hr
    case input name =>
      rw [execOp_input_run] at hr
      split at hr
      · rename_i t' heq
        cases hr
        rw [(doInput_spec name s).1 _ heq]; nofun
      · cases hr
      · cases hr
    case list =>
      simp only [execOp, run_bind] at hr
      split at hr
      · rename_i u t' heq
        cases hr
        obtain ⟨lo, hi, hl⟩ := doList_state heq
        rw [hl]; nofun
      · cases hr

/-- the footprint of `step`, with its outcome: the trace part touches `tr` and the print column, the
    fetch `pc` -/
theorem step_oeff (env : Env) (h : Bool) (s : Runtime) {K : Kind → Prop} (hr : K .regs) (hc : K .col)
    (hop : ∀ op, s.program.link.ops[s.pc]? = some op → ∀ k, touches op k → K k) :
    OEff env K s (fate ((step env h).run.run s).1) ((step env h).run.run s).2 := by
  have hreg : ∀ pc tr, OEff env K s none { s with pc := pc, tr := tr } := fun pc tr =>
    .prim (.pure (.regs s pc s.functions s.rand s.tron tr) (Nat.le_refl _)) hr
  refine step_elim env h s (P := fun x => OEff env K s (fate x.1) x.2) (fun _ tr col => ?_) (fun _ tr => ?_)
    fun op tr hq => ?_
  · exact .trans (hreg s.pc tr) (.prim (.pure (.col _ col) (Nat.le_refl _)) hc)
  · exact .trans (hreg s.pc tr) (.fail _ _ rfl)
  · exact .trans (hreg (s.pc + 1) tr) (((execOp_oeff env h op).run _).mono (hop op hq))

theorem step_eff (env : Env) (h : Bool) (s : Runtime) {K : Kind → Prop} (hr : K .regs) (hc : K .col)
    (hop : ∀ op, s.program.link.ops[s.pc]? = some op → ∀ k, touches op k → K k) :
    Eff env K s ((step env h).run.run s).2 :=
  (step_oeff env h s hr hc hop).eff

theorem step_oeff_any (env : Env) (h : Bool) (s : Runtime) :
    OEff env Kind.any s (fate ((step env h).run.run s).1) ((step env h).run.run s).2 :=
  step_oeff env h s trivial trivial fun _ _ _ _ => trivial

theorem step_eff_any (env : Env) (h : Bool) (s : Runtime) : Eff env Kind.any s ((step env h).run.run s).2 :=
  (step_oeff_any env h s).eff

theorem step_continue_calm {env : Env} {h : Bool} {s t : Runtime}
    (hr : (step env h).run.run s = (.ok .continue, t)) : Calm s t := by
  refine step_elim env h s (P := fun x => x = (.ok .continue, t) → Calm s t) ?_ ?_ ?_ hr
  · exact fun _ _ _ e => nomatch e
  · exact fun _ _ e => nomatch e
  · exact fun op tr _ e => FrameRel.trans (Calm.of_quiet (by fields_kept)) (execOp_continue_calm e)

theorem step_running_state {env : Env} {h : Bool} {s t : Runtime}
    (hr : (step env h).run.run s = (.ok (.event .running), t)) : t.state ≠ .running := by
  refine step_elim env h s (P := fun x => x = (.ok (.event .running), t) → t.state ≠ .running) ?_ ?_ ?_ hr
  · exact fun _ _ _ e => nomatch e
  · exact fun _ _ e => nomatch e
  · exact fun op tr _ e => execOp_running_state e

end Runtime
end Basic

import BasicModel.Lemmas.RtSplit
import BasicModel.Lemmas.KeyText
import BasicModel.Spec.PrintSpec
/-
  PRINT layout (C11): the column `doPrint` tracks is `Spec.columnAfter` of the text it emits (`doPrint_run`);
  `Func.tab` on an Integer as one `if` (`tab_int`).
-/

namespace Basic
namespace Lemmas.C11
open RStd

theorem natDigits_head_ne_minus (k : Nat) : (natDigits k).head? ≠ some '-' := by
  intro h
  exact KeyText.minus_not_mem_natDigits k (List.mem_of_mem_head? (by simp [h]))

theorem foldl_eq_columnAfter (text : Str) (c : Nat) :
    text.foldl (fun c ch => if ch = '\n' then 0 else c + 1) c = Spec.columnAfter c text := by
  induction text generalizing c with
  | nil => rfl
  | cons ch s ih => simp only [List.foldl_cons, Spec.columnAfter]; exact ih _

theorem columnAfter_append (c : Nat) (a b : Str) :
    Spec.columnAfter c (a ++ b) = Spec.columnAfter (Spec.columnAfter c a) b := by
  induction a generalizing c with
  | nil => rfl
  | cons ch s ih => simp only [List.cons_append, Spec.columnAfter]; exact ih _

theorem columnAfter_no_newline (c : Nat) (s : Str) (h : '\n' ∉ s) :
    Spec.columnAfter c s = c + s.length := by
  induction s generalizing c with
  | nil => rfl
  | cons ch s ih =>
    have h1 : ch ≠ '\n' := fun e => h (by simp [e])
    have h2 : '\n' ∉ s := fun e => h (List.mem_cons_of_mem _ e)
    simp only [Spec.columnAfter, if_neg h1, List.length_cons]
    rw [ih _ h2]; omega

theorem columnAfter_blanks (c k : Nat) : Spec.columnAfter c (List.replicate k ' ') = c + k := by
  rw [columnAfter_no_newline, List.length_replicate]
  intro h
  exact absurd (List.mem_replicate.1 h).2 (by decide)

/-- `k − c mod k` blanks from column `c` (what `TAB(−k)`, hence `,`, writes): between 1 and `k` of them, and
    the column afterwards is the next multiple of `k` -/
theorem next_stop (c k : Nat) (hk : 0 < k) :
    1 ≤ k - c % k ∧ k - c % k ≤ k ∧ c + (k - c % k) = (c / k + 1) * k := by
  have hlt := Nat.mod_lt c hk
  have hdm := Nat.div_add_mod c k
  rw [Nat.mul_comm] at hdm
  refine ⟨by omega, by omega, ?_⟩
  rw [Nat.add_mul, Nat.one_mul]
  omega

/-- the text PRINT emits for one popped item -/
def printText : Val → Str
  | .str s => s
  | v => v.display ++ [' ']

theorem doPrint_run (s : Runtime) (item : Val) (h : s.stack.back? = some item) :
    (Runtime.doPrint.run).run s =
      (.ok (.print (printText item)),
       { s with stack := s.stack.pop, printCol := Spec.columnAfter s.printCol (printText item) }) := by
  unfold Runtime.doPrint
  rw [Runtime.run_bind, Runtime.run_pop, h]
  cases item <;>
    simp only [Runtime.run_bind, Runtime.run_modify, Runtime.run_pure, printText, foldl_eq_columnAfter]

theorem tab_int (c : Nat) (n : Int16) :
    Func.tab c (.int n) =
      if n.toInt < -255 ∨ n.toInt > 255 then err Code.overflow
      else .ok (.str (List.replicate
        (if n.toInt < 0 then (-n.toInt).toNat - c % (-n.toInt).toNat
         else if n.toInt.toNat > c then n.toInt.toNat - c else 0) ' ')) := by
  simp only [Func.tab, Val.toI16, bind, Except.bind, Bool.or_eq_true, decide_eq_true_eq, pure, Except.pure]

end Lemmas.C11
end Basic

import BasicModel.Lemmas.LexLine
/-
  One turn of the token iterator as a relation (`Turn`: the text, the tokens handed out, the text left, whether a remark
  has begun), and the raw token list of a text as a derivation made of turns (`Lexed`, `lexed`).  What holds of every
  raw token list is proved by induction on `Lexed`, asking of a turn what is needed by `cases`; remark mode is met
  once, in `Lexed.remark`.
-/
namespace Basic
namespace Lex

/-- `Iterator::next` outside a remark, called until the queue that `alphabetic()` fills is empty again: one arm per
    scanner (that queue is never empty, `alphabetic_ne`).  The flag says that the rest of the line is remark text:
    after `REM` as the first word of its letters, and after the apostrophe. -/
inductive Turn : List Char → List Token → List Char → Bool → Prop
  | ws (pk cs) : isWs pk = true → Turn (pk :: cs) [(whitespace (pk :: cs)).1] (whitespace (pk :: cs)).2 false
  | num (pk cs) : (isDigit pk || pk = '.') = true →
      Turn (pk :: cs) [(number (pk :: cs)).1] (number (pk :: cs)).2 false
  | alpha (pk cs t ts) : isAlpha pk = true → (alphabetic (pk :: cs)).1 = t :: ts →
      Turn (pk :: cs) (t :: ts) (alphabetic (pk :: cs)).2 (t == .word .rem1)
  | str (cs) : Turn ('"' :: cs) [.literal (.string (stringBody cs).1)] (stringBody cs).2 false
  | radix (cs) : Turn ('&' :: cs) [(radix ('&' :: cs)).1] (radix ('&' :: cs)).2 false
  | min (pk cs) : isMinStart pk = true →
      Turn (pk :: cs) [(minutia (pk :: cs)).1] (minutia (pk :: cs)).2 ((minutia (pk :: cs)).1 == .word .rem2)

theorem Turn.lex {cs q cs' rm} (h : Turn cs q cs' rm) : lexFrom cs false = q ++ lexFrom cs' rm := by
  cases h with
  | ws pk cs h => exact lexFrom_ws pk cs h
  | num pk cs h => exact lexFrom_number pk cs h
  | alpha pk cs t ts h e => exact lexFrom_alpha pk cs h t ts _ (Prod.ext e rfl)
  | str cs => exact lexFrom_string cs
  | radix cs => exact lexFrom_radix cs
  | min pk cs h => exact lexFrom_minutia pk cs h

/-- every non-empty text admits a turn, and the turn leaves less than it was given -/
theorem turn_total (pk : Char) (cs : List Char) :
    ∃ q cs' rm, Turn (pk :: cs) q cs' rm ∧ cs'.length < (pk :: cs).length := by
  by_cases h1 : isWs pk = true
  · exact ⟨_, _, _, .ws pk cs h1, whitespace_shortens pk cs⟩
  by_cases h2 : (isDigit pk || pk = '.') = true
  · exact ⟨_, _, _, .num pk cs h2, number_shortens pk cs h2⟩
  by_cases h3 : isAlpha pk = true
  · obtain ⟨t, ts, e⟩ := List.exists_cons_of_ne_nil (alphabetic_ne pk cs h3)
    exact ⟨_, _, _, .alpha pk cs t ts h3 e, alphabetic_shortens pk cs h3⟩
  by_cases h4 : pk = '"'
  · subst h4
    exact ⟨_, _, _, .str cs, string_shortens _ cs⟩
  by_cases h5 : pk = '&'
  · subst h5
    exact ⟨_, _, _, .radix cs, radix_shortens _ cs⟩
  refine ⟨_, _, _, .min pk cs ?_, minutia_shortens pk cs⟩
  simp only [Bool.or_eq_true, decide_eq_true_eq, not_or] at h2
  simp [isMinStart, h1, h2.1, h2.2, h3, h4, h5]

/-- the remark text as the iterator hands it out: one final `Unknown` token, absent when nothing is left -/
def remText (u0 : List Char) : List Token := if u0 = [] then [] else [.unknown u0]

theorem remText_eq (cs : List Char) : remText cs = lexFrom cs true := (lexFrom_true cs).symm

theorem mem_remText {t : Token} {u0 : List Char} (h : t ∈ remText u0) : t = .unknown u0 := by
  unfold remText at h
  split at h
  · cases h
  · exact List.mem_singleton.mp h

/-- the raw token list of a text: turn after turn until the text is used up, or until a turn begins a remark -/
inductive Lexed : List Char → List Token → Prop
  | nil : Lexed [] []
  | code {cs q cs' ts} : Turn cs q cs' false → Lexed cs' ts → Lexed cs (q ++ ts)
  | remark {cs q cs'} : Turn cs q cs' true → Lexed cs (q ++ remText cs')

theorem lexed : ∀ cs : List Char, Lexed cs (lexFrom cs false)
  | [] => .nil
  | pk :: cs => by
    obtain ⟨q, cs', rm, ht, hl⟩ := turn_total pk cs
    rw [ht.lex]
    cases rm with
    | false => exact .code ht (lexed cs')
    | true =>
      rw [← remText_eq]
      exact .remark ht
termination_by cs => cs.length

end Lex
end Basic

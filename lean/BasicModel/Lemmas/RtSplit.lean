import BasicModel.Model.Runtime
/-
  The runtime model (`Model/Runtime.lean`) as equations: what an `RM` action computes, on
  `(m.run).run s`, forwards and backwards.  `step` is split into its trace part (`traceOf`) and its
  instruction part `execOp`, a verbatim copy of the `match op with` of the model (`step_eq` proves the
  copy faithful, by `rfl`), so that a fact about the 91 instructions is stated without the fetch.
  `step_elim` is the way back: a step is a trace print, no instruction at `pc`, or `execOp` with `pc`
  advanced.
-/
namespace Basic
namespace Runtime
variable {α β : Type}

theorem run_bind (m : RM α) (f : α → RM β) (s : Runtime) :
    (m >>= f).run.run s =
      match m.run.run s with
      | (.ok a, s') => (f a).run.run s'
      | (.error e, s') => (.error e, s') := by
  simp only [bind, ExceptT.bind, ExceptT.mk, ExceptT.bindCont, StateT.bind, ExceptT.run, StateT.run]
  generalize m s = x
  rcases x with ⟨r, s'⟩
  cases r <;> rfl

theorem run_bind_ok {m : RM α} {f : α → RM β} {s s' : Runtime} {a : α}
    (h : m.run.run s = (.ok a, s')) : (m >>= f).run.run s = (f a).run.run s' := by
  rw [run_bind, h]

theorem run_bind_error {m : RM α} {f : α → RM β} {s s' : Runtime} {e : Error}
    (h : m.run.run s = (.error e, s')) : (m >>= f).run.run s = (.error e, s') := by
  rw [run_bind, h]

theorem run_pure (a : α) (s : Runtime) : (pure a : RM α).run.run s = (.ok a, s) := rfl
theorem run_throw (e : Error) (s : Runtime) : (throw e : RM α).run.run s = (.error e, s) := rfl
theorem run_get (s : Runtime) : (get : RM Runtime).run.run s = (.ok s, s) := rfl
theorem run_set (t s : Runtime) : (set t : RM Unit).run.run s = (.ok (), t) := rfl
theorem run_modify (f : Runtime → Runtime) (s : Runtime) :
    (modify f : RM Unit).run.run s = (.ok (), f s) := rfl
theorem run_liftE (r : Except Error α) (s : Runtime) : (liftE r : RM α).run.run s = (r, s) := by
  cases r <;> rfl

theorem run_bind_inv {m : RM α} {f : α → RM β} {s s'' : Runtime} {b : β}
    (h : (m >>= f).run.run s = (.ok b, s'')) :
    ∃ a s', m.run.run s = (.ok a, s') ∧ (f a).run.run s' = (.ok b, s'') := by
  rw [run_bind] at h
  rcases hm : m.run.run s with ⟨r, s'⟩
  rw [hm] at h
  cases r with
  | error e => cases h
  | ok a => exact ⟨a, s', rfl, h⟩

theorem run_liftE_inv {r : Except Error α} {s s' : Runtime} {a : α}
    (h : (liftE r : RM α).run.run s = (.ok a, s')) : r = .ok a ∧ s' = s := by
  rw [run_liftE] at h
  cases h
  exact ⟨rfl, rfl⟩

theorem run_bind_pure_inv {m : RM α} {f : α → β} {s s' : Runtime} {b : β}
    (h : (m >>= fun a => (pure (f a) : RM β)).run.run s = (.ok b, s')) :
    ∃ a, m.run.run s = (.ok a, s') := by
  obtain ⟨a, s1, h1, h2⟩ := run_bind_inv h
  rw [run_pure] at h2
  cases h2
  exact ⟨a, h1⟩

theorem run_push (v : Val) (s : Runtime) :
    (push v).run.run s =
      (if s.stack.size + 1 > Gen.stackMaxLen then .error stackOverflow else .ok (),
       { s with stack := s.stack.push v }) := by
  simp only [push, run_bind, run_modify, run_get, Array.size_push]
  split <;> rfl

theorem run_pop (s : Runtime) :
    pop.run.run s =
      match s.stack.back? with
      | some v => (.ok v, { s with stack := s.stack.pop })
      | none => (.error underflow, s) := by
  simp only [pop, run_bind, run_get]
  cases s.stack.back? <;> rfl

theorem run_pop_inv {s t : Runtime} {v : Val} (h : pop.run.run s = (.ok v, t)) : s.stack = t.stack.push v := by
  rw [run_pop] at h
  split at h
  · rename_i hb
    cases h
    obtain ⟨ys, hys⟩ := Array.back?_eq_some_iff.1 hb
    rw [hys, Array.pop_push]
  · cases h

theorem run_popN (n : Nat) (s : Runtime) :
    (popN n).run.run s =
      if n > s.stack.size then (.error underflow, s)
      else (.ok (s.stack.extract (s.stack.size - n) s.stack.size).toList,
            { s with stack := s.stack.extract 0 (s.stack.size - n) }) := by
  simp only [popN, run_bind, run_get]
  split <;> rfl

theorem run_doCont (s : Runtime) :
    doCont.run.run s =
      if s.cont = .stopped then (.error (Error.mk' Code.cantContinue), s)
      else if s.state = .running then
        (.ok (s.cont != .running), { s with state := s.cont, cont := .stopped, pc := s.contPc })
      else (.error (Error.mk' Code.cantContinue), s) := by
  simp only [doCont, run_bind, run_get]
  by_cases h1 : s.cont = .stopped
  · simp only [h1, if_true]; rfl
  · simp only [h1, if_false]
    by_cases h2 : s.state = .running
    · simp only [h2, if_true]; rfl
    · simp only [h2, if_false]; rfl

/-- the trace part of `step` -/
def traceOf (s : Runtime) : RM (Option Step) := do
    if s.tron then
      let tr := s.program.link.lineNumberFor s.pc
      if tr ≠ s.tr then
        set { s with tr := tr }
        match tr with
        | some num =>
          let text := '[' :: RStd.natDigits num ++ [']']
          modify fun s => { s with printCol := s.printCol + text.length }
          pure (some (Step.event (.print text)))
        | none => pure none
      else pure none
    else pure none

/-- the instruction part of `step`: the `match op with` of the model, verbatim -/
def execOp (env : Env) (hasIndirectErrors : Bool) (op : Opcode) : RM Step :=
    match op with
    | .literal v => do push v; pure .continue
    | .pop name => do
      let v ← pop
      let s ← get
      let vars ← liftE (s.vars.store name v)
      set { s with vars := vars }
      pure .continue
    | .push name => do
      let s ← get
      push (← liftE (s.vars.fetch name))
      pure .continue
    | .popArr name => do
      let vec ← popVec
      let v ← pop
      let s ← get
      let (vars, r) := s.vars.storeArray name vec v
      set { s with vars := vars }
      liftE r
      pure .continue
    | .pushArr name => do
      let vec ← popVec
      let s ← get
      let (vars, r) := s.vars.fetchArray name vec
      set { s with vars := vars }
      push (← liftE r)
      pure .continue
    | .dimArr name => do
      let vec ← popVec
      let s ← get
      let vars ← liftE (s.vars.dimensionArray name vec)
      set { s with vars := vars }
      pure .continue
    | .eraseArr name => do
      let s ← get
      let vars ← liftE (s.vars.eraseArray name)
      set { s with vars := vars }
      pure .continue
    | .ifNot addr => do
      let isZero ← (do
        match ← pop with
        | .int n => pure (n == 0)
        | .sng b => pure (F.f32 b == 0)
        | .dbl b => pure (F.f64 b == 0)
        | _ => throw (Error.mk' Code.typeMismatch))
      if isZero then modify fun s => { s with pc := addr }
      pure .continue
    | .jump addr => do
      modify fun s => { s with pc := addr }
      let s ← get
      if hasIndirectErrors && s.pc < s.entryAddress then
        set { s with state := .stopped, cont := .stopped }
        pure (.event (.errors s.listing.indirectErrors))
      else pure .continue
    | .clear => do modify (doClear env); pure .continue
    | .cls => pure (.event .cls)
    | .cont => do
      if ← doCont then pure (.event .running) else pure .continue
    | .def name => do doDef name; pure .continue
    | .defdbl => do doDefType Var.defdbl; pure .continue
    | .defint => do doDefType Var.defint; pure .continue
    | .defsng => do doDefType Var.defsng; pure .continue
    | .defstr => do doDefType Var.defstr; pure .continue
    | .delete => do pure (.event (← doDelete))
    | .end => do modify doEnd; pure (.event .stopped)
    | .fn name => do doFn name; pure .continue
    | .input name => do
      if ← doInput name then pure (.event .running) else pure .continue
    | .letMid => do doLetMid; pure .continue
    | .list => do doList; pure (.event .running)
    | .load => do pure (.event (← fileOp .load true))
    | .loadRun => do pure (.event (← fileOp .run false))
    | .new => do modify (doNew env); pure (.event .stopped)
    | .on => do doOn; pure .continue
    | .next name => do doNext name; pure .continue
    | .print => do pure (.event (← doPrint))
    | .read => do doRead; pure .continue
    | .renum => do pure (.event (← doRenum env))
    | .restore addr => do
      modify fun s => { s with program := { s.program with link := s.program.link.restoreData addr } }
      pure .continue
    | .return => do doReturn; pure .continue
    | .save => do pure (.event (← fileOp .save true))
    | .stop => throw (Error.mk' Code.break)
    | .swap => do doSwap; pure .continue
    | .troff => do modify fun s => { s with tron := false }; pure .continue
    | .tron => do
      modify fun s => { s with tron := true, tr := s.program.link.lineNumberFor (s.pc - 1) }
      pure .continue
    | .neg => do pop1Push Ops.negate; pure .continue
    | .pow => do pop2Push Ops.power; pure .continue
    | .mul => do pop2Push Ops.multiply; pure .continue
    | .div => do pop2Push Ops.divide; pure .continue
    | .divInt => do pop2Push Ops.divint; pure .continue
    | .mod => do pop2Push Ops.remainder; pure .continue
    | .add => do pop2Push Ops.sum; pure .continue
    | .sub => do pop2Push Ops.subtract; pure .continue
    | .eq => do pop2Push Ops.equal; pure .continue
    | .notEq => do pop2Push Ops.notEqual; pure .continue
    | .lt => do pop2Push Ops.less; pure .continue
    | .ltEq => do pop2Push Ops.lessEqual; pure .continue
    | .gt => do pop2Push Ops.greater; pure .continue
    | .gtEq => do pop2Push Ops.greaterEqual; pure .continue
    | .not => do pop1Push Ops.not; pure .continue
    | .and => do pop2Push Ops.and; pure .continue
    | .or => do pop2Push Ops.or; pure .continue
    | .xor => do pop2Push Ops.xor; pure .continue
    | .imp => do pop2Push Ops.imp; pure .continue
    | .eqv => do pop2Push Ops.eqv; pure .continue
    | .abs => do pop1Push Func.abs; pure .continue
    | .asc => do pop1Push Func.asc; pure .continue
    | .atn => do pop1Push Func.atn; pure .continue
    | .cdbl => do pop1Push Func.cdbl; pure .continue
    | .chr => do pop1Push Func.chr; pure .continue
    | .cint => do pop1Push Func.cint; pure .continue
    | .cos => do pop1Push Func.cos; pure .continue
    | .csng => do pop1Push Func.csng; pure .continue
    | .date => do push (.str "01-01-2000".toList); pure .continue
    | .exp => do pop1Push Func.exp; pure .continue
    | .fix => do pop1Push Func.fix; pure .continue
    | .hex => do pop1Push Func.hex; pure .continue
    | .inkey => do
      modify fun s => { s with state := .inkey }
      pure (.event .inkey)
    | .instr => do
      let vec ← popVec
      push (← liftE (Func.instr vec))
      pure .continue
    | .int => do pop1Push Func.int; pure .continue
    | .left => do pop2Push Func.left; pure .continue
    | .len => do pop1Push Func.len; pure .continue
    | .log => do pop1Push Func.log; pure .continue
    | .mid => do
      let vec ← popVec
      push (← liftE (Func.mid vec))
      pure .continue
    | .oct => do pop1Push Func.oct; pure .continue
    | .pos => do
      let _ ← popVec
      let s ← get
      push (← liftE (Func.pos s.printCol))
      pure .continue
    | .right => do pop2Push Func.right; pure .continue
    | .rnd => do
      let vec ← popVec
      let s ← get
      let (st, v) ← liftE (Func.rnd s.rand vec)
      set { s with rand := st }
      push v
      pure .continue
    | .spc => do pop1Push Func.spc; pure .continue
    | .sgn => do pop1Push Func.sgn; pure .continue
    | .sin => do pop1Push Func.sin; pure .continue
    | .sqr => do pop1Push Func.sqr; pure .continue
    | .str => do pop1Push Func.str; pure .continue
    | .string => do pop2Push Func.string; pure .continue
    | .tab => do
      let v ← pop
      let s ← get
      push (← liftE (Func.tab s.printCol v))
      pure .continue
    | .tan => do pop1Push Func.tan; pure .continue
    | .time => do push (.str "00:00:00".toList); pure .continue
    | .val => do pop1Push Func.val; pure .continue

/-- the operators and built-in functions of one operand: pop it, apply the function, push the result -/
def unFn : Opcode → Option (Val → Res Val)
  | .neg => some Ops.negate | .not => some Ops.not
  | .abs => some Func.abs | .asc => some Func.asc | .atn => some Func.atn | .cdbl => some Func.cdbl
  | .chr => some Func.chr | .cint => some Func.cint | .cos => some Func.cos | .csng => some Func.csng
  | .exp => some Func.exp | .fix => some Func.fix | .hex => some Func.hex | .int => some Func.int
  | .len => some Func.len | .log => some Func.log | .oct => some Func.oct | .spc => some Func.spc
  | .sgn => some Func.sgn | .sin => some Func.sin | .sqr => some Func.sqr | .str => some Func.str
  | .tan => some Func.tan | .val => some Func.val
  | _ => none

/-- … of two operands -/
def binFn : Opcode → Option (Val → Val → Res Val)
  | .pow => some Ops.power | .mul => some Ops.multiply | .div => some Ops.divide | .divInt => some Ops.divint
  | .mod => some Ops.remainder | .add => some Ops.sum | .sub => some Ops.subtract | .eq => some Ops.equal
  | .notEq => some Ops.notEqual | .lt => some Ops.less | .ltEq => some Ops.lessEqual | .gt => some Ops.greater
  | .gtEq => some Ops.greaterEqual | .and => some Ops.and | .or => some Ops.or | .xor => some Ops.xor
  | .imp => some Ops.imp | .eqv => some Ops.eqv
  | .left => some Func.left | .right => some Func.right | .string => some Func.string
  | _ => none

/-- 24 of the 91 arms of `execOp` … -/
theorem execOp_un (env : Env) (h : Bool) {op : Opcode} {f : Val → Res Val} (hf : unFn op = some f) :
    execOp env h op = (do pop1Push f; pure .continue) := by
  cases op <;> cases hf <;> rfl

/-- … and 21 more -/
theorem execOp_bin (env : Env) (h : Bool) {op : Opcode} {f : Val → Val → Res Val} (hf : binFn op = some f) :
    execOp env h op = (do pop2Push f; pure .continue) := by
  cases op <;> cases hf <;> rfl

theorem execOp_jump_run (env : Env) (h : Bool) (a : Nat) (s : Runtime) :
    (execOp env h (.jump a)).run.run s =
      if h && a < s.entryAddress then
        (.ok (.event (.errors s.listing.indirectErrors)),
         { s with pc := a, state := .stopped, cont := .stopped })
      else (.ok .continue, { s with pc := a }) := by
  simp only [execOp, run_bind, run_modify, run_get]
  split <;> rfl

theorem execOp_cont_run (env : Env) (h : Bool) (s : Runtime) :
    (execOp env h .cont).run.run s =
      if s.cont = .stopped then (.error (Error.mk' Code.cantContinue), s)
      else if s.state = .running then
        (.ok (if s.cont = .running then .continue else .event .running),
         { s with state := s.cont, cont := .stopped, pc := s.contPc })
      else (.error (Error.mk' Code.cantContinue), s) := by
  simp only [execOp, run_bind, run_doCont]
  by_cases h1 : s.cont = .stopped
  · simp only [h1, if_true]
  · simp only [h1, if_false]
    by_cases h2 : s.state = .running
    · simp only [h2, if_true]
      by_cases h3 : s.cont = .running
      · simp only [h3, bne_self_eq_false, Bool.false_eq_true, if_false, if_true]; rfl
      · have : (s.cont != .running) = true := by simp [bne, h3]
        simp only [this, h3, if_true, if_false]; rfl
    · simp only [h2, if_false]

theorem run_ifM (m : RM Bool) (s : Runtime) :
    (do if ← m then pure (Step.event .running) else pure Step.continue : RM Step).run.run s =
      match m.run.run s with
      | (.ok true, t) => (.ok (.event .running), t)
      | (.ok false, t) => (.ok .continue, t)
      | (.error e, t) => (.error e, t) := by
  rw [run_bind]
  rcases m.run.run s with ⟨r, t⟩
  rcases r with e | b
  · rfl
  · cases b <;> rfl

theorem execOp_input_run (env : Env) (h : Bool) (name : Str) (s : Runtime) :
    (execOp env h (.input name)).run.run s =
      match (doInput name).run.run s with
      | (.ok true, t) => (.ok (.event .running), t)
      | (.ok false, t) => (.ok .continue, t)
      | (.error e, t) => (.error e, t) := by
  simp only [execOp]; exact run_ifM _ s

def fetchExec (env : Env) (h : Bool) : RM Step := do
  let s ← get
  match s.program.link.ops[s.pc]? with
  | none => throw ((Error.mk' Code.internalError).withMsg "INVALID PC ADDRESS")
  | some op =>
    set { s with pc := s.pc + 1 }
    execOp env h op

theorem step_eq (env : Env) (h : Bool) :
    step env h = (do
      let s ← get
      match ← traceOf s with
      | some r => pure r
      | none => fetchExec env h) := by
  rfl

theorem run_fetchExec (env : Env) (h : Bool) (t : Runtime) :
    (fetchExec env h).run.run t =
      match t.program.link.ops[t.pc]? with
      | none => (.error ((Error.mk' Code.internalError).withMsg "INVALID PC ADDRESS"), t)
      | some op => (execOp env h op).run.run { t with pc := t.pc + 1 } := by
  unfold fetchExec
  rw [run_bind_ok (run_get t)]
  cases t.program.link.ops[t.pc]? with
  | none => rfl
  | some op => exact run_bind_ok (run_set _ t)

theorem step_troff (env : Env) (h : Bool) (s : Runtime) (ht : s.tron = false) :
    (step env h).run.run s = (fetchExec env h).run.run s := by
  rw [step_eq, run_bind_ok (run_get s)]
  unfold traceOf
  rw [if_neg (by simp [ht])]
  rfl

/-- the text TRON prints when a new line is reached -/
def traceText (n : Nat) : Str := '[' :: RStd.natDigits n ++ [']']

theorem step_run (env : Env) (h : Bool) (s : Runtime) :
    (step env h).run.run s =
      if s.tron = true ∧ s.program.link.lineNumberFor s.pc ≠ s.tr then
        match s.program.link.lineNumberFor s.pc with
        | some n =>
          (.ok (.event (.print (traceText n))),
           { s with tr := some n, printCol := s.printCol + (traceText n).length })
        | none => (fetchExec env h).run.run { s with tr := none }
      else (fetchExec env h).run.run s := by
  rw [step_eq, run_bind_ok (run_get s)]
  unfold traceOf
  by_cases h1 : s.tron = true
  · rw [if_pos h1]
    by_cases h2 : s.program.link.lineNumberFor s.pc ≠ s.tr
    · rw [if_pos h2, if_pos ⟨h1, h2⟩]
      cases s.program.link.lineNumberFor s.pc <;> rfl
    · rw [if_neg h2, if_neg (fun hh => h2 hh.2)]
      rfl
  · rw [if_neg h1, if_neg (fun hh => h1 hh.1)]
    rfl

/-- **what a step is**: a trace print, or the instruction at `pc` run with `pc` advanced and `tr` brought up
    to date (or no instruction there).  A fact about `step` is proved through this rule from the fact about
    `execOp`: `refine step_elim env h s (P := fun x => x = (.ok r, t) → …) ?_ ?_ ?_ hr`. -/
theorem step_elim (env : Env) (h : Bool) (s : Runtime) {P : Except Error Step × Runtime → Prop}
    (htrace : ∀ text tr col, P (.ok (.event (.print text)), { s with tr := tr, printCol := col }))
    (hnone : s.program.link.ops[s.pc]? = none → ∀ tr,
      P (.error ((Error.mk' Code.internalError).withMsg "INVALID PC ADDRESS"), { s with tr := tr }))
    (hop : ∀ op tr, s.program.link.ops[s.pc]? = some op →
      P ((execOp env h op).run.run { s with tr := tr, pc := s.pc + 1 })) :
    P ((step env h).run.run s) := by
  have hf : ∀ tr, P ((fetchExec env h).run.run { s with tr := tr }) := fun tr => by
    rw [run_fetchExec]
    show P (match s.program.link.ops[s.pc]? with | none => _ | some op => _)
    cases hq : s.program.link.ops[s.pc]? with
    | none => exact hnone hq tr
    | some op => exact hop op tr hq
  rw [step_run]
  split
  · split
    · exact htrace _ _ _
    · exact hf none
  · exact hf s.tr

/-- the weak form for a caller that wants the run as an equation -/
theorem step_cases (env : Env) (h : Bool) (s : Runtime) :
    (∃ text tr col, (step env h).run.run s =
        (.ok (.event (.print text)), { s with tr := tr, printCol := col })) ∨
    (∃ tr, (step env h).run.run s = (fetchExec env h).run.run { s with tr := tr }) := by
  rw [step_run]
  split
  · split
    · exact .inl ⟨_, _, _, rfl⟩
    · exact .inr ⟨none, rfl⟩
  · exact .inr ⟨s.tr, rfl⟩

theorem run_step (env : Env) (hie : Bool) (s : Runtime) (op : Opcode)
    (htr : s.tron = false) (hop : s.program.link.ops[s.pc]? = some op) :
    (step env hie).run.run s = (execOp env hie op).run.run { s with pc := s.pc + 1 } := by
  rw [step_troff env hie s htr, run_fetchExec, hop]

end Runtime
end Basic

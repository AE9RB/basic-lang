import BasicModel.Spec.Struct
import BasicModel.Lemmas.VarPool
/-
  What follows from the semantics of the structured statements (`Spec/Struct.lean`) alone, no machine and no code: how
  `exec` is evaluated on a FOR loop (the sign oracle) and read on an Integer counter (`forIter_int`), what a statement may
  write (`exec_within`), and that a chain of passes is a run.  The declarations are named for the modules that use them:
  `Lemmas.StructCompile.*` (the block calculus, `Thm/C01`) and `Lemmas.NoResidue.*` (`Thm/C18`).
-/
namespace Basic
namespace Lemmas.StructCompile
open Basic.Spec

theorem seqT_some {f g : Trans} {σ : Var} {r : Res Var} (h : seqT f g σ = some r) :
    (∃ e, f σ = some (.error e) ∧ r = .error e) ∨ ∃ σ1, f σ = some (.ok σ1) ∧ g σ1 = some r := by
  unfold seqT at h
  split at h
  · cases h
  · next e he => exact .inl ⟨e, he, (Option.some.inj h).symm⟩
  · next σ1 he => exact .inr ⟨σ1, he, h⟩

/-- a pass of a FOR loop is the body, then NEXT: what `seqT_some` says of a `seqT` it says of a pass -/
theorem forStepT_eq_seqT (neg : Val → Option Bool) (f : Trans) (name : Str) (toV stepV : Val) (g : Trans) :
    forStepT neg f name toV stepV g = seqT f fun σ1 =>
      match nextStep neg σ1 name toV stepV with
      | none => none
      | some (.error e) => some (.error e)
      | some (.ok (σ2, true)) => g σ2
      | some (.ok (σ2, false)) => some (.ok σ2) := rfl

theorem nextStep_cases (neg : Val → Option Bool) (σ : Var) (name : Str) (toV stepV : Val) :
    (∃ e, σ.fetch name = .error e ∧ nextStep neg σ name toV stepV = some (.error e)) ∨
    (∃ cur0 e, σ.fetch name = .ok cur0 ∧ Ops.sum cur0 stepV = .error e ∧
      nextStep neg σ name toV stepV = some (.error e)) ∨
    (∃ cur0 cur e, σ.fetch name = .ok cur0 ∧ Ops.sum cur0 stepV = .ok cur ∧ σ.store name cur = .error e ∧
      nextStep neg σ name toV stepV = some (.error e)) ∨
    (∃ cur0 cur σ', σ.fetch name = .ok cur0 ∧ Ops.sum cur0 stepV = .ok cur ∧ σ.store name cur = .ok σ' ∧
      neg stepV = none ∧ nextStep neg σ name toV stepV = none) ∨
    (∃ cur0 cur σ' b e, σ.fetch name = .ok cur0 ∧ Ops.sum cur0 stepV = .ok cur ∧ σ.store name cur = .ok σ' ∧
      neg stepV = some b ∧ (if b = true then Ops.less cur toV else Ops.less toV cur) = .error e ∧
      nextStep neg σ name toV stepV = some (.error e)) ∨
    (∃ cur0 cur σ' b done, σ.fetch name = .ok cur0 ∧ Ops.sum cur0 stepV = .ok cur ∧ σ.store name cur = .ok σ' ∧
      neg stepV = some b ∧ (if b = true then Ops.less cur toV else Ops.less toV cur) = .ok done ∧
      nextStep neg σ name toV stepV = some (.ok (σ', !(done == .int (-1))))) := by
  unfold nextStep
  cases hfetch : σ.fetch name with
  | error e => exact .inl ⟨e, rfl, rfl⟩
  | ok cur0 =>
    simp only [bind, Except.bind]
    cases hsum : Ops.sum cur0 stepV with
    | error e => exact .inr (.inl ⟨cur0, e, rfl, hsum, rfl⟩)
    | ok cur =>
      dsimp only
      cases hstore : σ.store name cur with
      | error e => exact .inr (.inr (.inl ⟨cur0, cur, e, rfl, hsum, hstore, rfl⟩))
      | ok σ' =>
        dsimp only
        cases hneg : neg stepV with
        | none => exact .inr (.inr (.inr (.inl ⟨cur0, cur, σ', rfl, hsum, hstore, rfl, rfl⟩)))
        | some b =>
          dsimp only
          cases hdone : (if b = true then Ops.less cur toV else Ops.less toV cur) with
          | error e => exact .inr (.inr (.inr (.inr (.inl ⟨cur0, cur, σ', b, e, rfl, hsum, hstore, rfl, hdone, rfl⟩))))
          | ok done => exact .inr (.inr (.inr (.inr (.inr ⟨cur0, cur, σ', b, done, rfl, hsum, hstore, rfl, hdone, rfl⟩))))

/-! ## the sign oracle

  `Float` comparisons are opaque to the kernel, so `exec` (sign of the step by `Spec.stepNeg`) cannot be
  evaluated by `decide` on a FOR loop.  `execWith neg'` with an oracle `neg'` that answers on fewer
  values but never differently (`NegLe neg' stepNeg`) can, and its answers are answers of `exec`. -/

def TransLe (f f' : Trans) : Prop := ∀ σ r, f σ = some r → f' σ = some r

theorem TransLe.refl (f : Trans) : TransLe f f := fun _ _ h => h

theorem seqT_mono {f f' g g' : Trans} (hf : TransLe f f') (hg : TransLe g g') : TransLe (seqT f g) (seqT f' g') := by
  intro σ r h
  rcases seqT_some h with ⟨e, he, rfl⟩ | ⟨σ1, he, h⟩
  · simp only [seqT, hf _ _ he]
  · simp only [seqT, hf _ _ he]
    exact hg σ1 r h

theorem iteT_mono (c : Expr) {f f' g g' : Trans} (hf : TransLe f f') (hg : TransLe g g') :
    TransLe (iteT c f g) (iteT c f' g') := by
  intro σ r h
  simp only [iteT] at h ⊢
  split at h
  · exact h
  · exact hf σ r h
  · exact hg σ r h

theorem nextStep_mono {neg' neg : Val → Option Bool} (hn : NegLe neg' neg) (σ : Var) (name : Str) (toV stepV : Val)
    (r : Res (Var × Bool)) (h : nextStep neg' σ name toV stepV = some r) :
    nextStep neg σ name toV stepV = some r := by
  unfold nextStep at h ⊢
  -- `split` replaces the tests that do not depend on the oracle in the goal as well
  split at h
  · exact h
  · split at h
    · exact h
    · split at h
      · cases h
      · next b h3 =>
        rw [hn stepV b h3]
        exact h

theorem forStepT_mono {neg' neg : Val → Option Bool} (hn : NegLe neg' neg) {f f' g g' : Trans}
    (hf : TransLe f f') (hg : TransLe g g') (name : Str) (toV stepV : Val) :
    TransLe (forStepT neg' f name toV stepV g) (forStepT neg f' name toV stepV g') := by
  intro σ r h
  rw [forStepT_eq_seqT] at h
  rcases seqT_some h with ⟨e, he, rfl⟩ | ⟨σ1, he, h⟩
  · simp only [forStepT, hf _ _ he]
  · simp only [forStepT, hf _ _ he]
    split at h
    · cases h
    · next e hns =>
      rw [nextStep_mono hn _ _ _ _ _ hns]
      exact h
    · next σ2 hns =>
      rw [nextStep_mono hn _ _ _ _ _ hns]
      exact hg σ2 r h
    · next σ2 hns =>
      rw [nextStep_mono hn _ _ _ _ _ hns]
      exact h

theorem forIter_mono {neg' neg : Val → Option Bool} (hn : NegLe neg' neg) {f f' : Trans} (hf : TransLe f f')
    (name : Str) (toV stepV : Val) (n : Nat) :
    TransLe (forIter neg' f name toV stepV n) (forIter neg f' name toV stepV n) := by
  induction n with
  | zero => intro σ r h; cases h
  | succ n ih => exact forStepT_mono hn hf ih name toV stepV

theorem forT_mono {neg' neg : Val → Option Bool} (hn : NegLe neg' neg) {f f' : Trans} (hf : TransLe f f')
    (name : Str) (a b s : Expr) (n : Nat) : TransLe (forT neg' name a b s f n) (forT neg name a b s f' n) := by
  intro σ r h
  simp only [forT] at h ⊢
  split at h
  · exact h
  · exact forIter_mono hn hf name _ _ n _ r h

theorem execWith_mono {neg' neg : Val → Option Bool} (hn : NegLe neg' neg) :
    ∀ (fuel : Nat) (p : SStmt), TransLe (fun σ => execWith neg' fuel σ p) (fun σ => execWith neg fuel σ p) := by
  intro fuel
  induction fuel with
  | zero => intro p σ r h; cases h
  | succ fuel ih =>
    intro p
    cases p with
    | assign name e => exact TransLe.refl _
    | seq p q => exact seqT_mono (ih p) (ih q)
    | ifThen c p => exact iteT_mono c (ih p) (TransLe.refl _)
    | ifThenElse c p q => exact iteT_mono c (ih p) (ih q)
    | «while» c p => exact iteT_mono c (seqT_mono (ih p) (ih (.while c p))) (TransLe.refl _)
    | «for» name a b s p => exact forT_mono hn (ih p) name a b s fuel

/-- the oracle that knows the sign of one Integer step -/
def oneStep (k : Int16) (b : Bool) : Val → Option Bool := fun v => if v = .int k then some b else none

theorem negLe_oneStep {k : Int16} {b : Bool} (h : stepNeg (.int k) = some b) : NegLe (oneStep k b) stepNeg := by
  intro v b' hv
  unfold oneStep at hv
  split at hv
  · rename_i hv'
    subst hv'
    cases hv
    exact h
  · cases hv

/-- an answer read off its evaluation: `Var` has no decidable equality, so a demonstration evaluates the list of
    variables of the answer; if that list came out, the answer is a success that holds it -/
theorem ok_of_vars {x : Option (Res Var)} {l : List (Str × Val)}
    (h : (x.bind (·.toOption)).map (·.vars) = some l) : ∃ σ', x = some (.ok σ') ∧ σ'.vars = l := by
  cases x with
  | none => cases h
  | some r =>
    cases r with
    | error e => cases h
    | ok σ' => exact ⟨σ', rfl, Option.some.inj h⟩

theorem tyOf_integer (σ : Var) {name : Str} (hty : Var.suffixTy name = some .integer) :
    σ.tyOf name = .ok (some .integer) := by
  unfold Var.tyOf
  rw [hty]

theorem fetch_store_int {σ σ2 : Var} {name : Str} (hty : Var.suffixTy name = some .integer) (j : Int16)
    (h : σ.store name (.int j) = .ok σ2) : σ2.fetch name = .ok (.int j) := by
  obtain ⟨t, y, ht, hy, hf⟩ := Thm.C06.fetch_store h
  rw [tyOf_integer σ hty] at ht
  cases ht
  cases hy
  rw [hf name, if_pos rfl]
  by_cases hd : Var.isDefault (.int j) = true
  · rw [if_pos hd, show j = 0 by simpa [Var.isDefault] using hd]
    rfl
  · rw [if_neg hd]

theorem nextStep_int (neg : Val → Option Bool) (σ1 : Var) (name : Str) (t k i : Int16)
    (hneg : neg (.int k) = some (decide (k < 0))) (hf : σ1.fetch name = .ok (.int i)) :
    nextStep neg σ1 name (.int t) (.int k) =
      match RStd.checkedAdd i k with
      | none => some (.error (Error.mk' Code.overflow))
      | some j =>
        match σ1.store name (.int j) with
        | .error e => some (.error e)
        | .ok σ2 => some (.ok (σ2, !(decide (if k < 0 then j < t else t < j)))) := by
  unfold nextStep
  rw [hf]
  have hs : (Except.ok (Val.int i) >>= fun x => Ops.sum x (.int k)) = Ops.ofChecked (RStd.checkedAdd i k) := rfl
  rw [hs]
  cases hc : RStd.checkedAdd i k with
  | none => rfl
  | some j =>
    simp only [Ops.ofChecked]
    rw [hneg]
    cases σ1.store name (.int j) with
    | error e => rfl
    | ok σ2 =>
      dsimp only
      by_cases hk : k < 0
      · simp only [hk, decide_true, if_true]
        show some (Except.ok (σ2, !(Ops.truth (decide (j < t)) == Val.int (-1)))) = _
        by_cases hjt : j < t <;> simp [Ops.truth, hjt]
      · simp only [hk, decide_false, Bool.false_eq_true, if_false]
        show some (Except.ok (σ2, !(Ops.truth (decide (t < j)) == Val.int (-1)))) = _
        by_cases hjt : t < j <;> simp [Ops.truth, hjt]

/-- **FOR, Integer reading.**  With an Integer loop variable (suffix `%`), Integer limit `t` and step `k`,
    a sign oracle that knows `k`, and a body that leaves the loop variable as it found it, the passes of
    the loop are the documented iteration `Spec.intFor` from the counter's current value `i` -/
theorem forIter_int (neg : Val → Option Bool) (f : Trans) (name : Str) (t k : Int16)
    (hneg : neg (.int k) = some (decide (k < 0))) (hty : Var.suffixTy name = some .integer)
    (hkeep : ∀ σ σ', f σ = some (.ok σ') → σ'.fetch name = σ.fetch name) :
    ∀ (n : Nat) (i : Int16) (σ : Var), σ.fetch name = .ok (.int i) →
      forIter neg f name (.int t) (.int k) n σ = intFor f name t k n i σ := by
  intro n
  induction n with
  | zero => intro i σ _; rfl
  | succ n ih =>
    intro i σ hi
    simp only [forIter, forStepT, intFor]
    cases hf : f σ with
    | none => rfl
    | some r1 =>
      cases r1 with
      | error e => rfl
      | ok σ1 =>
        dsimp only
        have h1 : σ1.fetch name = .ok (.int i) := by rw [hkeep σ σ1 hf, hi]
        rw [nextStep_int neg σ1 name t k i hneg h1]
        cases hc : RStd.checkedAdd i k with
        | none => rfl
        | some j =>
          dsimp only
          cases hst : σ1.store name (.int j) with
          | error e => rfl
          | ok σ2 =>
            dsimp only
            by_cases hd : (if k < 0 then j < t else t < j)
            · simp only [hd, decide_true, Bool.not_true, if_true]
            · simp only [hd, decide_false, Bool.not_false, if_false]
              exact ih j σ2 (fetch_store_int hty j hst)

end Lemmas.StructCompile

namespace Lemmas.NoResidue
open Basic.Spec Basic.Lemmas.StructCompile Basic.Lemmas.VarPool

/-- the variables a structured statement assigns: the targets of LET and the loop variables -/
def assigned : SStmt → List Str
  | .assign n _ => [n]
  | .seq p q => assigned p ++ assigned q
  | .ifThen _ p => assigned p
  | .ifThenElse _ p q => assigned p ++ assigned q
  | .while _ p => assigned p
  | .for n _ _ _ p => n :: assigned p

/-- what a statement that assigns the names `A` may do to the store as far as its SIZE goes: no key outside `σ` and `A`, dimensions and
    DEFtypes as they were, distinct keys and "no stored default" kept (nothing is said of the values) -/
structure Within (A : List Str) (σ σ' : Var) : Prop where
  dims : σ'.dims = σ.dims
  types : σ'.types = σ.types
  keys : ∀ p ∈ σ'.vars, p.1 ∈ σ.vars.map (·.1) ∨ p.1 ∈ A
  nodup : AL.NoDup σ.vars → AL.NoDup σ'.vars
  noDefaults : NoDefaults σ → NoDefaults σ'

theorem Within.refl (A : List Str) (σ : Var) : Within A σ σ :=
  ⟨rfl, rfl, fun _ hp => .inl (List.mem_map_of_mem hp), id, id⟩

theorem Within.mono {A B : List Str} {σ σ' : Var} (h : Within A σ σ') (hs : ∀ x ∈ A, x ∈ B) : Within B σ σ' :=
  ⟨h.dims, h.types, fun p hp => (h.keys p hp).imp id (hs _), h.nodup, h.noDefaults⟩

theorem Within.trans {A : List Str} {σ σ1 σ2 : Var} (h1 : Within A σ σ1) (h2 : Within A σ1 σ2) : Within A σ σ2 := by
  refine ⟨h2.dims.trans h1.dims, h2.types.trans h1.types, ?_, fun h => h2.nodup (h1.nodup h),
    fun h => h2.noDefaults (h1.noDefaults h)⟩
  intro p hp
  rcases h2.keys p hp with h | h
  · obtain ⟨q, hq, hqe⟩ := List.mem_map.1 h
    rw [← hqe]
    exact h1.keys q hq
  · exact .inr h

theorem within_store {σ σ' : Var} {n : Str} {x : Val} (h : σ.store n x = .ok σ') : Within [n] σ σ' := by
  obtain ⟨_, t, y, _, _, rfl⟩ := Thm.C06.store_ok h
  refine ⟨Thm.C06.updateVal_dims σ n y, Thm.C06.updateVal_types σ n y, ?_, fun hd => Thm.C06.nodup_updateVal hd n y,
    fun hd => noDefaults_updateVal hd n y⟩
  intro p hp
  rcases Thm.C06.mem_updateVal hp with hp | ⟨rfl, _⟩
  · exact .inl (List.mem_map_of_mem hp)
  · exact .inr (List.mem_singleton.2 rfl)

def Keeps (A : List Str) (f : Trans) : Prop := ∀ σ σ', f σ = some (.ok σ') → Within A σ σ'

theorem Keeps.mono {A B : List Str} {f : Trans} (h : Keeps A f) (hs : ∀ x ∈ A, x ∈ B) : Keeps B f :=
  fun σ σ' e => (h σ σ' e).mono hs

theorem keeps_assignT (n : Str) (e : Expr) : Keeps [n] (assignT n e) := by
  intro σ σ' h
  simp only [assignT, Option.some.injEq] at h
  cases hv : eval σ e with
  | error err => rw [hv] at h; cases h
  | ok v => rw [hv] at h; exact within_store h

theorem keeps_seqT {A : List Str} {f g : Trans} (hf : Keeps A f) (hg : Keeps A g) : Keeps A (seqT f g) := by
  intro σ σ' h
  rcases seqT_some h with ⟨e, _, h⟩ | ⟨σ1, hfσ, h⟩
  · cases h
  · exact (hf σ σ1 hfσ).trans (hg σ1 σ' h)

theorem keeps_iteT {A : List Str} (c : Expr) {f g : Trans} (hf : Keeps A f) (hg : Keeps A g) :
    Keeps A (iteT c f g) := by
  intro σ σ' h
  simp only [iteT] at h
  cases hc : holds σ c with
  | error e => rw [hc] at h; cases h
  | ok b =>
    rw [hc] at h
    cases b with
    | true => exact hf σ σ' h
    | false => exact hg σ σ' h

theorem keeps_skipT (A : List Str) : Keeps A skipT := by
  intro σ σ' h
  simp only [skipT, Option.some.injEq, Except.ok.injEq] at h
  subst h
  exact Within.refl A σ

theorem within_nextStep {neg : Val → Option Bool} {σ σ' : Var} {n : Str} {t st : Val} {b : Bool}
    (h : nextStep neg σ n t st = some (.ok (σ', b))) : Within [n] σ σ' := by
  rcases nextStep_cases neg σ n t st with ⟨e, _, hn⟩ | ⟨_, e, _, _, hn⟩ | ⟨_, _, e, _, _, _, hn⟩ |
    ⟨_, _, _, _, _, _, _, hn⟩ | ⟨_, _, _, _, e, _, _, _, _, _, hn⟩ | ⟨_, cur, σ2, _, done, _, _, hstore, _, _, hn⟩
  all_goals rw [hn] at h
  all_goals try (cases h; done)
  simp only [Option.some.injEq, Except.ok.injEq, Prod.mk.injEq] at h
  rw [← h.1]
  exact within_store hstore

theorem keeps_forIter {A : List Str} {neg : Val → Option Bool} {f : Trans} {n : Str} (hn : n ∈ A)
    (hf : Keeps A f) (t st : Val) : ∀ k, Keeps A (forIter neg f n t st k) := by
  intro k
  induction k with
  | zero => intro σ σ' h; cases h
  | succ k ih =>
    intro σ σ' h
    rw [forIter, forStepT_eq_seqT] at h
    rcases seqT_some h with ⟨e, _, h⟩ | ⟨σ1, hfσ, h⟩
    · cases h
    · have w2 : ∀ {σ2 b}, nextStep neg σ1 n t st = some (.ok (σ2, b)) → Within A σ σ2 := fun hns =>
        (hf σ σ1 hfσ).trans ((within_nextStep hns).mono fun x hx => by rw [List.mem_singleton.1 hx]; exact hn)
      split at h
      · cases h
      · cases h
      · next σ2 hns => exact (w2 hns).trans (ih σ2 σ' h)
      · next σ2 hns =>
        cases h
        exact w2 hns

theorem keeps_forT {A : List Str} {neg : Val → Option Bool} {f : Trans} {n : Str} (hn : n ∈ A)
    (hf : Keeps A f) (a b s : Expr) (k : Nat) : Keeps A (forT neg n a b s f k) := by
  intro σ σ' h
  simp only [forT] at h
  cases hi : forInit σ n a b s with
  | error e => rw [hi] at h; cases h
  | ok tr =>
    obtain ⟨σ1, t, st⟩ := tr
    rw [hi] at h
    have w1 : Within A σ σ1 := by
      unfold forInit at hi
      obtain ⟨x, _, hi⟩ := Thm.C06.bind_ok hi
      obtain ⟨σ1', hst, hi⟩ := Thm.C06.bind_ok hi
      obtain ⟨_, _, hi⟩ := Thm.C06.bind_ok hi
      obtain ⟨_, _, hi⟩ := Thm.C06.bind_ok hi
      cases hi
      exact (within_store hst).mono (fun y hy => by rw [List.mem_singleton.1 hy]; exact hn)
    exact w1.trans (keeps_forIter hn hf t st k σ1 σ' h)

/-- **a structured statement only touches the entries of the variables it assigns** — for every
    fuel, i.e. any number of passes of its loops -/
theorem exec_within (neg : Val → Option Bool) :
    ∀ (fuel : Nat) (p : SStmt), Keeps (assigned p) (fun σ => execWith neg fuel σ p) := by
  intro fuel
  induction fuel with
  | zero => intro p σ σ' h; cases h
  | succ fuel ih =>
    intro p
    cases p with
    | assign n e => exact keeps_assignT n e
    | seq p q =>
      exact keeps_seqT ((ih p).mono fun x hx => List.mem_append_left _ hx)
        ((ih q).mono fun x hx => List.mem_append_right _ hx)
    | ifThen c p => exact keeps_iteT c (ih p) (keeps_skipT _)
    | ifThenElse c p q =>
      exact keeps_iteT c ((ih p).mono fun x hx => List.mem_append_left _ hx)
        ((ih q).mono fun x hx => List.mem_append_right _ hx)
    | «while» c p => exact keeps_iteT c (keeps_seqT (ih p) (ih (.while c p))) (keeps_skipT _)
    | «for» n a b s p =>
      exact keeps_forT (A := n :: assigned p) List.mem_cons_self
        ((ih p).mono fun x hx => List.mem_cons_of_mem _ hx) a b s fuel

/-- pigeonhole: a list without duplicates whose members all occur in `m` is no longer than `m` -/
theorem nodup_length_le {l : List Str} (hl : l.Nodup) : ∀ (m : List Str), (∀ x ∈ l, x ∈ m) → l.length ≤ m.length := by
  induction l with
  | nil => intro m _; exact Nat.zero_le _
  | cons a l ih =>
    intro m hs
    obtain ⟨ha, hl'⟩ := List.nodup_cons.1 hl
    have ham : a ∈ m := hs a List.mem_cons_self
    have := ih hl' (m.erase a) (fun x hx => by
      have hne : x ≠ a := fun e => ha (e ▸ hx)
      exact (List.mem_erase_of_ne hne).2 (hs x (List.mem_cons_of_mem _ hx)))
    rw [List.length_erase_of_mem ham] at this
    have hpos : 0 < m.length := List.length_pos_of_mem ham
    simp only [List.length_cons]
    omega

theorem within_length {A : List Str} {σ σ' : Var} (h : Within A σ σ') (hd : AL.NoDup σ.vars) :
    σ'.vars.length ≤ σ.vars.length + A.eraseDups.length := by
  have hn : (σ'.vars.map (·.1)).Nodup := h.nodup hd
  have := nodup_length_le hn (σ.vars.map (·.1) ++ A.eraseDups) (fun x hx => by
    obtain ⟨p, hp, rfl⟩ := List.mem_map.1 hx
    rcases h.keys p hp with h1 | h1
    · exact List.mem_append_left _ h1
    · exact List.mem_append_right _ (List.mem_eraseDups.2 h1))
  simpa using this

/-- **WHILE, `k` passes**: a chain of stores `τ 0, …, τ k` in which the condition holds and the body
    leads from `τ i` to `τ (i+1)` for `i < k`, and the condition fails in `τ k`, is the run of the
    loop — `k` arbitrary -/
theorem whileT_of_passes (c : Expr) (fb : Trans) :
    ∀ (k : Nat) (τ : Nat → Var),
      (∀ i, i < k → holds (τ i) c = .ok true ∧ fb (τ i) = some (.ok (τ (i + 1)))) →
      holds (τ k) c = .ok false → whileT c fb (k + 1) (τ 0) = some (.ok (τ k)) := by
  intro k
  induction k with
  | zero =>
    intro τ _ hend
    simp only [whileT, whileStepT, iteT, hend, skipT]
  | succ k ih =>
    intro τ hpass hend
    obtain ⟨h0, h1⟩ := hpass 0 (Nat.succ_pos k)
    have := ih (fun i => τ (i + 1)) (fun i hi => hpass (i + 1) (Nat.succ_lt_succ hi)) hend
    rw [whileT]
    simp only [whileStepT, iteT, h0, seqT, h1]
    exact this

/-- **FOR, `k + 1` passes**: `τ i` the store at the start of pass `i`, `υ i` after the body; NEXT
    says "again" after the passes `0 … k-1` and "done" after pass `k`, leaving `σ'` -/
theorem forIter_of_passes (neg : Val → Option Bool) (fb : Trans) (name : Str) (toV stepV : Val) :
    ∀ (k : Nat) (τ υ : Nat → Var) (σ' : Var),
      (∀ i, i ≤ k → fb (τ i) = some (.ok (υ i))) →
      (∀ i, i < k → nextStep neg (υ i) name toV stepV = some (.ok (τ (i + 1), true))) →
      nextStep neg (υ k) name toV stepV = some (.ok (σ', false)) →
      forIter neg fb name toV stepV (k + 1) (τ 0) = some (.ok σ') := by
  intro k
  induction k with
  | zero =>
    intro τ υ σ' hb _ hend
    simp only [forIter, forStepT, hb 0 (Nat.le_refl 0), hend]
  | succ k ih =>
    intro τ υ σ' hb hn hend
    have := ih (fun i => τ (i + 1)) (fun i => υ (i + 1)) σ'
      (fun i hi => hb (i + 1) (Nat.succ_le_succ hi)) (fun i hi => hn (i + 1) (Nat.succ_lt_succ hi)) hend
    rw [forIter]
    simp only [forStepT, hb 0 (Nat.zero_le _), hn 0 (Nat.succ_pos k)]
    exact this

end Lemmas.NoResidue
end Basic

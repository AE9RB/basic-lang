import BasicModel.Model.Func
/-
  The text → integer reader `i16::from_str_radix` (`Fmt.parseI16Radix`) and, over it, the reading of a radix
  constant from TEXT (`impl From<&str> for Val`, the model's `Val.ofStr`: VAL and the field conversion of INPUT).

  On a run of digit characters of the radix `from_str_radix` is the fold of the digits' values when that is at most
  32767, and nothing otherwise (`Fmt.parseI16Radix_fold`) — for any function giving the values: the 22-row table
  `hexDigitValue` here, the lexer's `Spec.radixDigitVal` for radix literals (the two agree on `0-9A-F`; the lexer
  has folded `a-f` before).  A text that begins with `&` is no decimal number, so where the radix reading fails the
  second half of `Val.ofStr` returns the text itself (`fallback_amp`).  `Fmt.signSplit_unsigned` and
  `Fmt.inI16_natCast` are what the decimal readers share with this one.
-/
namespace Basic
namespace HexVal
open Fmt

/-- the hexadecimal digit characters -/
def hexDigits : List Char :=
  ['0', '1', '2', '3', '4', '5', '6', '7', '8', '9', 'A', 'B', 'C', 'D', 'E', 'F',
   'a', 'b', 'c', 'd', 'e', 'f']

/-- the octal digit characters -/
def octDigits : List Char := ['0', '1', '2', '3', '4', '5', '6', '7']

/-- the value of a hexadecimal digit character (anything else: 0) -/
def hexDigitValue : Char → Nat
  | '0' => 0 | '1' => 1 | '2' => 2 | '3' => 3 | '4' => 4 | '5' => 5 | '6' => 6 | '7' => 7
  | '8' => 8 | '9' => 9
  | 'A' => 10 | 'B' => 11 | 'C' => 12 | 'D' => 13 | 'E' => 14 | 'F' => 15
  | 'a' => 10 | 'b' => 11 | 'c' => 12 | 'd' => 13 | 'e' => 14 | 'f' => 15
  | _ => 0

/-- the number a string of hexadecimal digits denotes, most significant digit first -/
def hexValue (ds : List Char) : Nat := ds.foldl (fun acc c => acc * 16 + hexDigitValue c) 0

/-- the number a string of octal digits denotes -/
def octValue (ds : List Char) : Nat := ds.foldl (fun acc c => acc * 8 + hexDigitValue c) 0

theorem hexDigits_radixDigit : ∀ c ∈ hexDigits,
    radixDigit 16 c = some (hexDigitValue c) ∧ c ≠ '-' ∧ c ≠ '+' := by decide

theorem octDigits_radixDigit : ∀ c ∈ octDigits,
    radixDigit 8 c = some (hexDigitValue c) ∧ c ≠ '-' ∧ c ≠ '+' ∧ c ≠ 'H' ∧ c ≠ 'h' := by decide

end HexVal

namespace Fmt

/-- the sign split that opens `parse::<i16>` and `from_str_radix`, on a text without a sign (the hypothesis is what
    `split` leaves of the readers' first `match`) -/
theorem signSplit_unsigned {c : Char} {cs r : Str} {neg : Bool} (hm : c ≠ '-') (hp : c ≠ '+')
    (h : (match c :: cs with
      | '-' :: r => (true, r)
      | '+' :: r => (false, r)
      | _ => (false, c :: cs)) = (neg, r)) : neg = false ∧ r = c :: cs := by
  split at h
  · rename_i r' h'; exact absurd (List.cons.inj h').1 hm
  · rename_i r' h'; exact absurd (List.cons.inj h').1 hp
  · cases h; exact ⟨rfl, rfl⟩

theorem inI16_natCast (n : Nat) : RStd.inI16 (n : Int) = decide (n ≤ 32767) := by
  rw [Bool.eq_iff_iff]
  simp only [RStd.inI16, Bool.and_eq_true, decide_eq_true_eq]
  omega

/-- the accumulator loop of `from_str_radix`, from `acc`, with the digits read by `dv` -/
def radixFold (radix : Nat) (dv : Char → Nat) (acc : Nat) (ds : Str) : Nat :=
  ds.foldl (fun a c => a * radix + dv c) acc

theorem radixFold_ge (radix : Nat) (hr : 1 ≤ radix) (dv : Char → Nat) (ds : Str) (acc : Nat) :
    acc ≤ radixFold radix dv acc ds := by
  induction ds generalizing acc with
  | nil => exact Nat.le_refl _
  | cons c cs ih =>
    have := ih (acc * radix + dv c)
    have h2 : acc * 1 ≤ acc * radix := Nat.mul_le_mul_left _ hr
    simp only [radixFold, List.foldl_cons] at this ⊢
    omega

theorem parseI16Radix_go_fold (radix : Nat) (hr : 1 ≤ radix) (dv : Char → Nat) (ds : Str)
    (hd : ∀ c ∈ ds, radixDigit radix c = some (dv c)) (acc : Nat) :
    (∀ n, parseI16Radix.go radix ds acc = some n → n = radixFold radix dv acc ds) ∧
    (parseI16Radix.go radix ds acc = none → 100000 < radixFold radix dv acc ds) := by
  induction ds generalizing acc with
  | nil =>
    constructor
    · intro n h; simp [parseI16Radix.go] at h; exact h.symm
    · intro h; simp [parseI16Radix.go] at h
  | cons c cs ih =>
    have hdg := hd c (by simp)
    have ih' := ih (fun x hx => hd x (by simp [hx])) (acc * radix + dv c)
    have hge := radixFold_ge radix hr dv cs (acc * radix + dv c)
    have h2 : acc * 1 ≤ acc * radix := Nat.mul_le_mul_left _ hr
    simp only [parseI16Radix.go, hdg, radixFold, List.foldl_cons] at ih' hge ⊢
    by_cases hbig : acc > 100000
    · simp only [hbig, if_true]
      constructor
      · intro n h; cases h
      · intro _; omega
    · simp only [hbig, if_false]
      exact ih'

/-- **`i16::from_str_radix` on a run of digits of the radix**, whose values `dv` gives: the value when
    it is at most 32767; nothing for the empty run and for every larger value (there is no wrap to
    negative numbers, and no limit on the number of digits: leading zeros are digits like the others) -/
theorem parseI16Radix_fold (radix : Nat) (hr : 1 ≤ radix) (dv : Char → Nat) (ds : Str)
    (hd : ∀ c ∈ ds, radixDigit radix c = some (dv c) ∧ c ≠ '-' ∧ c ≠ '+') :
    parseI16Radix ds radix =
      if ds ≠ [] ∧ radixFold radix dv 0 ds ≤ 32767 then some (Int16.ofNat (radixFold radix dv 0 ds))
      else none := by
  cases ds with
  | nil => simp [parseI16Radix]
  | cons c cs =>
    obtain ⟨-, hm, hp⟩ := hd c (by simp)
    have hgo := parseI16Radix_go_fold radix hr dv (c :: cs) (fun x hx => (hd x hx).1) 0
    unfold parseI16Radix
    split
    rename_i neg r heq
    obtain ⟨rfl, rfl⟩ := signSplit_unsigned hm hp heq
    simp only [List.isEmpty_cons, Bool.false_eq_true, if_false, ne_eq, reduceCtorEq, not_false_eq_true,
      true_and]
    cases hg : parseI16Radix.go radix (c :: cs) 0 with
    | none =>
      have := hgo.2 hg
      rw [if_neg (by omega)]
    | some n =>
      cases hgo.1 n hg
      simp only [inI16_natCast, decide_eq_true_eq]
      split <;> rfl

end Fmt

namespace HexVal
open Fmt

theorem parseF64_amp (s : Str) : parseF64 ('&' :: s) = none := by
  simp [parseF64, parseFloat, parseDecimal, lower, takeDigits, isDigit]

/-- the second half of `Val::from(&str)`: exponent letter D→E, one type suffix stripped,
    `str::parse::<f64>`, else the text itself -/
def fallback (string : Str) : Val :=
  let s := string.map (fun c => if c = 'D' then 'E' else if c = 'd' then 'e' else c)
  let s := match s.getLast? with
    | some '!' | some '#' | some '%' => s.dropLast
    | _ => s
  match parseF64 s with
  | some b => .dbl b
  | none => .str string

theorem fallback_amp (rest : Str) : fallback ('&' :: rest) = .str ('&' :: rest) := by
  unfold fallback
  simp only [List.map_cons]
  generalize rest.map (fun c => if c = 'D' then 'E' else if c = 'd' then 'e' else c) = t
  have key : ∃ t', (match (('&' : Char) :: t).getLast? with
      | some '!' | some '#' | some '%' => (('&' : Char) :: t).dropLast
      | _ => ('&' :: t)) = '&' :: t' := by
    cases t with
    | nil => exact ⟨[], by decide⟩
    | cons x xs =>
      split
      · exact ⟨(x :: xs).dropLast, rfl⟩
      · exact ⟨(x :: xs).dropLast, rfl⟩
      · exact ⟨(x :: xs).dropLast, rfl⟩
      · exact ⟨x :: xs, rfl⟩
  obtain ⟨t', ht⟩ := key
  simp only [show (if ('&' : Char) = 'D' then 'E' else if ('&' : Char) = 'd' then 'e' else '&') = '&' from by decide]
  rw [ht, parseF64_amp]

theorem ofStr_amp (c : Char) (r : Str) :
    Val.ofStr ('&' :: c :: r) =
      match (if c = 'H' || c = 'h' then (parseI16Radix r 16).map Val.int
             else (parseI16Radix (c :: r) 8).map Val.int) with
      | some v => v
      | none => fallback ('&' :: c :: r) := by
  -- unfolded, the two sides agree match by match; folded, `rfl` would evaluate the reader
  delta Val.ofStr fallback
  rfl

theorem ofStr_amp_nil : Val.ofStr ['&'] = .str ['&'] := by decide

end HexVal
end Basic

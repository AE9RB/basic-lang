import BasicModel.Lemmas.GenNeg
import BasicModel.Lemmas.Program
import BasicModel.Lemmas.LinkPass
import BasicModel.Lemmas.LinkMarks
/-
  Compiling a direct line leaves the compiled *indirect* program alone.

  `Program.base p` is what `Program.codegenLine` starts from when it is given a direct line: `p`
  linked, the code cut back to `directAddress`, no errors.  For a linked image `b`
  (`Program.Based b`) and any direct line, `base ((directGen b line).linkProg) = b`
  (`Program.base_directGen`): the code below `directAddress`, the DATA segment, the line symbols,
  `indirectErrors` and `directAddress` are exactly what they were.  The argument is an invariant
  `Link.Over b l` ("`l` is `b` plus direct-mode code") kept by every operation of the compile.
  What `linkProg` leaves, whatever it starts from, is `linkProg_facts`.  `Inside` (`directAddress` lies within the
  code) and `DirectOn` (once the direct segment has been started, direct mode is on) are kept by the compile of
  any line, which also leaves a started segment where it was (`codegenLine_segment`); with it `based_compile`:
  `base` of whatever a fresh interpreter has compiled is `Based`.

  Which is which: `Link.Linked l` is what `link` leaves (nothing pending, line symbols only); `Link.Clean b` is
  `Linked` with direct mode on; `Program.Linked p` (ContLine) speaks of the program — nothing pending and the direct
  segment marked, within the code —; `Lemmas.StructLink.Clean l` is `Link.Linked l` with a sorted table.
-/
namespace Basic
namespace Link

/-- a linked image: nothing pending, line symbols only, direct mode on -/
structure Clean (b : Link) : Prop where
  unlinked : b.unlinked = []
  whiles : b.whiles = []
  cur : b.currentSymbol = 0
  symbols : ∀ p ∈ b.symbols, 0 ≤ p.1
  directSet : b.directSet = true

/-- `l` is the linked image `b` plus direct-mode code at and above `b.ops.size` -/
structure Over (b l : Link) : Prop where
  size : b.ops.size ≤ l.ops.size
  ops : ∀ i, i < b.ops.size → l.ops[i]? = b.ops[i]?
  data : l.data = b.data
  dataPos : l.dataPos = b.dataPos
  directSet : l.directSet = true
  symbols : l.symbols.filter (fun p => p.1 ≥ 0) = b.symbols
  unlinked : ∀ p ∈ l.unlinked, b.ops.size ≤ p.1
  whiles : ∀ w ∈ l.whiles, b.ops.size ≤ w.2.2.1
  cur : l.currentSymbol ≤ 0

theorem Over.refl {b : Link} (hb : Clean b) : Over b b where
  size := Nat.le_refl _
  ops := fun _ _ => rfl
  data := rfl
  dataPos := rfl
  directSet := hb.directSet
  symbols := List.filter_eq_self.2 fun p hp => by simpa using hb.symbols p hp
  unlinked := by rw [hb.unlinked]; exact fun _ h => nomatch h
  whiles := by rw [hb.whiles]; exact fun _ h => nomatch h
  cur := by rw [hb.cur]; exact Int.le_refl 0

theorem Over.push {b l : Link} (h : Over b l) (op : Opcode) : Over b (l.push op).1 where
  size := by
    show b.ops.size ≤ (l.ops.push op).size
    rw [Array.size_push]; exact Nat.le_succ_of_le h.size
  ops := fun i hi => by
    show (l.ops.push op)[i]? = _
    rw [Array.getElem?_push, if_neg (by have := h.size; omega)]
    exact h.ops i hi
  data := h.data
  dataPos := h.dataPos
  directSet := h.directSet
  symbols := h.symbols
  unlinked := h.unlinked
  whiles := h.whiles
  cur := h.cur

theorem Over.append {b l : Link} (h : Over b l) {f : Link} (hf : NegSyms f) : Over b (l.append f).1 := by
  refine append_ind l f h fun hrej => ?_
  -- in direct mode a fragment with DATA is rejected, so here `f` has none
  have hfd : f.data = #[] := by
    rw [h.directSet] at hrej
    exact Array.isEmpty_iff.1 (by simpa using hrej)
  have hsz := h.size
  have key : ∀ d, d = b.data → Over b { appended l f with data := d } := by
    intro d hd
    refine ⟨?_, ?_, hd, h.dataPos, h.directSet, ?_, ?_, ?_, ?_⟩
    · show b.ops.size ≤ (l.ops ++ f.ops).size
      rw [Array.size_append]; omega
    · intro i hi
      show (l.ops ++ f.ops)[i]? = b.ops[i]?
      rw [Array.getElem?_append_left (by omega)]
      exact h.ops i hi
    · -- the symbol table: only negative keys are added
      refine List.foldlRecOn (motive := fun m => List.filter (fun p => p.1 ≥ 0) m = b.symbols) f.symbols _ h.symbols
        fun m hm x hx => ?_
      have hs := hf.2 x hx
      have hc := h.cur
      rw [rebase_local _ _ hs]
      exact (symInsert_filter_neg (by simp only [Symbol] at *; omega) _ _).trans hm
    · intro p hp
      rcases mem_appendUnlinked hp with hp | ⟨q, _, rfl⟩
      · exact h.unlinked p hp
      · show b.ops.size ≤ q.1 + l.ops.size
        omega
    · intro w hw
      rcases List.mem_append.1 hw with hw | hw
      · exact h.whiles w hw
      · obtain ⟨x, _, rfl⟩ := List.mem_map.1 hw
        show b.ops.size ≤ x.2.2.1 + l.ops.size
        omega
    · have hcl : l.currentSymbol ≤ 0 := h.cur
      have hcf : f.currentSymbol ≤ 0 := hf.1
      show l.currentSymbol + f.currentSymbol ≤ 0
      simp only [Symbol] at *; omega
  exact ⟨key (l.data ++ f.data) (by rw [hfd, Array.append_empty]; exact h.data), key l.data h.data⟩

theorem Over.linkWhiles {b l : Link} (h : Over b l) : Over b l.linkWhiles.1 where
  size := h.size
  ops := h.ops
  data := h.data
  dataPos := h.dataPos
  directSet := h.directSet
  symbols := h.symbols
  unlinked := fun p hp => by
    rcases pend_key (pend_eq_linkWhiles l ▸ hp) with h1 | ⟨q, hq, e⟩
    · obtain ⟨m, hm, e⟩ := List.mem_map.1 h1
      exact e ▸ h.whiles m hm
    · exact e ▸ h.unlinked q hq
  whiles := fun _ hx => nomatch hx
  cur := h.cur

theorem Over.link {b l : Link} (h : Over b l) : Over b l.link.1 ∧ Linked l.link.1 := by
  refine ⟨?_, (link_linked l).1⟩
  have hp : ∀ p ∈ pend l, b.ops.size ≤ p.1 := pend_eq_linkWhiles l ▸ h.linkWhiles.unlinked
  rw [link_eq_pass]
  refine ⟨(pass_size ..).symm ▸ h.size, fun i hi => ?_, h.data, h.dataPos, h.directSet, ?_, nofun, nofun, Int.le_refl 0⟩
  · exact (pass_getElem?_of_no_ref _ _ _ _ i fun p hp' e => by have := hp p hp'; omega).trans (h.ops i hi)
  · show (l.symbols.filter (fun p => p.1 ≥ 0)).filter (fun p => p.1 ≥ 0) = b.symbols
    rw [List.filter_filter]
    simp only [Bool.and_self]
    exact h.symbols

theorem Over.cut {b l : Link} (hb : Clean b) (h : Over b l) (hl : Linked l) :
    ({ l with ops := l.ops.extract 0 b.ops.size } : Link) = b := by
  have hops : l.ops.extract 0 b.ops.size = b.ops := by
    apply Array.ext_getElem?
    intro i
    rw [Array.getElem?_extract]
    have := h.size
    by_cases hi : i < b.ops.size
    · rw [if_pos (by omega), Nat.zero_add]; exact h.ops i hi
    · rw [if_neg (by omega)]
      exact (Array.getElem?_eq_none (by omega)).symm
  have hsym : l.symbols = b.symbols := by
    rw [← h.symbols]
    exact (List.filter_eq_self.2 fun p hp => by simpa using hl.symbols p hp).symm
  have e1 := h.data
  have e2 := h.dataPos
  have e3 := h.directSet
  obtain ⟨b1, b2, b3, b4, b5⟩ := hb
  obtain ⟨l1, l2, l3, l4⟩ := hl
  rcases b with ⟨bc, bo, bd, bdp, bds, bs, bu, bw⟩
  rcases l with ⟨lc, lo, ld, ldp, lds, ls, lu, lw⟩
  dsimp only at *
  subst b1 b2 b3 b5 l1 l2 l3 e1 e2 e3 hsym
  rw [hops]

end Link

namespace Codegen
open Link

theorem codegen_over {b l : Link} (h : Over b l) (ast : List Stmt) : Over b (codegen l ast).1 :=
  codegen_ind l ast h fun _ x hx h => h.append (fragments_negSyms ast x hx)

end Codegen

namespace Program
open Link

/-- what `codegenLine` starts from when the line is a direct one: the program linked, its code
    cut back to `directAddress`, no errors -/
def base (p : Program) : Program :=
  { p.linkProg with
    lineNumber := none,
    link := { p.linkProg.link with ops := p.linkProg.link.ops.extract 0 p.linkProg.directAddress },
    errors := [] }

theorem base_eq (p : Program) : base p = startLine p.linkProg none := rfl

/-- what `codegenLine` does with a direct line once the program is linked and cut back (`base`): parse, compile,
    push `End` (`codegenLine_direct`) -/
def directGen (b : Program) (line : Line) : Program :=
  match Parse.parse none line.tokens with
  | .error e => { b with errors := b.errors ++ [e] }
  | .ok ast => pushEndP (genAst b ast)

theorem directGen_ok {b : Program} {line : Line} {ast : List Stmt} (h : Parse.parse none line.tokens = .ok ast) :
    directGen b line = pushEndP (genAst b ast) := by
  unfold directGen; rw [h]

theorem codegenLine_direct (p : Program) (line : Line) (h : line.number = none) :
    p.codegenLine line = directGen (base p) line := by
  rw [codegenLine_eq, h]
  rfl

theorem codegenLine_congr {p q : Program} (line : Line) (h : line.number = none) (e : base p = base q) :
    p.codegenLine line = q.codegenLine line := by
  rw [codegenLine_direct p line h, codegenLine_direct q line h, e]

/-- a linked image of the indirect program -/
structure Based (b : Program) : Prop where
  clean : Clean b.link
  addr : b.directAddress = b.link.ops.size
  pos : b.directAddress ≠ 0
  errors : b.errors = []
  lineNumber : b.lineNumber = none

/-- `q` is `b` with direct-mode code (and direct-mode errors) added -/
structure POver (b q : Program) : Prop where
  indirectErrors : q.indirectErrors = b.indirectErrors
  directAddress : q.directAddress = b.directAddress
  link : Over b.link q.link

theorem POver.pushEndP {b q : Program} (h : POver b q) : POver b (pushEndP q) := by
  unfold Program.pushEndP
  have h2 := h.link.push .end
  dsimp only
  split <;> exact ⟨h.indirectErrors, h.directAddress, h2⟩

theorem POver.directGen {b : Program} (hb : Based b) (line : Line) : POver b (directGen b line) := by
  unfold Program.directGen
  cases Parse.parse none line.tokens with
  | error e => exact ⟨rfl, rfl, Over.refl hb.clean⟩
  | ok ast => exact POver.pushEndP ⟨rfl, rfl, Codegen.codegen_over (Over.refl hb.clean) ast⟩

theorem POver.ensureEnd {b q : Program} (h : POver b q) : POver b (ensureEnd q) :=
  ensureEnd_ind q h h.pushEndP

theorem POver.resolve {b q : Program} (h : POver b q) : POver b (resolve q) ∧ Linked (resolve q).link := by
  unfold Program.resolve
  have h2 := h.link.link
  generalize q.link.link = ll at h2
  rcases ll with ⟨l, es⟩
  dsimp only at h2 ⊢
  split <;> exact ⟨⟨h.indirectErrors, h.directAddress, h2.1⟩, h2.2⟩

theorem POver.linkProg {b q : Program} (hb : Based b) (h : POver b q) :
    POver b q.linkProg ∧ Linked q.linkProg.link := by
  rw [linkProg_eq]
  have h2 := h.ensureEnd.resolve
  have hd : (Program.resolve (Program.ensureEnd q)).directAddress ≠ 0 := by
    rw [h2.1.directAddress]; exact hb.pos
  unfold markDirect
  rw [if_neg hd]
  exact h2

theorem base_of_over {b q : Program} (hb : Based b) (h : POver b q) : base q = b := by
  obtain ⟨h1, h2⟩ := h.linkProg hb
  have hcut := h1.link.cut hb.clean h2
  unfold base
  generalize q.linkProg = r at h1 h2 hcut
  rw [h1.directAddress, hb.addr, hcut]
  have e1 := h1.indirectErrors
  have e2 := h1.directAddress
  have e3 := hb.errors
  have e4 := hb.lineNumber
  rcases b with ⟨be, bi, bd, bl, bk⟩
  rcases r with ⟨re, ri, rd, rl, rk⟩
  dsimp only at *
  subst e1 e2 e3 e4
  rfl

/-- compiling and linking a further direct line onto the linked image `b` and
    cutting the code back to `directAddress` gives `b` again — nothing below `directAddress`,
    no DATA, no line symbol, neither `indirectErrors` nor `directAddress` has changed -/
theorem base_directGen {b : Program} (hb : Based b) (line : Line) :
    base ((directGen b line).linkProg) = b := by
  have h := (POver.directGen hb line).linkProg hb
  exact base_of_over hb h.1

theorem base_codegenLine_direct (p : Program) (line : Line) (h : line.number = none) (hb : Based (base p)) :
    base ((p.codegenLine line).linkProg) = base p := by
  rw [codegenLine_direct p line h]; exact base_directGen hb line

theorem base_withDP (p : Program) (d : Nat) : base (p.withDP d) = (base p).withDP d := by
  rw [base_eq, base_eq, linkProg_withDP, startLine_withDP]

theorem Based.withDP {b : Program} (hb : Based b) (d : Nat) : Based (b.withDP d) :=
  ⟨⟨hb.clean.unlinked, hb.clean.whiles, hb.clean.cur, hb.clean.symbols, hb.clean.directSet⟩,
   hb.addr, hb.pos, hb.errors, hb.lineNumber⟩

-- every compile from scratch has a linked image as its `base`, also for a list of lines that contains
-- unnumbered ones (which the listing never holds): hence no `Numbered` below

theorem append_mono (a b : Link) :
    a.ops.size ≤ (a.append b).1.ops.size ∧ (a.append b).1.directSet = a.directSet :=
  append_ind (P := fun l => a.ops.size ≤ l.ops.size ∧ l.directSet = a.directSet) a b ⟨Nat.le_refl _, rfl⟩ fun _ =>
    have h : a.ops.size ≤ (a.ops ++ b.ops).size := by rw [Array.size_append]; omega
    ⟨⟨h, rfl⟩, ⟨h, rfl⟩⟩

theorem codegen_mono (l : Link) (ast : List Stmt) :
    l.ops.size ≤ (Codegen.codegen l ast).1.ops.size ∧ (Codegen.codegen l ast).1.directSet = l.directSet :=
  Codegen.codegen_ind (P := fun l' => l.ops.size ≤ l'.ops.size ∧ l'.directSet = l.directSet) l ast
    ⟨Nat.le_refl _, rfl⟩ fun l' x _ h =>
      ⟨Nat.le_trans h.1 (append_mono l' x.2).1, (append_mono l' x.2).2.trans h.2⟩

theorem ensureEnd_size (p : Program) :
    p.link.ops.size ≤ (ensureEnd p).link.ops.size ∧ (ensureEnd p).link.ops.size ≠ 0 ∧
    (ensureEnd p).link.directSet = p.link.directSet := by
  have hpush : (pushEndP p).link.ops.size = p.link.ops.size + 1 := by rw [pushEndP_link]; exact Array.size_push _
  rw [ensureEnd_eq]
  split
  · rename_i h
    refine ⟨Nat.le_refl _, fun h0 => ?_, rfl⟩
    -- code that ends with `End` is not empty
    have hb := h.1
    rw [Array.back?_eq_getElem?, h0, Array.getElem?_eq_none (by omega)] at hb
    cases hb
  · exact ⟨by rw [hpush]; omega, by rw [hpush]; omega, by rw [pushEndP_link]; rfl⟩

theorem linkProg_facts (p : Program) :
    Linked p.linkProg.link ∧ p.link.ops.size ≤ p.linkProg.link.ops.size ∧ p.linkProg.directAddress ≠ 0 ∧
    (p.directAddress = 0 →
      p.linkProg.directAddress = p.linkProg.link.ops.size ∧ p.linkProg.link.directSet = true) ∧
    (p.directAddress ≠ 0 →
      p.linkProg.directAddress = p.directAddress ∧ p.linkProg.link.directSet = p.link.directSet) := by
  obtain ⟨e1, e2, e3⟩ := ensureEnd_size p
  obtain ⟨hl, hsz⟩ := link_linked (ensureEnd p).link
  have hda : (resolve (ensureEnd p)).directAddress = p.directAddress :=
    (resolve_directAddress _).trans (ensureEnd_directAddress p)
  rw [← resolve_link] at hl hsz
  have hds : (resolve (ensureEnd p)).link.directSet = p.link.directSet := by
    rw [resolve_link, link_directSet, e3]
  rw [linkProg_eq, markDirect_eq]
  generalize resolve (ensureEnd p) = r at hl hsz hda hds
  by_cases h0 : p.directAddress = 0
  · rw [if_pos (hda.trans h0)]
    have hne : r.link.ops.size ≠ 0 := by rw [hsz]; exact e2
    refine ⟨⟨hl.unlinked, hl.whiles, hl.cur, fun q hq => ?_⟩, hsz ▸ e1, hne, fun _ => ⟨rfl, rfl⟩,
      fun h => absurd h0 h⟩
    -- the mark of the direct segment is entered under the key 65530
    rcases mem_symInsert hq with e | hq
    · rw [e]; show (0 : Int) ≤ (Gen.maxLineNumber : Int) + 1; decide
    · exact hl.symbols q hq
  · rw [if_neg (fun h => h0 (hda ▸ h))]
    exact ⟨hl, hsz ▸ e1, hda ▸ h0, fun h => absurd h h0, fun _ => ⟨hda, hds⟩⟩

/-- the direct segment lies within the code (trivially so before it is started: `directAddress = 0`) -/
def Inside (p : Program) : Prop := p.directAddress ≤ p.link.ops.size

/-- once the direct segment has been started, direct mode is on -/
def DirectOn (p : Program) : Prop := p.directAddress ≠ 0 → p.link.directSet = true

theorem Inside.linkProg {p : Program} (h : Inside p) : Inside p.linkProg := by
  obtain ⟨-, hsz, -, h0, h1⟩ := linkProg_facts p
  unfold Inside at h ⊢
  by_cases hd : p.directAddress = 0
  · exact Nat.le_of_eq (h0 hd).1
  · exact (h1 hd).1 ▸ Nat.le_trans h hsz

theorem DirectOn.linkProg {p : Program} (h : DirectOn p) : p.linkProg.link.directSet = true := by
  obtain ⟨-, -, -, h0, h1⟩ := linkProg_facts p
  by_cases hd : p.directAddress = 0
  · exact (h0 hd).2
  · exact (h1 hd).2.trans (h hd)

theorem codegenLine_segment (p : Program) (line : Line) (hp : Inside p) :
    Inside (p.codegenLine line) ∧ (DirectOn p → DirectOn (p.codegenLine line)) ∧
    (p.directAddress ≠ 0 → (p.codegenLine line).directAddress = p.directAddress) := by
  refine codegenLine_ind (P := fun q => Inside q ∧ (DirectOn p → DirectOn q) ∧
      (p.directAddress ≠ 0 → q.directAddress = p.directAddress)) p line ⟨hp, id, fun _ => rfl⟩ ?_ ?_
    (fun _ _ _ hq => hq) ?_ ?_
  · intro q hq
    refine ⟨hq.1.linkProg, fun h _ => (hq.2.1 h).linkProg, fun hne => ?_⟩
    exact ((linkProg_facts q).2.2.2.2 (hq.2.2 hne ▸ hne)).1.trans (hq.2.2 hne)
  · intro q hq
    unfold startLine
    split
    · exact hq
    · refine ⟨?_, hq.2⟩
      show q.directAddress ≤ (q.link.ops.extract 0 q.directAddress).size
      have := hq.1
      unfold Inside at this
      rw [Array.size_extract]; omega
  · intro q ast _ hq
    have hm := codegen_mono q.link ast
    exact ⟨Nat.le_trans hq.1 hm.1, fun h hd => hm.2.trans (hq.2.1 h hd), hq.2.2⟩
  · intro q hq
    rw [pushEndP_eq]
    exact ⟨Nat.le_trans hq.1 (by show _ ≤ (Array.push _ _).size; rw [Array.size_push]; omega), hq.2⟩

/-- the image a fresh interpreter compiles its direct lines onto — for any list of lines -/
theorem based_compile (lines : List Line) : Based (base (({} : Program).codegenLines lines)) := by
  obtain ⟨hi, hd⟩ : Inside (({} : Program).codegenLines lines) ∧ DirectOn (({} : Program).codegenLines lines) :=
    List.foldlRecOn (motive := fun q => Inside q ∧ DirectOn q) lines _ ⟨Nat.le_refl _, fun h => absurd rfl h⟩
      fun q h l _ => ⟨(codegenLine_segment q l h.1).1, (codegenLine_segment q l h.1).2.1 h.2⟩
  generalize ({} : Program).codegenLines lines = p at hi hd
  obtain ⟨hl, -, hne, -⟩ := linkProg_facts p
  have hin : p.linkProg.directAddress ≤ p.linkProg.link.ops.size := hi.linkProg
  unfold base
  refine ⟨⟨hl.unlinked, hl.whiles, hl.cur, hl.symbols, hd.linkProg⟩, ?_, hne, rfl, rfl⟩
  show p.linkProg.directAddress = (p.linkProg.link.ops.extract 0 p.linkProg.directAddress).size
  rw [Array.size_extract]; omega

end Program
end Basic

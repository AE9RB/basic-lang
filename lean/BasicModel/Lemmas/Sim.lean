import BasicModel.Lemmas.Execute
/-
  A simulation relation for "the same program run from two states that differ only in what a
  running program cannot observe": `Sim col s t` (`s ≈ t`).

  `Rel col m m'`: run from `≈` states, `m` and `m'` return the same result (value or error) and end
  in `≈` states.  The calculus mirrors that of `Lemmas/Frame` (`DoesAt`; the fact about a helper is an
  instance of `Alike`, found by the rule `Rel.call`): after `get` the right-hand state is the left-hand
  one with the free fields overwritten (`put`), so both sides of the walk are syntactically the
  same `do` block and `split` decomposes them together.
-/
namespace Basic
namespace Runtime

/-- `s ≈ t`: equal on everything a running program can observe below `directAddress`.
    Free: `cont`, `contPc`, the code from `directAddress` on, the symbol table up to
    `lineNumberFor`, the compile-time fields of the program, `tr` while tracing is off, and
    — unless `col` — the print column. -/
structure Sim (col : Bool) (s t : Runtime) : Prop where
  prompt : t.prompt = s.prompt
  listing : t.listing = s.listing
  dirty : t.dirty = s.dirty
  pc : t.pc = s.pc
  tron : t.tron = s.tron
  tr : s.tron = true → t.tr = s.tr
  entry : t.entryAddress = s.entryAddress
  stack : t.stack = s.stack
  vars : t.vars = s.vars
  state : t.state = s.state
  rand : t.rand = s.rand
  functions : t.functions = s.functions
  printCol : col = true → t.printCol = s.printCol
  indirectErrors : t.program.indirectErrors = s.program.indirectErrors
  directAddress : t.program.directAddress = s.program.directAddress
  data : t.program.link.data = s.program.link.data
  dataPos : t.program.link.dataPos = s.program.link.dataPos
  lnf : ∀ a, t.program.link.lineNumberFor a = s.program.link.lineNumberFor a
  ops : ∀ i, i < s.program.directAddress → t.program.link.ops[i]? = s.program.link.ops[i]?

/-- `s` with the free fields of `t` -/
def put (t s : Runtime) : Runtime :=
  { s with tr := t.tr, cont := t.cont, contPc := t.contPc, printCol := t.printCol,
           program := { s.program with
             errors := t.program.errors, lineNumber := t.program.lineNumber,
             link := { s.program.link with
               currentSymbol := t.program.link.currentSymbol, ops := t.program.link.ops,
               directSet := t.program.link.directSet, symbols := t.program.link.symbols,
               unlinked := t.program.link.unlinked, whiles := t.program.link.whiles } } }

theorem Sim.eq_put {col : Bool} {s t : Runtime} (h : Sim col s t) : t = put t s := by
  obtain ⟨h1, h2, h3, h4, h5, -, h7, h8, h9, h10, h11, h12, -, h14, h15, h16, h17, -, -⟩ := h
  obtain ⟨prompt, listing, dirty, program, pc, tr, tron, ea, stack, vars, state, cont, contPc, printCol,
    rand, functions⟩ := t
  obtain ⟨errors, ie, da, ln, link⟩ := program
  obtain ⟨cs, ops, data, dataPos, ds, symbols, unlinked, whiles⟩ := link
  dsimp only at h1 h2 h3 h4 h5 h7 h8 h9 h10 h11 h12 h14 h15 h16 h17
  subst h1 h2 h3 h4 h5 h7 h8 h9 h10 h11 h12 h14 h15 h16 h17
  rfl

theorem Sim.refl (col : Bool) (s : Runtime) : Sim col s s :=
  ⟨rfl, rfl, rfl, rfl, rfl, fun _ => rfl, rfl, rfl, rfl, rfl, rfl, rfl, fun _ => rfl, rfl, rfl, rfl, rfl,
   fun _ => rfl, fun _ _ => rfl⟩

/-- `m` and `m'` run from `≈` states return the same and end in `≈` states -/
structure Rel (col : Bool) (m m' : RM α) : Prop where
  run : ∀ s t, Sim col s t →
    (m'.run.run t).1 = (m.run.run s).1 ∧ Sim col (m.run.run s).2 (m'.run.run t).2

section
variable {col : Bool}

theorem Rel.ret (a : α) : Rel col (pure a : RM α) (pure a) := ⟨fun _ _ h => ⟨rfl, h⟩⟩
theorem Rel.thr (e : Error) : Rel col (throw e : RM α) (throw e) := ⟨fun _ _ h => ⟨rfl, h⟩⟩
theorem Rel.lift (r : Except Error α) : Rel col (liftE r : RM α) (liftE r) := by
  constructor; intro s t h; rw [run_liftE, run_liftE]; exact ⟨rfl, h⟩

theorem Rel.wr {a b : Runtime} (h : Sim col a b) : Rel col (set a : RM Unit) (set b) :=
  ⟨fun _ _ _ => ⟨rfl, h⟩⟩

theorem Rel.mod {g g' : Runtime → Runtime}
    (h : ∀ s t₀, Sim col s (put t₀ s) → Sim col (g s) (g' (put t₀ s))) :
    Rel col (modify g : RM Unit) (modify g') := by
  constructor
  intro s t hst
  refine ⟨rfl, ?_⟩
  show Sim col (g s) (g' t)
  have := h s t (hst.eq_put ▸ hst)
  rw [← hst.eq_put] at this
  exact this

theorem Rel.seq {m m' : RM α} {f f' : α → RM β}
    (hm : Rel col m m') (hf : ∀ a, Rel col (f a) (f' a)) : Rel col (m >>= f) (m' >>= f') := by
  constructor
  intro s t hst
  obtain ⟨h1, h2⟩ := hm.run s t hst
  rw [run_bind, run_bind]
  rcases hs : m.run.run s with ⟨r, s'⟩
  rcases ht : m'.run.run t with ⟨r', t'⟩
  rw [hs, ht] at h1 h2
  dsimp only at h1 h2
  subst h1
  cases r' with
  | ok a => exact (hf a).run s' t' h2
  | error e => exact ⟨rfl, h2⟩

/-- after `get` both sides continue with the state read; the right one is the left one up to
    the free fields -/
theorem Rel.rd_seq {f f' : Runtime → RM β}
    (hf : ∀ s t₀, Sim col s (put t₀ s) → Rel col (f s) (f' (put t₀ s))) :
    Rel col (get >>= f) (get >>= f') := by
  constructor
  intro s t hst
  rw [run_bind_ok (run_get s), run_bind_ok (run_get t)]
  have := hf s t (hst.eq_put ▸ hst)
  rw [← hst.eq_put] at this
  exact this.run s t hst

theorem Rel.forLoop {γ : Type} (l : List γ) (init : β) (f f' : γ → β → RM (ForInStep β))
    (hf : ∀ a b, Rel col (f a b) (f' a b)) : Rel col (forIn l init f) (forIn l init f') := by
  induction l generalizing init with
  | nil => exact Rel.ret _
  | cons a as ih =>
    rw [List.forIn_cons, List.forIn_cons]
    refine Rel.seq (hf a init) ?_
    intro r
    cases r with
    | done b => exact Rel.ret _
    | yield b => exact ih b

end

/- closes `Sim col a b` where `b` is `a`'s update applied to `put t₀ s`, from the hypothesis
   `hg : Sim col s (put t₀ s)` introduced last (the macros are unhygienic on purpose: the names
   `s`, `t₀`, `hg` of a later `get` shadow those of an earlier one, as in the source) -/
set_option hygiene false in
macro "sim_rel" : tactic =>
  `(tactic| (constructor <;> first
      | rfl
      | exact hg.tr
      | exact hg.printCol
      | exact hg.lnf
      | exact hg.ops
      | (intro _; exact hg.lnf _)
      | (intro h; exact absurd h Bool.false_ne_true)
      | (intro hc; have hp := hg.printCol hc; dsimp only [put] at hp ⊢; rw [hp])))

/-- closes `Sim col a b` when `a`, `b` are `s`, `t` with the same fields replaced by the same
    values (or free fields replaced by anything) -/
macro "sim_from " h:ident : tactic =>
  `(tactic| (constructor <;> first
      | exact ($h).prompt | exact ($h).listing | exact ($h).dirty | exact ($h).pc | exact ($h).tron
      | exact ($h).tr | exact ($h).entry | exact ($h).stack | exact ($h).vars | exact ($h).state
      | exact ($h).rand | exact ($h).functions | exact ($h).printCol | exact ($h).indirectErrors
      | exact ($h).directAddress | exact ($h).data | exact ($h).dataPos | exact ($h).lnf | exact ($h).ops
      | rfl | (intro _; rfl)))

/-- `m` behaves alike from `≈` states.  These facts are instances, so that the one rule for a call
    (`Rel.call`) finds the fact about the helper called by unification. -/
class Alike (col : Bool) (m : RM α) : Prop where
  rel : Rel col m m

theorem Rel.call {col : Bool} {m : RM α} [h : Alike col m] : Rel col m m := h.rel

set_option hygiene false in
macro "rel_step" : tactic =>
  `(tactic| first
    | intro _
    | ((with_reducible apply Rel.rd_seq); intro s t₀ hg; dsimp only [put])
    | with_reducible apply Rel.seq
    | with_reducible apply Rel.ret
    | with_reducible apply Rel.thr
    | with_reducible apply Rel.lift
    | ((with_reducible apply Rel.wr); sim_rel)
    | ((with_reducible apply Rel.mod); intro s t₀ hg; sim_rel)
    | ((with_reducible apply Rel.forLoop); intro _ _)
    | with_reducible apply Rel.call
    | split)

macro "rel" : tactic =>
  `(tactic| (try dsimp only
             repeat' rel_step))

variable {col : Bool} {env : Env} {h : Bool}

instance (v : Val) : Alike col (push v) := ⟨by unfold push; rel⟩
instance : Alike col pop := ⟨by unfold pop; rel⟩
instance : Alike col pop2 := ⟨by unfold pop2; rel⟩
instance (n : Nat) : Alike col (popN n) := ⟨by unfold popN; rel⟩
instance : Alike col popVec := ⟨by unfold popVec; rel⟩
instance (f : Val → Res Val) : Alike col (pop1Push f) := ⟨by unfold pop1Push; rel⟩
instance (f : Val → Val → Res Val) : Alike col (pop2Push f) := ⟨by unfold pop2Push; rel⟩
instance (name : Str) : Alike col (doDef name) := ⟨by unfold doDef; rel⟩
instance (f : Var → Val → Val → Res Var) : Alike col (doDefType f) := ⟨by unfold doDefType; rel⟩
instance (name : Str) : Alike col (doFn name) := ⟨by unfold doFn; rel⟩
instance : Alike col doLetMid := ⟨by unfold doLetMid; rel⟩
instance : Alike col doOn := ⟨by unfold doOn; rel⟩
instance : Alike col doSwap := ⟨by unfold doSwap; rel⟩

instance : Alike col doRead := by
  refine ⟨?_⟩
  unfold doRead
  dsimp only
  apply Rel.rd_seq; intro s t₀ hg
  dsimp only [put, Link.readData]
  cases s.program.link.data[s.program.link.dataPos]? <;> rel

theorem rel_doNext_loop (name : Str) : ∀ fuel, Rel col (doNext.loop name fuel) (doNext.loop name fuel) := by
  intro fuel
  induction fuel with
  | zero => unfold doNext.loop; rel
  | succ k ih =>
    have : Alike col (doNext.loop name k) := ⟨ih⟩
    unfold doNext.loop; rel

instance (name : Str) : Alike col (doNext name) := by
  have (fuel : Nat) : Alike col (doNext.loop name fuel) := ⟨rel_doNext_loop name fuel⟩
  exact ⟨by unfold doNext; rel⟩

theorem rel_doReturn_loop : ∀ fuel rv first, Rel col (doReturn.loop fuel rv first) (doReturn.loop fuel rv first) := by
  intro fuel
  induction fuel with
  | zero => intro rv first; unfold doReturn.loop; rel
  | succ k ih =>
    intro rv first
    have (rv : Option Val) (first : Bool) : Alike col (doReturn.loop k rv first) := ⟨ih rv first⟩
    unfold doReturn.loop; rel

instance : Alike col doReturn := by
  have (fuel : Nat) (rv : Option Val) (first : Bool) : Alike col (doReturn.loop fuel rv first) :=
    ⟨rel_doReturn_loop fuel rv first⟩
  exact ⟨by unfold doReturn; rel⟩

theorem sim_doEnd {s t : Runtime} (h : Sim col s t) : Sim col (doEnd s) (doEnd t) := by
  rw [doEnd_eq s, doEnd_eq t]
  sim_from h

instance : Alike col (modify doEnd) := ⟨⟨fun _ _ h => ⟨rfl, sim_doEnd h⟩⟩⟩

instance (n : Str) : Alike col (doInput n) := ⟨by unfold doInput; rel⟩
instance : Alike col doList := ⟨by unfold doList; rel⟩
instance (mk : Str → Event) (b : Bool) : Alike col (fileOp mk b) := ⟨by unfold fileOp; rel⟩
instance : Alike col doDelete := ⟨by unfold doDelete; rel⟩
instance (env : Env) : Alike col (doRenum env) := ⟨by unfold doRenum; rel⟩
instance : Alike col doPrint := ⟨by unfold doPrint; rel⟩

/-- the instructions `≈` is a simulation for: all but `Cont` (which reads the continuation) and,
    unless the print columns agree, `Tab` and `Pos` (which read the column) -/
def simOk (col : Bool) : Opcode → Bool
  | .cont => false
  | .tab | .pos => col
  | _ => true

theorem rel_pos_tab {op : Opcode} (hop : op = .pos ∨ op = .tab) : Rel true (execOp env h op) (execOp env h op) := by
  rcases hop with rfl | rfl <;>
  · simp only [execOp]
    apply Rel.seq Rel.call; intro _
    apply Rel.rd_seq; intro s t₀ hg
    have hp := hg.printCol rfl
    dsimp only [put] at hp ⊢
    rw [hp]
    rel

theorem execOp_rel (env : Env) (h : Bool) (op : Opcode) (hop : simOk col op = true) :
    Rel col (execOp env h op) (execOp env h op) := by
  cases hu : unFn op with
  | some f => rw [execOp_un env h hu]; exact Rel.seq Rel.call fun _ => Rel.ret _
  | none =>
  cases hb : binFn op with
  | some f => rw [execOp_bin env h hb]; exact Rel.seq Rel.call fun _ => Rel.ret _
  | none =>
  cases op <;> cases hu <;> cases hb <;> first
    | exact Bool.noConfusion hop
    | (simp only [execOp]; rel; done)
    | (simp only [simOk] at hop; subst hop; first | exact rel_pos_tab (.inl rfl) | exact rel_pos_tab (.inr rfl))

/-- the instruction about to be fetched lies in the program proper and is one `≈` simulates -/
def InProg (col : Bool) (s : Runtime) : Prop :=
  s.pc < s.program.directAddress ∧ ∀ op, s.program.link.ops[s.pc]? = some op → simOk col op = true

theorem sim_with_tr {s t : Runtime} (hst : Sim col s t) (x : Option Nat) :
    Sim col { s with tr := x } { t with tr := x } := by
  sim_from hst

theorem sim_with_pc {s t : Runtime} (hst : Sim col s t) :
    Sim col { s with pc := s.pc + 1 } { t with pc := t.pc + 1 } :=
  { hst with pc := by show t.pc + 1 = s.pc + 1; rw [hst.pc] }

theorem fetchExec_sim (env : Env) (h : Bool) {s t : Runtime} (hst : Sim col s t) (hin : InProg col s) :
    ((fetchExec env h).run.run t).1 = ((fetchExec env h).run.run s).1 ∧
    Sim col ((fetchExec env h).run.run s).2 ((fetchExec env h).run.run t).2 := by
  rw [run_fetchExec, run_fetchExec, hst.pc, hst.ops s.pc hin.1]
  cases hq : s.program.link.ops[s.pc]? with
  | none => exact ⟨rfl, hst⟩
  | some op =>
    dsimp only
    have := (execOp_rel env h op (hin.2 op hq)).run _ _ (sim_with_pc hst)
    rw [hst.pc] at this
    exact this

theorem step_sim (env : Env) (h : Bool) {s t : Runtime} (hst : Sim col s t) (hin : InProg col s) :
    ((step env h).run.run t).1 = ((step env h).run.run s).1 ∧
    Sim col ((step env h).run.run s).2 ((step env h).run.run t).2 := by
  have hl : t.program.link.lineNumberFor t.pc = s.program.link.lineNumberFor s.pc := by
    rw [hst.lnf, hst.pc]
  rw [step_run env h s, step_run env h t]
  by_cases hc : s.tron = true ∧ s.program.link.lineNumberFor s.pc ≠ s.tr
  · have hc' : t.tron = true ∧ t.program.link.lineNumberFor t.pc ≠ t.tr := by
      rw [hl, hst.tron, hst.tr hc.1]; exact hc
    rw [if_pos hc, if_pos hc', hl]
    cases s.program.link.lineNumberFor s.pc with
    | none =>
      have hin' : InProg col { s with tr := none } := hin
      exact fetchExec_sim env h (sim_with_tr hst none) hin'
    | some n =>
      refine ⟨rfl, ?_⟩
      exact { sim_with_tr hst (some n) with
        printCol := fun hc => by
          show t.printCol + _ = s.printCol + _
          rw [hst.printCol hc] }
  · have hc' : ¬ (t.tron = true ∧ t.program.link.lineNumberFor t.pc ≠ t.tr) := by
      intro hh
      rw [hl, hst.tron] at hh
      exact hc ⟨hh.1, by rw [← hst.tr hh.1]; exact hh.2⟩
    rw [if_neg hc, if_neg hc']
    exact fetchExec_sim env h hst hin

/-- along the first `n` steps of the slice from `s`, as long as it goes on, the next instruction
    is in the program proper and simulated -/
def StaysInProg (col : Bool) (env : Env) (h : Bool) (n : Nat) (s : Runtime) : Prop :=
  ∀ k, k < n → (sliceRun env h k s).1 = .ok none → InProg col (sliceRun env h k s).2.1

theorem staysInProg_step {env : Env} {h : Bool} {n : Nat} {s s' : Runtime}
    (hs : StaysInProg col env h (n + 1) s) (hstep : (step env h).run.run s = (.ok .continue, s')) :
    StaysInProg col env h n s' := by
  intro k hk hr
  have := hs (k + 1) (by omega)
  rw [sliceRun_succ, hstep] at this
  exact this hr

theorem sliceRun_sim (env : Env) (h : Bool) (n : Nat) {s t : Runtime} (hst : Sim col s t)
    (hs : StaysInProg col env h n s) :
    (sliceRun env h n t).1 = (sliceRun env h n s).1 ∧
    (sliceRun env h n t).2.2 = (sliceRun env h n s).2.2 ∧
    Sim col (sliceRun env h n s).2.1 (sliceRun env h n t).2.1 := by
  induction n generalizing s t with
  | zero => exact ⟨rfl, rfl, hst⟩
  | succ k ih =>
    have hin : InProg col s := hs 0 (by omega) rfl
    obtain ⟨h1, h2⟩ := step_sim env h hst hin
    rw [sliceRun_succ, sliceRun_succ]
    rcases hs' : (step env h).run.run s with ⟨r, s'⟩
    rcases ht' : (step env h).run.run t with ⟨r', t'⟩
    rw [hs', ht'] at h1 h2
    dsimp only at h1 h2
    subst h1
    rcases r' with e | st
    · exact ⟨rfl, rfl, h2⟩
    · cases st with
      | «continue» =>
        have := ih h2 (staysInProg_step hs hs')
        exact ⟨this.1, by dsimp only; rw [this.2.1], this.2.2⟩
      | event e => exact ⟨rfl, rfl, h2⟩

theorem hasIndirectErrors_sim {s t : Runtime} (hst : Sim col s t) :
    hasIndirectErrors t = hasIndirectErrors s := by
  unfold hasIndirectErrors; rw [hst.listing]

theorem lineNumber_sim {s t : Runtime} (hst : Sim col s t) : lineNumber t = lineNumber s := by
  unfold lineNumber; rw [hst.lnf, hst.pc]

theorem readyPrompt_sim {s t : Runtime} (hst : Sim col s t) :
    Sim col (readyPrompt s).1 (readyPrompt t).1 ∧
    ((readyPrompt t).2.isSome = (readyPrompt s).2.isSome) ∧
    (col = true → (readyPrompt t).2 = (readyPrompt s).2) := by
  by_cases he : s.entryAddress = 0
  · rw [readyPrompt_zero s he, readyPrompt_zero t (hst.entry.trans he)]
    exact ⟨hst, rfl, fun _ => rfl⟩
  · rw [readyPrompt_pos s he, readyPrompt_pos t (by rw [hst.entry]; exact he)]
    refine ⟨by sim_from hst, rfl, ?_⟩
    intro hc
    unfold promptLine
    rw [hst.printCol hc, hst.prompt]

/-- what `execute` does with the result of a slice, from `≈` states: `≈` states again; the
    same event, except that the READY prompt printed when the program ends starts with a line
    break iff the column is not 0 (so the events agree if the columns do) -/
theorem finishLoop_sim (r : Except Error Event) {s t : Runtime} (hst : Sim col s t) :
    Sim col (finishLoop r s).1 (finishLoop r t).1 ∧
    ((col = true ∨ r ≠ .ok .stopped) → (finishLoop r t).2 = (finishLoop r s).2) := by
  cases r with
  | error e =>
    -- both sides decide alike: the tests read `state`, `pc`, `entryAddress` and the stack
    have hf : isFull t = isFull s := by unfold isFull; rw [hst.stack]
    rw [finishLoop_error, finishLoop_error, hst.state, hst.stack, hst.pc, hst.entry, hf, lineNumber_sim hst]
    refine ⟨?_, fun _ => rfl⟩
    dsimp only
    split
    · sim_from hst
    · split <;> sim_from hst
  | ok ev =>
    have hrp := readyPrompt_sim hst
    by_cases h1 : s.state = .stopped ∧ ev = .stopped
    · obtain ⟨h1, h2⟩ := h1
      subst h2
      have e1 := finishLoop_stopped s h1
      have e2 := finishLoop_stopped t (hst.state.trans h1)
      rw [e1, e2]
      rcases hs : readyPrompt s with ⟨s', o⟩
      rcases ht : readyPrompt t with ⟨t', o'⟩
      rw [hs, ht] at hrp
      dsimp only at hrp
      obtain ⟨hsim, hsome, heq⟩ := hrp
      cases o <;> cases o' <;> first
        | (simp at hsome; done)
        | (refine ⟨hsim, ?_⟩
           intro hc
           rcases hc with hc | hc
           · have := heq hc; first | rfl | (cases this; rfl)
           · exact absurd rfl hc)
    · have e1 := finishLoop_ok ev s h1
      have e2 := finishLoop_ok ev t (by rw [hst.state]; exact h1)
      rw [e1, e2]
      exact ⟨hst, fun _ => rfl⟩

theorem execute_sim (env : Env) (n : Nat) {s t : Runtime} (hst : Sim col s t)
    (hs : s.state = .running) (hd : s.listing.directErrors = [])
    (hstay : StaysInProg col env (hasIndirectErrors s) n s) :
    Sim col (execute env s n).1 (execute env t n).1 ∧
    ((col = true ∨ (slice env n s).1 ≠ .ok (some .stopped)) →
      (execute env t n).2 = (execute env s n).2) := by
  rw [execute_running env s n hs hd,
    execute_running env t n (by rw [hst.state]; exact hs) (by rw [hst.listing]; exact hd),
    executeLoop_run, executeLoop_run]
  unfold slice
  rw [hasIndirectErrors_sim hst]
  obtain ⟨h1, -, h3⟩ := sliceRun_sim env (hasIndirectErrors s) n hst hstay
  dsimp only
  rw [h1]
  have := finishLoop_sim (toEvent (sliceRun env (hasIndirectErrors s) n s).1) h3
  refine ⟨this.1, ?_⟩
  intro hc
  apply this.2
  rcases hc with hc | hc
  · exact .inl hc
  · refine .inr ?_
    intro he
    apply hc
    generalize (sliceRun env (hasIndirectErrors s) n s).1 = x at he
    rcases x with e | o
    · cases he
    · cases o with
      | none => cases he
      | some ev => cases he; rfl

end Runtime
end Basic

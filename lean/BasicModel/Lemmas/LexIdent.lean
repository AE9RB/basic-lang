import BasicModel.Lemmas.LexAllPass
import BasicModel.Lemmas.NameOk
import BasicModel.Lemmas.LexEval
/-
  Every identifier token the lexer produces has a name that starts with an upper-case ASCII letter
  (`lex_ident_letter1`, `lineNew_ident_letter1`).  This is what keeps the interpreter's
  `types[c - 'A']` table index in bounds.

  `lexLoop` takes identifiers from `alphabetic()` only, whose identifiers scan back from their own text
  (`alphabetic_spec`) and therefore start with a letter; the four post-passes create none.
-/
namespace Basic
namespace Lemmas.LexIdent
open Lex

seal Lex.postPasses

/-- every identifier token of the list has a `Letter1` name -/
def IdOk (ts : List Token) : Prop := ∀ i, Token.ident i ∈ ts → Letter1 i.name

theorem idOk_nil : IdOk [] := by intro i h; simp at h

theorem idOk_append {a b : List Token} (ha : IdOk a) (hb : IdOk b) : IdOk (a ++ b) := by
  intro i h
  rcases List.mem_append.mp h with h | h
  · exact ha i h
  · exact hb i h

theorem idOk_cons_other {t : Token} {ts : List Token} (ht : ∀ i, t ≠ .ident i) (hts : IdOk ts) :
    IdOk (t :: ts) := by
  intro j h
  rcases List.mem_cons.mp h with h | h
  · exact absurd h.symm (ht j)
  · exact hts j h

theorem idOk_of_subset {a b : List Token} (h : ∀ i, Token.ident i ∈ a → Token.ident i ∈ b)
    (hb : IdOk b) : IdOk a := fun i hi => hb i (h i hi)

/-- what `alphabetic()` queues are reserved words and identifiers that scan back from their own text
    (`alphabetic_spec`); such an identifier starts with a letter that upper-casing leaves alone -/
theorem alphabetic_idOk (pk : Char) (cs : List Char) (h : isAlpha pk = true) :
    IdOk (alphabetic (pk :: cs)).1 := by
  intro i hi
  rcases (alphabetic_spec pk cs h).1.toks _ hi with hk | ⟨j, e, hp⟩
  · cases hk
  · cases e
    obtain ⟨c, r, e, ha, hu⟩ := printable_ident_text i hp
    refine ⟨c, r, e, ?_⟩
    rw [isAlpha_iff] at ha
    have := upper_toNat c
    rw [hu] at this
    split at this <;> omega

/-- `number()` hands out a numeral (`numberLoop_consumed`) -/
theorem number_not_ident (pk : Char) (cs : List Char) (h : (isDigit pk || pk = '.') = true) (i : TIdent) :
    (number (pk :: cs)).1 ≠ .ident i := by
  obtain ⟨k, -, h1, -⟩ := numberLoop_consumed (pk :: cs) [] 0 false false (by simp) (not_PB_of_numHead pk cs h)
  intro e
  rw [show (number (pk :: cs)).1 = (numberLoop (pk :: cs) [] 0 false false).1 from rfl] at e
  rcases h1 with h' | h' | h' <;> (rw [h'] at e; cases e)

theorem matchMinutia_not_ident (s : Str) (t : Token) (h : matchMinutia s = some t) :
    ∀ i, t ≠ .ident i := by
  obtain ⟨c, -, hm⟩ := matchMinutia_some s t h
  exact not_ident_of_isIdentTok ((by decide : ∀ p ∈ minutiaTable, isIdentTok p.2 = false) _ hm)

theorem minutia_not_ident (pk : Char) (cs : List Char) (i : TIdent) : (minutia (pk :: cs)).1 ≠ .ident i := by
  rw [minutia_eq]
  split
  · rename_i t ht; exact matchMinutia_not_ident _ _ ht i
  · simp

theorem radix_not_ident (cs : List Char) (i : TIdent) : (radix cs).1 ≠ .ident i := by
  unfold radix
  split <;> simp

theorem idOk_remText (u : List Char) : IdOk (remText u) := by
  intro i hi
  cases mem_remText hi

theorem turn_idOk {cs cs' : List Char} {q : List Token} {rm : Bool} (h : Turn cs q cs' rm) : IdOk q := by
  cases h with
  | ws pk cs h => exact idOk_cons_other (fun i => by simp [whitespace]) idOk_nil
  | num pk cs h => exact idOk_cons_other (number_not_ident pk cs h) idOk_nil
  | alpha pk cs t ts h e => exact e ▸ alphabetic_idOk pk cs h
  | str cs => exact idOk_cons_other (fun i => by simp) idOk_nil
  | radix cs => exact idOk_cons_other (radix_not_ident _) idOk_nil
  | min pk cs h => exact idOk_cons_other (minutia_not_ident pk cs) idOk_nil

theorem lexed_idOk {cs : List Char} {ts : List Token} (h : Lexed cs ts) : IdOk ts := by
  induction h with
  | nil => exact idOk_nil
  | code ht _ ih => exact idOk_append (turn_idOk ht) ih
  | remark ht => exact idOk_append (turn_idOk ht) (idOk_remText _)

theorem rawTokens_idOk (cs : List Char) : IdOk (rawTokens cs) :=
  lexed_idOk (lexed cs)

theorem postPasses_mem (ts : List Token) (i : TIdent) (h : Token.ident i ∈ postPasses ts) :
    Token.ident i ∈ ts :=
  mem_postPasses ts _ h (by simp [Made, isCmp]) (by simp) (by simp)

/-- every identifier token of a lexed line has a name that starts with `A`..`Z` -/
theorem lex_ident_letter1 (src : Str) (i : TIdent) (h : Token.ident i ∈ (Lex.lex src).2) :
    Letter1 i.name :=
  rawTokens_idOk _ i (postPasses_mem _ i h)

theorem lineNew_ident_letter1 (src : Str) (i : TIdent)
    (h : Token.ident i ∈ (Lex.lineNew src).tokens) : Letter1 i.name :=
  lex_ident_letter1 src i h

/-- the index `c - 'A'` into a 26-entry table is in bounds for the first character of every
    identifier the lexer produces -/
theorem lex_ident_index (src : Str) (i : TIdent) (h : Token.ident i ∈ (Lex.lex src).2) :
    ∃ c r, i.name = c :: r ∧ c.toNat - 65 < 26 ∧ 65 ≤ c.toNat := by
  obtain ⟨c, r, e, h1, h2⟩ := lex_ident_letter1 src i h
  exact ⟨c, r, e, by omega, h1⟩

example : Token.ident (.plain "X1".toList) ∈ (Lex.lex "10 forx1=a$".toList).2 := by
  simp only [Lex.lex_eval]; decide +kernel
example : Token.ident (.string "A$".toList) ∈ (Lex.lex "10 forx1=a$".toList).2 := by
  simp only [Lex.lex_eval]; decide +kernel
example : Token.ident (.plain "SUB100".toList) ∈ (Lex.lex "printgo sub100".toList).2 := by
  simp only [Lex.lex_eval]; decide +kernel
example : Token.ident (.plain "AB2".toList) ∈ (Lex.lineNew "go to 5: nextab2c!".toList).tokens := by
  simp only [Lex.lineNew, Lex.lex_eval]; decide +kernel
example : Letter1 "X1".toList := ⟨'X', ['1'], rfl, by decide, by decide⟩
example : ¬ Letter1 "1X".toList := by
  rintro ⟨c, r, e, h1, h2⟩
  cases e
  revert h1; decide

end Lemmas.LexIdent
end Basic

import BasicModel.Lemmas.ContLine
import BasicModel.Lemmas.Sim
/-
  C13 at the session API: the pieces between an interrupt (or STOP, or END) and the resumed
  program.

  The driver's calls are `execList`: one `execute` per quantum, with the events (`Thm.C13.execN`: the same
  quantum `k` times, the state only; `Thm.C13.breakReport`: the one or two calls of the report).  After the break report
  the state is `broken s ea`: `s` stopped at column 0, holding the continuation `(running, s.pc)`.
  `cont_departs`: from ANY state `w` at the prompt that holds a `running` continuation of a linked,
  unedited program, the line `CONT` and the instruction `Cont` lead to `contStart w`; for `broken s ea`
  that is `resumed s`: the interrupted state itself, but for the print column (0), the spent
  continuation, the trace marker and the recompiled direct code.  For a state `w` that holds the
  continuation of `s` (`BrokenLike`: also after direct-mode lines that kept it, `Lemmas/Inspect.lean`)
  and `s` under the standing hypotheses `Thm.C13.Resumable`, `contStart w ≈ s` (`Sim`, `Lemmas/Sim.lean`).
-/
namespace Basic
namespace Runtime

/-- the driver calls `execute` once per quantum of the list; the state reached and the events
    reported, in order -/
def execList (env : Env) : List Nat → Runtime → Runtime × List Event
  | [], s => (s, [])
  | q :: qs, s => ((execList env qs (execute env s q).1).1, (execute env s q).2 :: (execList env qs (execute env s q).1).2)

theorem execList_nil (env : Env) (s : Runtime) : execList env [] s = (s, []) := rfl

theorem execList_cons (env : Env) (q : Nat) (qs : List Nat) (s : Runtime) :
    execList env (q :: qs) s =
      ((execList env qs (execute env s q).1).1, (execute env s q).2 :: (execList env qs (execute env s q).1).2) := rfl

/-- the quanta of the calls that report a break: two if a line break is due, else one -/
def reportQuanta (s : Runtime) (q₁ q₂ : Nat) : List Nat := if s.printCol > 0 then [q₁, q₂] else [q₂]

theorem report_runtimeError (env : Env) (q₁ q₂ : Nat) (s : Runtime) (e : Error)
    (hs : s.state = .runtimeError e) :
    execList env (reportQuanta s q₁ q₂) s =
      ({ s with state := .stopped, printCol := 0 },
       (if s.printCol > 0 then [.print ['\n']] else []) ++ [.errors [e]]) := by
  unfold reportQuanta
  by_cases hc : s.printCol > 0
  · rw [if_pos hc, if_pos hc, execList_cons, execList_cons, execList_nil,
      execute_runtimeError_col env s q₁ e hs hc]
    dsimp only
    rw [execute_runtimeError_nocol env { s with printCol := 0 } q₂ e hs rfl]
    rfl
  · have h0 : s.printCol = 0 := by omega
    rw [if_neg hc, if_neg hc, execList_cons, execList_nil, execute_runtimeError_nocol env s q₂ e hs h0]
    cases s; dsimp only at h0; subst h0; rfl

theorem report_interrupt (env : Env) (q₁ q₂ : Nat) (s : Runtime) (hs : s.state = .interrupt) :
    execList env (reportQuanta s q₁ q₂) s =
      ({ s with state := .stopped, printCol := 0 },
       (if s.printCol > 0 then [.print ['\n']] else []) ++ [.errors [breakError s]]) := by
  rw [← report_runtimeError env q₁ q₂ { s with state := .runtimeError (breakError s) } _ rfl]
  -- the first call sees the state `interrupt` as the error BREAK
  have hq : ∀ q qs, execList env (q :: qs) s =
      execList env (q :: qs) { s with state := .runtimeError (breakError s) } := fun q qs => by
    rw [execList_cons, execList_cons, execute_interrupt env s q hs]
  unfold reportQuanta
  dsimp only
  split <;> exact hq _ _

theorem execList_at_prompt (env : Env) (qs : List Nat) (s : Runtime)
    (hs : s.state = .stopped) (he : s.entryAddress = 0) :
    execList env qs s = (s, List.replicate qs.length .stopped) := by
  induction qs with
  | nil => rfl
  | cons q qs ih => rw [execList_cons, execute_stopped env s q hs he]; dsimp only; rw [ih]; rfl

theorem execList_to_prompt (env : Env) (qs : List Nat) (s : Runtime)
    (hs : s.state = .stopped) (he : s.entryAddress ≠ 0) (hc : s.printCol = 0) :
    execList env qs s =
      (match qs with
       | [] => (s, [])
       | _ :: rest => ({ s with entryAddress := 0 }, .print (promptLine s) :: List.replicate rest.length .stopped)) := by
  cases qs with
  | nil => rfl
  | cons q rest =>
    rw [execList_cons, execute_stopped_prompt env s q hs he]
    dsimp only
    rw [execList_at_prompt env rest { s with entryAddress := 0, printCol := 0 } hs rfl]
    dsimp only
    rw [if_neg (by omega)]
    cases s; dsimp only at hc; subst hc; rfl

/-- the inspection failed: a runtime error (which clears the continuation when reported) -/
def Failed (w : Runtime) : Prop := ∃ e, w.state = .runtimeError e

theorem execList_keeps {P : Runtime → Prop} (env : Env)
    (hstep : ∀ w q, P w → P (execute env w q).1 ∨ Failed (execute env w q).1) (qs : List Nat) (w : Runtime)
    (hw : P w) : P (execList env qs w).1 ∨ ∃ k, k ≤ qs.length ∧ Failed (execList env (qs.take k) w).1 := by
  induction qs generalizing w with
  | nil => exact .inl hw
  | cons q qs ih =>
    rw [execList_cons]
    dsimp only
    rcases hstep w q hw with h | h
    · rcases ih (execute env w q).1 h with h' | ⟨k, hk, hf⟩
      · exact .inl h'
      · refine .inr ⟨k + 1, by simp only [List.length_cons]; omega, ?_⟩
        rw [List.take_succ_cons, execList_cons]
        exact hf
    · refine .inr ⟨1, by simp only [List.length_cons]; omega, ?_⟩
      rw [List.take_succ_cons, List.take_zero, execList_cons, execList_nil]
      exact h

theorem run_step_cont_running (env : Env) (h : Bool) (v : Runtime) (htr : v.tron = false)
    (hop : v.program.link.ops[v.pc]? = some .cont) (hs : v.state = .running) (hc : v.cont = .running) :
    (step env h).run.run v = (.ok .continue, { v with cont := .stopped, pc := v.contPc }) := by
  rw [run_step env h v _ htr hop]
  rw [execOp_cont_run]
  dsimp only
  rw [if_neg (by rw [hc]; nofun), if_pos hs, if_pos hc, hc]
  cases v; dsimp only at hs; subst hs; rfl

theorem execute_cont_succ (env : Env) (v : Runtime) (m : Nat) (htr : v.tron = false)
    (hd : v.listing.directErrors = [])
    (hop : v.program.link.ops[v.pc]? = some .cont) (hs : v.state = .running) (hc : v.cont = .running) :
    execute env v (m + 1) = execute env { v with cont := .stopped, pc := v.contPc } m := by
  rw [execute_running env v (m + 1) hs hd,
    execute_running env { v with cont := .stopped, pc := v.contPc } m hs hd, executeLoop_run, executeLoop_run]
  unfold slice
  rw [sliceRun_succ, run_step_cont_running env _ v htr hop hs hc]
  rfl

/-- the program after the direct line `CONT` was compiled onto `p` -/
def contProgram (p : Program) : Program := (p.codegenLine contLine).linkProg

theorem directOf_contProgram (p : Program) (h : Program.Linked p)
    (hsize : p.directAddress + 3 ≤ Gen.stackMaxLen) (hdata : p.link.data.size ≤ Gen.stackMaxLen) :
    Program.DirectOf p #[.cont] (contProgram p) :=
  Program.directOf_codegenLine p h contLine #[.cont] Program.plainLine_cont hsize hdata

theorem enter_cont_stopped (env : Env) (hlex : LexCont env) (w : Runtime)
    (hs : w.state = .stopped) (hd : w.dirty = false) (hl : Program.Linked w.program)
    (hsize : w.program.directAddress + 3 ≤ Gen.stackMaxLen)
    (hdata : w.program.link.data.size ≤ Gen.stackMaxLen) :
    enter env w "CONT".toList =
      { w with program := contProgram w.program, pc := w.program.directAddress, tr := none,
               entryAddress := w.program.directAddress,
               listing := { w.listing with indirectErrors := w.program.indirectErrors, directErrors := [] },
               state := .running } := by
  rw [enter_cont env hlex w (by rw [hs]; nofun) (by rw [hs]; nofun)]
  exact enterDirect_plain w contLine #[.cont] Program.plainLine_cont hd hl hsize hdata

/-- the state in which the program goes on after CONT: `s` itself but for the print column (0),
    the spent continuation, the trace marker, and the recompiled direct code -/
def resumed (s : Runtime) : Runtime :=
  { s with cont := .stopped, contPc := s.pc, printCol := 0, tr := none, program := contProgram s.program }

/-- the state after the break report: `s` stopped at column 0 with the continuation
    `(running, s.pc)`; `ea` is `s.entryAddress` before READY is printed and 0 after -/
def broken (s : Runtime) (ea : Nat) : Runtime :=
  { s with state := .stopped, cont := .running, contPc := s.pc, printCol := 0, entryAddress := ea }

/-- the state in which the program goes on when CONT is entered at `w` -/
def contStart (w : Runtime) : Runtime :=
  { w with program := contProgram w.program, pc := w.contPc, tr := none, cont := .stopped,
           entryAddress := w.program.directAddress,
           listing := { w.listing with indirectErrors := w.program.indirectErrors, directErrors := [] },
           state := .running }

/-- the line `CONT`, then the instruction `Cont`: the program goes on in `contStart w`; with the
    quantum 1 the slice ends right there, with a larger one it goes on with the rest -/
theorem cont_departs (env : Env) (hlex : LexCont env) (w : Runtime)
    (hs : w.state = .stopped) (hc : w.cont = .running) (hd : w.dirty = false) (ht : w.tron = false)
    (hl : Program.Linked w.program)
    (hsize : w.program.directAddress + 3 ≤ Gen.stackMaxLen)
    (hdata : w.program.link.data.size ≤ Gen.stackMaxLen) :
    execute env (enter env w "CONT".toList) 1 = (contStart w, .running) ∧
    ∀ m, execute env (enter env w "CONT".toList) (m + 1) = execute env (contStart w) m := by
  have h : ∀ m, execute env (enter env w "CONT".toList) (m + 1) = execute env (contStart w) m := fun m => by
    rw [enter_cont_stopped env hlex w hs hd hl hsize hdata]
    exact execute_cont_succ env _ m ht rfl ((directOf_contProgram w.program hl hsize hdata).direct 0 (by decide)) rfl hc
  refine ⟨?_, h⟩
  rw [h 0, execute_running env _ 0 rfl rfl]
  exact finishLoop_ok_running _

theorem contStart_broken (s : Runtime) (ea : Nat)
    (hentry : s.entryAddress = s.program.directAddress)
    (hde : s.listing.directErrors = []) (hie : s.listing.indirectErrors = s.program.indirectErrors)
    (hrun : s.state = .running) : contStart (broken s ea) = resumed s := by
  unfold resumed contStart broken
  obtain ⟨prompt, listing, dirty, program, pc, tr, tron, ea, stack, vars, state, cont, contPc, printCol,
    rand, functions⟩ := s
  obtain ⟨source, ie, de, rooted⟩ := listing
  dsimp only at hentry hde hie hrun ⊢
  subst hentry hde hie hrun
  rfl

theorem prompt_after_report (env : Env) (s : Runtime) (qs : List Nat) (he : s.entryAddress ≠ 0) :
    execList env qs (broken s s.entryAddress) =
      (broken s (if qs.isEmpty then s.entryAddress else 0),
       match qs with
       | [] => []
       | _ :: rest => .print (promptLine s) :: List.replicate rest.length .stopped) := by
  rw [execList_to_prompt env qs (broken s s.entryAddress) rfl he rfl]
  cases qs <;> rfl

theorem execList_broken (env : Env) (qs : List Nat) (s : Runtime) (ea : Nat) :
    ∃ ea', (execList env qs (broken s ea)).1 = broken s ea' := by
  by_cases he : ea = 0
  · exact ⟨ea, by rw [execList_at_prompt env qs _ rfl he]⟩
  · rw [execList_to_prompt env qs (broken s ea) rfl he rfl]
    cases qs with
    | nil => exact ⟨ea, rfl⟩
    | cons q rest => exact ⟨0, rfl⟩

/-- `P` runs like `p` below `directAddress`: what `Sim` needs of two programs -/
structure SameBelow (p P : Program) : Prop where
  below : ∀ i, i < p.directAddress → P.link.ops[i]? = p.link.ops[i]?
  indirectErrors : P.indirectErrors = p.indirectErrors
  directAddress : P.directAddress = p.directAddress
  data : P.link.data = p.link.data
  dataPos : P.link.dataPos = p.link.dataPos
  lineNumberFor : ∀ a, P.link.lineNumberFor a = p.link.lineNumberFor a

theorem SameBelow.refl (p : Program) : SameBelow p p := ⟨fun _ _ => rfl, rfl, rfl, rfl, rfl, fun _ => rfl⟩

theorem SameBelow.trans {p q r : Program} (h1 : SameBelow p q) (h2 : SameBelow q r) : SameBelow p r :=
  ⟨fun i hi => (h2.below i (by rw [h1.directAddress]; exact hi)).trans (h1.below i hi),
   h2.indirectErrors.trans h1.indirectErrors, h2.directAddress.trans h1.directAddress,
   h2.data.trans h1.data, h2.dataPos.trans h1.dataPos,
   fun a => (h2.lineNumberFor a).trans (h1.lineNumberFor a)⟩

theorem SameBelow.of_directOf {p P : Program} {code : Array Opcode} (h : Program.DirectOf p code P) :
    SameBelow p P :=
  { h with }

/-- `w` is at the prompt and holds the continuation of the running state `s`: the state after a
    break report, possibly after direct-mode lines that kept all of this -/
structure BrokenLike (s w : Runtime) : Prop where
  state : w.state = .stopped
  cont : w.cont = .running
  contPc : w.contPc = s.pc
  stack : w.stack = s.stack
  vars : w.vars = s.vars
  functions : w.functions = s.functions
  rand : w.rand = s.rand
  prompt : w.prompt = s.prompt
  dirty : w.dirty = false
  tron : w.tron = false
  listing : w.listing = s.listing
  printCol : w.printCol = 0
  program : SameBelow s.program w.program
  linked : Program.Linked w.program

theorem brokenLike_broken (s : Runtime) (ea : Nat) (hd : s.dirty = false)
    (ht : s.tron = false) (hl : Program.Linked s.program) : BrokenLike s (broken s ea) :=
  ⟨rfl, rfl, rfl, rfl, rfl, rfl, rfl, rfl, hd, ht, rfl, rfl, SameBelow.refl _, hl⟩

end Runtime

namespace Thm.C13
open Basic.Runtime

/-- the BREAK report: `execute` once or twice, depending on the print column -/
def breakReport (env : Env) (n : Nat) (s : Runtime) : Runtime :=
  if s.printCol > 0 then (execute env (execute env s n).1 n).1 else (execute env s n).1

/-- the report changes `state` (to `stopped`) and `printCol` (to 0), nothing else: `cont`,
    `contPc`, the stack, the variables, `pc`, the program, the function table all survive -/
theorem break_report (env : Env) (n : Nat) (s : Runtime) (hs : s.state = .interrupt) :
    breakReport env n s = { s with state := .stopped, printCol := 0 } := by
  have h : breakReport env n s = (execList env (reportQuanta s n n) s).1 := by
    unfold breakReport reportQuanta
    split <;> rfl
  rw [h, report_interrupt env n n s hs]

def execN (env : Env) (n : Nat) : Nat → Runtime → Runtime
  | 0, s => s
  | k+1, s => execN env n k (execute env s n).1

theorem execN_succ (env : Env) (n k : Nat) (s : Runtime) :
    execN env n (k + 1) s = (execute env (execN env n k s) n).1 := by
  induction k generalizing s with
  | zero => rfl
  | succ k ih => exact ih (execute env s n).1

/-- the standing hypotheses on a running program that is going to be stopped and continued -/
structure Resumable (s : Runtime) : Prop where
  running : s.state = .running
  entry : s.entryAddress = s.program.directAddress
  clean : s.dirty = false
  troff : s.tron = false
  noDirectErrors : s.listing.directErrors = []
  indirectErrors : s.listing.indirectErrors = s.program.indirectErrors
  linked : Program.Linked s.program
  codeRoom : s.program.directAddress + 3 ≤ Gen.stackMaxLen
  dataRoom : s.program.link.data.size ≤ Gen.stackMaxLen

/-- the standing hypotheses read `state`, `entryAddress`, `dirty`, `tron`, the listing and the program, nothing
    else: not `pc`, the stack, the variables or the print column -/
theorem Resumable.congr {s t : Runtime} (hr : Resumable s) (h1 : t.state = s.state)
    (h2 : t.entryAddress = s.entryAddress) (h3 : t.dirty = s.dirty) (h4 : t.tron = s.tron)
    (h5 : t.listing = s.listing) (h6 : t.program = s.program) : Resumable t := by
  obtain ⟨r1, r2, r3, r4, r5, r6, r7, r8, r9⟩ := hr
  rw [← h1, ← h2, ← h3, ← h4, ← h5, ← h6] at *
  exact ⟨r1, r2, r3, r4, r5, r6, r7, r8, r9⟩

theorem Resumable.at_pc {s : Runtime} (hr : Resumable s) (pc : Nat) : Resumable { s with pc := pc } :=
  hr.congr rfl rfl rfl rfl rfl rfl

theorem Resumable.cont_resumes {s : Runtime} (hr : Resumable s) (env : Env) (hlex : LexCont env)
    (ea : Nat) (qs : List Nat) :
    execute env (enter env (execList env qs (broken s ea)).1 "CONT".toList) 1 = (resumed s, .running) ∧
    ∀ m, execute env (enter env (execList env qs (broken s ea)).1 "CONT".toList) (m + 1) =
      execute env (resumed s) m := by
  obtain ⟨ea', hq⟩ := execList_broken env qs s ea
  rw [hq, ← contStart_broken s ea' hr.entry hr.noDirectErrors hr.indirectErrors hr.running]
  exact cont_departs env hlex _ rfl rfl hr.clean hr.troff hr.linked hr.codeRoom hr.dataRoom

end Thm.C13

namespace Runtime
open Thm.C13 (Resumable)

/-- the state in which the program goes on after CONT at `w`, which holds the continuation of `s`, is
    `≈ s`: `contStart` puts back `state`, `pc`, `entryAddress` and the diagnostics of the listing as
    the direct line that started `s` had left them -/
theorem contStart_sim (s w : Runtime) (col : Bool) (hcol : col = true → s.printCol = 0) (hr : Resumable s)
    (hw : BrokenLike s w) (hP : SameBelow w.program (contProgram w.program)) : Sim col s (contStart w) :=
  have hsb := hw.program.trans hP
  ⟨hw.prompt, by show ({ w.listing with indirectErrors := _, directErrors := [] } : Listing) = _
                 rw [hw.listing, hw.program.indirectErrors, ← hr.indirectErrors, ← hr.noDirectErrors],
    hw.dirty.trans hr.clean.symm, hw.contPc, hw.tron.trans hr.troff.symm,
    (fun h => by rw [hr.troff] at h; cases h),
    (hw.program.directAddress.trans hr.entry.symm : w.program.directAddress = _),
    hw.stack, hw.vars, hr.running.symm, hw.rand, hw.functions,
    fun h => hw.printCol.trans (hcol h).symm, hsb.indirectErrors, hsb.directAddress, hsb.data, hsb.dataPos,
    hsb.lineNumberFor, hsb.below⟩

theorem cont_from_brokenLike (env : Env) (hlex : LexCont env) (s w : Runtime) (col : Bool)
    (hcol : col = true → s.printCol = 0) (hr : Resumable s) (hw : BrokenLike s w) :
    execute env (enter env w "CONT".toList) 1 = (contStart w, .running) ∧
    (∀ m, execute env (enter env w "CONT".toList) (m + 1) = execute env (contStart w) m) ∧
    Sim col s (contStart w) := by
  have hsz : w.program.directAddress + 3 ≤ Gen.stackMaxLen := by rw [hw.program.directAddress]; exact hr.codeRoom
  have hdt : w.program.link.data.size ≤ Gen.stackMaxLen := by rw [hw.program.data]; exact hr.dataRoom
  obtain ⟨h1, h2⟩ := cont_departs env hlex w hw.state hw.cont hw.dirty hw.tron hw.linked hsz hdt
  exact ⟨h1, h2, contStart_sim s w col hcol hr hw (.of_directOf (directOf_contProgram w.program hw.linked hsz hdt))⟩

theorem run_step_stop (env : Env) (h : Bool) (s : Runtime) (htr : s.tron = false)
    (hop : s.program.link.ops[s.pc]? = some .stop) :
    (step env h).run.run s = (.error (Error.mk' Code.break), { s with pc := s.pc + 1 }) := by
  rw [run_step env h s _ htr hop]
  rfl

/-- STOP inside the program: `execute` records the CONT point *after* the STOP and enters the
    same `runtimeError BREAK` state as an interrupt does; stack, variables, functions untouched -/
theorem stop_saves (env : Env) (n : Nat) (s : Runtime)
    (hs : s.state = .running) (hd : s.listing.directErrors = []) (htr : s.tron = false)
    (hop : s.program.link.ops[s.pc]? = some .stop)
    (hpc : s.pc + 1 < s.entryAddress) (hfull : isFull s = false) :
    execute env s (n + 1) =
      ({ s with pc := s.pc + 1, cont := .running, contPc := s.pc + 1,
                state := .runtimeError ((Error.mk' Code.break).inLine (lineNumber { s with pc := s.pc + 1 })) },
       .running) := by
  rw [execute_running env s (n + 1) hs hd, executeLoop_run]
  have h1 : slice env (n + 1) s = (.error (Error.mk' Code.break), { s with pc := s.pc + 1 }, 1) := by
    unfold slice
    rw [sliceRun_succ, run_step_stop env _ s htr hop]
  rw [h1]
  have hge : decide (s.pc + 1 ≥ s.entryAddress) = false := by
    rw [decide_eq_false_iff_not]; omega
  show finishLoop (.error (Error.mk' Code.break)) { s with pc := s.pc + 1 } = _
  rw [finishLoop_error, if_neg (by rw [hs]; nofun), show isFull { s with pc := s.pc + 1 } = false from hfull]
  dsimp only
  rw [hge, hs]
  rfl

theorem run_step_end_inside (env : Env) (h : Bool) (s : Runtime) (htr : s.tron = false)
    (hop : s.program.link.ops[s.pc]? = some .end) (hpc : s.pc + 1 < s.entryAddress) :
    (step env h).run.run s =
      (.ok (.event .stopped),
       { s with pc := s.pc + 1, cont := s.state, contPc := s.pc + 1, state := .stopped }) := by
  rw [run_step env h s _ htr hop]
  show ((Except.ok (Step.event Event.stopped) : Except Error Step), doEnd { s with pc := s.pc + 1 }) = _
  simp only [doEnd_eq, hpc, if_true]

/-- END in the middle of a running program, as the next instruction of a slice: the program
    stops, READY is printed at once (after a line break if the column is not 0), and the
    continuation `(running, pc + 1)` is recorded -/
theorem end_saves (env : Env) (n : Nat) (s : Runtime)
    (hs : s.state = .running) (hd : s.listing.directErrors = []) (htr : s.tron = false)
    (hop : s.program.link.ops[s.pc]? = some .end) (hpc : s.pc + 1 < s.entryAddress) :
    execute env s (n + 1) =
      ({ s with pc := s.pc + 1, cont := .running, contPc := s.pc + 1, state := .stopped,
                entryAddress := 0, printCol := 0 },
       .print ((if s.printCol > 0 then ['\n'] else []) ++ promptLine s)) := by
  rw [execute_running env s (n + 1) hs hd, executeLoop_run]
  unfold slice
  rw [sliceRun_succ, run_step_end_inside env _ s htr hop hpc]
  dsimp only [toEvent]
  rw [finishLoop_stopped_prompt _ rfl (by show s.entryAddress ≠ 0; omega), hs]
  rfl

end Runtime
end Basic
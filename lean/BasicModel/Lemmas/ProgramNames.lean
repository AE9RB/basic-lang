import BasicModel.Lemmas.ParseNames
import BasicModel.Lemmas.CodegenNames
import BasicModel.Lemmas.Program
import BasicModel.Lemmas.LinkPass
/-
  Program memory: whatever is compiled from lines whose identifier tokens are `Letter1` has fine
  name operands (`ProgOk`).
-/
namespace Basic
open Lemmas.ParseNames Codegen

namespace Link

theorem opsOk_set {ops : Array Opcode} (h : OpsOk ops) (i : Nat) {op : Opcode} (ho : OpOk op) :
    OpsOk (ops.setIfInBounds i op) := by
  intro x hx
  rw [← Array.mem_def] at hx
  rcases Array.mem_or_eq_of_mem_setIfInBounds hx with hx | rfl
  · exact h x (Array.mem_def.1 hx)
  · exact ho

theorem opsOk_extract {ops : Array Opcode} (h : OpsOk ops) (i j : Nat) : OpsOk (ops.extract i j) :=
  fun x hx => h x (Codegen.mem_of_mem_extract hx)

theorem LinkOk.linkWhiles {l : Link} (h : LinkOk l) : LinkOk l.linkWhiles.1 := h

theorem LinkOk.link {l : Link} (h : LinkOk l) : LinkOk l.link.1 :=
  link_ops_inv (P := OpsOk) l (fun ops i op o d op' _ hp hi => opsOk_set hi _ (by
    rcases patched_some hp with rfl | rfl | rfl | rfl | rfl <;> trivial)) h

theorem LinkOk.clear (l : Link) : LinkOk l.clear := Codegen.opsOk_empty
theorem LinkOk.setStartOfDirect {l : Link} (h : LinkOk l) (a : Nat) : LinkOk (l.setStartOfDirect a) := h

end Link

namespace Program
open Link

/-- every name operand in program memory is fine -/
def ProgOk (p : Program) : Prop := p.link.LinkOk

theorem ProgOk.empty : ProgOk {} := LinkOk.empty
theorem ProgOk.clear (p : Program) : ProgOk p.clear := LinkOk.clear _

theorem ProgOk.pushEndP {p : Program} (h : ProgOk p) : ProgOk (pushEndP p) := by
  unfold ProgOk
  rw [pushEndP_link]
  exact LinkOk.push h trivial

theorem ProgOk.resolve {p : Program} (h : ProgOk p) : ProgOk (resolve p) := by
  unfold ProgOk
  rw [resolve_link]
  exact LinkOk.link h

theorem ProgOk.markDirect {p : Program} (h : ProgOk p) : ProgOk (markDirect p) := by
  unfold ProgOk LinkOk
  rw [(markDirect_fields p).1]
  exact h

theorem ProgOk.linkProg {p : Program} (h : ProgOk p) : ProgOk p.linkProg :=
  linkProg_ind p h (fun _ => .pushEndP) (fun _ => .resolve) (fun _ => .markDirect)

/-- the tokens of the line are fine -/
def LineOk (line : Line) : Prop := ToksOk line.tokens

theorem ProgOk.codegenLine {p : Program} (h : ProgOk p) {line : Line} (hl : LineOk line) :
    ProgOk (p.codegenLine line) := by
  refine codegenLine_ind p line h (fun _ => .linkProg) ?_ (fun _ _ _ hq => hq) ?_ (fun _ => .pushEndP)
  · intro q hq
    unfold startLine
    split
    · exact hq
    · exact opsOk_extract hq _ _
  · intro q ast hp hq
    exact codegen_linkOk q.link ast (parse_stmtsOk _ _ hl ast hp) hq

theorem ProgOk.codegenLines {p : Program} (h : ProgOk p) {lines : List Line} (hl : ∀ l ∈ lines, LineOk l) :
    ProgOk (p.codegenLines lines) :=
  List.foldlRecOn lines _ h fun _ hq l hl' => hq.codegenLine (hl l hl')

theorem compile_progOk (lines : List Line) (hl : ∀ l ∈ lines, LineOk l) : ProgOk (Program.compile lines) :=
  (ProgOk.empty.codegenLines hl).linkProg

end Program
end Basic

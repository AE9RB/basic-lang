import BasicModel.Lemmas.SpellingScan
import BasicModel.Lemmas.LexEval
/-
  C16: the aliases in arbitrary contexts — `?`/PRINT, `'`/REM, `GO TO`/GOTO, `GO SUB`/GOSUB — each
  between a junction `Cut (lineBody pre) A c` on the left and an arbitrary rest of the line on the
  right.

  Every alias theorem has the same three layers.  `lex_cut` reduces the line to the raw tokens
  `A ++ lexFrom (variant ++ post)`; a scanner fact says what the variant lexes to; and
  `postPasses_collapse` gives the line in a form that mentions only the ONE token `t` the variant
  stands for, `sepRec (G A ++ t :: G (trimEnd V))`, so that two variants of the same token agree.
-/
namespace Basic
namespace Lex

theorem G_cons_inert (t : Token) (X : List Token) (h : isInert t = true) : G (t :: X) = t :: G X := by
  have := G_split_inert [] t X h
  simpa [G_nil] using this

/-- the raw tokens of a line are those of a junction, `A`, then `M ++ [m]` for the variant, then `V`
    for the rest; if the collapse passes make the one token `t` of the variant, the line is
    `… t …`, whatever the variant was -/
theorem postPasses_collapse (A M : List Token) (m t : Token) (V : List Token) (hm : isSolid m = true)
    (hG : G (A ++ (M ++ m :: trimEnd V)) = G A ++ t :: G (trimEnd V)) :
    postPasses (A ++ (M ++ m :: V)) = sepRec (G A ++ t :: G (trimEnd V)) := by
  rw [postPasses_eq, ← List.append_assoc, trimEnd_append_solid _ m V hm, List.append_assoc, hG]

theorem postPasses_split (A : List Token) (t : Token) (V : List Token) (hi : isInert t = true)
    (hs : isSolid t = true) :
    postPasses (A ++ t :: V) = sepRec (G A ++ t :: G (trimEnd V)) :=
  postPasses_collapse A [] t t V hs (G_split_inert A t _ hi)

theorem sig_postPasses_split (A : List Token) (t : Token) (V : List Token) (hi : isInert t = true)
    (hs : isSolid t = true) :
    sig (postPasses (A ++ t :: V)) = sig (G A) ++ t :: sig (G (trimEnd V)) := by
  have hb : isBlank t = false := by
    simp only [isInert, Bool.and_eq_true, Bool.not_eq_true'] at hi; exact hi.1.1.1
  rw [postPasses_split A t V hi hs, sig_sepRec, sig_append, sig_cons_solid t _ hb]

theorem sig_postPasses_blank_after (A : List Token) (t : Token) (n : Nat) (V : List Token)
    (hi : isInert t = true) (hs : isSolid t = true) :
    sig (postPasses (A ++ t :: .whitespace n :: V)) = sig (postPasses (A ++ t :: V)) := by
  rw [sig_postPasses_split A t _ hi hs, sig_postPasses_split A t _ hi hs, sig_G_trimEnd_blank]

theorem postPasses_go (A V : List Token) (n : Nat) (x t : Token)
    (ht : tripleMatch (.ident (.plain "GO".toList)) (.whitespace n) x = some t)
    (hx : isBlank x = false ∧ isRawCmp x = false ∧ isGoHead x = false ∧ isSolid x = true) :
    postPasses (A ++ .ident (.plain "GO".toList) :: .whitespace n :: x :: V) =
      sepRec (G A ++ t :: G (trimEnd V)) :=
  postPasses_collapse A [_, _] x t V hx.2.2.2
    (G_between A [_, _, x] _ t (Seam.of_right A _ _ rfl rfl rfl) (Seam.of_left [_, _] x _ hx.1 hx.2.1 hx.2.2.1)
      (G_window _ x t n ht))

theorem dropWhile_isWs_append (sep post : List Char) (h : ∀ c ∈ sep, isWs c = true) :
    (sep ++ post).dropWhile isWs = post.dropWhile isWs :=
  List.dropWhile_append_of_pos h

theorem lexFrom_blanks (sep : List Char) (h : ∀ c ∈ sep, isWs c = true) (hne : sep ≠ []) (post : List Char) :
    ∃ (k : Nat) (V : List Token), lexFrom (sep ++ post) false = .whitespace k :: V ∧
      (lexFrom post false = V ∨ ∃ j, lexFrom post false = .whitespace j :: V) := by
  cases sep with
  | nil => contradiction
  | cons c sep =>
    have hc := h c (by simp)
    refine ⟨1 + (List.takeWhile isWs (sep ++ post)).length, lexFrom ((post.dropWhile isWs)) false, ?_, ?_⟩
    · rw [List.cons_append, lexFrom_ws c _ hc]
      simp only [whitespace]
      rw [dropWhile_isWs_append sep post (fun x hx => h x (by simp [hx]))]
    · cases post with
      | nil => left; rfl
      | cons d post' =>
        by_cases hd : isWs d = true
        · right
          refine ⟨1 + (List.takeWhile isWs post').length, ?_⟩
          rw [lexFrom_ws d _ hd]
          simp only [whitespace, List.dropWhile_cons, hd, if_true]
        · left
          simp [hd]

theorem lexFrom_blanks_solid (sep : List Char) (h : ∀ c ∈ sep, isWs c = true) (hne : sep ≠ [])
    (post : List Char) (hd : ∀ c ∈ post.head?, isWs c = false) :
    ∃ k, lexFrom (sep ++ post) false = .whitespace k :: lexFrom post false :=
  ⟨_, lexFrom_blankRun sep h hne post hd⟩

theorem sig_tail_blanks (sep post : List Char) (h : ∀ c ∈ sep, isWs c = true) :
    sig (G (trimEnd (lexFrom (sep ++ post) false))) = sig (G (trimEnd (lexFrom post false))) := by
  by_cases hne : sep = []
  · subst hne; rfl
  · obtain ⟨k, V, e, hv⟩ := lexFrom_blanks sep h hne post
    rw [e, sig_G_trimEnd_blank]
    rcases hv with hv | ⟨j, hv⟩
    · rw [hv]
    · rw [hv, sig_G_trimEnd_blank]

theorem lexFrom_word (w : Word) (hw : w ≠ .rem2) (rest : List Char)
    (hb : ∀ c ∈ rest.head?, isAlpha c = false) :
    lexFrom (w.text ++ rest) false = .word w :: lexFrom rest (Token.word w == .word .rem1) :=
  lexFrom_keyword_na (w.text, .word w) (word_in_keywords w hw) rest hb

theorem alphaBoundary_of_blanks (blanks rest : List Char) (h : ∀ c ∈ blanks, isWs c = true)
    (hne : blanks ≠ []) : AlphaBoundary (blanks ++ rest) := by
  cases blanks with
  | nil => contradiction
  | cons b bs =>
    intro x hx
    cases hx
    have hb := h b (by simp)
    simp only [isWs, Bool.or_eq_true, decide_eq_true_eq] at hb
    rcases hb with rfl | rfl <;> decide

theorem noKeyword_GO : NoKeyword "GO".toList := .of_chars (by decide +kernel)

theorem noKeyword_SUB : NoKeyword "SUB".toList := .of_chars (by decide +kernel)

/-- `GO` and `SUB` are not reserved words: in front of a boundary they are names -/
theorem lexFrom_GO (rest : List Char) (hb : AlphaBoundary rest) :
    lexFrom ("GO".toList ++ rest) false = .ident (.plain "GO".toList) :: lexFrom rest false :=
  lexFrom_name ⟨"GO".toList, [], none⟩ ⟨by decide, by decide, by decide, by decide, noKeyword_GO⟩ rest
    (fun _ => hb)

theorem lexFrom_SUB (rest : List Char) (hb : AlphaBoundary rest) :
    lexFrom ("SUB".toList ++ rest) false = .ident (.plain "SUB".toList) :: lexFrom rest false :=
  lexFrom_name ⟨"SUB".toList, [], none⟩ ⟨by decide, by decide, by decide, by decide, noKeyword_SUB⟩ rest
    (fun _ => hb)

/-- what may follow `PRINT` when no blank separates them: anything but a letter (a letter would be
    crunched together with the word: `PRINTREM` does not start a remark, `?REM` does) -/
def PrintSep (sep post : Str) : Prop :=
  (∀ c ∈ sep, isWs c = true) ∧ (sep = [] → ∀ c ∈ post.head?, isAlpha c = false)

theorem print_alias (pre post sep : Str) (A : List Token) (hq : Cut (lineBody pre) A '?')
    (hp : Cut (lineBody pre) A 'P') (hs : PrintSep sep post) :
    (lex (pre ++ '?' :: post)).1 = (lex (pre ++ ("PRINT".toList ++ (sep ++ post)))).1 ∧
    sig (lex (pre ++ '?' :: post)).2 = sig (lex (pre ++ ("PRINT".toList ++ (sep ++ post)))).2 := by
  have hhead : ∀ c ∈ (sep ++ post).head?, isAlpha c = false := by
    cases sep with
    | nil => exact hs.2 rfl
    | cons d sep' =>
      intro c hc
      cases hc
      cases ha : isAlpha d with
      | false => rfl
      | true => have := not_isWs_of_isAlpha d ha; rw [hs.1 d (by simp)] at this; cases this
  have h1 : lexFrom ('?' :: post) false = .word .print :: lexFrom post false :=
    lexFrom_minutia_one '?' post _ rfl
  have h2 : lexFrom ("PRINT".toList ++ (sep ++ post)) false = .word .print :: lexFrom (sep ++ post) false :=
    lexFrom_word .print (by decide) _ hhead
  rw [lex_cut hq rfl rfl, lex_cut_word hp rfl rfl "PRINT".toList _ rfl, h1, h2]
  dsimp only
  rw [sig_postPasses_split A _ _ rfl rfl, sig_postPasses_split A _ _ rfl rfl, sig_tail_blanks sep post hs.1]
  exact ⟨rfl, rfl⟩

/-- what `separate_words` puts in front of a token depends on that token only through `isWord`; `'` and `REM` are both
    word-like, so the two spellings of a remark get the same blanks -/
theorem sepRec_mid (Y U : List Token) (b : Bool) (hU : ∀ u ∈ U.head?, u.isWord = false) :
    ∃ X, ∀ t : Token, t.isWord = b → sepRec (Y ++ t :: U) = X ++ t :: sepRec U := by
  induction Y with
  | nil =>
    refine ⟨[], fun t _ => ?_⟩
    cases U with
    | nil => rfl
    | cons u U' => simp [sepRec, hU u rfl]
  | cons a Y ih =>
    obtain ⟨X, hX⟩ := ih
    cases Y with
    | nil =>
      refine ⟨if a.isWord && b then a :: .whitespace 1 :: X else a :: X, fun t ht => ?_⟩
      have := hX t ht
      simp only [List.nil_append] at this
      simp only [List.cons_append, List.nil_append, sepRec, ht, this]
      split <;> rfl
    | cons c Y' =>
      refine ⟨if a.isWord && c.isWord then a :: .whitespace 1 :: X else a :: X, fun t ht => ?_⟩
      have := hX t ht
      simp only [List.cons_append] at this
      simp only [List.cons_append, sepRec, this]
      split <;> rfl

/-- the remark text as it is kept: trailing white space trimmed, nothing at all if nothing is left -/
def remarkTail (post : Str) : List Token :=
  if (trimEndStr post).isEmpty then [] else [.unknown (trimEndStr post)]

theorem trimEnd_remark (post : Str) : trimEnd (lexFrom post true) = remarkTail post := by
  cases post with
  | nil => simp [remarkTail, trimEnd, trimEndRev, trimEndStr]
  | cons c cs =>
    rw [lexFrom_remark _ (by simp)]
    simp only [trimEnd, List.reverse_cons, List.reverse_nil, List.nil_append, trimEndRev, remarkTail]
    split <;> simp

theorem remarkTail_inert (post : Str) :
    (∀ u ∈ (remarkTail post).head?, u.isWord = false) ∧ G (remarkTail post) = remarkTail post ∧
      sepRec (remarkTail post) = remarkTail post := by
  unfold remarkTail
  split
  · exact ⟨fun u hu => (by cases hu), rfl, rfl⟩
  · exact ⟨fun u hu => (by cases hu; rfl), rfl, rfl⟩

theorem rem_alias (pre post : Str) (A : List Token) (hq : Cut (lineBody pre) A '\'')
    (hr : Cut (lineBody pre) A 'R') (hb : ∀ c ∈ post.head?, isAlpha c = false) :
    (lex (pre ++ '\'' :: post)).1 = (lex (pre ++ ("REM".toList ++ post))).1 ∧
    ∃ X, (lex (pre ++ '\'' :: post)).2 = X ++ .word .rem2 :: remarkTail post ∧
      (lex (pre ++ ("REM".toList ++ post))).2 = X ++ .word .rem1 :: remarkTail post := by
  have h1 : lexFrom ('\'' :: post) false = .word .rem2 :: lexFrom post true :=
    lexFrom_minutia_one '\'' post _ rfl
  have h2 : lexFrom ("REM".toList ++ post) false = .word .rem1 :: lexFrom post true :=
    lexFrom_word .rem1 (by decide) post hb
  obtain ⟨hU, hG, hS⟩ := remarkTail_inert post
  obtain ⟨X, hX⟩ := sepRec_mid (G A) (remarkTail post) true hU
  rw [hS] at hX
  rw [lex_cut hq rfl rfl, lex_cut_word hr rfl rfl "REM".toList _ rfl, h1, h2]
  dsimp only
  rw [postPasses_split A _ _ rfl rfl, postPasses_split A _ _ rfl rfl, trimEnd_remark, hG]
  exact ⟨rfl, X, hX (.word .rem2) rfl, hX (.word .rem1) rfl⟩

theorem goto_alias (pre post blanks : Str) (A : List Token) (hg : Cut (lineBody pre) A 'G')
    (hbl : ∀ c ∈ blanks, isWs c = true) (hne : blanks ≠ [])
    (hpost : ∀ c ∈ post.head?, isAlpha c = false) :
    lex (pre ++ ("GO".toList ++ (blanks ++ ("TO".toList ++ post)))) = lex (pre ++ ("GOTO".toList ++ post)) := by
  obtain ⟨k, hk⟩ := lexFrom_blanks_solid blanks hbl hne ("TO".toList ++ post) (fun c hc => by cases hc; rfl)
  have h1 : lexFrom ("TO".toList ++ post) false = .word .to :: lexFrom post false :=
    lexFrom_word .to (by decide) post hpost
  have h2 : lexFrom ("GOTO".toList ++ post) false = .word .goto :: lexFrom post false :=
    lexFrom_word .goto (by decide) post hpost
  rw [lex_cut_word hg rfl rfl "GO".toList _ rfl, lex_cut_word hg rfl rfl "GOTO".toList _ rfl,
    lexFrom_GO _ (alphaBoundary_of_blanks blanks _ hbl hne), hk, h1, h2,
    postPasses_go A _ k _ (.word .goto) rfl ⟨rfl, rfl, rfl, rfl⟩, postPasses_split A _ _ rfl rfl]

theorem gosub_alias (pre post blanks : Str) (A : List Token) (hg : Cut (lineBody pre) A 'G')
    (hbl : ∀ c ∈ blanks, isWs c = true) (hne : blanks ≠ []) (hpost : AlphaBoundary post) :
    lex (pre ++ ("GO".toList ++ (blanks ++ ("SUB".toList ++ post)))) = lex (pre ++ ("GOSUB".toList ++ post)) := by
  obtain ⟨k, hk⟩ := lexFrom_blanks_solid blanks hbl hne ("SUB".toList ++ post) (fun c hc => by cases hc; rfl)
  have h2 : lexFrom ("GOSUB".toList ++ post) false = .word .gosub :: lexFrom post false :=
    lexFrom_word .gosub (by decide) post (fun c hc => (hpost c hc).1)
  rw [lex_cut_word hg rfl rfl "GO".toList _ rfl, lex_cut_word hg rfl rfl "GOSUB".toList _ rfl,
    lexFrom_GO _ (alphaBoundary_of_blanks blanks _ hbl hne), hk, lexFrom_SUB post hpost, h2,
    postPasses_go A _ k _ (.word .gosub) rfl ⟨rfl, rfl, rfl, rfl⟩, postPasses_split A _ _ rfl rfl]

end Lex
end Basic

import BasicModel.Lemmas.LexStable
/-
  C16, post-pass part: the four post-passes of the lexer seen through `sig` (the token list without blank runs, which is
  all the parser looks at).  The two collapse passes, `G` of Lemmas/LexStable, split at every seam, in particular at every
  token that is not a blank, a comparison character, `GO`, `TO` or `SUB`; raw tokens between two seams that collapse to
  one token count as that token (`G_between`), which is how every respelled operator or word is treated.  `trim_end`
  only looks at the end of the line; `separate_words` only inserts blanks.
-/
namespace Basic
namespace Lex

/-- the significant tokens of a line: everything but the blank runs (`BasicParser::next` skips them) -/
def sig (ts : List Token) : List Token := ts.filter (fun t => !isBlank t)

@[simp] theorem sig_nil : sig [] = [] := rfl

theorem sig_append (a b : List Token) : sig (a ++ b) = sig a ++ sig b := by
  simp [sig]

theorem sig_cons_blank (n : Nat) (ts : List Token) : sig (.whitespace n :: ts) = sig ts := by
  simp [sig, isBlank]

theorem sig_cons_solid (t : Token) (ts : List Token) (h : isBlank t = false) : sig (t :: ts) = t :: sig ts := by
  simp [sig, h]

theorem sig_sig (ts : List Token) : sig (sig ts) = sig ts := by
  simp [sig, List.filter_filter]

theorem sig_sepRec (ts : List Token) : sig (sepRec ts) = sig ts := by
  induction ts with
  | nil => rfl
  | cons a ts ih =>
    cases ts with
    | nil => rfl
    | cons b rest =>
      simp only [sepRec]
      split
      · cases ha : isBlank a with
        | true => cases a <;> simp [isBlank] at ha; rw [sig_cons_blank, sig_cons_blank, sig_cons_blank, ih]
        | false => rw [sig_cons_solid a _ ha, sig_cons_blank, ih, sig_cons_solid a _ ha]
      · cases ha : isBlank a with
        | true => cases a <;> simp [isBlank] at ha; rw [sig_cons_blank, sig_cons_blank, ih]
        | false => rw [sig_cons_solid a _ ha, ih, sig_cons_solid a _ ha]

theorem tripleMatch_blank_third (x y z : Token) (h : isBlank z = true) : tripleMatch x y z = none := by
  cases z <;> simp [isBlank] at h
  exact tripleMatch_none_of_ends x y _ (Bool.and_false _) (Bool.and_false _)

theorem dblRec_cons_of_not_raw (t : Token) (X : List Token) (h : isRawCmp t = false) :
    dblRec (t :: X) = t :: dblRec X := by
  cases X with
  | nil => rfl
  | cons x X => simp only [dblRec, doubleMatch_none_left t x h]

theorem postPasses_eq (ts : List Token) : postPasses ts = sepRec (G (trimEnd ts)) := by
  simp only [postPasses, collapseTriples_eq, collapseDoubles_eq, separateWords_eq, G]

theorem sig_postPasses (ts : List Token) : sig (postPasses ts) = sig (G (trimEnd ts)) := by
  rw [postPasses_eq, sig_sepRec]

theorem G_between (A M V : List Token) (t : Token) (hl : Seam A (M ++ V)) (hr : Seam M V) (hM : G M = [t]) :
    G (A ++ (M ++ V)) = G A ++ t :: G V := by
  rw [G_append A _ hl, G_append M V hr, hM]; rfl

theorem G_window (x y t : Token) (n : Nat) (ht : tripleMatch x (.whitespace n) y = some t) :
    G [x, .whitespace n, y] = [t] := by
  simp only [G, triRec, ht, List.tail_cons, dblRec]

/-- a token that cannot be the second or third of a firing window, nor the second of a pair -/
theorem Seam.of_right (A : List Token) (t : Token) (B : List Token) (h1 : isBlank t = false)
    (h2 : isRawCmp t = false) (h3 : isGoTail t = false) : Seam A (t :: B) := by
  refine ⟨?_, ?_, ?_⟩
  · intro P x y z _ hz
    simp at hz; subst hz
    exact tripleMatch_none_of_ends x y t (by simp [h2]) (by simp [h3])
  · intro x y z B' _ e
    simp at e; obtain ⟨rfl, -⟩ := e
    exact tripleMatch_none_of_not_blank x t z h1
  · intro a b _ hb
    simp at hb; subst hb
    exact doubleMatch_none_right a t h2

/-- a token that cannot be the first or second of a firing window, nor the first of a pair -/
theorem Seam.of_left (A : List Token) (t : Token) (B : List Token) (h1 : isBlank t = false)
    (h2 : isRawCmp t = false) (h3 : isGoHead t = false) : Seam (A ++ [t]) B := by
  refine ⟨?_, ?_, ?_⟩
  · intro P x y z e _
    have : y = t := by
      have := congrArg List.getLast? e
      simp at this; exact this.symm
    subst this
    exact tripleMatch_none_of_not_blank x y z h1
  · intro x y z B' e _
    simp at e; subst e
    exact tripleMatch_none_of_ends t y z (by simp [h2]) (by simp [h3])
  · intro a b e _
    simp at e; subst e
    exact doubleMatch_none_left t b h2

theorem G_nil : G [] = [] := rfl

/-- a token that takes no part in the collapse passes: they work on both sides independently -/
def isInert (t : Token) : Bool := !isBlank t && !isRawCmp t && !isGoHead t && !isGoTail t

theorem G_split_inert (A : List Token) (t : Token) (B : List Token) (h : isInert t = true) :
    G (A ++ t :: B) = G A ++ t :: G B := by
  simp only [isInert, Bool.and_eq_true, Bool.not_eq_true'] at h
  obtain ⟨⟨⟨h1, h2⟩, h3⟩, h4⟩ := h
  exact G_between A [t] B t (Seam.of_right A t B h1 h2 h4) (Seam.of_left [] t B h1 h2 h3) rfl

theorem G_cons_blank (n : Nat) (X : List Token) : G (.whitespace n :: X) = .whitespace n :: G X := by
  unfold G
  rw [triRec_cons_of_none _ X (fun y z _ _ => tripleMatch_blank_first _ y z rfl), dblRec_cons_of_not_raw _ _ rfl]

/-- a token at which `trim_end` stops -/
def isSolid : Token → Bool
  | .whitespace _ | .unknown _ => false
  | _ => true

theorem trimEndRev_solid (t : Token) (M : List Token) (h : isSolid t = true) : trimEndRev (t :: M) = t :: M := by
  cases t <;> first | (simp [isSolid] at h; done) | simp [trimEndRev]

theorem trimEndRev_append_solid (L : List Token) (t : Token) (M : List Token) (h : isSolid t = true) :
    trimEndRev (L ++ t :: M) = trimEndRev L ++ t :: M := by
  induction L with
  | nil => simp [trimEndRev_solid t M h, trimEndRev]
  | cons x L ih =>
    cases x with
    | whitespace n => simpa [trimEndRev] using ih
    | unknown s =>
      simp only [List.cons_append, trimEndRev]
      split
      · exact ih
      · simp
    | _ => simp [trimEndRev]

theorem trimEnd_append_solid (A : List Token) (t : Token) (B : List Token) (h : isSolid t = true) :
    trimEnd (A ++ t :: B) = A ++ t :: trimEnd B := by
  simp only [trimEnd, List.reverse_append, List.reverse_cons, List.append_assoc, List.cons_append,
    List.nil_append]
  rw [trimEndRev_append_solid _ t _ h]
  simp

theorem sig_G_trimEnd_blank (n : Nat) (X : List Token) :
    sig (G (trimEnd (.whitespace n :: X))) = sig (G (trimEnd X)) := by
  rw [trimEnd_cons]
  split
  · rename_i h; rw [h]; simp [trimEnd, trimEndRev, G, triRec, dblRec]
  · rw [G_cons_blank, sig_cons_blank]

end Lex
end Basic

import BasicModel.Lemmas.Execute
/-
  `enter` walked once (`enter_frame`): a frame relation kept by the updates of the footprint and by what a
  direct and a numbered line do is kept by `enter`.  `SessionInv`: what a predicate has to satisfy to be
  kept by every call of the API, hence to hold after every list of calls (`Thm.C03.Call`,
  `SessionInv.reachable`); `NoIntro` is the first instance.
-/
namespace Basic
namespace Runtime

/-- the action inside `doInputReply`: its `let m : RM Unit := do …`, verbatim, so that the two are
    the same term and `Acts` can be an instance -/
def replyPush (fs : List Str) : RM Unit := do
  let st ← get
  push (.ret st.pc)
  for f in fs.reverse do
    push (.str f)
  modify fun s => { s with state := .inputRunning }

section
variable {env : Env} {K : Kind → Prop}

instance (fs : List Str) : Acts env (replyPush fs) [.stack, .state] := ⟨by unfold replyPush; does⟩

theorem doInputReply_eff (hk : K .stack) (hs : K .state) (s : Runtime) (str : Str) :
    Eff env K s (doInputReply s str).1 := by
  unfold doInputReply
  split
  · dsimp only
    split
    · exact .prim (.resched s .inputRedo s.cont s.contPc s.pc (.inr (.inr ⟨nofun, trivial⟩)) (.inr (.inl rfl))) hs
    · rename_i fs _
      have := (Acts.frame (env := env) (m := replyPush fs) (Among.pair hk hs)).run s
      show Eff env K s (match (replyPush fs).run.run s with | (r, s') => (s', r)).1
      generalize (replyPush fs).run.run s = x at this ⊢
      exact this
  · exact .refl s

end

theorem doInputReply_no_fault (s : Runtime) (str : Str) (e : Error) (he : (doInputReply s str).2 = .error e) :
    e.isFault = false := by
  unfold doInputReply at he
  split at he
  · dsimp only at he
    split at he
    · cases he
    · rename_i fs _
      have h2 := fun e => Acts.no_fault (env := default) (m := replyPush fs) (s := s) (e := e)
      change (match (replyPush fs).run.run s with | (r, s') => (s', r)).2 = .error e at he
      generalize (replyPush fs).run.run s = x at h2 he
      exact h2 e he
  · cases he; rfl

/-- `enter`, for a relation that holds of every update and of what a direct and a numbered line
    do: a reply to INPUT or INKEY$ pushes values (a failure is recorded after CLEAR, and is no
    fault); a line too long is recorded as an error; a direct line is compiled, a numbered one
    stored -/
theorem enter_frame {R : Runtime → Runtime → Prop} [FrameRel R] (env : Env) (s : Runtime) (str : Str)
    (hp : ∀ {k s t}, Prim env k s t → R s t)
    (hd : (env.lex str).number = none → R s (enterDirect s (env.lex str)))
    (hi : R s (enterIndirect s (env.lex str))) : R s (enter env s str) := by
  have he : ∀ {s t}, Eff env Kind.any s t → R s t := Eff.to_all hp
  have herr : ∀ t e, e.isFault = false → R t { doClear env t with state := .runtimeError e } := fun t e h =>
    he (.trans (.prim (.clear t) trivial) (by sched))
  unfold enter
  split
  · dsimp only
    refine FrameRel.trans ?_ (hp (.col _ 0))
    split
    · exact he (by sched)
    · have hk : R s (doInputReply s str).1 := he (doInputReply_eff trivial trivial s str)
      have hf := doInputReply_no_fault s str
      generalize doInputReply s str = x at hk hf ⊢
      rcases x with ⟨s', r⟩
      cases r with
      | ok u => exact hk
      | error e => exact FrameRel.trans hk (herr s' e (hf e rfl))
  · dsimp only
    have hq : R s ((push (Val.str (if RStd.utf8Len str > Gen.maxLineLen then [] else str))).run.run s).2 :=
      he ((Acts.frame (m := push _) fun _ _ => trivial).run s)
    have hn := fun e => Acts.no_fault (env := env)
      (m := push (Val.str (if RStd.utf8Len str > Gen.maxLineLen then [] else str))) (s := s) (e := e)
    generalize (push (Val.str (if RStd.utf8Len str > Gen.maxLineLen then [] else str))).run.run s = x at hq hn ⊢
    rcases x with ⟨r, s'⟩
    cases r with
    | ok u => exact FrameRel.trans hq (he (by sched))
    | error e => exact FrameRel.trans hq (FrameRel.trans (herr s' e (hn e rfl)) (he (by sched)))
  · split
    · exact he (by sched)
    · dsimp only
      split
      · rename_i hnone
        split
        · exact FrameRel.refl s
        · exact hd (Option.isNone_iff_eq_none.1 hnone)
      · split
        · exact he (by sched)
        · exact hi

/-!
  A predicate kept by every primitive update of the footprint, by compiling a direct line, by
  storing a numbered line and by loading a listing (one that satisfies `okL`) into a state marked
  stale is kept by every call of the API: `interrupt` and NEW are updates of the footprint
  themselves, `execute` and `enter` have footprints (`execute_eff`, `enter_frame`). -/

structure SessionInv (env : Env) (okL : Listing → Prop) (P : Runtime → Prop) : Prop where
  prim : ∀ {k s t}, Prim env k s t → P s → P t
  direct : ∀ s str, (env.lex str).number = none → P s → P (enterDirect s (env.lex str))
  indirect : ∀ s str, P s → P (enterIndirect s (env.lex str))
  load : ∀ s l, okL l → s.dirty = true → P s → P { s with listing := l }

theorem interrupt_eff (env : Env) (s : Runtime) : Eff env Kind.any s (interrupt s) := by
  rw [interrupt_eq]
  refine .prim (Prim.sched s .interrupt _ s.pc s.pc s.entryAddress s.printCol _ s.tr
    (.inr (.inr ⟨nofun, trivial⟩)) ?_) trivial
  split
  · exact .inr (.inr ⟨nofun, trivial⟩)
  · exact .inl rfl

/-- NEW is CLEAR followed by the wipe of the listing -/
theorem doNew_eff (env : Env) (s : Runtime) : Eff env Kind.any s (doNew env s) :=
  .trans (.prim (.clear s) trivial) (.prim (.wipe (doClear env s)) trivial)

namespace SessionInv
variable {env : Env} {okL : Listing → Prop} {P : Runtime → Prop}

theorem eff (h : SessionInv env okL P) {s t : Runtime} (e : Eff env Kind.any s t) : P s → P t :=
  Eff.to_all (R := Stays P) h.prim e

theorem execute (h : SessionInv env okL P) (s : Runtime) (n : Nat) : P s → P (Runtime.execute env s n).1 :=
  h.eff (execute_eff env s n)

theorem enter (h : SessionInv env okL P) (s : Runtime) (str : Str) : P s → P (Runtime.enter env s str) :=
  enter_frame (R := Stays P) env s str (fun p => h.prim p) (h.direct s str) (h.indirect s str)

theorem interrupt (h : SessionInv env okL P) (s : Runtime) : P s → P (Runtime.interrupt s) :=
  h.eff (interrupt_eff env s)

theorem setListing (h : SessionInv env okL P) (s : Runtime) (l : Listing) (run : Bool) (hl : okL l)
    (hs : P s) : P (Runtime.setListing env s l run) := by
  have h0 : P { doNew env s with listing := l } := h.load _ l hl rfl (h.eff (doNew_eff env s) hs)
  unfold Runtime.setListing
  dsimp only
  split
  · exact h.enter _ _ h0
  · exact h0

end SessionInv

end Runtime

namespace Thm.C03
open Basic.Runtime

inductive Call where
  | execute (n : Nat) | enter (line : Str) | interrupt | setListing (l : Listing) (run : Bool)

def Call.apply (env : Env) (s : Runtime) : Call → Runtime
  | .execute n => (Basic.Runtime.execute env s n).1
  | .enter line => Basic.Runtime.enter env s line
  | .interrupt => Basic.Runtime.interrupt s
  | .setListing l run => Basic.Runtime.setListing env s l run

/-- the listings handed to `set_listing` satisfy `okL` -/
def Call.ok (okL : Listing → Prop) : Call → Prop
  | .setListing l _ => okL l
  | _ => True

theorem Call.ok_true (c : Call) : c.ok (fun _ => True) := by
  cases c <;> trivial

end Thm.C03

namespace Runtime
open Thm.C03 (Call)

theorem SessionInv.call {env : Env} {okL : Listing → Prop} {P : Runtime → Prop}
    (h : SessionInv env okL P) (s : Runtime) (c : Call) (hc : c.ok okL) (hs : P s) : P (c.apply env s) := by
  cases c with
  | execute n => exact h.execute s n hs
  | enter str => exact h.enter s str hs
  | interrupt => exact h.interrupt s hs
  | setListing l run => exact h.setListing s l run hc hs

theorem SessionInv.reachable {env : Env} {okL : Listing → Prop} {P : Runtime → Prop}
    (h : SessionInv env okL P) (calls : List Call) (s : Runtime) (hok : ∀ c ∈ calls, c.ok okL) (hs : P s) :
    P (calls.foldl (Call.apply env) s) := by
  induction calls generalizing s with
  | nil => exact hs
  | cons c cs ih =>
    exact ih _ (fun c' hc' => hok c' (List.mem_cons_of_mem _ hc')) (h.call s c (hok c List.mem_cons_self) hs)

theorem noIntro_session (env : Env) : SessionInv env (fun _ => True) NoIntro where
  prim p := NoIntro.of_prim p
  direct s _ _ h := by rw [enterDirect_eq]; exact ⟨nofun, h.2⟩
  indirect s _ h := by rw [enterIndirect_eq]; exact ⟨h.1, nofun⟩
  load _ _ _ _ h := h

theorem doClear_noIntro_state (env : Env) (s : Runtime) (e : Error) :
    NoIntro { doClear env s with state := .runtimeError e } := ⟨nofun, nofun⟩

end Runtime
end Basic

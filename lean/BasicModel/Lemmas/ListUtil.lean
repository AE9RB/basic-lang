/-
  Association lists read with `List.lookup` (the linker's symbol table and pending references, the
  function table), for any key type.
-/
namespace List
variable {α : Type _} {β : Type _} [BEq α] [LawfulBEq α]

theorem lookup_cons_eq [DecidableEq α] (k : α) (v : β) (m : List (α × β)) (x : α) :
    lookup x ((k, v) :: m) = if x = k then some v else lookup x m := by
  rw [lookup_cons]
  by_cases h : x = k
  · simp [h]
  · rw [beq_false_of_ne h, if_neg h]

theorem mem_of_lookup {k : α} {v : β} {m : List (α × β)} (h : m.lookup k = some v) : (k, v) ∈ m := by
  obtain ⟨l₁, l₂, e, -⟩ := lookup_eq_some_iff.1 h
  rw [e]
  exact mem_append_right _ mem_cons_self

/-- with keys that are pairwise distinct (`R` irreflexive, e.g. `≠` or `<`) an entry is found under its key -/
theorem lookup_of_mem_of_keysPairwise {R : α → α → Prop} (irr : ∀ a, ¬ R a a) {k : α} {v : β} :
    ∀ {m : List (α × β)}, m.Pairwise (fun p q => R p.1 q.1) → (k, v) ∈ m → m.lookup k = some v
  | (a, b) :: m, hp, h => by
    rw [pairwise_cons] at hp
    rw [lookup_cons]
    rcases mem_cons.1 h with e | h'
    · cases e; simp
    · split
      · next e => cases eq_of_beq e; exact absurd (hp.1 _ h') (irr _)
      · exact lookup_of_mem_of_keysPairwise irr hp.2 h'

theorem find?_key [DecidableEq α] (l : List (α × β)) (x : α) :
    l.find? (fun p => p.1 = x) = (l.lookup x).map (fun v => (x, v)) := by
  induction l with
  | nil => rfl
  | cons hd tl ih =>
    obtain ⟨k, v⟩ := hd
    simp only [find?_cons, lookup_cons_eq, ih]
    by_cases hx : k = x
    · subst hx; simp
    · have : ¬ x = k := fun e => hx e.symm
      simp [hx, this]

theorem lookup_filter [DecidableEq α] {P : α × β → Bool} (x : α) :
    ∀ (m : List (α × β)), (∀ p ∈ m, p.1 = x → P p = true) → (m.filter P).lookup x = m.lookup x := by
  intro m
  induction m with
  | nil => intro _; rfl
  | cons hd tl ih =>
    intro h
    obtain ⟨k, v⟩ := hd
    have ih' := ih (fun p hp => h p (mem_cons_of_mem _ hp))
    by_cases hP : P (k, v) = true
    · rw [filter_cons_of_pos hP, lookup_cons_eq, lookup_cons_eq, ih']
    · rw [filter_cons_of_neg hP, lookup_cons_eq, ih']
      have : ¬ x = k := fun e => hP (h (k, v) mem_cons_self e.symm)
      rw [if_neg this]

end List

import BasicModel.Lemmas.NoFaultInv
import BasicModel.Lemmas.Inv
import BasicModel.Lemmas.CodegenErrors
/-
  `Fine env`: what every instruction, every slice and every API call preserves — the listing stays
  fine and no fault is recorded in `state` / `cont` (`NoFaultSt`) — and the session invariant `NInv`, kept by every
  call; under it no `errors` event returned by `execute` contains a fault (`execute_event_ok`).
-/
namespace Basic
open Lemmas.ParseNames Program Listing

namespace Runtime

def NoFaultSt (s : Runtime) : Prop := RStateOk s.state ∧ RStateOk s.cont

/-- the compile-time diagnostics kept with the listing are not faults -/
def LErrOk (l : Listing) : Prop := ErrsOk l.directErrors ∧ ErrsOk l.indirectErrors

structure Fine (env : Env) (s t : Runtime) : Prop where
  lst : EnvOk env → ListingOk s.listing → ListingOk t.listing
  lerr : LErrOk s.listing → LErrOk t.listing
  st : NoFaultSt s → NoFaultSt t

instance (env : Env) : FrameRel (Fine env) where
  refl _ := ⟨fun _ h => h, id, id⟩
  trans h1 h2 := ⟨fun he h => h2.lst he (h1.lst he h), fun h => h2.lerr (h1.lerr h), fun h => h2.st (h1.st h)⟩

/-- closes `Fine env s t` when `t` is `s` with fields replaced: the listing untouched, `state` and
    `cont` replaced by each other or by non-error states -/
macro "fine" : tactic =>
  `(tactic| (constructor
             · exact fun _ h => h
             · exact fun h => h
             · (intro h; constructor <;> first | exact h.1 | exact h.2 | exact trivial)))

theorem fine_doClear (env env' : Env) (s : Runtime) : Fine env s (doClear env' s) := by
  unfold doClear; fine

theorem Carried.ok {s : Runtime} {a : RState} (h : NoFaultSt s) (ha : Carried s a) : RStateOk a := by
  rcases ha with rfl | rfl | ha
  · exact h.1
  · exact h.2
  · exact ha.2

/-- every update of an instruction keeps the listing fine (DELETE and RENUM through
    `ListingOk.removeRange`, `ListingOk.renum`) and records no fault -/
theorem Fine.of_prim {env : Env} {k : Kind} {s t : Runtime} (p : Prim env k s t) : Fine env s t := by
  cases p with
  | clear => exact fine_doClear env env s
  | resched _ _ _ _ _ ha hb => exact ⟨fun _ h => h, id, fun h => ⟨ha.ok h, hb.ok h⟩⟩
  | delete _ lo hi l r he =>
    have hl : l = (s.listing.removeRange lo hi).1 := by rw [he]
    exact ⟨fun _ h => hl ▸ Listing.ListingOk.removeRange h lo hi,
      fun h => by rw [hl, Listing.removeRange_eq]; exact h,
      fun _ => ⟨trivial, trivial⟩⟩
  | renum _ l a b c he =>
    exact ⟨fun henv h => Listing.ListingOk.renum h env.lineRenum henv.renum a b c he,
      fun h => by
        obtain ⟨ch, _, rfl⟩ := Listing.renum_ok he
        exact h,
      fun _ => ⟨trivial, trivial⟩⟩
  | wipe =>
    exact ⟨fun _ _ => Listing.ListingOk.clear s.listing, fun _ => ⟨ErrsOk.nil, ErrsOk.nil⟩,
      fun h => ⟨trivial, h.2⟩⟩
  | sched _ _ _ _ _ _ _ _ _ ha hb => exact ⟨fun _ h => h, id, fun h => ⟨ha.ok h, hb.ok h⟩⟩
  | _ => fine

theorem step_fine (env : Env) (h : Bool) (s : Runtime) : Fine env s ((step env h).run.run s).2 :=
  (step_eff_any env h s).to_all Fine.of_prim

structure NInv (s : Runtime) : Prop where
  prog : ProgOk s.program
  perr : PErrOk s.program
  lst : ListingOk s.listing
  lerr : LErrOk s.listing
  st : NoFaultSt s

theorem ninv_init : NInv ({} : Runtime) :=
  ⟨ProgOk.empty, PErrOk.empty, Listing.ListingOk.empty, ⟨ErrsOk.nil, ErrsOk.nil⟩, ⟨trivial, trivial⟩⟩

theorem pErrOk_of_keep {s t : Runtime} (hk : Keep s t) (h : PErrOk s.program) : PErrOk t.program := by
  obtain ⟨d, hd⟩ := hk.prog
  rw [hd]; exact h

theorem progOk_of_keep {s t : Runtime} (hk : Keep s t) (h : ProgOk s.program) : ProgOk t.program := by
  obtain ⟨d, hd⟩ := hk.prog
  rw [hd]; exact h

theorem ninv_of {env : Env} (henv : EnvOk env) {s t : Runtime} (hk : Keep s t) (hf : Fine env s t) (hi : NInv s) :
    NInv t :=
  ⟨progOk_of_keep hk hi.prog, pErrOk_of_keep hk hi.perr, hf.lst henv hi.lst, hf.lerr hi.lerr,
   hf.st hi.st⟩

theorem ninv_of_eff {env : Env} (henv : EnvOk env) {s t : Runtime} (e : Eff env Kind.any s t) (hi : NInv s) :
    NInv t :=
  ninv_of henv (e.to_all Keep.of_prim) (e.to_all Fine.of_prim) hi

def isErrorsEv : Event → Bool
  | .errors _ => true
  | _ => false

theorem doRenum_errors (env : Env) (s t : Runtime) (es : List Error)
    (h : (doRenum env).run.run s = (.ok (.errors es), t)) : es = s.listing.indirectErrors := by
  unfold doRenum at h
  rw [run_bind_ok (run_get s)] at h
  by_cases hc : s.pc < s.entryAddress
  · simp only [hc, if_true] at h
    rw [run_bind_error (run_throw _ s)] at h
    cases h
  · simp only [hc, if_false] at h
    by_cases h2 : (!s.listing.indirectErrors.isEmpty) = true
    · rw [if_pos h2] at h
      cases h; rfl
    · rw [if_neg h2] at h
      have hr : Rets (do
          let step ← liftE (← pop).toU16
          let oldStart ← liftE (← pop).toU16
          let newStart ← liftE (← pop).toU16
          let s ← get
          let l ← liftE (s.listing.renum env.lineRenum newStart oldStart step)
          set { s with listing := l, dirty := true, cont := .stopped, stack := #[], functions := [], state := .stopped }
          modify doEnd
          pure Event.stopped : RM Event) (isErrorsEv · = false) := by rets
      have := hr.run s _ t h
      cases this

/-- an `errors` event of an instruction is the list of compile errors kept with the listing -/
theorem execOp_errors_event (env : Env) (h : Bool) (op : Opcode) (s t : Runtime) (es : List Error)
    (hr : (execOp env h op).run.run s = (.ok (.event (.errors es)), t)) : es = s.listing.indirectErrors := by
  by_cases hop : errEventOp op = false
  · exact absurd (returns_errors ((execOp_returns env h op).run _ _ _ hr)) (by rw [hop]; nofun)
  · cases op <;> first
      | exact absurd rfl hop
      | skip
    · rename_i a
      rw [execOp_jump_run] at hr
      split at hr
      · cases hr; rfl
      · cases hr
    · simp only [execOp] at hr
      rw [run_bind] at hr
      rcases hd : (doRenum env).run.run s with ⟨r, t'⟩
      rw [hd] at hr
      cases r with
      | error e => cases hr
      | ok ev =>
        have hr' : ((Except.ok (Step.event ev) : Except Error Step), t') = (.ok (.event (.errors es)), t) := hr
        cases hr'
        exact doRenum_errors env s t es hd

theorem step_errors_event (env : Env) (h : Bool) (s t : Runtime) (es : List Error)
    (hr : (step env h).run.run s = (.ok (.event (.errors es)), t)) : es = s.listing.indirectErrors := by
  refine step_elim env h s (P := fun x => x = (.ok (.event (.errors es)), t) → es = s.listing.indirectErrors) ?_ ?_ ?_ hr
  · exact fun _ _ _ e => nomatch e
  · exact fun _ _ e => nomatch e
  · exact fun op tr _ e => execOp_errors_event env h op { s with tr := tr, pc := s.pc + 1 } t es e

def EventOk : Event → Prop
  | .errors es => ErrsOk es
  | _ => True

theorem sliceRun_event_ok (env : Env) (h : Bool) (n : Nat) (s : Runtime) (hl : LErrOk s.listing) (ev : Event)
    (he : (sliceRun env h n s).1 = .ok (some ev)) : EventOk ev := by
  induction n generalizing s with
  | zero => cases he
  | succ k ih =>
    rw [sliceRun_succ] at he
    have hf := step_fine env h s
    have hev := step_errors_event env h s
    rcases hr : (step env h).run.run s with ⟨r, s'⟩
    rw [hr] at he hf hev
    rcases r with e' | st
    · cases he
    · cases st with
      | «continue» => exact ih s' (hf.lerr hl) he
      | event ev' =>
        have : ev' = ev := by
          have he' : (Except.ok (some ev') : Except Error (Option Event)) = .ok (some ev) := he
          cases he'; rfl
        subst this
        cases ev' with
        | errors es => rw [hev s' es rfl]; exact hl.2
        | _ => trivial

theorem executeLoop_event_ok (env : Env) (n : Nat) (s : Runtime) (hl : LErrOk s.listing) (ev : Event)
    (he : ((executeLoop env n).run.run s).1 = .ok ev) : EventOk ev := by
  rw [executeLoop_run] at he
  unfold slice at he
  cases hr : (sliceRun env (hasIndirectErrors s) n s).1 with
  | error e' => rw [hr] at he; cases he
  | ok o =>
    rw [hr] at he
    cases o with
    | none => cases he; trivial
    | some ev' =>
      have : ev' = ev := by
        have he' : (Except.ok ev' : Except Error Event) = .ok ev := he
        cases he'; rfl
      subst this
      exact sliceRun_event_ok env _ n s hl ev' hr

theorem readyPrompt_event_ok (s : Runtime) (ev : Event) (h : (readyPrompt s).2 = some ev) : EventOk ev := by
  by_cases he : s.entryAddress = 0
  · rw [readyPrompt_zero s he] at h; cases h
  · rw [readyPrompt_pos s he] at h; cases h; trivial

theorem rets_executeInput : Rets executeInput (isErrorsEv · = false) := by unfold executeInput; rets

theorem executePre_event_ok (s : Runtime) (hi : NInv s) (ev : Event) (h : (executePre s).2 = some ev) :
    EventOk ev := by
  unfold executePre at h
  split at h
  · cases h; trivial
  · have := readyPrompt_event_ok s
    split at h <;> rename_i heq <;> rw [heq] at this
    · cases h; exact this _ rfl
    · cases h; trivial
  · cases h
  · split at h
    · cases h; trivial
    · cases h
  · have hq := rets_executeInput.run s
    generalize executeInput.run.run s = x at hq h
    rcases x with ⟨r, s'⟩
    cases r with
    | ok e0 =>
      have := hq e0 s' rfl
      cases h
      cases ev <;> first | trivial | (cases this)
    | error e0 => cases h
  · cases h; exact ErrsOk.single rfl
  · split at h
    · cases h; exact hi.lerr.1
    · cases h
  · split at h
    · cases h; exact hi.lerr.1
    · cases h
  · cases h
  · cases h

theorem finishLoop_event_ok (r : Except Error Event) (s : Runtime) (hr : ∀ ev, r = .ok ev → EventOk ev) :
    EventOk (finishLoop r s).2 := by
  cases r with
  | error e => rw [finishLoop_error]; trivial
  | ok ev =>
    by_cases h : s.state = .stopped ∧ ev = .stopped
    · have := readyPrompt_event_ok s
      rw [h.2, finishLoop_stopped s h.1]
      split <;> rename_i heq <;> rw [heq] at this
      · exact this _ rfl
      · trivial
    · rw [finishLoop_ok ev s h]; exact hr ev rfl

theorem executeRest_event_ok (env : Env) (s : Runtime) (n : Nat) (hi : NInv s) :
    EventOk (executeRest env s n).2 := by
  unfold executeRest
  split
  · rename_i err hs
    split
    · trivial
    · have := hi.st.1
      rw [hs] at this
      exact ErrsOk.single this
  · exact finishLoop_event_ok _ _ (fun ev hev => executeLoop_event_ok env n s hi.lerr ev hev)

/-- **no `errors` event of `execute` contains a fault** (given the invariant; the slice itself
    needs no hypothesis here: a fault raised in it would be recorded, not reported, by this call) -/
theorem execute_event_ok (env : Env) (henv : EnvOk env) (s : Runtime) (n : Nat) (hi : NInv s) :
    EventOk (execute env s n).2 := by
  rw [execute_eq]
  have hp : NInv (executePre s).1 := ninv_of_eff henv (executePre_eff trivial trivial trivial s) hi
  have he := executePre_event_ok s hi
  generalize executePre s = x at hp he ⊢
  rcases x with ⟨s', o⟩
  cases o with
  | some e => exact he e rfl
  | none => exact executeRest_event_ok env s' n hp

theorem ninv_enterDirect (s : Runtime) (line : Line) (hl : LineOk line) (hi : NInv s) :
    NInv (enterDirect s line) := by
  have hb : ProgOk (recompiled s) ∧ PErrOk (recompiled s) :=
    recompiled_ind (P := fun p => ProgOk p ∧ PErrOk p) s (fun _ => ⟨hi.prog, hi.perr⟩)
      fun _ => ⟨(ProgOk.clear _).codegenLines (Listing.listingOk_lines hi.lst), (PErrOk.clear _).codegenLines _⟩
  have hp : ProgOk (directProgram s line) := directProgram_eq s line ▸ (hb.1.codegenLine hl).linkProg
  have hq : PErrOk (directProgram s line) := directProgram_eq s line ▸ (hb.2.codegenLine line).linkProg
  rw [enterDirect_eq]
  -- the fields are reduced first: unifying `s.listing` with the updated listing would unfold the compile
  refine ⟨?_, ?_, ?_, ?_, ?_⟩ <;> dsimp only [LErrOk]
  · exact hp
  · exact hq
  · exact fun p hp => hi.lst p hp
  · exact ⟨hq.1, hq.2⟩
  · exact ⟨trivial, hi.st.2⟩

theorem ninv_enterIndirect (s : Runtime) (line : Line) (hl : LineOk line) (hi : NInv s) :
    NInv (enterIndirect s line) := by
  -- the stored lines after the edit: the line removed or inserted; the diagnostics stay
  have hL : ListingOk (s.listing.enterLine line).1 ∧ LErrOk (s.listing.enterLine line).1 := by
    unfold Listing.enterLine
    split
    · exact ⟨Listing.ListingOk.remove hi.lst line.number, by unfold Listing.remove LErrOk; split <;> exact hi.lerr⟩
    · exact ⟨Listing.ListingOk.insert hi.lst hl, by unfold Listing.insert LErrOk; split <;> exact hi.lerr⟩
  rw [enterIndirect_eq]
  refine ⟨hi.prog, hi.perr, ?_, ?_, ⟨hi.st.1, trivial⟩⟩
  · dsimp only
    split
    · exact hL.1
    · exact hi.lst
  · dsimp only
    split
    · exact hL.2
    · exact hi.lerr

theorem ninv_session (env : Env) (henv : EnvOk env) :
    SessionInv env (fun l => ListingOk l ∧ LErrOk l) NInv where
  prim p h := ninv_of_eff henv (.prim p trivial) h
  direct s str _ h := ninv_enterDirect s _ (henv.lex str) h
  indirect s str h := ninv_enterIndirect s _ (henv.lex str) h
  load _ _ hl _ h := ⟨h.prog, h.perr, hl.1, hl.2, h.st⟩

end Runtime
end Basic

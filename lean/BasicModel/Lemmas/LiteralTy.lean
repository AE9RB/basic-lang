import BasicModel.Lemmas.LexCanon
import BasicModel.Lemmas.LexNumber
import BasicModel.Model.Parse
/-
  Literal typing (C02): the manual's rule for the type of a constant, written by hand over the
  SPELLING of the constant (`Spec.literalTy`), and the proof that `Lex.number` classifies every
  well-formed numeral (`Lex.Numeral`, the characterisation of `Thm/C05.numeral_roundtrip`) the way
  the rule says — except for ONE class of spellings where the code and the manual's first bullet
  disagree (an `E` exponent after more than 7 mantissa digits: `12345678E5` is a Double), which is
  stated as a theorem of its own (`literalTy_longE`; `Thm.C02.literal_rule_disagreement`, a finding).
  The bridge between scanner and rule is the type read off the PARTS of a numeral, `Numeral.ty`:
  the token is the literal of that type (`Numeral.token_eq`), and the rule as built gives that type
  to the spelling (`literalTyAsBuilt_text`).

  `chapter_1.rs`:
     * If the number contains an exponent with the letter E, it is a Single.
     * If the number contains an exponent with the letter D, it is a Double.
     * If the number contains a decimal, it is a Single unless more than 7 digits.
     * If the number has more than 7 digits, it is a Double.
     * If the number fits into an Integer (-32767 to 32767), it is an Integer.
     * Anything that doesn't match the above is a Single.
  read top to bottom, the first bullet that applies decides (bullets 5 and 6 cannot be read any other
  way); a type suffix `! # %` decides before all of them ("If you don't decorate a literal …").
-/
namespace Basic
namespace Spec

/-- the digits of the mantissa: decimal digits before an exponent letter -/
def mantissaDigits : Str → Nat
  | [] => 0
  | c :: cs => if c = 'E' ∨ c = 'D' then 0 else (if c.isDigit then 1 else 0) + mantissaDigits cs

/-- the number a string of decimal digits denotes -/
def decimalValue (s : Str) : Nat := s.foldl (fun acc c => 10 * acc + (c.toNat - '0'.toNat)) 0

/-- **the manual's typing rule for constants**, over the spelling (upper-case exponent letter, as
    listed): a string constant, a radix constant `&…` / `&H…` (Integer), a suffixed constant, and
    the six bullets of chapter 1 in their order -/
def literalTy (s : Str) : Option Ty :=
  match s with
  | [] => none
  | '"' :: _ => some .str
  | '&' :: _ => some .int
  | _ =>
    if s.getLast? = some '!' then some .sng
    else if s.getLast? = some '#' then some .dbl
    else if s.getLast? = some '%' then some .int
    else if 'E' ∈ s then some .sng
    else if 'D' ∈ s then some .dbl
    else if '.' ∈ s then (if mantissaDigits s > 7 then some .dbl else some .sng)
    else if mantissaDigits s > 7 then some .dbl
    else if decimalValue s ≤ 32767 then some .int
    else some .sng

/-- the rule AS BUILT (`lex.rs` `number()`): the same tests, but "more than 7 digits" is asked
    before "has an exponent with the letter E" -/
def literalTyAsBuilt (s : Str) : Option Ty :=
  match s with
  | [] => none
  | '"' :: _ => some .str
  | '&' :: _ => some .int
  | _ =>
    if s.getLast? = some '!' then some .sng
    else if s.getLast? = some '#' then some .dbl
    else if s.getLast? = some '%' then some .int
    else if mantissaDigits s > 7 then some .dbl
    else if 'E' ∈ s then some .sng
    else if 'D' ∈ s then some .dbl
    else if '.' ∈ s then some .sng
    else if decimalValue s ≤ 32767 then some .int
    else some .sng

/-- the spellings on which the manual's first bullet and the code disagree: no type suffix, an
    exponent with the letter E, more than 7 digits before it — e.g. `12345678E5` -/
def LongE (s : Str) : Prop :=
  s.getLast? ≠ some '!' ∧ s.getLast? ≠ some '#' ∧ s.getLast? ≠ some '%' ∧ 'E' ∈ s ∧ 7 < mantissaDigits s

instance (s : Str) : Decidable (LongE s) := by unfold LongE; infer_instance

/-- the two rules agree on every spelling outside `LongE` … -/
theorem literalTyAsBuilt_eq (s : Str) (h : ¬ LongE s) : literalTyAsBuilt s = literalTy s := by
  unfold literalTyAsBuilt literalTy
  split <;> try rfl
  by_cases h1 : s.getLast? = some '!' <;> simp only [h1, if_true, if_false]
  by_cases h2 : s.getLast? = some '#' <;> simp only [h2, if_true, if_false]
  by_cases h3 : s.getLast? = some '%' <;> simp only [h3, if_true, if_false]
  by_cases h7 : mantissaDigits s > 7
  · -- the code says Double at once; the manual could only say Single through its first bullet
    have hE : 'E' ∉ s := fun hE => h ⟨h1, h2, h3, hE, h7⟩
    simp only [h7, hE, if_true, if_false, ite_self]
  · simp only [h7, if_false]

/-- … and on `LongE` (which starts with a digit or a point) the code says Double, the manual Single -/
theorem literalTy_longE (c : Char) (cs : Str) (hq : c ≠ '"') (ha : c ≠ '&') (h : LongE (c :: cs)) :
    literalTyAsBuilt (c :: cs) = some .dbl ∧ literalTy (c :: cs) = some .sng := by
  obtain ⟨h1, h2, h3, hE, h7⟩ := h
  unfold literalTyAsBuilt literalTy
  constructor
  · split
    · rename_i heq; cases heq
    · rename_i heq; exact absurd (List.cons.inj heq).1 hq
    · rename_i heq; exact absurd (List.cons.inj heq).1 ha
    · simp [h1, h2, h3, h7]
  · split
    · rename_i heq; cases heq
    · rename_i heq; exact absurd (List.cons.inj heq).1 hq
    · rename_i heq; exact absurd (List.cons.inj heq).1 ha
    · simp [h1, h2, h3, hE]

/-- the type a literal TOKEN announces -/
def tokenTy : Literal → Ty
  | .single _ => .sng | .double _ => .dbl | .integer _ => .int
  | .hex _ => .int | .octal _ => .int | .string _ => .str

/-- the type of a literal NODE of the syntax tree -/
def nodeTy : Expr → Option Ty
  | .single _ _ => some .sng | .double _ _ => some .dbl | .integer _ _ => some .int
  | .string _ _ => some .str
  | _ => none

end Spec

namespace Lex
open Spec

theorem isDigit_not_special {c : Char} (h : isDigit c = true) :
    c ≠ 'E' ∧ c ≠ 'D' ∧ c ≠ '.' ∧ c ≠ '!' ∧ c ≠ '#' ∧ c ≠ '%' ∧ c ≠ '"' ∧ c ≠ '&' ∧ c ≠ '+' ∧ c ≠ '-' := by
  refine ⟨?_, ?_, ?_, ?_, ?_, ?_, ?_, ?_, ?_, ?_⟩ <;> exact ne_of_isDigit c _ h (by decide)

theorem mantissaDigits_digits (ds rest : Str) (hd : AllDigits ds) :
    mantissaDigits (ds ++ rest) = ds.length + mantissaDigits rest := by
  induction ds with
  | nil => simp
  | cons c cs ih =>
    have hc := hd c (by simp)
    obtain ⟨h1, h2, -⟩ := isDigit_not_special hc
    have hc' : c.isDigit = true := hc
    simp only [List.cons_append, mantissaDigits, h1, h2, or_self, if_false, hc', if_true,
      ih (fun x hx => hd x (by simp [hx])), List.length_cons]
    omega

theorem mantissaDigits_frac (frac : Option (List Char)) (rest : Str)
    (hf : ∀ f, frac = some f → AllDigits f) :
    mantissaDigits (fracText frac ++ rest) = fracCount frac + mantissaDigits rest := by
  cases frac with
  | none => simp [fracText, fracCount]
  | some f =>
    have h1 : ¬ ('.' = 'E' ∨ '.' = 'D') := by decide
    have h2 : ('.' : Char).isDigit = false := by decide
    simp only [fracText, fracCount, List.cons_append, mantissaDigits, h1, if_false, h2,
      mantissaDigits_digits f rest (hf f rfl)]
    simp

theorem mantissaDigits_expo (x : Exponent) (hx : x.WF) (rest : Str) :
    mantissaDigits (x.text ++ rest) = 0 := by
  obtain ⟨hl, -⟩ := hx
  simp only [Exponent.text, List.cons_append, mantissaDigits, hl, if_true]

theorem mantissaDigits_sfx (sfx : Option Char) (hs : ∀ c, sfx = some c → isNumSuffix c = true) :
    mantissaDigits sfx.toList = 0 := by
  cases sfx with
  | none => rfl
  | some c =>
    have := (isNumSuffix_iff c).1 (hs c rfl)
    rcases this with rfl | rfl | rfl <;> decide

/-- the digit counter of the rule, on a well-formed numeral: the digits of the integer and of the
    fraction part (leading zeros included) -/
theorem mantissaDigits_text (nm : Numeral) (h : nm.WF) :
    mantissaDigits nm.text = nm.int.length + fracCount nm.frac := by
  obtain ⟨h1, h2, -, h4, h5⟩ := h
  simp only [Numeral.text, Numeral.body, Numeral.mantissa, List.append_assoc]
  rw [mantissaDigits_digits _ _ h1, mantissaDigits_frac _ _ h2]
  cases hx : nm.expo with
  | none => simp [expoText, mantissaDigits_sfx nm.sfx h5]
  | some x => simp [expoText, mantissaDigits_expo x (h4 x hx)]

theorem mem_text (nm : Numeral) (k : Char) :
    k ∈ nm.text ↔ k ∈ nm.int ∨ k ∈ fracText nm.frac ∨ k ∈ expoText nm.expo ∨ k ∈ nm.sfx.toList := by
  simp [Numeral.text, Numeral.body, Numeral.mantissa]

theorem not_mem_digits {ds : Str} (hd : AllDigits ds) {k : Char} (hk : isDigit k = false) : k ∉ ds := by
  intro hm; rw [hd k hm] at hk; cases hk

theorem mem_fracText (frac : Option (List Char)) (hf : ∀ f, frac = some f → AllDigits f) (k : Char)
    (hk : isDigit k = false) : k ∈ fracText frac ↔ (k = '.' ∧ frac.isSome) := by
  cases frac with
  | none => simp [fracText]
  | some f => simp [fracText, not_mem_digits (hf f rfl) hk]

theorem mem_expoText_letter (expo : Option Exponent) (hx : ∀ x, expo = some x → x.WF) (k : Char)
    (hk : k = 'E' ∨ k = 'D') : k ∈ expoText expo ↔ ∃ x, expo = some x ∧ x.letter = k := by
  have hkd : isDigit k = false := by rcases hk with rfl | rfl <;> decide
  cases expo with
  | none => simp [expoText]
  | some x =>
    obtain ⟨-, hs, hd, -⟩ := hx x rfl
    have h1 : k ∉ x.digits := not_mem_digits hd hkd
    have h2 : k ∉ x.sign := by
      rcases hs with h | h | h <;> rw [h] <;> rcases hk with rfl | rfl <;> decide
    simp [expoText, Exponent.text, h1, h2, eq_comm]

theorem not_mem_expoText_dot (expo : Option Exponent) (hx : ∀ x, expo = some x → x.WF) :
    '.' ∉ expoText expo := by
  cases expo with
  | none => simp [expoText]
  | some x =>
    obtain ⟨hl, hs, hd, -⟩ := hx x rfl
    have h1 : '.' ∉ x.digits := not_mem_digits hd (by decide)
    have h2 : '.' ∉ x.sign := by rcases hs with h | h | h <;> rw [h] <;> decide
    have h3 : '.' ≠ x.letter := by rcases hl with h | h <;> rw [h] <;> decide
    simp [expoText, Exponent.text, h1, h2, h3]

theorem not_mem_sfx (sfx : Option Char) (hs : ∀ c, sfx = some c → isNumSuffix c = true) (k : Char)
    (hk : k = 'E' ∨ k = 'D' ∨ k = '.') : k ∉ sfx.toList := by
  cases sfx with
  | none => simp
  | some c =>
    have := (isNumSuffix_iff c).1 (hs c rfl)
    rcases this with rfl | rfl | rfl <;> rcases hk with rfl | rfl | rfl <;> decide

theorem mem_text_letter (nm : Numeral) (h : nm.WF) (k : Char) (hk : k = 'E' ∨ k = 'D') :
    k ∈ nm.text ↔ ∃ x, nm.expo = some x ∧ x.letter = k := by
  obtain ⟨h1, h2, -, h4, h5⟩ := h
  have hd : isDigit k = false := by rcases hk with rfl | rfl <;> rfl
  rw [mem_text, mem_fracText _ h2 _ hd, mem_expoText_letter _ h4 _ hk]
  have a := not_mem_digits h1 hd
  have b := not_mem_sfx nm.sfx h5 k (by rcases hk with rfl | rfl <;> simp)
  have c : k ≠ '.' := by rcases hk with rfl | rfl <;> decide
  simp [a, b, c]

theorem mem_text_dot (nm : Numeral) (h : nm.WF) : '.' ∈ nm.text ↔ nm.frac.isSome = true := by
  obtain ⟨h1, h2, -, h4, h5⟩ := h
  rw [mem_text, mem_fracText _ h2 _ (by decide)]
  have a := not_mem_digits h1 (k := '.') (by decide)
  have b := not_mem_sfx nm.sfx h5 '.' (.inr (.inr rfl))
  have c := not_mem_expoText_dot nm.expo h4
  simp [a, b, c]

theorem body_not_suffix (nm : Numeral) (h : nm.WF) : ∀ k ∈ nm.body, isNumSuffix k = false := by
  obtain ⟨h1, h2, -, h4, -⟩ := h
  have hdig : ∀ ds : Str, AllDigits ds → ∀ k ∈ ds, isNumSuffix k = false := by
    intro ds hd k hk
    obtain ⟨-, -, -, a, b, c, -⟩ := isDigit_not_special (hd k hk)
    simp [isNumSuffix, a, b, c]
  intro k hk
  simp only [Numeral.body, Numeral.mantissa, List.mem_append] at hk
  rcases hk with (hk | hk) | hk
  · exact hdig _ h1 k hk
  · cases hf : nm.frac with
    | none => rw [hf] at hk; simp [fracText] at hk
    | some f =>
      rw [hf] at hk
      simp only [fracText, List.mem_cons] at hk
      rcases hk with rfl | hk
      · decide
      · exact hdig _ (h2 f hf) k hk
  · cases hx : nm.expo with
    | none => rw [hx] at hk; simp [expoText] at hk
    | some x =>
      rw [hx] at hk
      obtain ⟨hl, hs, hd, -⟩ := h4 x hx
      simp only [expoText, Exponent.text, List.mem_cons, List.mem_append] at hk
      rcases hk with rfl | hk | hk
      · rcases hl with h | h <;> rw [h] <;> decide
      · rcases hs with h | h | h <;> rw [h] at hk <;> simp at hk <;> subst hk <;> decide
      · exact hdig _ hd k hk

theorem body_ne_nil (nm : Numeral) (h : nm.WF) : nm.body ≠ [] := by
  obtain ⟨-, -, h3, -, -⟩ := h
  cases hf : nm.frac with
  | none => simp [Numeral.body, Numeral.mantissa, h3 hf]
  | some f => simp [Numeral.body, Numeral.mantissa, fracText, hf]

theorem text_getLast (nm : Numeral) (h : nm.WF) :
    (∀ c, nm.sfx = some c → nm.text.getLast? = some c) ∧
    (nm.sfx = none → ∃ k, nm.text.getLast? = some k ∧ isNumSuffix k = false) := by
  constructor
  · intro c hc
    simp [Numeral.text, hc]
  · intro hn
    have hne := body_ne_nil nm h
    have hb := body_not_suffix nm h
    simp only [Numeral.text, hn, Option.toList_none, List.append_nil]
    cases hl : nm.body.getLast? with
    | none => exact absurd (List.getLast?_eq_none_iff.1 hl) hne
    | some k => exact ⟨k, rfl, hb k (List.mem_of_getLast? hl)⟩

theorem decimalValue_eq (s : Str) : decimalValue s = Nat.ofDigitChars 10 s 0 := rfl

/-- **`str::parse::<i16>` on a digit string** is its value when that is at most 32767 -/
theorem parseI16_digits (l : Str) (hne : l ≠ []) (hd : AllDigits l) :
    Fmt.parseI16 l = if decimalValue l ≤ 32767 then some (Int16.ofNat (decimalValue l)) else none :=
  parseI16_allDigits l hne hd

theorem literalTyAsBuilt_numeric (c : Char) (cs : Str) (hq : c ≠ '"') (ha : c ≠ '&') :
    literalTyAsBuilt (c :: cs) =
      if (c :: cs).getLast? = some '!' then some .sng
      else if (c :: cs).getLast? = some '#' then some .dbl
      else if (c :: cs).getLast? = some '%' then some .int
      else if mantissaDigits (c :: cs) > 7 then some .dbl
      else if 'E' ∈ (c :: cs) then some .sng
      else if 'D' ∈ (c :: cs) then some .dbl
      else if '.' ∈ (c :: cs) then some .sng
      else if decimalValue (c :: cs) ≤ 32767 then some .int
      else some .sng := by
  unfold literalTyAsBuilt
  split
  · rename_i heq; cases heq
  · rename_i heq; exact absurd (List.cons.inj heq).1 hq
  · rename_i heq; exact absurd (List.cons.inj heq).1 ha
  · rfl

theorem text_head_plain (nm : Numeral) (h : nm.WF) :
    ∃ c cs, nm.text = c :: cs ∧ c ≠ '"' ∧ c ≠ '&' := by
  obtain ⟨c, cs, e, hc⟩ := nm.text_head h
  refine ⟨c, cs, e, ?_, ?_⟩
  · rintro rfl; revert hc; decide
  · rintro rfl; revert hc; decide

/-- the literal of a numeric type (`.str` does not occur) -/
def litOf : Ty → Str → Literal
  | .sng, s => .single s
  | .dbl, s => .double s
  | _, s => .integer s

theorem litOf_text (t : Ty) (s : Str) : (litOf t s).text = s := by
  unfold litOf
  split <;> rfl

/-- **the typing rule as built, on the parts of a numeral**: a type suffix decides; else more than 7
    digits (a `D` exponent counts for 8) make a Double; else a digit string denoting at most 32767
    is an Integer; everything else is a Single -/
def Numeral.ty (nm : Numeral) : Ty :=
  match nm.sfx with
  | some c => if c = '!' then .sng else if c = '#' then .dbl else .int
  | none =>
    if nm.count > 7 then .dbl
    else if nm.expo = none ∧ nm.frac = none ∧ decimalValue nm.int ≤ 32767 then .int
    else .sng

theorem Numeral.tokenTy_ty (nm : Numeral) (s : Str) : tokenTy (litOf nm.ty s) = nm.ty := by
  unfold Numeral.ty
  split
  · split
    · rfl
    · split <;> rfl
  · split
    · rfl
    · split <;> rfl

/-- the token of a well-formed numeral: the literal of its type, carrying the whole spelling.
    This is the one place where `numberFinish` is unfolded. -/
theorem Numeral.token_eq (nm : Numeral) (h : nm.WF) : nm.token = .literal (litOf nm.ty nm.text) := by
  obtain ⟨h1, -, h3, -, -⟩ := h
  unfold Numeral.token numeralToken Numeral.ty Numeral.text
  cases hs : nm.sfx with
  | some c =>
    simp only [suffixLiteral, Option.toList_some]
    split
    · rfl
    · split <;> rfl
  | none =>
    simp only [numberFinish, Option.toList_none, List.append_nil]
    split
    · rfl
    · cases hx : nm.expo with
      | some x => simp [litOf]
      | none =>
        cases hf : nm.frac with
        | some f => simp [litOf]
        | none =>
          have hb : nm.body = nm.int := by simp [Numeral.body, Numeral.mantissa, hf, hx, fracText, expoText]
          rw [hb, parseI16_digits nm.int (h3 hf) h1]
          by_cases hv : decimalValue nm.int ≤ 32767 <;> simp [hv, litOf]

def Numeral.plain (ds : Str) : Numeral := ⟨ds, none, none, none⟩

theorem Numeral.plain_wf (ds : Str) (hne : ds ≠ []) (hd : AllDigits ds) : (Numeral.plain ds).WF :=
  ⟨hd, by simp [Numeral.plain], fun _ => hne, by simp [Numeral.plain], by simp [Numeral.plain]⟩

theorem Numeral.plain_text (ds : Str) : (Numeral.plain ds).text = ds := by
  simp [Numeral.plain, Numeral.text, Numeral.body, Numeral.mantissa, fracText, expoText]

theorem Numeral.plain_ty (ds : Str) : (Numeral.plain ds).ty =
    if ds.length > 7 then .dbl else if decimalValue ds ≤ 32767 then .int else .sng := by
  simp [Numeral.ty, Numeral.plain, Numeral.count, fracCount, expoCount]

theorem literalTyAsBuilt_text (nm : Numeral) (h : nm.WF) : literalTyAsBuilt nm.text = some nm.ty := by
  obtain ⟨c0, cs0, e0, hq, ha⟩ := text_head_plain nm h
  rw [e0, literalTyAsBuilt_numeric c0 cs0 hq ha, ← e0]
  unfold Numeral.ty
  cases hs : nm.sfx with
  | some c =>
    rw [(text_getLast nm h).1 c hs]
    rcases (isNumSuffix_iff c).1 (h.2.2.2.2 c hs) with rfl | rfl | rfl <;> simp
  | none =>
    obtain ⟨k, hk, hks⟩ := (text_getLast nm h).2 hs
    have hk1 : k ≠ '!' := by rintro rfl; revert hks; decide
    have hk2 : k ≠ '#' := by rintro rfl; revert hks; decide
    have hk3 : k ≠ '%' := by rintro rfl; revert hks; decide
    have htext : nm.text = nm.body := by simp [Numeral.text, hs]
    have hE := mem_text_letter nm h 'E' (.inl rfl)
    have hD := mem_text_letter nm h 'D' (.inr rfl)
    have hdot := mem_text_dot nm h
    rw [hk]
    simp only [Option.some.injEq, hk1, hk2, hk3, if_false, mantissaDigits_text nm h]
    obtain ⟨h1, h2, h3, h4, h5⟩ := h
    cases hx : nm.expo with
    | some x =>
      rcases (h4 x hx).1 with hl | hl <;>
        by_cases h7 : nm.int.length + fracCount nm.frac > 7 <;>
        simp [hE, hD, Numeral.count, expoCount, hx, hl, h7]
    | none =>
      by_cases h7 : nm.int.length + fracCount nm.frac > 7
      · simp [Numeral.count, expoCount, hx, h7]
      · cases hf : nm.frac with
        | some f => rw [hf] at h7; simp [hE, hD, hdot, Numeral.count, expoCount, hx, hf, h7]
        | none =>
          have hb : nm.text = nm.int := by
            simp [htext, Numeral.body, Numeral.mantissa, hf, hx, fracText, expoText]
          rw [hf] at h7
          rw [hb] at hE hD hdot ⊢
          by_cases hv : decimalValue nm.int ≤ 32767 <;>
            simp [hE, hD, hdot, Numeral.count, expoCount, hx, hf, h7, hv]

/-- **the kind of the token is the type of the rule as built**, for every well-formed numeral; the
    token carries the spelling unchanged -/
theorem numeral_kind_asBuilt (nm : Numeral) (h : nm.WF) :
    ∃ l, nm.token = .literal l ∧ l.text = nm.text ∧ literalTyAsBuilt nm.text = some (tokenTy l) :=
  ⟨_, nm.token_eq h, litOf_text _ _, by rw [literalTyAsBuilt_text nm h, nm.tokenTy_ty]⟩

/-- the three shapes of a numeral's token: it carries the whole spelling; an Integer token is either
    decorated with `%` or an undecorated digit string denoting at most 32767 -/
theorem numeral_token_shape (nm : Numeral) (h : nm.WF) :
    nm.token = .literal (.single nm.text) ∨ nm.token = .literal (.double nm.text) ∨
    (nm.token = .literal (.integer nm.text) ∧
      (nm.sfx = some '%' ∨
        (nm.sfx = none ∧ nm.frac = none ∧ nm.expo = none ∧ decimalValue nm.int ≤ 32767))) := by
  rw [nm.token_eq h]
  unfold Numeral.ty
  cases hs : nm.sfx with
  | some c =>
    rcases (isNumSuffix_iff c).1 (h.2.2.2.2 c hs) with rfl | rfl | rfl <;> simp [litOf]
  | none =>
    simp only []
    split
    · simp [litOf]
    · split
      · rename_i hc
        simp [litOf, hc.1, hc.2.1, hc.2.2]
      · simp [litOf]

end Lex
end Basic

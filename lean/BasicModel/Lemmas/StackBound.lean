import BasicModel.Lemmas.Slice
/-
  The VM keeps the stack bound `Bnd`: `Good m` (a successful run of `m` from a state with at most
  `Gen.stackMaxLen` = 65 535 stack entries ends in such a state) is read off the footprint with its
  outcome: the stack only grows through `push`, which fails beyond the bound (`OEff.bnd`).  Hence
  every helper with a contract, every opcode, `step` and a slice keep it.
-/
namespace Basic
namespace Runtime
variable {α β : Type}

/-- the stack holds at most 65 535 values -/
def Bnd (s : Runtime) : Prop := s.stack.size ≤ Gen.stackMaxLen

/-- `m` keeps the stack bound: every successful run from a bounded state ends in a bounded state -/
def Good {α} (m : RM α) : Prop := ∀ s, Bnd s → ∀ a s', (m.run).run s = (.ok a, s') → Bnd s'

theorem Good.get : Good (get : RM Runtime) := by
  intro s hs a s' h; rw [run_get] at h; injection h with _ h; subst h; exact hs

theorem OEff.bnd {env : Env} {K : Kind → Prop} {s t : Runtime} (h : OEff env K s none t) (hs : Bnd s) : Bnd t := by
  have : OutRel fun s o t => Bnd s → o = none → Bnd t :=
    ⟨fun _ h _ => h, fun h1 h2 hb ho => h2 (h1 hb rfl) ho⟩
  refine h.to (R := fun s o t => Bnd s → o = none → Bnd t) (fun _ _ _ _ ho => nomatch ho) (fun p _ hb ho => ?_) hs rfl
  cases p with
  | pure _ hle => exact Nat.le_trans hle hb
  | push _ v =>
    split at ho
    · cases ho
    · show (Array.push _ v).size ≤ _
      rw [Array.size_push]; omega

theorem Does.good {env : Env} {K : Kind → Prop} {m : RM α} (h : Does (OEff env K) m) : Good m := by
  intro s hs a s' hr
  have := h.run s
  rw [hr] at this
  exact this.bnd hs

/-- `Good` does not speak of what depends on the environment: any will do -/
theorem Acts.good (m : RM α) {ks : List Kind} [h : Acts default m ks] : Good m := h.does.good

theorem Good.doDelete : Good doDelete := Acts.good _

theorem Good.liftE (r : Except Error α) : Good (liftE r : RM α) := by
  intro s hs a' s' h; rw [run_liftE] at h; injection h with _ h; subst h; exact hs

theorem Good.bind {m : RM α} {f : α → RM β} (hm : Good m) (hf : ∀ a, Good (f a)) : Good (m >>= f) := by
  intro s hs b s' h
  rw [run_bind] at h
  cases hr : (m.run).run s with
  | mk r s1 =>
    rw [hr] at h
    cases r with
    | error e => simp only at h; injection h with h _; cases h
    | ok a => exact hf a s1 (hm s hs a s1 hr) b s' h

/-- whatever the function applied: its error is thrown before anything is pushed -/
theorem Good.pop1Push (f : Val → Res Val) : Good (pop1Push f) :=
  Good.bind (Acts.good pop) fun _ => Good.bind (Good.liftE _) fun _ => Acts.good (push _)

theorem Good.pop2Push (f : Val → Val → Res Val) : Good (pop2Push f) :=
  Good.bind (Acts.good pop2) fun _ => Good.bind (Good.liftE _) fun _ => Acts.good (push _)

theorem Good.execOp (env : Env) (hie : Bool) (op : Opcode) : Good (Runtime.execOp env hie op) :=
  (execOp_oeff env hie op).good

theorem Good.step (env : Env) (hie : Bool) : Good (Runtime.step env hie) := by
  intro s hs a s' hr
  have := step_oeff_any env hie s
  rw [hr] at this
  exact this.bnd hs

theorem executeLoop_bnd (env : Env) (n : Nat) : Good (executeLoop env n) := by
  intro s hs a s' hr
  have := executeLoop_oeff env n s
  rw [hr] at this
  exact this.bnd hs

end Runtime
end Basic

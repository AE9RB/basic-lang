import BasicModel.Model.Err
/-
  IEEE-754 binary32 / binary64 bit patterns decoded by integer arithmetic (no `Float` involved):
  class, sign, integer mantissa `m` and exponent `q` with value = m · 2^q.  `floorInt` is the exact
  floor used by the float → Integer conversions (`Val.floorZ`, `Val.toI16`), which `Thm/C08.float_to_int` states over it.
-/
namespace Basic
namespace Ieee

/-- IEEE-754 format parameters: mantissa bits (with hidden bit) and exponent field width -/
structure Fp where
  p : Nat      -- precision incl. hidden bit (24 / 53)
  ew : Nat     -- exponent field width (8 / 11)

def fp32 : Fp := ⟨24, 8⟩
def fp64 : Fp := ⟨53, 11⟩
def Fp.bias (f : Fp) : Nat := 2 ^ (f.ew - 1) - 1
/-- exponent of the least significant bit of subnormals -/
def Fp.qmin (f : Fp) : Int := 1 - (f.bias : Int) - ((f.p : Int) - 1)

inductive Decoded where
  | zero (neg : Bool)
  | finite (neg : Bool) (m : Nat) (q : Int) (lowerHalf : Bool)   -- value = m * 2^q
  | inf (neg : Bool)
  | nan
deriving Repr

def decode (f : Fp) (bits : Nat) : Decoded :=
  let fracBits := f.p - 1
  let frac := bits % 2 ^ fracBits
  let e := (bits / 2 ^ fracBits) % 2 ^ f.ew
  let neg := (bits / 2 ^ (fracBits + f.ew)) % 2 = 1
  if e = 2 ^ f.ew - 1 then (if frac = 0 then .inf neg else .nan)
  else if e = 0 then (if frac = 0 then .zero neg else .finite neg frac f.qmin false)
  else .finite neg (frac + 2 ^ fracBits) ((e : Int) - 1 + f.qmin) (frac = 0 && e > 1)


/-- ⌊± m · 2^q⌋ as an integer -/
def floorMQ (neg : Bool) (m : Nat) (q : Int) : Int :=
  let z : Int := if neg then -(m : Int) else (m : Int)
  if q ≥ 0 then z * (2 : Int) ^ q.toNat else z / (2 : Int) ^ (-q).toNat

/-- floor of a finite float; `none` for NaN and ±inf -/
def floorInt (f : Fp) (bits : Nat) : Option Int :=
  match decode f bits with
  | .zero _ => some 0
  | .finite neg m q _ => some (floorMQ neg m q)
  | .inf _ => none
  | .nan => none

end Ieee
end Basic

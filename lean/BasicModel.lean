import BasicModel.Model.Err
import BasicModel.Model.Ieee
import BasicModel.Model.Val
import BasicModel.Model.Std
import BasicModel.Model.Ops
import BasicModel.Model.Fmt
import BasicModel.Model.Func
import BasicModel.Proto
import BasicModel.Spec.IntSpec
import BasicModel.Thm.C08
import BasicModel.Model.Token
import BasicModel.Spec.StrSpec
import BasicModel.Gen.Limits
import BasicModel.Thm.C07
import BasicModel.Model.Ast
import BasicModel.Gen.Prec
import BasicModel.Model.Parse
import BasicModel.ProtoAst
import BasicModel.Model.Opcode
import BasicModel.Model.Link
import BasicModel.Gen.Builtins
import BasicModel.Model.Codegen
import BasicModel.Model.Program
import BasicModel.ProtoProg
import BasicModel.Model.Var
import BasicModel.Model.Listing
import BasicModel.Model.Runtime
import BasicModel.ProtoRt
import BasicModel.Spec.VarSpec
import BasicModel.Spec.MapSpec
import BasicModel.Lemmas.AssocList
import BasicModel.Lemmas.KeyText
import BasicModel.Thm.C06
import BasicModel.Lemmas.SortedList
import BasicModel.Lemmas.ParseRun
import BasicModel.Lemmas.ParseSimp
import BasicModel.Lemmas.ParseLines
import BasicModel.Lemmas.C19
import BasicModel.Model.Lex
import BasicModel.Lemmas.LexChar
import BasicModel.Lemmas.LexScan
import BasicModel.Lemmas.LexFuel
import BasicModel.Lemmas.LexEval
import BasicModel.Lemmas.LexLine
import BasicModel.Lemmas.LexTurn
import BasicModel.Lemmas.LexForms
import BasicModel.Lemmas.LexNumber
import BasicModel.Lemmas.LexCanon
import BasicModel.Lemmas.LiteralTy
import BasicModel.Lemmas.RtSplit
import BasicModel.Lemmas.Session
import BasicModel.Lemmas.RangeForms
import BasicModel.Lemmas.RenumPlan
import BasicModel.Thm.C15
import BasicModel.Spec.PrecSpec
import BasicModel.Spec.PrintSpec
import BasicModel.Lemmas.ParseExpr
import BasicModel.Lemmas.ParseFuel
import BasicModel.Lemmas.NameOk
import BasicModel.Lemmas.ParseWalk
import BasicModel.Lemmas.ParseNoFault
import BasicModel.Lemmas.OpsTypes
import BasicModel.Lemmas.C17
import BasicModel.Lemmas.VmDispatch
import BasicModel.Lemmas.RunSteps
import BasicModel.Lemmas.LexList
import BasicModel.Lemmas.LexPost
import BasicModel.Lemmas.LexStable
import BasicModel.Lemmas.LexCase
import BasicModel.Lemmas.LexTrail
import BasicModel.Lemmas.LexAllTok
import BasicModel.Lemmas.LexAllAlpha
import BasicModel.Lemmas.LexAllRaw
import BasicModel.Lemmas.LexAllPass
import BasicModel.Lemmas.LexAll
import BasicModel.Lemmas.LexAllPayload
import BasicModel.Gen.Dispatch
import BasicModel.Gen.Keywords
import BasicModel.Thm.Tables
import BasicModel.Thm.C05
import BasicModel.Lemmas.LiteralValue
import BasicModel.Spec.Eval
import BasicModel.Lemmas.NumFunc
import BasicModel.Spec.Bracket
import BasicModel.Lemmas.ListUtil
import BasicModel.Lemmas.Link
import BasicModel.Lemmas.LinkPass
import BasicModel.Lemmas.LinkMarks
import BasicModel.Lemmas.Control
import BasicModel.Lemmas.Codegen
import BasicModel.Lemmas.ValueStore
import BasicModel.Lemmas.GenClean
import BasicModel.Lemmas.Visit
import BasicModel.Lemmas.CodegenShape
import BasicModel.Lemmas.Seg
import BasicModel.Lemmas.ExprCompile
import BasicModel.Lemmas.VarPool
import BasicModel.Lemmas.NumFuncAssign
import BasicModel.Thm.C02
import BasicModel.Lemmas.PrintList
import BasicModel.Lemmas.C11
import BasicModel.Thm.C19
import BasicModel.Spec.PrintStmt
import BasicModel.Lemmas.NoFaultOps
import BasicModel.Lemmas.Frame
import BasicModel.Lemmas.Step
import BasicModel.Lemmas.StepAll
import BasicModel.Lemmas.Slice
import BasicModel.Lemmas.ExecSteps
import BasicModel.Lemmas.PrintRun
import BasicModel.Thm.C11
import BasicModel.Thm.C17
import BasicModel.Lemmas.LexIdent
import BasicModel.Lemmas.SpellingPost
import BasicModel.Lemmas.SpellingScan
import BasicModel.Lemmas.SpellingAlias
import BasicModel.Lemmas.SpellingCmp
import BasicModel.Lemmas.SpellingPack
import BasicModel.Lemmas.SpellingParse
import BasicModel.Lemmas.SpellingGlue
import BasicModel.Lemmas.LexCaseLine
import BasicModel.Lemmas.SpellingSteps
import BasicModel.Thm.C16
import BasicModel.Lemmas.StackBound
import BasicModel.Lemmas.FnCall
import BasicModel.Spec.Struct
import BasicModel.Lemmas.StructSpec
import BasicModel.Lemmas.StructCompile
import BasicModel.Lemmas.StructCodegen
import BasicModel.Lemmas.Program
import BasicModel.Lemmas.StructLink
import BasicModel.Thm.C20
import BasicModel.Lemmas.GenWalk
import BasicModel.Lemmas.GenInv
import BasicModel.Lemmas.DataOrder
import BasicModel.Lemmas.DataLits
import BasicModel.Lemmas.WhileMarks
import BasicModel.Lemmas.ReadRun
import BasicModel.Thm.C09
import BasicModel.Lemmas.NoResidue
import BasicModel.Thm.C18
import BasicModel.Thm.C10
import BasicModel.Thm.C01
import BasicModel.Model.Renum
import BasicModel.Lemmas.Renum
import BasicModel.Lemmas.RenumListing
import BasicModel.Thm.C14
import BasicModel.Spec.InputStmt
import BasicModel.Lemmas.InputRun
import BasicModel.Thm.C17Input
import BasicModel.Lemmas.HexVal
import BasicModel.Thm.C17Hex
import BasicModel.Lemmas.GluedNumber
import BasicModel.Thm.C16Glued
import BasicModel.Thm.C15BareDelete
import BasicModel.Lemmas.Execute
import BasicModel.Lemmas.Enter
import BasicModel.Lemmas.GenNeg
import BasicModel.Lemmas.DirectFrame
import BasicModel.Lemmas.Inv
import BasicModel.Lemmas.RunClear
import BasicModel.Lemmas.Sim
import BasicModel.Lemmas.ContParse
import BasicModel.Lemmas.LinkedInv
import BasicModel.Lemmas.ContLine
import BasicModel.Lemmas.Resume
import BasicModel.Lemmas.Inspect
import BasicModel.Lemmas.GenBound
import BasicModel.Lemmas.Layout
import BasicModel.Thm.C12
import BasicModel.Thm.C03
import BasicModel.Thm.C13
import BasicModel.Lemmas.ParseNames
import BasicModel.Lemmas.CodegenNames
import BasicModel.Lemmas.CodegenErrors
import BasicModel.Lemmas.ProgramNames
import BasicModel.Lemmas.NoFaultInv
import BasicModel.Lemmas.NoFaultSession
import BasicModel.Lemmas.RangeNoFault
import BasicModel.Lemmas.RangeCodegen
import BasicModel.Thm.C03NoFault
import BasicModel.Thm.C04
import BasicModel.Thm.C20Layout
import BasicModel.Lemmas.DataCursor
import BasicModel.Lemmas.DataProgram
import BasicModel.Thm.C09Program
import BasicModel.Lemmas.RenumRun
import BasicModel.Lemmas.RenumRel
import BasicModel.Lemmas.RenumGen
import BasicModel.Lemmas.RenumStmt
import BasicModel.Lemmas.RenumOperand
import BasicModel.Lemmas.RenumAccept
import BasicModel.Lemmas.RenumCompile
import BasicModel.Thm.C14Program
import BasicModel.Lemmas.VarsInv
import BasicModel.Thm.C18Vars
import BasicModel.Thm.C19Edit
import BasicModel.Thm.C11Trace
import BasicModel.Thm.C20Direct
